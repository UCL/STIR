/-
C11 — the storage invariant `Inv`, the index-range map `Vec.abs` of a vector, and what the storage
operations and element accesses do to it.  Every operation is a few block reads and block writes on
windows of the index range (`read_spec`, `write_spec`); the operations that move storage (`reserve`,
`resize`, `set_offset`, `operator=`) add index arithmetic on the capacity window.
-/
import StirVerif.C11.Lemmas
namespace StirVerif.C11
open Vec

/-- the storage invariant: `begin()` … `end()` lie inside the allocation, and an empty vector has
    `start = 0` and `num` at the beginning of the allocation -/
def Inv (v : Vec) : Prop :=
  0 ≤ v.off ∧ v.off + v.len ≤ v.cap ∧ (v.len = 0 → v.start = 0 ∧ v.numOff = 0)

abbrev Vec.has (v : Vec) (i : Int) : Prop := v.start ≤ i ∧ i < v.start + v.len

structure Denotes (w : Vec) (s : Int) (l : Nat) (f : Int → Option Int) : Prop where
  inv : Inv w
  start : w.start = s
  len : w.len = l
  abs : ∀ i, w.abs i = f i

/-- the two bounds of the invariant with `off` and `cap` unfolded, in the form `omega` reads -/
theorem Inv.bounds {v : Vec} (h : Inv v) :
    0 ≤ v.numOff + v.start ∧ v.numOff + v.start + v.len ≤ v.mem.length :=
  ⟨h.1, h.2.1⟩

theorem Inv.start_eq_zero {v : Vec} (h : Inv v) (hz : v.len = 0) : v.start = 0 :=
  (h.2.2 hz).1

theorem abs_eq_getI (v : Vec) (i : Int) :
    v.abs i = if v.has i then getI v.mem (v.numOff + i) else none := rfl

theorem abs_of_has {v : Vec} {i : Int} (h : v.has i) :
    v.abs i = getI v.mem (v.numOff + i) :=
  if_pos h

theorem abs_of_not_has {v : Vec} {i : Int} (h : ¬ v.has i) : v.abs i = none :=
  if_neg h

theorem range_iff_has (v : Vec) (i : Int) :
    (v.minIndex ≤ i ∧ i ≤ v.maxIndex) ↔ v.has i := by
  unfold Vec.minIndex Vec.maxIndex
  omega

theorem has_of_abs_eq_some {v : Vec} {i x : Int} (h : v.abs i = some x) :
    v.has i :=
  (Option.ite_none_right_eq_some.mp h).1

theorem abs_isSome {v : Vec} (h : Inv v) {i : Int} (hi : v.has i) : ∃ x, v.abs i = some x := by
  rw [abs_of_has hi]
  obtain ⟨a, b⟩ := h.bounds
  exact getI_isSome (by omega) (by omega)

theorem abs_isSome_iff {v : Vec} (h : Inv v) (i : Int) :
    (v.abs i).isSome ↔ v.has i := by
  constructor
  · intro hs
    obtain ⟨x, hx⟩ := Option.isSome_iff_exists.mp hs
    exact has_of_abs_eq_some hx
  · intro hi
    obtain ⟨x, hx⟩ := abs_isSome h hi
    rw [hx]
    rfl

theorem abs_none_of_len_zero {v : Vec} (h : v.len = 0) (i : Int) : v.abs i = none :=
  abs_of_not_has (by omega)

theorem abs_setRange (v : Vec) {s : Int} {l : Nat} {i : Int}
    (hv : v.has i) (hw : s ≤ i ∧ i < s + l) :
    ({ v with start := s, len := l } : Vec).abs i = v.abs i := by
  rw [abs_of_has hv, abs_of_has (v := { v with start := s, len := l }) hw]

theorem abs_setRange_none (v : Vec) {s : Int} {l : Nat} {i : Int} (hw : ¬ (s ≤ i ∧ i < s + l)) :
    ({ v with start := s, len := l } : Vec).abs i = none :=
  if_neg hw

/-- the invariant of the vector with these four fields, in the form `omega` reads -/
theorem inv_mk {s : Int} {l : Nat} {n : Int} {m : List Int} (h0 : 0 ≤ n + s) (h1 : n + s + l ≤ m.length)
    (hz : l = 0 → s = 0 ∧ n = 0) : Inv ⟨s, l, n, m⟩ :=
  ⟨h0, h1, hz⟩

theorem read_spec {v : Vec} (h : Inv v) {lo : Int} {n : Nat}
    (h1 : v.start ≤ lo) (h2 : lo + n ≤ v.start + v.len) :
    ∃ xs, readAt? v.mem (v.numOff + lo) n = some xs ∧ xs.length = n ∧
      ∀ i, getI xs (i - lo) = if lo ≤ i ∧ i < lo + n then v.abs i else none := by
  obtain ⟨a, b⟩ := h.bounds
  obtain ⟨xs, hxs⟩ : ∃ xs, readAt? v.mem (v.numOff + lo) n = some xs :=
    ⟨_, readAt?_eq_some_iff.mpr ⟨by omega, by omega, rfl⟩⟩
  refine ⟨xs, hxs, length_readAt hxs, fun i => ?_⟩
  rw [getI_readAt hxs]
  by_cases c : lo ≤ i ∧ i < lo + n
  · rw [if_pos (by omega), if_pos c, abs_of_has (by omega)]
    congr 1
    omega
  · rw [if_neg (by omega), if_neg c]

theorem write_spec {v : Vec} (h : Inv v) {lo : Int} {xs : List Int} {n : Nat} (hn : xs.length = n)
    (h1 : v.start ≤ lo) (h2 : lo + n ≤ v.start + v.len) :
    ∃ m, writeAt? v.mem (v.numOff + lo) xs = some m ∧ Inv { v with mem := m } ∧
      ∀ i, ({ v with mem := m } : Vec).abs i =
        if lo ≤ i ∧ i < lo + n then getI xs (i - lo) else v.abs i := by
  subst hn
  obtain ⟨a, b⟩ := h.bounds
  obtain ⟨m, hm⟩ : ∃ m, writeAt? v.mem (v.numOff + lo) xs = some m :=
    ⟨_, writeAt?_eq_some_iff.mpr ⟨by omega, by omega, rfl⟩⟩
  refine ⟨m, hm, inv_mk a ((length_writeAt hm).symm ▸ b) h.2.2, fun i => ?_⟩
  by_cases d : v.has i
  · rw [abs_of_has (v := { v with mem := m }) d]
    show getI m (v.numOff + i) = _
    rw [getI_writeAt hm]
    by_cases c : lo ≤ i ∧ i < lo + xs.length
    · rw [if_pos c, if_pos (by omega)]
      congr 1
      omega
    · rw [if_neg c, if_neg (by omega), abs_of_has d]
  · rw [abs_of_not_has (v := { v with mem := m }) d, if_neg (by omega), abs_of_not_has d]

theorem contents_spec {v : Vec} (h : Inv v) :
    ∃ cs, v.contents? = some cs ∧ cs.length = v.len ∧ ∀ i, getI cs (i - v.start) = v.abs i := by
  obtain ⟨cs, hcs, hl, hg⟩ := read_spec h (lo := v.start) (n := v.len) (Int.le_refl _) (Int.le_refl _)
  refine ⟨cs, hcs, hl, fun i => ?_⟩
  rw [hg]
  by_cases c : v.has i
  · rw [if_pos c]
  · rw [if_neg c, abs_of_not_has c]

theorem overwrite_spec {v : Vec} (h : Inv v) {xs : List Int} (hx : xs.length = v.len) :
    ∃ m, writeAt? v.mem v.off xs = some m ∧ Inv { v with mem := m } ∧
      ∀ i, ({ v with mem := m } : Vec).abs i = getI xs (i - v.start) := by
  obtain ⟨m, hm, hI, hg⟩ := write_spec h hx (Int.le_refl _) (Int.le_refl _)
  refine ⟨m, hm, hI, fun i => ?_⟩
  rw [hg]
  by_cases c : v.has i
  · rw [if_pos c]
  · rw [if_neg c, abs_of_not_has c]
    rw [getI_eq_none_iff.mpr (by omega)]

theorem inv_truncate (v : Vec) : Inv v.truncate :=
  ⟨Int.le_refl 0, by simp [Vec.truncate, Vec.off], fun _ => ⟨rfl, rfl⟩⟩

theorem inv_empty : Inv Vec.empty :=
  ⟨Int.le_refl 0, Int.le_refl 0, fun _ => ⟨rfl, rfl⟩⟩

theorem abs_empty (i : Int) : Vec.empty.abs i = none :=
  abs_none_of_len_zero rfl i

/-- the reallocating branch of `reserve`: `n` fresh cells, the contents copied to position `e` -/
theorem realloc_spec {v : Vec} (h : Inv v) {e n : Nat} (he : e + v.len ≤ n) (h0 : v.len = 0 → e = 0) :
    ∃ w, (v.contents?.bind fun cs => (writeAt? (List.replicate n junk) e cs).map fun m =>
        ({ v with mem := m, numOff := (e : Int) - (if v.len > 0 then v.start else 0) } : Vec)) = some w ∧
      w.mem.length = n ∧ w.numOff = e - v.start ∧ Denotes w v.start v.len v.abs := by
  obtain ⟨cs, hcs, hl, hg⟩ := contents_spec h
  have hnum : (e : Int) - (if v.len > 0 then v.start else 0) = e - v.start := by
    by_cases hz : v.len > 0
    · rw [if_pos hz]
    · rw [if_neg hz, h.start_eq_zero (by omega)]
  have hfresh : Inv { v with mem := List.replicate n junk, numOff := e - v.start } :=
    inv_mk (by omega)
      (by
        rw [List.length_replicate]
        omega)
      fun hz => by
      have := h.start_eq_zero hz
      have := h0 hz
      omega
  obtain ⟨m, hm, hI, ha⟩ := overwrite_spec hfresh (xs := cs) hl
  have hoff : ({ v with mem := List.replicate n junk, numOff := e - v.start } : Vec).off = e := by
    show (e : Int) - v.start + v.start = e
    omega
  rw [hoff] at hm
  rw [hcs, Option.bind_some, hm, Option.map_some, hnum]
  exact ⟨_, rfl, (length_writeAt hm).trans List.length_replicate, rfl, hI, rfl, rfl, fun i => (ha i).trans (hg i)⟩

theorem reserve_spec (v : Vec) (mn mx : Int) (h : Inv v) :
    ∃ w, v.reserve? mn mx = some w ∧ Denotes w v.start v.len v.abs ∧
      mx - mn + 1 ≤ w.mem.length ∧
        (v.len > 0 → 0 ≤ w.numOff + mn ∧ w.numOff + mx < w.mem.length) := by
  obtain ⟨h0, h1⟩ := h.bounds
  unfold Vec.reserve? Vec.cap
  dsimp only
  -- the new window `[amin, amax]` contains `[mn, mx]` and, unless the vector is empty, the old window
  generalize ha : (if v.len = 0 then mn else min v.capMin mn) = amin
  generalize hb : (if v.len = 0 then mx else max v.capMax mx) = amax
  have hamin : amin ≤ mn ∧ (v.len ≠ 0 → amin ≤ -v.numOff) := by
    subst ha
    unfold Vec.capMin
    split <;> omega
  have hamax : mx ≤ amax ∧ (v.len ≠ 0 → (v.mem.length : Int) - v.numOff - 1 ≤ amax) := by
    subst hb
    unfold Vec.capMax Vec.cap
    split <;> omega
  clear ha hb
  by_cases c1 : amin > amax
  · rw [if_pos c1]
    exact ⟨v, rfl, ⟨h, rfl, rfl, fun _ => rfl⟩, by omega⟩
  · rw [if_neg c1]
    by_cases c2 : (amax - amin + 1).toNat ≤ v.mem.length
    · rw [if_pos c2]
      refine ⟨v, rfl, ⟨h, rfl, rfl, fun _ => rfl⟩, ?_⟩
      omega
    · rw [if_neg c2]
      generalize he : (if v.len = 0 then 0 else (max 0 (v.minIndex - amin)).toNat) = e
      have he' : (v.len = 0 → e = 0) ∧ (v.len ≠ 0 → (e : Int) = v.start - amin) := by
        subst he
        unfold Vec.minIndex
        split <;> omega
      clear he
      obtain ⟨w, hw, hwl, hwn, hd⟩ := realloc_spec h (e := e) (n := (amax - amin + 1).toNat) (by omega) he'.1
      refine ⟨w, hw, hd, ?_⟩
      omega

theorem shrinkToOverlap_spec (v : Vec) (mn mx : Int) (h : Inv v) :
    Inv (v.shrinkToOverlap mn mx) ∧
      ∀ i, (v.shrinkToOverlap mn mx).abs i = if mn ≤ i ∧ i ≤ mx then v.abs i else none := by
  obtain ⟨h0, h1⟩ := h.bounds
  unfold Vec.shrinkToOverlap Vec.minIndex Vec.maxIndex
  dsimp only
  by_cases hl : v.len > 0
  · rw [if_pos hl]
    generalize hmin : max v.start mn = omin
    generalize hmax : min (v.start + v.len - 1) mx = omax
    have hov : ∀ i, (omin ≤ i ∧ i ≤ omax) ↔ ((mn ≤ i ∧ i ≤ mx) ∧ v.has i) := by
      intro i
      omega
    have hb : v.start ≤ omin ∧ omax < v.start + v.len := by omega
    clear hmin hmax
    by_cases ho : omax - omin < 0
    · rw [if_pos ho]
      refine ⟨inv_truncate v, fun i => ?_⟩
      rw [abs_none_of_len_zero rfl]
      by_cases c : mn ≤ i ∧ i ≤ mx
      · have hi : ¬ v.has i := fun hi => by
          have := (hov i).mpr ⟨c, hi⟩
          omega
        rw [if_pos c, abs_of_not_has hi]
      · rw [if_neg c]
    · rw [if_neg ho]
      refine ⟨inv_mk (by omega) (by omega) fun hz => by omega, fun i => ?_⟩
      by_cases c : mn ≤ i ∧ i ≤ mx
      · rw [if_pos c]
        by_cases cv : v.has i
        · have := (hov i).mpr ⟨c, cv⟩
          exact abs_setRange v cv (by omega)
        · rw [abs_of_not_has cv]
          exact abs_setRange_none v fun hi => cv ((hov i).mp (by omega)).2
      · rw [if_neg c]
        exact abs_setRange_none v fun hi => c ((hov i).mp (by omega)).1
  · rw [if_neg hl]
    refine ⟨h, fun i => ?_⟩
    rw [abs_none_of_len_zero (by omega), ite_self]

/-- the base-class `resize` does not initialise new elements: only the surviving ones are specified -/
theorem resizeBase_spec (v : Vec) (mn mx : Int) (h : Inv v) :
    ∃ w, v.resizeBase? mn mx = some w ∧ Inv w ∧ (mx < mn → w.len = 0) ∧
      (mn ≤ mx → w.start = mn ∧ (w.len : Int) = mx - mn + 1) ∧
      ∀ i, mn ≤ i → i ≤ mx → ∀ x, v.abs i = some x → w.abs i = some x := by
  unfold Vec.resizeBase?
  by_cases c0 : mn > mx
  · rw [if_pos c0]
    exact ⟨v.truncate, rfl, inv_truncate v, fun _ => rfl, fun hh => by omega, fun i _ _ => by omega⟩
  · rw [if_neg c0]
    by_cases c1 : v.len > 0 ∧ mn = v.minIndex ∧ mx = v.maxIndex
    · rw [if_pos c1]
      unfold Vec.minIndex Vec.maxIndex at c1
      exact ⟨v, rfl, h, fun hh => by omega, fun _ => ⟨c1.2.1.symm, by omega⟩, fun i _ _ x hx => hx⟩
    · rw [if_neg c1]
      obtain ⟨hv1I, hv1a⟩ := shrinkToOverlap_spec v mn mx h
      dsimp only
      generalize v.shrinkToOverlap mn mx = v1 at hv1I hv1a ⊢
      obtain ⟨w2, hw2, hd, hcap, hwin⟩ := reserve_spec v1 mn mx hv1I
      rw [hw2, Option.map_some]
      have hlen : ((mx - mn + 1).toNat : Int) = mx - mn + 1 := by omega
      -- the vector placed on a window `[n' + mn, n' + mx]` of the storage
      have hI : ∀ n', 0 ≤ n' + mn → n' + mx < w2.mem.length →
          Inv { w2 with len := (mx - mn + 1).toNat, start := mn, numOff := n' } := by
        intro n' a b
        exact inv_mk a (by omega) fun hl => by omega
      -- an element that survives the shrinking is an element of `v1`, which is not empty then
      have hsurv : ∀ i, mn ≤ i → i ≤ mx → ∀ x, v.abs i = some x → v1.abs i = some x := by
        intro i hi1 hi2 x hx
        rw [hv1a, if_pos ⟨hi1, hi2⟩, hx]
      by_cases hz : v1.len > 0
      · rw [if_pos hz]
        obtain ⟨hwin0, hwin1⟩ := hwin hz
        refine ⟨_, rfl, hI w2.numOff hwin0 hwin1, fun hh => by omega, fun _ => ⟨rfl, hlen⟩,
          fun i hi1 hi2 x hx => ?_⟩
        have hx1 := hsurv i hi1 hi2 x hx
        have := has_of_abs_eq_some hx1
        have hs := hd.start
        have hl := hd.len
        rw [abs_setRange w2 (by omega) (by omega), hd.abs, hx1]
      · rw [if_neg hz]
        refine ⟨_, rfl, hI (-mn) (by omega) (by omega), fun hh => by omega, fun _ => ⟨rfl, hlen⟩,
          fun i hi1 hi2 x hx => ?_⟩
        have := has_of_abs_eq_some (hsurv i hi1 hi2 x hx)
        omega

/-- a loop that does not execute (`n = 0`) may point anywhere -/
theorem writeZeros_spec {v : Vec} (h : Inv v) {lo : Int} {n : Nat}
    (hw : n = 0 ∨ (v.start ≤ lo ∧ lo + n ≤ v.start + v.len)) :
    ∃ m, writeZeros? v.mem (v.numOff + lo) n = some m ∧ Inv { v with mem := m } ∧
      ∀ i, ({ v with mem := m } : Vec).abs i = if lo ≤ i ∧ i < lo + n then some 0 else v.abs i := by
  unfold Vec.writeZeros?
  by_cases hn : n = 0
  · rw [if_pos hn]
    refine ⟨v.mem, rfl, h, fun i => ?_⟩
    rw [if_neg (by omega)]
  · rw [if_neg hn]
    obtain ⟨m, hm, hI, ha⟩ := write_spec h (xs := zeros n) List.length_replicate (lo := lo) (by omega) (by omega)
    refine ⟨m, hm, hI, fun i => ?_⟩
    rw [ha]
    by_cases c : lo ≤ i ∧ i < lo + n
    · rw [if_pos c, if_pos c]
      unfold Vec.zeros
      rw [getI_replicate, if_pos (by omega)]
    · rw [if_neg c, if_neg c]

/-- The two zero-filling loops of `Array<1>::resize`, as index arithmetic: old range `[s, s + l)`,
    new range `[ws, ws + wl)`.  Both windows lie in the new range (the right one may be empty and then
    start anywhere); together they cover exactly the indices of the new range that are not in the old.
    (`ws + wl - 1 + 1` is `maxIndex + 1` as it stands in `Vec.resize?`.) -/
theorem resize_windows (s : Int) (l : Nat) (ws : Int) (wl : Nat) :
    let nL := (min s (ws + wl - 1 + 1) - ws).toNat
    let r := max (s + l) ws
    let nR := (ws + wl - 1 + 1 - r).toNat
    ws + nL ≤ ws + wl ∧ (nR = 0 ∨ (ws ≤ r ∧ r + nR ≤ ws + wl)) ∧
    ∀ i, ((r ≤ i ∧ i < r + nR) ∨ (ws ≤ i ∧ i < ws + nL)) ↔
      ((ws ≤ i ∧ i < ws + wl) ∧ ¬ (s ≤ i ∧ i < s + l)) := by
  intro nL r nR
  refine ⟨by omega, by omega, fun i => ?_⟩
  omega

theorem resize_spec (v : Vec) (mn mx : Int) (h : Inv v) :
    ∃ w, v.resize? mn mx = some w ∧ Inv w ∧ (mn ≤ mx → w.start = mn ∧ (w.len : Int) = mx - mn + 1) ∧
      ∀ i, w.abs i = if mn ≤ i ∧ i ≤ mx then some ((v.abs i).getD 0) else none := by
  obtain ⟨w, hw, hwI, hwt, hwr, hwa⟩ := resizeBase_spec v mn mx h
  have hrange : ∀ i, w.has i ↔ (mn ≤ i ∧ i ≤ mx) := by
    intro i
    by_cases c0 : mx < mn
    · have := hwt c0
      omega
    · have := hwr (by omega)
      omega
  -- it is enough to zero exactly the indices of `w` that are not indices of `v`
  have final : ∀ m, (∀ i, ({ w with mem := m } : Vec).abs i =
        if w.has i ∧ ¬ v.has i then some 0 else w.abs i) →
      ∀ i, ({ w with mem := m } : Vec).abs i =
        if mn ≤ i ∧ i ≤ mx then some ((v.abs i).getD 0) else none := by
    intro m hma i
    rw [hma]
    by_cases c : mn ≤ i ∧ i ≤ mx
    · rw [if_pos c]
      by_cases cv : v.has i
      · obtain ⟨x, hx⟩ := abs_isSome h cv
        rw [if_neg (fun hh => hh.2 cv), hwa i c.1 c.2 x hx, hx]
        rfl
      · rw [if_pos ⟨(hrange i).mpr c, cv⟩, abs_of_not_has cv]
        rfl
    · have cw := fun hh => c ((hrange i).mp hh)
      rw [if_neg (fun hh => cw hh.1), if_neg c, abs_of_not_has cw]
  unfold Vec.resize? Vec.minIndex Vec.maxIndex
  rw [hw, Option.bind_some]
  dsimp only
  by_cases hl : v.len = 0
  · rw [if_pos hl]
    obtain ⟨m, hm, hmI, hma⟩ := writeZeros_spec hwI (lo := w.start) (n := w.len)
      (.inr ⟨Int.le_refl _, Int.le_refl _⟩)
    rw [hm, Option.map_some]
    refine ⟨_, rfl, hmI, hwr, final m fun i => ?_⟩
    rw [hma]
    by_cases c : w.has i
    · rw [if_pos c, if_pos ⟨c, by omega⟩]
    · rw [if_neg c, if_neg fun hh => c hh.1]
  · rw [if_neg hl]
    obtain ⟨hL, hR, hcover⟩ := resize_windows v.start v.len w.start w.len
    obtain ⟨m1, hm1, hm1I, hm1a⟩ := writeZeros_spec hwI (lo := w.start) (.inr ⟨Int.le_refl _, hL⟩)
    obtain ⟨m2, hm2, hm2I, hm2a⟩ := writeZeros_spec hm1I hR
    rw [hm1, Option.bind_some, hm2, Option.map_some]
    refine ⟨_, rfl, hm2I, hwr, final m2 fun i => ?_⟩
    rw [hm2a, hm1a]
    by_cases cz : w.has i ∧ ¬ v.has i
    · rw [if_pos cz]
      rcases (hcover i).mpr cz with cR | cL
      · rw [if_pos cR]
      · rw [if_pos cL, ite_self]
    · rw [if_neg cz, if_neg fun cR => cz ((hcover i).mp (.inl cR)),
        if_neg fun cL => cz ((hcover i).mp (.inr cL))]

theorem setOffset_spec (v : Vec) (mn : Int) (h : Inv v) :
    Inv (v.setOffset mn) ∧ (v.setOffset mn).len = v.len ∧
      (v.len > 0 → (v.setOffset mn).start = mn) ∧
      ∀ i, (v.setOffset mn).abs i = v.abs (i - mn + v.start) := by
  obtain ⟨h0, h1⟩ := h.bounds
  unfold Vec.setOffset
  by_cases hl : v.len = 0
  · rw [if_pos hl]
    refine ⟨h, rfl, fun hh => by omega, fun i => ?_⟩
    rw [abs_none_of_len_zero hl, abs_none_of_len_zero hl]
  · rw [if_neg hl]
    refine ⟨inv_mk (by omega) (by omega) fun hh => absurd hh hl, rfl, fun _ => rfl, fun i => ?_⟩
    by_cases a : mn ≤ i ∧ i < mn + v.len
    · rw [abs_of_has (v := { v with numOff := v.numOff + (v.start - mn), start := mn }) a,
        abs_of_has (by omega)]
      show getI v.mem (v.numOff + (v.start - mn) + i) = _
      congr 1
      omega
    · rw [abs_of_not_has (v := { v with numOff := v.numOff + (v.start - mn), start := mn }) a,
        abs_of_not_has (by omega)]

theorem assign_spec (v il : Vec) (hil : Inv il) :
    ∃ w, v.assign? il = some w ∧ Denotes w il.start il.len il.abs := by
  obtain ⟨cs, hcs, hcsl, hcsa⟩ := contents_spec hil
  -- after truncation and, if needed, `reserve`: an empty vector at the start of enough storage
  have step1 : ∃ v1, (if v.truncate.cap < il.len then v.truncate.reserve? il.minIndex il.maxIndex
        else some v.truncate) = some v1 ∧ Inv v1 ∧ v1.len = 0 ∧ il.len ≤ v1.mem.length := by
    by_cases c : v.truncate.cap < il.len
    · rw [if_pos c]
      obtain ⟨w, hw, hd, hwc, _⟩ := reserve_spec v.truncate il.minIndex il.maxIndex (inv_truncate v)
      have hfit : il.maxIndex - il.minIndex + 1 = il.len := by
        unfold Vec.minIndex Vec.maxIndex
        omega
      exact ⟨w, hw, hd.inv, hd.len, by omega⟩
    · rw [if_neg c]
      exact ⟨v.truncate, rfl, inv_truncate v, rfl, Nat.le_of_not_lt c⟩
  obtain ⟨v1, hv1, hv1I, l1, c1⟩ := step1
  obtain ⟨s1, n1⟩ := hv1I.2.2 l1
  unfold Vec.assign?
  dsimp only
  rw [hv1, Option.bind_some, hcs, Option.bind_some]
  have hv2I : Inv { v1 with len := il.len } :=
    inv_mk hv1I.1 (by omega) fun _ => ⟨s1, n1⟩
  obtain ⟨hI, hlen, hstart, _⟩ := setOffset_spec { v1 with len := il.len } il.minIndex hv2I
  generalize ({ v1 with len := il.len } : Vec).setOffset il.minIndex = v2 at hI hlen hstart ⊢
  have hs2 : v2.start = il.start := by
    by_cases hz : il.len = 0
    · exact (hI.start_eq_zero (hlen.trans hz)).trans (hil.start_eq_zero hz).symm
    · exact hstart (Nat.pos_of_ne_zero hz)
  obtain ⟨m, hm, hmI, hma⟩ := overwrite_spec hI (xs := cs) (by rw [hcsl, hlen])
  rw [hm, Option.map_some]
  refine ⟨_, rfl, hmI, hs2, hlen, fun i => ?_⟩
  rw [hma, hs2, hcsa]

theorem fill_spec (v : Vec) (x : Int) (h : Inv v) :
    ∃ w, v.fill? x = some w ∧
      Denotes w v.start v.len fun i => if (v.abs i).isSome then some x else none := by
  obtain ⟨m, hm, hmI, hma⟩ := overwrite_spec h (xs := List.replicate v.len x) List.length_replicate
  refine ⟨{ v with mem := m }, ?_, hmI, rfl, rfl, fun i => ?_⟩
  · unfold Vec.fill?
    rw [hm, Option.map_some]
  · rw [hma, getI_replicate]
    by_cases a : v.has i
    · rw [if_pos ((abs_isSome_iff h i).mpr a), if_pos (by omega)]
    · rw [if_neg (mt (abs_isSome_iff h i).mp a), if_neg (by omega)]

theorem inRange_iff (v : Vec) (i : Int) :
    v.inRange i = true ↔ v.has i := by
  unfold Vec.inRange Vec.minIndex Vec.maxIndex
  simp only [Bool.and_eq_true, bne_iff_ne, ne_eq, decide_eq_true_eq]
  omega

theorem getAt_spec (v : Vec) (i : Int) (h : Inv v) : v.getAt? i = some (v.abs i) := by
  unfold Vec.getAt?
  by_cases a : v.has i
  · obtain ⟨x, hx⟩ := abs_isSome h a
    rw [if_pos ((inRange_iff v i).mpr a), raw?_eq_getI, ← abs_of_has a, hx]
    rfl
  · rw [if_neg (fun hh => a ((inRange_iff v i).mp hh)), abs_of_not_has a]

theorem setAt_spec (v : Vec) (i x : Int) (h : Inv v) :
    (¬ v.has i → v.setAt? i x = some none) ∧
    (v.has i →
      ∃ w, v.setAt? i x = some (some w) ∧
        Denotes w v.start v.len fun j => if j = i then some x else v.abs j) := by
  unfold Vec.setAt?
  refine ⟨fun a => if_neg (fun hh => a ((inRange_iff v i).mp hh)), fun a => ?_⟩
  obtain ⟨m, hm, hmI, hma⟩ := write_spec h (xs := [x]) (n := 1) rfl a.1 (by omega)
  refine ⟨{ v with mem := m }, ?_, hmI, rfl, rfl, fun j => ?_⟩
  · rw [if_pos ((inRange_iff v i).mpr a)]
    unfold Vec.setRaw?
    rw [hm]
    rfl
  · rw [hma]
    by_cases c : j = i
    · rw [if_pos c, c, if_pos (by omega), Int.sub_self]
      rfl
    · rw [if_neg c, if_neg (by omega)]
end StirVerif.C11
