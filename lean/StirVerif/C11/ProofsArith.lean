/-
C11 — elementwise operations: comparison, the scalar loops, `+= -= *= /=` of `NumericVectorWithOffset`
(growing) and of the base class (range-checked), the binary operators of `Array<1>` and
`xapyb` / `sapyb`.  Each reads its operands' windows, combines the blocks and writes one block.
-/
import StirVerif.C11.Proofs

namespace StirVerif.C11
open Vec

theorem range_eq_iff (w v : Vec) :
    (w.minIndex = v.minIndex ∧ w.maxIndex = v.maxIndex) ↔ (w.start = v.start ∧ w.len = v.len) := by
  unfold Vec.minIndex Vec.maxIndex
  omega

theorem sameRange_iff (w v : Vec) : sameRange w v = true ↔ (w.start = v.start ∧ w.len = v.len) := by
  rw [← range_eq_iff]
  unfold sameRange
  rw [Bool.and_eq_true, beq_iff_eq, beq_iff_eq]

theorem has_of_sameRange {w x : Vec} (h : sameRange w x = true) (i : Int) : w.has i ↔ x.has i := by
  obtain ⟨hs, hl⟩ := (sameRange_iff w x).mp h
  unfold Vec.has
  rw [hs, hl]

theorem baseArithGuard_iff (w v : Vec) :
    Vec.baseArithGuard w v = true ↔ (w.start = v.start ∧ w.len = v.len) := by
  rw [← range_eq_iff]
  unfold Vec.baseArithGuard
  rw [Bool.not_eq_true', Bool.or_eq_false_iff, bne_eq_false_iff_eq, bne_eq_false_iff_eq]

theorem contents_of_sameRange {w x : Vec} (hx : Inv x) (h : sameRange w x = true) :
    ∃ xs, readAt? x.mem x.off w.len = some xs ∧ xs.length = w.len ∧
      ∀ i, getI xs (i - w.start) = x.abs i := by
  obtain ⟨hs, hl⟩ := (sameRange_iff w x).mp h
  rw [hs, hl]
  exact contents_spec hx

/-- an index range is determined by the set of its indices, an empty range by the convention that its first index is 0
    (which the invariant gives) -/
theorem range_ext {s s' : Int} {l l' : Nat} (h0 : l = 0 → s = 0) (h0' : l' = 0 → s' = 0)
    (h : ∀ i, (s ≤ i ∧ i < s + l) ↔ (s' ≤ i ∧ i < s' + l')) : l = l' ∧ s = s' := by
  by_cases hl : l = 0
  · by_cases hl' : l' = 0
    · exact ⟨hl.trans hl'.symm, (h0 hl).trans (h0' hl').symm⟩
    · have := (h s').mpr (by omega)
      omega
  · have k1 := (h s).mp (by omega)
    have k2 := (h (s + l - 1)).mp (by omega)
    have k3 := (h s').mpr (by omega)
    have k4 := (h (s' + l' - 1)).mpr (by omega)
    omega

theorem beq_spec (a b : Vec) (ha : Inv a) (hb : Inv b) :
    ∃ t, a.beq? b = some t ∧ (t = true ↔ ∀ i, a.abs i = b.abs i) := by
  obtain ⟨x, hx, hxl, hxa⟩ := contents_spec ha
  obtain ⟨y, hy, hyl, hya⟩ := contents_spec hb
  unfold Vec.beq?
  by_cases c : (a.len != b.len || a.start != b.start) = true
  · rw [if_pos c]
    refine ⟨false, rfl, ⟨fun hh => Bool.noConfusion hh, fun hall => ?_⟩⟩
    exfalso
    -- equal maps have equal supports, and the support fixes first index and length
    have key : ∀ i, a.has i ↔ b.has i := by
      intro i
      rw [← abs_isSome_iff ha, ← abs_isSome_iff hb, hall i]
    obtain ⟨el, es⟩ := range_ext ha.start_eq_zero hb.start_eq_zero key
    rw [el, es] at c
    simp at c
  · rw [if_neg c, hx, hy]
    rw [Bool.or_eq_true, bne_iff_ne, bne_iff_ne, not_or, Decidable.not_not, Decidable.not_not] at c
    refine ⟨x == y, rfl, ?_⟩
    rw [beq_iff_eq]
    constructor
    · intro hxy i
      rw [← hxa, ← hya, hxy, c.2]
    · intro hall
      apply list_ext_getI
      intro k
      have e1 := hxa (k + a.start)
      have e2 := hya (k + a.start)
      rw [Int.add_sub_cancel] at e1
      rw [c.2, Int.add_sub_cancel] at e2
      rw [e1, e2, ← c.2, hall]

/-- (inside `v`'s range both vectors have an element, by `hsub` and the invariants: the `none` branch of the `match` is there
    for totality only; the same in `baseArith_spec`) -/
theorem zipInto_spec (f : Int → Int → Int) (w v : Vec) (hw : Inv w) (hv : Inv v)
    (hsub : v.len > 0 → w.start ≤ v.start ∧ v.start + v.len ≤ w.start + w.len) :
    ∃ r, zipInto? f w v = some r ∧ Denotes r w.start w.len fun i =>
        if v.has i then
          (match w.abs i, v.abs i with
            | some a, some b => some (f a b)
            | _, _ => none)
        else w.abs i := by
  unfold zipInto?
  by_cases hz : v.len = 0
  · rw [if_pos hz]
    refine ⟨w, rfl, hw, rfl, rfl, fun i => ?_⟩
    rw [if_neg (by omega)]
  · rw [if_neg hz]
    obtain ⟨hs1, hs2⟩ := hsub (by omega)
    obtain ⟨vs, hvs, hvsl, hvsa⟩ := contents_spec hv
    obtain ⟨ws, hws, hwsl, hwsa⟩ := read_spec hw (lo := v.start) (n := v.len) hs1 hs2
    have hlen : (List.zipWith f ws vs).length = v.len := by
      rw [List.length_zipWith, hwsl, hvsl, Nat.min_self]
    obtain ⟨m, hm, hmI, hma⟩ := write_spec hw hlen hs1 hs2
    refine ⟨{ w with mem := m }, ?_, hmI, rfl, rfl, fun i => ?_⟩
    · rw [hvs, Option.bind_some]
      unfold Vec.minIndex
      rw [hws, Option.bind_some, hm, Option.map_some]
    · rw [hma]
      by_cases c : v.has i
      · rw [if_pos c, if_pos c, getI_zipWith, hwsa, if_pos c, hvsa]
        rfl
      · rw [if_neg c, if_neg c]

theorem mapInPlace_spec (f : Int → Int) (v : Vec) (h : Inv v) :
    ∃ r, mapInPlace? f v = some r ∧ Denotes r v.start v.len fun i => (v.abs i).map f := by
  unfold mapInPlace?
  by_cases hz : v.len = 0
  · rw [if_pos hz]
    refine ⟨v, rfl, h, rfl, rfl, fun i => ?_⟩
    rw [abs_none_of_len_zero hz]
    rfl
  · rw [if_neg hz]
    obtain ⟨cs, hcs, hcsl, hcsa⟩ := contents_spec h
    obtain ⟨m, hm, hmI, hma⟩ := overwrite_spec h (xs := cs.map f) (by rw [List.length_map, hcsl])
    refine ⟨{ v with mem := m }, ?_, hmI, rfl, rfl, fun i => ?_⟩
    · rw [hcs, Option.bind_some, hm, Option.map_some]
    · rw [hma, getI_map, hcsa]

/-- what `w op= v` of a numeric vector denotes on index-range maps:
* empty `w`: the copy of `v`, scaled (`+=`: as is, `-=`: negated, `*=` and `/=`: zero);
* otherwise the union of the two ranges; inside `v`'s range `f(w_i or 0, v_i)`, outside it `w_i or 0`. -/
def arithSpec (a : Arith) (w v : Vec) (i : Int) : Option Int :=
  if w.len = 0 then
    (v.abs i).map fun x => match a.emptyScale with
      | none => x
      | some c => x * c
  else if min w.minIndex v.minIndex ≤ i ∧ i ≤ max w.maxIndex v.maxIndex then
    some (match v.abs i with
      | some b => a.fn ((w.abs i).getD 0) b
      | none => (w.abs i).getD 0)
  else none

theorem numAssign_spec (a : Arith) (w v : Vec) (hw : Inv w) (hv : Inv v) :
    ∃ r, numAssign? a w v = some r ∧ Inv r ∧ ∀ i, r.abs i = arithSpec a w v i := by
  unfold numAssign? arithSpec
  by_cases hz : w.len = 0
  · simp only [if_pos hz]
    obtain ⟨r, hr, hd⟩ := assign_spec w v hv
    rw [hr, Option.bind_some]
    cases a.emptyScale with
    | none =>
      refine ⟨r, rfl, hd.inv, fun i => ?_⟩
      rw [hd.abs i]
      cases v.abs i <;> rfl
    | some c =>
      obtain ⟨r2, hr2, hd2⟩ := mapInPlace_spec (fun x => x * c) r hd.inv
      refine ⟨r2, hr2, hd2.inv, fun i => ?_⟩
      rw [hd2.abs i, hd.abs i]
  · simp only [if_neg hz]
    generalize hlo : min w.minIndex v.minIndex = lo
    generalize hhi : max w.maxIndex v.maxIndex = hi
    have hb : lo ≤ w.start ∧ lo ≤ v.start ∧ w.start + w.len - 1 ≤ hi ∧ v.start + v.len - 1 ≤ hi := by
      unfold Vec.minIndex at hlo
      unfold Vec.maxIndex at hhi
      omega
    clear hlo hhi
    obtain ⟨g, hg, hgI, hgr, hga⟩ := resize_spec w lo hi hw
    obtain ⟨r, hr, hd⟩ := zipInto_spec a.fn g v hgI hv (fun _ => by omega)
    unfold Vec.grow?
    rw [hg, Option.bind_some]
    refine ⟨r, hr, hd.inv, fun i => ?_⟩
    rw [hd.abs i, hga i]
    by_cases c : v.has i
    · obtain ⟨x, hx⟩ := abs_isSome hv c
      have ci : lo ≤ i ∧ i ≤ hi := by omega
      rw [if_pos c, if_pos ci, if_pos ci, hx]
    · rw [if_neg c, abs_of_not_has c]

theorem numAssign_add (w v : Vec) : numAssign? .add w v = w.addAssign? v :=
  ite_congr rfl (fun _ => Option.bind_fun_some _) fun _ => rfl

theorem baseAddAssign_eq (g : Vec → Vec → Bool) (w v : Vec) :
    w.baseAddAssign? g v = w.baseArith? .add g v := rfl

theorem baseArith_spec (a : Arith) (w v : Vec) (hw : Inv w) (hv : Inv v)
    (he : w.start = v.start ∧ w.len = v.len) :
    ∃ r, w.baseArith? a Vec.baseArithGuard v = some (some r) ∧ Denotes r w.start w.len fun i =>
      match w.abs i, v.abs i with
        | some p, some q => some (a.fn p q)
        | _, _ => none := by
  obtain ⟨r, hr, hd⟩ := zipInto_spec a.fn w v hw hv (fun _ => by omega)
  refine ⟨r, ?_, hd.inv, hd.start, hd.len, fun i => ?_⟩
  · unfold Vec.baseArith?
    rw [if_pos ((baseArithGuard_iff w v).mpr he), hr]
    rfl
  · rw [hd.abs i]
    by_cases c : v.has i
    · rw [if_pos c]
    · rw [if_neg c, abs_of_not_has (by omega)]

theorem baseArith_range_error (a : Arith) (w v : Vec) (hne : ¬ (w.start = v.start ∧ w.len = v.len)) :
    w.baseArith? a Vec.baseArithGuard v = some none :=
  if_neg (fun hg => hne ((baseArithGuard_iff w v).mp hg))

theorem copyOf_spec (v : Vec) (hv : Inv v) :
    ∃ r, copyOf? v = some r ∧ Denotes r v.start v.len v.abs :=
  assign_spec Vec.empty v hv

theorem binArith_spec (a : Arith) (d x y : Vec) (hx : Inv x) (hy : Inv y) :
    ∃ r, binArith? a d x y = some r ∧ Inv r ∧ ∀ i, r.abs i = arithSpec a x y i := by
  obtain ⟨t, ht, hdt⟩ := copyOf_spec x hx
  obtain ⟨t2, ht2, ht2I, ht2a⟩ := numAssign_spec a t y hdt.inv hy
  obtain ⟨t3, ht3, hdt3⟩ := copyOf_spec t2 ht2I
  obtain ⟨r, hr, hdr⟩ := assign_spec d t3 hdt3.inv
  refine ⟨r, ?_, hdr.inv, fun i => ?_⟩
  · unfold binArith?
    rw [ht, Option.bind_some, ht2, Option.bind_some, ht3, Option.bind_some, hr]
  · -- the copy `t` of `x` has the range and the map of `x`, and `arithSpec` looks at nothing else
    rw [hdr.abs i, hdt3.abs i, ht2a i]
    unfold arithSpec Vec.minIndex Vec.maxIndex
    rw [hdt.start, hdt.len, hdt.abs i]

theorem binScalar_spec (f : Int → Int) (d x : Vec) (hx : Inv x) :
    ∃ r, binScalar? f d x = some r ∧ Inv r ∧ ∀ i, r.abs i = (x.abs i).map f := by
  obtain ⟨t, ht, hdt⟩ := copyOf_spec x hx
  obtain ⟨t2, ht2, hdt2⟩ := mapInPlace_spec f t hdt.inv
  obtain ⟨t3, ht3, hdt3⟩ := copyOf_spec t2 hdt2.inv
  obtain ⟨r, hr, hdr⟩ := assign_spec d t3 hdt3.inv
  refine ⟨r, ?_, hdr.inv, fun i => ?_⟩
  · unfold binScalar?
    rw [ht, Option.bind_some, ht2, Option.bind_some, ht3, Option.bind_some, hr]
  · rw [hdr.abs i, hdt3.abs i, hdt2.abs i, hdt.abs i]

theorem xapyb_spec (w x : Vec) (a : Int) (y : Vec) (b : Int) (hw : Inv w) (hx : Inv x) (hy : Inv y)
    (sx : sameRange w x = true) (sy : sameRange w y = true) :
    ∃ r, w.xapyb? x a y b = some (some r) ∧ Denotes r w.start w.len fun i =>
      match x.abs i, y.abs i with
        | some p, some q => some (p * a + q * b)
        | _, _ => none := by
  unfold xapyb?
  rw [sx, sy]
  rw [if_neg (by decide)]
  by_cases hz : w.len = 0
  · rw [if_pos hz]
    refine ⟨w, rfl, hw, rfl, rfl, fun i => ?_⟩
    rw [abs_none_of_len_zero hz, abs_of_not_has (mt (has_of_sameRange sx i).mpr (by omega))]
  · rw [if_neg hz]
    obtain ⟨xs, hxs, hxl, hxa⟩ := contents_of_sameRange hx sx
    obtain ⟨ys, hys, hyl, hya⟩ := contents_of_sameRange hy sy
    obtain ⟨m, hm, hmI, hma⟩ := overwrite_spec hw
      (xs := List.zipWith (fun p q => p * a + q * b) xs ys)
      (by rw [List.length_zipWith, hxl, hyl, Nat.min_self])
    rw [hxs, Option.bind_some, hys, Option.bind_some, hm]
    refine ⟨_, rfl, hmI, rfl, rfl, fun i => ?_⟩
    rw [hma, getI_zipWith, hxa, hya]
    rfl

theorem xapyb_range_error (w x : Vec) (a : Int) (y : Vec) (b : Int)
    (hne : ¬ (sameRange w x = true ∧ sameRange w y = true)) : w.xapyb? x a y b = some none := by
  unfold xapyb?
  rw [if_pos]
  rw [Bool.not_eq_true', ← Bool.not_eq_true, Bool.and_eq_true]
  exact hne

theorem xapybVec_spec (w x a y b : Vec) (hw : Inv w) (hx : Inv x) (ha : Inv a) (hy : Inv y) (hb : Inv b)
    (sx : sameRange w x = true) (sy : sameRange w y = true) (sa : sameRange w a = true)
    (sb : sameRange w b = true) :
    ∃ r, w.xapybVec? x a y b = some (some r) ∧ Denotes r w.start w.len fun i =>
      if w.minIndex ≤ i ∧ i ≤ w.maxIndex then
        some ((x.abs i).getD 0 * (a.abs i).getD 0 + (y.abs i).getD 0 * (b.abs i).getD 0) else none := by
  unfold xapybVec?
  rw [sx, sy, sa, sb]
  rw [if_neg (by decide)]
  by_cases hz : w.len = 0
  · rw [if_pos hz]
    refine ⟨w, rfl, hw, rfl, rfl, fun i => ?_⟩
    have hi : ¬ (w.minIndex ≤ i ∧ i ≤ w.maxIndex) := fun hh => by
      have := (range_iff_has w i).mp hh
      omega
    rw [abs_none_of_len_zero hz, if_neg hi]
  · rw [if_neg hz]
    obtain ⟨xs, hxs, hxl, hxa⟩ := contents_of_sameRange hx sx
    obtain ⟨as, has, hal, haa⟩ := contents_of_sameRange ha sa
    obtain ⟨ys, hys, hyl, hya⟩ := contents_of_sameRange hy sy
    obtain ⟨bs, hbs, hbl, hba⟩ := contents_of_sameRange hb sb
    obtain ⟨m, hm, hmI, hma⟩ := overwrite_spec hw
      (xs := List.zipWith (fun p q => p + q) (List.zipWith (fun p q => p * q) xs as)
        (List.zipWith (fun p q => p * q) ys bs))
      (by rw [List.length_zipWith, List.length_zipWith, List.length_zipWith, hxl, hal, hyl, hbl,
        Nat.min_self, Nat.min_self])
    rw [hxs, Option.bind_some, has, Option.bind_some, hys, Option.bind_some, hbs, Option.bind_some, hm]
    refine ⟨_, rfl, hmI, rfl, rfl, fun i => ?_⟩
    rw [hma, getI_zipWith, getI_zipWith, getI_zipWith, hxa, haa, hya, hba]
    by_cases c : w.has i
    · obtain ⟨p, hp⟩ := abs_isSome hx ((has_of_sameRange sx i).mp c)
      obtain ⟨p', hp'⟩ := abs_isSome ha ((has_of_sameRange sa i).mp c)
      obtain ⟨q, hq⟩ := abs_isSome hy ((has_of_sameRange sy i).mp c)
      obtain ⟨q', hq'⟩ := abs_isSome hb ((has_of_sameRange sb i).mp c)
      rw [if_pos ((range_iff_has w i).mpr c), hp, hp', hq, hq']
      rfl
    · rw [if_neg fun hh => c ((range_iff_has w i).mp hh), abs_of_not_has (mt (has_of_sameRange sx i).mpr c)]

theorem xapybVec_range_error (w x a y b : Vec)
    (hne : ¬ (sameRange w x = true ∧ sameRange w y = true ∧ sameRange w a = true ∧ sameRange w b = true)) :
    w.xapybVec? x a y b = some none := by
  unfold xapybVec?
  rw [if_pos]
  rw [Bool.not_eq_true', ← Bool.not_eq_true, Bool.and_eq_true, Bool.and_eq_true, Bool.and_eq_true]
  exact fun hs => hne ⟨hs.1.1.1, hs.1.1.2, hs.1.2, hs.2⟩

end StirVerif.C11
