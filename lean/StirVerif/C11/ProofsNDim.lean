/-
C11 — N-dimensional arrays: the checked access is the look-up in the index-range map, for every nesting depth, every
(irregular) shape and every coordinate; the map has as many entries as `size_all()` says and no coordinate twice.
-/
import StirVerif.C11.NDim

namespace StirVerif.C11

theorem lookup_map_cons (lo : Int) (es : List (List Int × Int)) (i : Int) (cs : List Int) :
    (es.map fun e => (lo :: e.1, e.2)).lookup (i :: cs) = if i = lo then es.lookup cs else none := by
  rw [List.lookup_eq_findSome?, List.findSome?_map, List.lookup_eq_findSome?]
  by_cases h : i = lo
  · simp [h, Function.comp_def]
  · simp [h, Function.comp_def]

theorem lookup_map_cons_nil (lo : Int) (es : List (List Int × Int)) :
    (es.map fun e => (lo :: e.1, e.2)).lookup [] = none := by
  rw [List.lookup_eq_findSome?, List.findSome?_map]
  simp [Function.comp_def]

theorem not_mem_keys_of_lookup_eq_none {es : List (List Int × Int)} {k : List Int} (h : es.lookup k = none) :
    k ∉ es.map (·.1) := fun hm => by
  obtain ⟨e, he, rfl⟩ := List.mem_map.1 hm
  simpa using List.lookup_eq_none_iff.mp h e he

theorem leafElems_lookup (xs : List Int) : ∀ (lo : Int) (cs : List Int),
    (leafElems lo xs).lookup cs = (RArr.leaf lo xs).at? cs := by
  induction xs with
  | nil =>
    intro lo cs
    match cs with
    | [] | [i] | _ :: _ :: _ => simp [leafElems, RArr.at?, listAt?]
  | cons x xs ih =>
    intro lo cs
    rw [leafElems, List.lookup_cons, ih]
    match cs with
    | [] | _ :: _ :: _ => simp [RArr.at?]
    | [i] =>
      simp only [RArr.at?, listAt?]
      by_cases h : i = lo
      · subst h
        simp
      · by_cases h1 : lo + 1 ≤ i
        · have h3 : (i - lo).toNat = (i - (lo + 1)).toNat + 1 := by omega
          simp [beq_false_of_ne h, h1, h3, show lo ≤ i by omega]
        · simp [beq_false_of_ne h, h1, show ¬ lo ≤ i by omega]

theorem RArr.elemsRows_lookup_nil (rows : List RArr) : ∀ lo, (RArr.elemsRows lo rows).lookup [] = none := by
  induction rows with
  | nil => exact fun _ => rfl
  | cons r rs ih =>
    intro lo
    rw [RArr.elemsRows, List.lookup_append, lookup_map_cons_nil, ih, Option.or_none]

/- All coordinates of the row at position `k` of `elemsRows lo rows` begin with `lo + k` (`lookup_map_cons`), so the look-up of
   `i :: cs` in the concatenation (`List.lookup_append`) falls through every row but the one at position `i - lo`, where it is
   that row's own look-up of `cs`. -/
mutual
theorem RArr.at?_eq_lookup : ∀ (a : RArr) (cs : List Int), a.at? cs = a.elems.lookup cs
  | .leaf lo xs, cs => by
    rw [RArr.elems, leafElems_lookup]
  | .node lo rows, [] => by
    rw [RArr.at?, RArr.elems, RArr.elemsRows_lookup_nil]
  | .node lo rows, i :: cs => by
    rw [RArr.at?, RArr.elems, RArr.elemsRows_lookup rows lo i cs]
theorem RArr.elemsRows_lookup : ∀ (rows : List RArr) (lo i : Int) (cs : List Int),
    (RArr.elemsRows lo rows).lookup (i :: cs) = if lo ≤ i then RArr.atRows? rows (i - lo).toNat cs else none
  | [], lo, i, cs => by simp [RArr.elemsRows, RArr.atRows?]
  | r :: rs, lo, i, cs => by
    rw [RArr.elemsRows, List.lookup_append, lookup_map_cons, RArr.elemsRows_lookup rs (lo + 1) i cs]
    by_cases h : i = lo
    · subst h
      rw [if_pos rfl, if_neg (by omega), if_pos (Int.le_refl _), Int.sub_self, Int.toNat_zero, RArr.atRows?,
        ← RArr.at?_eq_lookup r cs, Option.or_none]
    · rw [if_neg h, Option.none_or]
      by_cases h1 : lo + 1 ≤ i
      · have h3 : (i - lo).toNat = (i - (lo + 1)).toNat + 1 := by omega
        rw [if_pos h1, if_pos (by omega), h3, RArr.atRows?]
      · rw [if_neg h1, if_neg (by omega)]
end

theorem leafElems_length (xs : List Int) : ∀ lo, (leafElems lo xs).length = xs.length := by
  induction xs with
  | nil =>
    intro lo
    rfl
  | cons x xs ih =>
    intro lo
    simp [leafElems, ih]

mutual
theorem RArr.elems_length : ∀ a : RArr, a.elems.length = a.sizeAll
  | .leaf lo xs => by simp [RArr.elems, RArr.sizeAll, leafElems_length]
  | .node lo rows => by simp [RArr.elems, RArr.sizeAll, RArr.elemsRows_length lo rows]
theorem RArr.elemsRows_length : ∀ (lo : Int) (rows : List RArr), (RArr.elemsRows lo rows).length = RArr.sizeAllRows rows
  | _, [] => by simp [RArr.elemsRows, RArr.sizeAllRows]
  | lo, r :: rs => by
    simp [RArr.elemsRows, RArr.sizeAllRows, RArr.elems_length r, RArr.elemsRows_length (lo + 1) rs]
end

theorem leafElems_keys_nodup (xs : List Int) : ∀ lo, ((leafElems lo xs).map (·.1)).Nodup := by
  induction xs with
  | nil =>
    intro lo
    simp [leafElems]
  | cons x xs ih =>
    intro lo
    simp only [leafElems, List.map_cons, List.nodup_cons]
    -- a first index below `lo + 1` is not found among the elements numbered from `lo + 1`
    refine ⟨not_mem_keys_of_lookup_eq_none ?_, ih (lo + 1)⟩
    rw [leafElems_lookup, RArr.at?, listAt?, if_neg (by omega)]

mutual
theorem RArr.elems_keys_nodup : ∀ a : RArr, (a.elems.map (·.1)).Nodup
  | .leaf lo xs => by simpa [RArr.elems] using leafElems_keys_nodup xs lo
  | .node lo rows => by simpa [RArr.elems] using RArr.elemsRows_keys_nodup rows lo
theorem RArr.elemsRows_keys_nodup : ∀ (rows : List RArr) (lo : Int), ((RArr.elemsRows lo rows).map (·.1)).Nodup
  | [], lo => by simp [RArr.elemsRows]
  | r :: rs, lo => by
    simp only [RArr.elemsRows, List.map_append, List.map_map]
    rw [List.nodup_append]
    refine ⟨?_, RArr.elemsRows_keys_nodup rs (lo + 1), ?_⟩
    · exact List.pairwise_map.mpr ((List.pairwise_map.mp (RArr.elems_keys_nodup r)).imp
        fun hab h' => hab (List.cons.inj h').2)
    · intro a ha b hb hab
      subst hab
      obtain ⟨e, _, rfl⟩ := List.mem_map.1 ha
      exact not_mem_keys_of_lookup_eq_none
        ((RArr.elemsRows_lookup rs (lo + 1) lo e.1).trans (if_neg (by omega))) hb
end
end StirVerif.C11
