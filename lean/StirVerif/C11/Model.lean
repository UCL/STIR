/-
C11 — executable model of `stir::VectorWithOffset<int>` / `stir::Array<1,int>`
(src/include/stir/VectorWithOffset.inl, Array.inl, NumericVectorWithOffset.inl).

Pointers enter only as integer offsets into the current allocation:
  numOff = num - begin_allocated_memory          (may be negative)
  mem    = the cells [begin_allocated_memory, end_allocated_memory)
Every operation that reads or writes cells returns `Option`: `none` means the C++ would read or write
outside `[begin_allocated_memory, end_allocated_memory)` (memory-unsafe).
The checks that are `assert`s in the C++ are compiled out in the baseline
build (NDEBUG) and are therefore absent here as well.

Core Lean only (no Mathlib): this file is linked into the `stirdriver` executable.
-/
namespace StirVerif.C11

/-- value of a freshly `new int[n]`-ed cell: indeterminate in C++; AddressSanitizer's
    malloc fill pattern 0xBE, read as a 32 bit int, is used as a recognisable stand-in.
    No theorem depends on its value. -/
def junk : Int := -1094795586

structure Vec where
  start  : Int
  len    : Nat
  numOff : Int
  mem    : List Int
  deriving Repr, DecidableEq, Inhabited

namespace Vec

/-- `VectorWithOffset::init()` / default constructor / `recycle()` -/
def empty : Vec := { start := 0, len := 0, numOff := 0, mem := [] }

def cap (v : Vec) : Nat := v.mem.length
def minIndex (v : Vec) : Int := v.start
def maxIndex (v : Vec) : Int := v.start + v.len - 1
/-- `get_capacity_min_index` = begin_allocated_memory - num -/
def capMin (v : Vec) : Int := -v.numOff
/-- `get_capacity_max_index` = end_allocated_memory - num - 1 -/
def capMax (v : Vec) : Int := (v.cap : Int) - v.numOff - 1

/-- position in `mem` of `num[start]`, i.e. of `begin()` -/
def off (v : Vec) : Int := v.numOff + v.start

/-- in-bounds read of a block of cells -/
def readAt? (mem : List Int) (pos : Int) (n : Nat) : Option (List Int) :=
  if 0 ≤ pos ∧ pos.toNat + n ≤ mem.length then some ((mem.drop pos.toNat).take n) else none

/-- in-bounds write of a block of cells -/
def writeAt? (mem : List Int) (pos : Int) (xs : List Int) : Option (List Int) :=
  if 0 ≤ pos ∧ pos.toNat + xs.length ≤ mem.length then
    some (mem.take pos.toNat ++ xs ++ mem.drop (pos.toNat + xs.length))
  else none

/-- the elements `[begin(), end())` -/
def contents? (v : Vec) : Option (List Int) := readAt? v.mem v.off v.len

/-- `num[i]` (unchecked `operator[]`): `none` if outside the allocation -/
def raw? (v : Vec) (i : Int) : Option Int :=
  let p := v.numOff + i
  if 0 ≤ p then v.mem[p.toNat]? else none

/-- `num[i] = x` -/
def setRaw? (v : Vec) (i : Int) (x : Int) : Option Vec :=
  (writeAt? v.mem (v.numOff + i) [x]).map fun m => { v with mem := m }

/-- the range test of `at(i)`: `false` means `std::out_of_range` is thrown -/
def inRange (v : Vec) (i : Int) : Bool := v.len != 0 && v.minIndex ≤ i && i ≤ v.maxIndex

/-- truncation used by `resize` to empty and by `operator=` -/
def truncate (v : Vec) : Vec := { v with len := 0, start := 0, numOff := 0 }

/-- `VectorWithOffset::set_offset(min_index)` -/
def setOffset (v : Vec) (mn : Int) : Vec :=
  if v.len = 0 then v else { v with numOff := v.numOff + (v.start - mn), start := mn }

/-- `VectorWithOffset::reserve(new_capacity_min_index, new_capacity_max_index)` -/
def reserve? (v : Vec) (mn mx : Int) : Option Vec :=
  let amin := if v.len = 0 then mn else min v.capMin mn
  let amax := if v.len = 0 then mx else max v.capMax mx
  if amin > amax then some v
  else
    let newCap := (amax - amin + 1).toNat
    if newCap ≤ v.cap then some v
    else
      let extraLeft : Nat := if v.len = 0 then 0 else (max 0 (v.minIndex - amin)).toNat
      -- std::copy(begin(), end(), new + extraLeft)
      (v.contents?).bind fun cs =>
        (writeAt? (List.replicate newCap junk) extraLeft cs).map fun m =>
          { v with mem := m, numOff := (extraLeft : Int) - (if v.len > 0 then v.start else 0) }

/-- first part of `VectorWithOffset::resize`: shrink to the overlap of old and new range
    ("determine overlapping range to avoid copying too much data when calling reserve()") -/
def shrinkToOverlap (v : Vec) (mn mx : Int) : Vec :=
  if v.len > 0 then
    let omin := max v.minIndex mn
    let omax := min v.maxIndex mx
    if omax - omin < 0 then v.truncate
    else { v with len := (omax - omin + 1).toNat, start := omin }
  else v

/-- `VectorWithOffset::resize(min_index, max_index)` (the base class one: new cells are not initialised) -/
def resizeBase? (v : Vec) (mn mx : Int) : Option Vec :=
  if mn > mx then some v.truncate
  else if v.len > 0 ∧ mn = v.minIndex ∧ mx = v.maxIndex then some v
  else
    let v1 := v.shrinkToOverlap mn mx
    (v1.reserve? mn mx).map fun v2 =>
      let len' := (mx - mn + 1).toNat
      if v1.len > 0 then { v2 with len := len', start := mn }
      else { v2 with len := len', start := mn, numOff := -mn }

/-- list of `n` zeros written by the `assign(num[i],0)` loops -/
def zeros (n : Nat) : List Int := List.replicate n 0

/-- a zero-filling loop over `n` cells starting at `pos`; a loop that does not execute
    touches nothing, wherever `pos` points -/
def writeZeros? (mem : List Int) (pos : Int) (n : Nat) : Option (List Int) :=
  if n = 0 then some mem else writeAt? mem pos (zeros n)

/-- `Array<1,int>::resize(min_index, max_index)`: base resize, then zero the newly exposed cells -/
def resize? (v : Vec) (mn mx : Int) : Option Vec :=
  let oldstart := v.minIndex
  let oldlen := v.len
  (v.resizeBase? mn mx).bind fun w =>
    if oldlen = 0 then
      -- for i in [min,max]: num[i] = 0
      (writeZeros? w.mem (w.numOff + w.minIndex) w.len).map fun m => { w with mem := m }
    else
      -- for (i = min; i < oldstart && i <= max; ++i) num[i] = 0
      let nLeft : Nat := (min oldstart (w.maxIndex + 1) - w.minIndex).toNat
      -- for (i = max(oldstart+oldlength, min); i <= max; ++i) num[i] = 0
      let rstart : Int := max (oldstart + oldlen) w.minIndex
      let nRight : Nat := (w.maxIndex + 1 - rstart).toNat
      (writeZeros? w.mem (w.numOff + w.minIndex) nLeft).bind fun m1 =>
        (writeZeros? m1 (w.numOff + rstart) nRight).map fun m2 => { w with mem := m2 }

/-- `grow` = `resize` (the range assertion is compiled out) -/
def grow? (v : Vec) (mn mx : Int) : Option Vec := v.resize? mn mx

/-- `VectorWithOffset::operator=(il)` **as in the pinned source before the fix**:
    only truncates when the capacity is too small. Kept for the regression witness. -/
def assignOld? (v il : Vec) : Option Vec :=
  let v1? : Option Vec :=
    if v.cap < il.len then (v.truncate).reserve? il.minIndex il.maxIndex else some v
  v1?.bind fun v1 =>
    let v2 := ({ v1 with len := il.len } : Vec).setOffset il.minIndex
    (il.contents?).bind fun cs =>
      (writeAt? v2.mem v2.off cs).map fun m => { v2 with mem := m }

/-- `VectorWithOffset::operator=(il)` as in the current source (after the `fix:` commit):
    always truncate first, so that the copy starts at the beginning of the allocation. -/
def assign? (v il : Vec) : Option Vec :=
  let v0 := v.truncate
  let v1? : Option Vec :=
    if v0.cap < il.len then v0.reserve? il.minIndex il.maxIndex else some v0
  v1?.bind fun v1 =>
    let v2 := ({ v1 with len := il.len } : Vec).setOffset il.minIndex
    (il.contents?).bind fun cs =>
      (writeAt? v2.mem v2.off cs).map fun m => { v2 with mem := m }

/-- `fill(n)` -/
def fill? (v : Vec) (x : Int) : Option Vec :=
  (writeAt? v.mem v.off (List.replicate v.len x)).map fun m => { v with mem := m }

/-- checked element write `at(i) = x`; outer `none` = memory unsafe, inner `none` = exception -/
def setAt? (v : Vec) (i x : Int) : Option (Option Vec) :=
  if v.inRange i then (v.setRaw? i x).map some else some none

/-- checked element read `at(i)`; same convention -/
def getAt? (v : Vec) (i : Int) : Option (Option Int) :=
  if v.inRange i then (v.raw? i).map some else some none

/-- pointwise combination `for i in [v.min, v.max]: num[i] op= v.num[i]` -/
def zipInto? (f : Int → Int → Int) (w v : Vec) : Option Vec :=
  if v.len = 0 then some w else   -- the loop does not execute
  (v.contents?).bind fun vs =>
    (readAt? w.mem (w.numOff + v.minIndex) v.len).bind fun ws =>
      (writeAt? w.mem (w.numOff + v.minIndex) (List.zipWith f ws vs)).map fun m => { w with mem := m }

/-- `NumericVectorWithOffset::operator+=(v)` on an `Array<1,int>` (virtual `grow` zero-fills) -/
def addAssign? (w v : Vec) : Option Vec :=
  if w.len = 0 then w.assign? v
  else (w.grow? (min w.minIndex v.minIndex) (max w.maxIndex v.maxIndex)).bind fun w' =>
    zipInto? (· + ·) w' v

/-- guard of the base class `VectorWithOffset::operator+=` **before the fix** (`&&`) -/
def baseArithGuardOld (w v : Vec) : Bool := !(w.minIndex != v.minIndex && w.maxIndex != v.maxIndex)
/-- guard as in the current source (`||`) -/
def baseArithGuard (w v : Vec) : Bool := !(w.minIndex != v.minIndex || w.maxIndex != v.maxIndex)

/-- base class `VectorWithOffset::operator+=`; outer `none` unsafe, inner `none` = `error()` -/
def baseAddAssign? (guard : Vec → Vec → Bool) (w v : Vec) : Option (Option Vec) :=
  if guard w v then (zipInto? (· + ·) w v).map some else some none

/-! ### arithmetic other than `+=` (NumericVectorWithOffset.inl l.141-320, VectorWithOffset.inl l.700-769) -/

/-- the scalar loops `for (i = min; i <= max; i++) num[i] = f(num[i])` of
    `NumericVectorWithOffset::operator+=(const NUMBER&)`, `-=`, `*=`, `/=`
    (NumericVectorWithOffset.inl l.215-257); a loop over an empty range touches nothing -/
def mapInPlace? (f : Int → Int) (v : Vec) : Option Vec :=
  if v.len = 0 then some v else
  (v.contents?).bind fun cs =>
    (writeAt? v.mem v.off (cs.map f)).map fun m => { v with mem := m }

/-- the four elementwise operations; C++ `int` division truncates towards zero -/
inductive Arith where
  | add | sub | mul | div
  deriving Repr, DecidableEq

def Arith.fn : Arith → Int → Int → Int
  | .add => fun x y => x + y
  | .sub => fun x y => x - y
  | .mul => fun x y => x * y
  | .div => fun x y => Int.tdiv x y

/-- the factor applied after `*this = v` when `*this` was empty:
    `+=` nothing, `-=` `*= -1`, `*=` and `/=` `*= 0` (NumericVectorWithOffset.inl l.149, 167-170, 187-191, 208-212) -/
def Arith.emptyScale : Arith → Option Int
  | .add => none
  | .sub => some (-1)
  | .mul => some 0
  | .div => some 0

/-- `NumericVectorWithOffset::operator+=, -=, *=, /= (const NumericVectorWithOffset&)` on an `Array<1,int>`:
    empty `*this` becomes a (scaled) copy of `v`; otherwise grow to the union of the ranges
    (virtual `grow` of `Array<1>` zero-fills) and combine over `v`'s range only -/
def numAssign? (a : Vec.Arith) (w v : Vec) : Option Vec :=
  if w.len = 0 then
    (w.assign? v).bind fun r =>
      match a.emptyScale with
      | none => some r
      | some c => mapInPlace? (fun x => x * c) r
  else (w.grow? (min w.minIndex v.minIndex) (max w.maxIndex v.maxIndex)).bind fun w' =>
    zipInto? a.fn w' v

/-- base class `VectorWithOffset::operator+=, -=, *=, /=` (VectorWithOffset.inl l.680-769);
    outer `none` unsafe, inner `none` = `error()` -/
def baseArith? (a : Vec.Arith) (guard : Vec → Vec → Bool) (w v : Vec) : Option (Option Vec) :=
  if guard w v then (zipInto? a.fn w v).map some else some none

/-- copy constructor `VectorWithOffset(const VectorWithOffset&)`: `init(); *this = il` (VectorWithOffset.inl l.527) -/
def copyOf? (v : Vec) : Option Vec := Vec.empty.assign? v

/-- `d = x op y` with `Array<1,int>::operator+ - * / (const base_type&)` (Array.inl l.851-883):
    `Array<1> retval(*this); return retval op= iv;` (the returned reference is copied into the
    return value), then `Array<1>::operator=` into `d` -/
def binArith? (a : Vec.Arith) (d x y : Vec) : Option Vec :=
  (copyOf? x).bind fun t => (numAssign? a t y).bind fun t2 => (copyOf? t2).bind fun t3 => d.assign? t3

/-- `d = x op c` with `Array<1,int>::operator+ - * / (const elemT)` (Array.inl l.885-919) -/
def binScalar? (f : Int → Int) (d x : Vec) : Option Vec :=
  (copyOf? x).bind fun t => (mapInPlace? f t).bind fun t2 => (copyOf? t2).bind fun t3 => d.assign? t3

/-- both ends of the index range agree -/
def sameRange (w v : Vec) : Bool := w.minIndex == v.minIndex && w.maxIndex == v.maxIndex

/-- `NumericVectorWithOffset::xapyb(x, a, y, b)` with scalar `a`, `b` (NumericVectorWithOffset.inl l.270-287):
    ranges must all agree, else `error()` (inner `none`); then `*this_iter++ = (*x_iter++) * a + (*y_iter++) * b`
    from the three `begin()`s until `this->end()`.  Operands that are the same object as `*this`
    (`sapyb`) are read and written at the same position, so reading all values first is the same. -/
def xapyb? (w x : Vec) (a : Int) (y : Vec) (b : Int) : Option (Option Vec) :=
  if !(sameRange w x && sameRange w y) then some none
  else if w.len = 0 then some (some w)
  else
    (readAt? x.mem x.off w.len).bind fun xs =>
      (readAt? y.mem y.off w.len).bind fun ys =>
        (writeAt? w.mem w.off (List.zipWith (fun p q => p * a + q * b) xs ys)).map fun m =>
          some { w with mem := m }

/-- `NumericVectorWithOffset::xapyb(x, a, y, b)` with vectors `a`, `b` (NumericVectorWithOffset.inl l.289-311) -/
def xapybVec? (w x a y b : Vec) : Option (Option Vec) :=
  if !(sameRange w x && sameRange w y && sameRange w a && sameRange w b) then some none
  else if w.len = 0 then some (some w)
  else
    (readAt? x.mem x.off w.len).bind fun xs =>
      (readAt? a.mem a.off w.len).bind fun as =>
        (readAt? y.mem y.off w.len).bind fun ys =>
          (readAt? b.mem b.off w.len).bind fun bs =>
            (writeAt? w.mem w.off
                (List.zipWith (fun p q => p + q) (List.zipWith (fun p q => p * q) xs as)
                  (List.zipWith (fun p q => p * q) ys bs))).map fun m =>
              some { w with mem := m }

/-- magnitude bound under which no 32-bit overflow can occur in any operation of the alphabet
    (`30000 * 30000 * 2 < 2^31`); operations on larger values are skipped by harness and model alike -/
def bound : Nat := 30000

def smallInt (x : Int) : Bool := x.natAbs ≤ bound

/-- all elements are small -/
def small (v : Vec) : Bool :=
  match v.contents? with
  | some cs => cs.all smallInt
  | none => false

/-- no element is zero (divisor check: integer division by zero is undefined behaviour in C++) -/
def noZero (v : Vec) : Bool :=
  match v.contents? with
  | some cs => cs.all (fun x => x != 0)
  | none => false

/-- `operator==` -/
def beq? (a b : Vec) : Option Bool :=
  if a.len != b.len || a.start != b.start then some false
  else (a.contents?).bind fun x => (b.contents?).map fun y => x == y

/-- the abstraction: index-range map -/
def abs (v : Vec) (i : Int) : Option Int :=
  if v.start ≤ i ∧ i < v.start + v.len then v.raw? i else none

end Vec

/-! ## register machine driven by the line protocol -/

inductive Op where
  | resize (r : Nat) (mn mx : Int)
  | grow (r : Nat) (mn mx : Int)
  | reserve (r : Nat) (mn mx : Int)
  | setOffset (r : Nat) (mn : Int)
  | assign (dst src : Nat)
  | fill (r : Nat) (x : Int)
  | setAt (r : Nat) (i x : Int)
  | getAt (r : Nat) (i : Int)
  | addAssign (dst src : Nat)
  | baseAdd (dst src : Nat)
  | recycle (r : Nat)
  | eq (a b : Nat)
  /-- `r[dst] op= r[src]` (NumericVectorWithOffset, growing) -/
  | arith (a : Vec.Arith) (dst src : Nat)
  /-- `r[dst].VectorWithOffset::operator op= (r[src])` (range-checked) -/
  | baseArith (a : Vec.Arith) (dst src : Nat)
  /-- `r[r] op= x` -/
  | scalar (a : Vec.Arith) (r : Nat) (x : Int)
  /-- `r[d] = r[x] op r[y]` -/
  | bin (a : Vec.Arith) (d x y : Nat)
  /-- `r[d] = r[x] op c` -/
  | binScalar (a : Vec.Arith) (d x : Nat) (c : Int)
  /-- `r[d].xapyb(r[x], a, r[y], b)` -/
  | xapyb (d x : Nat) (a : Int) (y : Nat) (b : Int)
  /-- `r[d].xapyb(r[x], r[a], r[y], r[b])` -/
  | xapybVec (d x a y b : Nat)
  /-- `r[d].sapyb(a, r[y], b)` -/
  | sapyb (d : Nat) (a : Int) (y : Nat) (b : Int)
  /-- `r[d].sapyb(r[a], r[y], r[b])` -/
  | sapybVec (d a y b : Nat)
  deriving Repr, DecidableEq

/-- registers: a list of vectors (index modulo its length is done by the driver) -/
abbrev Regs := List Vec

inductive Out where
  | ok
  | errRange          -- exception / error() reported
  | val (x : Int)
  | bool (b : Bool)
  | skip              -- operation not executed: an operand is too large (32-bit overflow) or a divisor is zero
  deriving Repr, DecidableEq

def getR (rs : Regs) (r : Nat) : Vec := rs.getD r Vec.empty
def setR (rs : Regs) (r : Nat) (v : Vec) : Regs := rs.set r v

/-- one step; `none` = memory-unsafe access in the C++ (and the aliased `x op= x` of `addAssign`, `baseAdd`, `arith`, `baseArith`,
    which is not modelled) -/
def step (rs : Regs) : Op → Option (Regs × Out)
  | .resize r mn mx => ((getR rs r).resize? mn mx).map fun v => (setR rs r v, .ok)
  | .grow r mn mx => ((getR rs r).grow? mn mx).map fun v => (setR rs r v, .ok)
  | .reserve r mn mx => ((getR rs r).reserve? mn mx).map fun v => (setR rs r v, .ok)
  | .setOffset r mn => some (setR rs r ((getR rs r).setOffset mn), .ok)
  | .assign d s =>
      if d = s then some (rs, .ok)
      else ((getR rs d).assign? (getR rs s)).map fun v => (setR rs d v, .ok)
  | .fill r x => ((getR rs r).fill? x).map fun v => (setR rs r v, .ok)
  | .setAt r i x => ((getR rs r).setAt? i x).map fun
      | some v => (setR rs r v, .ok)
      | none => (rs, .errRange)
  | .getAt r i => ((getR rs r).getAt? i).map fun
      | some x => (rs, .val x)
      | none => (rs, .errRange)
  | .addAssign d s =>
      if d = s then none  -- not generated (aliasing `x += x` is not modelled)
      else if !((getR rs d).small && (getR rs s).small) then some (rs, .skip)
      else ((getR rs d).addAssign? (getR rs s)).map fun v => (setR rs d v, .ok)
  | .baseAdd d s =>
      if d = s then none
      else if !((getR rs d).small && (getR rs s).small) then some (rs, .skip)
      else ((getR rs d).baseAddAssign? Vec.baseArithGuard (getR rs s)).map fun
        | some v => (setR rs d v, .ok)
        | none => (rs, .errRange)
  | .recycle r => some (setR rs r Vec.empty, .ok)
  | .eq a b => ((getR rs a).beq? (getR rs b)).map fun t => (rs, .bool t)
  | .arith a d s =>
      if d = s then none  -- not generated
      else if !((getR rs d).small && (getR rs s).small && (a != .div || (getR rs s).noZero)) then some (rs, .skip)
      else ((getR rs d).numAssign? a (getR rs s)).map fun v => (setR rs d v, .ok)
  | .baseArith a d s =>
      if d = s then none
      else if !((getR rs d).small && (getR rs s).small && (a != .div || (getR rs s).noZero)) then some (rs, .skip)
      else ((getR rs d).baseArith? a Vec.baseArithGuard (getR rs s)).map fun
        | some v => (setR rs d v, .ok)
        | none => (rs, .errRange)
  | .scalar a r x =>
      if !((getR rs r).small && Vec.smallInt x && (a != .div || x != 0)) then some (rs, .skip)
      else ((getR rs r).mapInPlace? (fun e => a.fn e x)).map fun v => (setR rs r v, .ok)
  | .bin a d x y =>
      if !((getR rs x).small && (getR rs y).small && (a != .div || (getR rs y).noZero)) then some (rs, .skip)
      else (Vec.binArith? a (getR rs d) (getR rs x) (getR rs y)).map fun v => (setR rs d v, .ok)
  | .binScalar a d x c =>
      if !((getR rs x).small && Vec.smallInt c && (a != .div || c != 0)) then some (rs, .skip)
      else (Vec.binScalar? (fun e => a.fn e c) (getR rs d) (getR rs x)).map fun v => (setR rs d v, .ok)
  | .xapyb d x a y b =>
      if !((getR rs x).small && (getR rs y).small && Vec.smallInt a && Vec.smallInt b) then some (rs, .skip)
      else ((getR rs d).xapyb? (getR rs x) a (getR rs y) b).map fun
        | some v => (setR rs d v, .ok)
        | none => (rs, .errRange)
  | .xapybVec d x a y b =>
      if !((getR rs x).small && (getR rs y).small && (getR rs a).small && (getR rs b).small) then some (rs, .skip)
      else ((getR rs d).xapybVec? (getR rs x) (getR rs a) (getR rs y) (getR rs b)).map fun
        | some v => (setR rs d v, .ok)
        | none => (rs, .errRange)
  | .sapyb d a y b =>
      if !((getR rs d).small && (getR rs y).small && Vec.smallInt a && Vec.smallInt b) then some (rs, .skip)
      else ((getR rs d).xapyb? (getR rs d) a (getR rs y) b).map fun
        | some v => (setR rs d v, .ok)
        | none => (rs, .errRange)
  | .sapybVec d a y b =>
      if !((getR rs d).small && (getR rs y).small && (getR rs a).small && (getR rs b).small) then some (rs, .skip)
      else ((getR rs d).xapybVec? (getR rs d) (getR rs a) (getR rs y) (getR rs b)).map fun
        | some v => (setR rs d v, .ok)
        | none => (rs, .errRange)

def run : Regs → List Op → Option (Regs × List Out)
  | rs, [] => some (rs, [])
  | rs, op :: ops =>
    (step rs op).bind fun (rs', o) => (run rs' ops).map fun (rs'', os) => (rs'', o :: os)

end StirVerif.C11
