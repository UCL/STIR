/-
C11 — machine level: one step of a history is memory safe and keeps the invariant of every register.
-/
import StirVerif.C11.ProofsArith

namespace StirVerif.C11
open Vec

def RegsInv (rs : Regs) : Prop := ∀ v ∈ rs, Inv v

theorem inv_getR {rs : Regs} (h : RegsInv rs) (r : Nat) : Inv (getR rs r) := by
  unfold getR
  rw [List.getD_eq_getElem?_getD]
  cases hr : rs[r]? with
  | none => exact inv_empty
  | some v => exact h v (List.mem_of_getElem? hr)

theorem inv_setR {rs : Regs} (h : RegsInv rs) (r : Nat) {v : Vec} (hv : Inv v) :
    RegsInv (setR rs r v) := by
  intro x hx
  rcases List.mem_or_eq_of_mem_set hx with hx | hx
  · exact h x hx
  · exact hx ▸ hv

/-- aliased `x += x`, `x -= x`, … are not modelled (and not generated); the binary operators,
    `xapyb` and `sapyb` may use the same register several times -/
def Op.WF : Op → Prop
  | .addAssign d s => d ≠ s
  | .baseAdd d s => d ≠ s
  | .arith _ d s => d ≠ s
  | .baseArith _ d s => d ≠ s
  | _ => True

/-! The three shapes a step has: an operation that yields a vector for register `r`; one that may
instead report an error and leave the registers alone; either of them behind the guard that skips
operands too large for 32 bits. -/

theorem safe_of_some {rs : Regs} (h : RegsInv rs) (r : Nat) {o : Option Vec} {w : Vec}
    (ho : o = some w) (hw : Inv w) :
    ∃ rs' out, o.map (fun v => (setR rs r v, Out.ok)) = some (rs', out) ∧ RegsInv rs' :=
  ⟨_, _, congrArg (Option.map _) ho, inv_setR h r hw⟩

theorem safe_of_checked {rs : Regs} (h : RegsInv rs) (r : Nat) {o : Option (Option Vec)} {c : Prop} {s : Int}
    {l : Nat} {f : Int → Option Int}
    (hn : ¬ c → o = some none) (hy : c → ∃ w, o = some (some w) ∧ Denotes w s l f) :
    ∃ rs' out, o.map (fun | some v => (setR rs r v, Out.ok) | none => (rs, Out.errRange)) = some (rs', out) ∧
      RegsInv rs' := by
  by_cases hc : c
  · obtain ⟨w, ho, hd⟩ := hy hc
    exact ⟨_, _, congrArg (Option.map _) ho, inv_setR h r hd.inv⟩
  · exact ⟨_, _, congrArg (Option.map _) (hn hc), h⟩

theorem safe_of_skip {rs : Regs} (h : RegsInv rs) (g : Bool) {o : Option (Regs × Out)}
    (ho : ∃ rs' out, o = some (rs', out) ∧ RegsInv rs') :
    ∃ rs' out, (if g = true then some (rs, Out.skip) else o) = some (rs', out) ∧ RegsInv rs' := by
  cases g
  · exact ho
  · exact ⟨rs, .skip, rfl, h⟩

theorem xapyb_step_safe {rs : Regs} (h : RegsInv rs) (d x : Nat) (a : Int) (y : Nat) (b : Int) :
    ∃ rs' o, step rs (.xapyb d x a y b) = some (rs', o) ∧ RegsInv rs' :=
  safe_of_skip h _ (safe_of_checked h d (xapyb_range_error _ _ a _ b) fun c =>
    xapyb_spec _ _ a _ b (inv_getR h d) (inv_getR h x) (inv_getR h y) c.1 c.2)

theorem xapybVec_step_safe {rs : Regs} (h : RegsInv rs) (d x a y b : Nat) :
    ∃ rs' o, step rs (.xapybVec d x a y b) = some (rs', o) ∧ RegsInv rs' :=
  safe_of_skip h _ (safe_of_checked h d (xapybVec_range_error _ _ _ _ _) fun c =>
    xapybVec_spec _ _ _ _ _ (inv_getR h d) (inv_getR h x) (inv_getR h a) (inv_getR h y) (inv_getR h b)
      c.1 c.2.1 c.2.2.1 c.2.2.2)

theorem step_safe (rs : Regs) (op : Op) (h : RegsInv rs) (hop : op.WF) :
    ∃ rs' o, step rs op = some (rs', o) ∧ RegsInv rs' := by
  cases op with
  | resize r mn mx | grow r mn mx =>
    obtain ⟨w, hw, hwI, _⟩ := resize_spec (getR rs r) mn mx (inv_getR h r)
    exact safe_of_some h r hw hwI
  | reserve r mn mx =>
    obtain ⟨w, hw, hd, _⟩ := reserve_spec (getR rs r) mn mx (inv_getR h r)
    exact safe_of_some h r hw hd.inv
  | setOffset r mn =>
    exact ⟨_, .ok, rfl, inv_setR h r (setOffset_spec _ mn (inv_getR h r)).1⟩
  | assign d s =>
    dsimp only [step]
    by_cases e : d = s
    · rw [if_pos e]
      exact ⟨rs, .ok, rfl, h⟩
    · rw [if_neg e]
      obtain ⟨w, hw, hd⟩ := assign_spec (getR rs d) (getR rs s) (inv_getR h s)
      exact safe_of_some h d hw hd.inv
  | fill r x =>
    obtain ⟨w, hw, hd⟩ := fill_spec (getR rs r) x (inv_getR h r)
    exact safe_of_some h r hw hd.inv
  | setAt r i x =>
    obtain ⟨h1, h2⟩ := setAt_spec (getR rs r) i x (inv_getR h r)
    exact safe_of_checked h r h1 h2
  | getAt r i =>
    dsimp only [step]
    rw [getAt_spec (getR rs r) i (inv_getR h r)]
    cases (getR rs r).abs i with
    | none => exact ⟨_, .errRange, rfl, h⟩
    | some x => exact ⟨_, .val x, rfl, h⟩
  | addAssign d s =>
    dsimp only [step]
    rw [if_neg (show d ≠ s from hop), ← numAssign_add]
    obtain ⟨w, hw, hwI, _⟩ := numAssign_spec .add (getR rs d) (getR rs s) (inv_getR h d) (inv_getR h s)
    exact safe_of_skip h _ (safe_of_some h d hw hwI)
  | baseAdd d s =>
    dsimp only [step]
    rw [if_neg (show d ≠ s from hop), baseAddAssign_eq]
    exact safe_of_skip h _ (safe_of_checked h d (baseArith_range_error .add _ _)
      (baseArith_spec .add _ _ (inv_getR h d) (inv_getR h s)))
  | recycle r =>
    exact ⟨_, .ok, rfl, inv_setR h r inv_empty⟩
  | eq a b =>
    obtain ⟨t, ht, _⟩ := beq_spec (getR rs a) (getR rs b) (inv_getR h a) (inv_getR h b)
    dsimp only [step]
    rw [ht]
    exact ⟨_, .bool t, rfl, h⟩
  | arith a d s =>
    dsimp only [step]
    rw [if_neg (show d ≠ s from hop)]
    obtain ⟨w, hw, hwI, _⟩ := numAssign_spec a (getR rs d) (getR rs s) (inv_getR h d) (inv_getR h s)
    exact safe_of_skip h _ (safe_of_some h d hw hwI)
  | baseArith a d s =>
    dsimp only [step]
    rw [if_neg (show d ≠ s from hop)]
    exact safe_of_skip h _ (safe_of_checked h d (baseArith_range_error a _ _)
      (baseArith_spec a _ _ (inv_getR h d) (inv_getR h s)))
  | scalar a r x =>
    obtain ⟨w, hw, hd⟩ := mapInPlace_spec (fun e => a.fn e x) (getR rs r) (inv_getR h r)
    exact safe_of_skip h _ (safe_of_some h r hw hd.inv)
  | bin a d x y =>
    obtain ⟨w, hw, hwI, _⟩ := binArith_spec a (getR rs d) (getR rs x) (getR rs y) (inv_getR h x) (inv_getR h y)
    exact safe_of_skip h _ (safe_of_some h d hw hwI)
  | binScalar a d x c =>
    obtain ⟨w, hw, hwI, _⟩ := binScalar_spec (fun e => a.fn e c) (getR rs d) (getR rs x) (inv_getR h x)
    exact safe_of_skip h _ (safe_of_some h d hw hwI)
  | xapyb d x a y b => exact xapyb_step_safe h d x a y b
  | xapybVec d x a y b => exact xapybVec_step_safe h d x a y b
  | sapyb d a y b => exact xapyb_step_safe h d d a y b
  | sapybVec d a y b => exact xapybVec_step_safe h d d a y b

end StirVerif.C11
