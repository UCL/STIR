/-
C11 — the memory primitives of `Model.lean` (`readAt?`, `writeAt?`) seen through integer-indexed
look-up `getI`: a block write replaces the cells of its window and no other, a block read returns
the cells of its window.
-/
import StirVerif.C11.Model

namespace StirVerif.C11
open Vec

def getI (m : List Int) (p : Int) : Option Int := if 0 ≤ p then m[p.toNat]? else none

theorem getI_natCast (m : List Int) (k : Nat) : getI m k = m[k]? := by
  simp [getI]

theorem getI_none_of_neg {m : List Int} {p : Int} (h : p < 0) : getI m p = none :=
  if_neg (by omega)

theorem neg_or_natCast (p : Int) : p < 0 ∨ ∃ k : Nat, p = k := by
  by_cases h : p < 0
  · exact .inl h
  · exact .inr ⟨p.toNat, by omega⟩

theorem getI_eq_none_iff {m : List Int} {p : Int} : getI m p = none ↔ p < 0 ∨ (m.length : Int) ≤ p := by
  rcases neg_or_natCast p with h | ⟨k, rfl⟩
  · rw [getI_none_of_neg h]
    exact iff_of_true rfl (.inl h)
  · rw [getI_natCast, List.getElem?_eq_none_iff]
    omega

theorem getI_eq_some_lt {m : List Int} {p : Int} {x : Int} (h : getI m p = some x) :
    0 ≤ p ∧ p < m.length := by
  have := mt getI_eq_none_iff.mpr (h ▸ Option.some_ne_none x)
  omega

theorem getI_isSome {m : List Int} {p : Int} (h0 : 0 ≤ p) (h1 : p < m.length) :
    ∃ x, getI m p = some x :=
  Option.ne_none_iff_exists'.mp (mt getI_eq_none_iff.mp (by omega))

theorem getI_none_of_ge {m : List Int} {p : Int} (h : (m.length : Int) ≤ p) : getI m p = none :=
  getI_eq_none_iff.mpr (.inr h)

theorem list_ext_getI {a b : List Int} (h : ∀ p, getI a p = getI b p) : a = b := by
  apply List.ext_getElem?
  intro n
  rw [← getI_natCast, ← getI_natCast, h]

theorem getI_append (a b : List Int) (p : Int) :
    getI (a ++ b) p = if p < a.length then getI a p else getI b (p - a.length) := by
  rcases neg_or_natCast p with h | ⟨k, rfl⟩
  · rw [getI_none_of_neg h, if_pos (by omega), getI_none_of_neg h]
  · rw [getI_natCast, getI_natCast, List.getElem?_append]
    by_cases hk : k < a.length
    · rw [if_pos hk, if_pos (by omega)]
    · rw [if_neg hk, if_neg (by omega), show (k : Int) - a.length = ((k - a.length : Nat) : Int) by omega,
        getI_natCast]

theorem getI_take (l : List Int) (n : Nat) (p : Int) :
    getI (l.take n) p = if p < n then getI l p else none := by
  rcases neg_or_natCast p with h | ⟨k, rfl⟩
  · rw [getI_none_of_neg h, getI_none_of_neg h, ite_self]
  · rw [getI_natCast, getI_natCast, List.getElem?_take]
    by_cases hk : k < n
    · rw [if_pos hk, if_pos (by omega)]
    · rw [if_neg hk, if_neg (by omega)]

theorem getI_drop (l : List Int) (n : Nat) (p : Int) :
    getI (l.drop n) p = if 0 ≤ p then getI l (p + n) else none := by
  rcases neg_or_natCast p with h | ⟨k, rfl⟩
  · rw [getI_none_of_neg h, if_neg (by omega)]
  · rw [getI_natCast, if_pos (by omega), show (k : Int) + n = ((n + k : Nat) : Int) by omega, getI_natCast,
      List.getElem?_drop]

theorem getI_replicate (n : Nat) (a : Int) (p : Int) :
    getI (List.replicate n a) p = if 0 ≤ p ∧ p < n then some a else none := by
  rcases neg_or_natCast p with h | ⟨k, rfl⟩
  · rw [getI_none_of_neg h, if_neg (by omega)]
  · rw [getI_natCast, List.getElem?_replicate]
    by_cases hk : k < n
    · rw [if_pos hk, if_pos (by omega)]
    · rw [if_neg hk, if_neg (by omega)]

theorem getI_map (f : Int → Int) (cs : List Int) (k : Int) :
    getI (cs.map f) k = (getI cs k).map f := by
  rcases neg_or_natCast k with h | ⟨k, rfl⟩
  · rw [getI_none_of_neg h, getI_none_of_neg h]
    rfl
  · rw [getI_natCast, getI_natCast, List.getElem?_map]

theorem getI_zipWith (f : Int → Int → Int) (a b : List Int) (k : Int) :
    getI (List.zipWith f a b) k =
      match getI a k, getI b k with
      | some x, some y => some (f x y)
      | _, _ => none := by
  rcases neg_or_natCast k with h | ⟨k, rfl⟩
  · rw [getI_none_of_neg h, getI_none_of_neg h]
  · rw [getI_natCast, getI_natCast, getI_natCast, List.getElem?_zipWith]
    cases a[k]? <;> cases b[k]? <;> rfl

theorem raw?_eq_getI (v : Vec) (i : Int) : v.raw? i = getI v.mem (v.numOff + i) := rfl

theorem writeAt?_eq_some_iff {mem : List Int} {pos : Int} {xs m : List Int} :
    writeAt? mem pos xs = some m ↔
      0 ≤ pos ∧ pos + xs.length ≤ mem.length ∧
        m = mem.take pos.toNat ++ xs ++ mem.drop (pos.toNat + xs.length) := by
  unfold writeAt?
  rw [Option.ite_some_none_eq_some, and_assoc, eq_comm]
  exact and_congr_right fun _ => and_congr_left' (by omega)

theorem length_writeAt {mem : List Int} {pos : Int} {xs m : List Int}
    (h : writeAt? mem pos xs = some m) : m.length = mem.length := by
  obtain ⟨h0, h1, rfl⟩ := writeAt?_eq_some_iff.mp h
  simp only [List.length_append, List.length_take, List.length_drop]
  omega

theorem getI_writeAt {mem : List Int} {pos : Int} {xs m : List Int}
    (h : writeAt? mem pos xs = some m) (p : Int) :
    getI m p = if pos ≤ p ∧ p < pos + xs.length then getI xs (p - pos) else getI mem p := by
  obtain ⟨h0, h1, rfl⟩ := writeAt?_eq_some_iff.mp h
  have hl : ((mem.take pos.toNat).length : Int) = pos := by
    rw [List.length_take]
    omega
  rw [getI_append, getI_append, List.length_append, Int.natCast_add, hl, getI_take, getI_drop]
  by_cases hA : p < pos
  · rw [if_pos (by omega), if_pos hA, if_pos (by omega), if_neg (by omega)]
  · by_cases hB : p < pos + xs.length
    · rw [if_pos hB, if_neg hA, if_pos ⟨by omega, hB⟩]
    · rw [if_neg hB, if_pos (by omega), if_neg (by omega)]
      congr 1
      omega

theorem readAt?_eq_some_iff {mem : List Int} {pos : Int} {n : Nat} {cs : List Int} :
    readAt? mem pos n = some cs ↔
      0 ≤ pos ∧ pos + n ≤ mem.length ∧ cs = (mem.drop pos.toNat).take n := by
  unfold readAt?
  rw [Option.ite_some_none_eq_some, and_assoc, eq_comm]
  exact and_congr_right fun _ => and_congr_left' (by omega)

theorem length_readAt {mem : List Int} {pos : Int} {n : Nat} {cs : List Int}
    (h : readAt? mem pos n = some cs) : cs.length = n := by
  obtain ⟨h0, h1, rfl⟩ := readAt?_eq_some_iff.mp h
  rw [List.length_take, List.length_drop]
  omega

theorem getI_readAt {mem : List Int} {pos : Int} {n : Nat} {cs : List Int}
    (h : readAt? mem pos n = some cs) (k : Int) :
    getI cs k = if 0 ≤ k ∧ k < n then getI mem (pos + k) else none := by
  obtain ⟨h0, h1, rfl⟩ := readAt?_eq_some_iff.mp h
  rw [getI_take, getI_drop]
  by_cases hk : 0 ≤ k ∧ k < n
  · rw [if_pos hk.2, if_pos hk.1, if_pos hk]
    congr 1
    omega
  · rw [if_neg hk]
    by_cases h2 : k < n
    · rw [if_pos h2, if_neg (by omega)]
    · rw [if_neg h2]

end StirVerif.C11
