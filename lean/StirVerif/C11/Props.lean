/-
C11 — "Arrays behave as index-range maps under any history and stay in bounds".

Property theorems for the 1-D core (`VectorWithOffset<int>` / `Array<1,int>` /
`NumericVectorWithOffset`), stated over the model of `Model.lean`.  `v.abs : Int → Option Int` is the
index-range map a vector denotes; `Inv` is the storage invariant
(`begin_allocated ≤ num+start`, `num+start+length ≤ end_allocated`, empty ⇒ start = 0, num = begin).
An operation returning `none` in the model is an access outside the owned storage.
-/
import StirVerif.C11.ProofsMachine
import StirVerif.C11.ProofsNDim

namespace StirVerif.C11
open Vec

/-- **Memory safety + invariant for every history.**  From registers that satisfy the
invariant (in particular from all-empty registers) every finite sequence of operations
(resize, grow, reserve, set_offset, assignment, fill, checked get/set, `+=` of numeric
vectors, base-class `+=`, recycle, `==`, `-= *= /=`
of numeric vectors (growing), the range-checked base-class `-= *= /=`, the scalar `+= -= *= /=`,
the binary operators `x op y` and `x op c` of `Array<1>` with assignment of the result,
`xapyb` and `sapyb` with scalar and with vector factors) runs without any access outside owned
storage and ends in registers that satisfy the invariant.  `Op` has no other constructors: the
theorem covers every operation of the alphabet of the correspondence harness.  (An arithmetic
operation — `+=` included — whose operands could overflow 32 bits or divide by zero answers `skip`
and changes nothing, in the model as in the harness.)  What the theorem leaves out is `hwf`: the aliased `x op= x` of `+=`,
of the base-class `+=` and of the `arith` / `baseArith` lines (`Op.WF`), which the model does not describe (`step` answers
`none` for them) and the harness does not generate. -/
theorem C11_history_safe (ops : List Op) (rs : Regs) (h : RegsInv rs) (hwf : ∀ op ∈ ops, op.WF) :
    ∃ rs' outs, run rs ops = some (rs', outs) ∧ RegsInv rs' ∧ outs.length = ops.length := by
  induction ops generalizing rs with
  | nil => exact ⟨rs, [], rfl, h, rfl⟩
  | cons op ops ih =>
    obtain ⟨hop, hops⟩ := List.forall_mem_cons.mp hwf
    obtain ⟨rs1, o, h1, hI1⟩ := step_safe rs op h hop
    obtain ⟨rs2, os, h2, hI2, hl⟩ := ih rs1 hI1 hops
    refine ⟨rs2, o :: os, ?_, hI2, congrArg Nat.succ hl⟩
    unfold run
    rw [h1, Option.bind_some]
    dsimp only
    rw [h2]
    rfl

/-- non-vacuity: the start state of the harness (three empty vectors) satisfies the hypothesis -/
example : RegsInv [Vec.empty, Vec.empty, Vec.empty] := by
  intro v hv
  simp at hv
  subst hv
  exact inv_empty

/-- **resize / grow**: surviving elements keep their values, newly exposed elements are zero,
the domain of the resulting map is the requested range (empty if `max < min`). -/
theorem C11_resize_is_map_restriction (v : Vec) (mn mx : Int) (h : Inv v) :
    ∃ w, v.resize? mn mx = some w ∧ Inv w ∧
      ∀ i, w.abs i = if mn ≤ i ∧ i ≤ mx then some ((v.abs i).getD 0) else none := by
  obtain ⟨w, hw, hwI, _, hwa⟩ := resize_spec v mn mx h
  exact ⟨w, hw, hwI, hwa⟩

/-- **reserve** changes nothing observable. -/
theorem C11_reserve_invisible (v : Vec) (mn mx : Int) (h : Inv v) :
    ∃ w, v.reserve? mn mx = some w ∧ Inv w ∧ ∀ i, w.abs i = v.abs i := by
  obtain ⟨w, hw, hd, _⟩ := reserve_spec v mn mx h
  exact ⟨w, hw, hd.inv, hd.abs⟩

/-- **set_offset** shifts the index range and nothing else. -/
theorem C11_set_offset_shifts (v : Vec) (mn : Int) (h : Inv v) :
    Inv (v.setOffset mn) ∧ ∀ i, (v.setOffset mn).abs i = v.abs (i - mn + v.start) := by
  obtain ⟨hI, _, _, ha⟩ := setOffset_spec v mn h
  exact ⟨hI, ha⟩

/-- **assignment** yields an equal map, from *any* prior state of the target
(also after a shrinking `resize` that left `num+start` in the middle of the allocation). -/
theorem C11_assign_equal_map (v il : Vec) (hil : Inv il) :
    ∃ w, v.assign? il = some w ∧ Inv w ∧ ∀ i, w.abs i = il.abs i := by
  obtain ⟨w, hw, hd⟩ := assign_spec v il hil
  exact ⟨w, hw, hd.inv, hd.abs⟩

/-- **fill**: every element becomes `x`; the range does not change. -/
theorem C11_fill (v : Vec) (x : Int) (h : Inv v) :
    ∃ w, v.fill? x = some w ∧ Inv w ∧
      ∀ i, w.abs i = if (v.abs i).isSome then some x else none := by
  obtain ⟨w, hw, hd⟩ := fill_spec v x h
  exact ⟨w, hw, hd.inv, hd.abs⟩

/-- **checked access**: `at(i)` returns the map's value, or reports an error exactly outside the range. -/
theorem C11_checked_get (v : Vec) (i : Int) (h : Inv v) : v.getAt? i = some (v.abs i) :=
  getAt_spec v i h

/-- … and `at(i) = x` changes the map at `i` only, or reports an error exactly outside the range. -/
theorem C11_checked_set (v : Vec) (i x : Int) (h : Inv v) :
    ((v.abs i).isNone → v.setAt? i x = some none) ∧
    ((v.abs i).isSome → ∃ w, v.setAt? i x = some (some w) ∧ Inv w ∧
        ∀ j, w.abs j = if j = i then some x else v.abs j) := by
  obtain ⟨h1, h2⟩ := setAt_spec v i x h
  constructor
  · intro hn
    apply h1
    intro q
    rw [Option.isNone_iff_eq_none] at hn
    rw [← abs_isSome_iff h, hn] at q
    cases q
  · intro hs
    obtain ⟨w, hw, hd⟩ := h2 ((abs_isSome_iff h i).mp hs)
    exact ⟨w, hw, hd.inv, hd.abs⟩

/-- negative witness (known finding `numeric-op-empty-operand`): the union in `C11_numeric_add` /
`C11_numeric_arith` is taken with the *conventional* range `0..-1` of an empty operand, so adding an
array without elements to `[3..5]` yields `[0..5]` — three new zero elements, although the operand's
map has no element.  These theorems state what the code does (they are true of it); the
N-dimensional oracle of the harness states what an index-range map would do and reports this class. -/
theorem C11_numeric_add_empty_operand_grows :
    ((Vec.empty.resize? 3 5).bind fun w => (w.addAssign? Vec.empty).bind fun r =>
        r.contents?.map fun cs => (r.minIndex, r.maxIndex, cs)) = some (0, 5, [0, 0, 0, 0, 0, 0]) := by decide

/-- `+=` is an instance of the general numeric operator, so
`C11_numeric_add` and `C11_numeric_arith` speak about the same code path. -/
theorem C11_numeric_add_is_arith (w v : Vec) : numAssign? .add w v = w.addAssign? v :=
  numAssign_add w v

/-- **numeric `+= -= *= /=` on a non-empty vector** ("arithmetic … surviving elements keep their
values, elements newly exposed by growing a numeric array are zero"): the result has the union of
the two ranges; inside the operand's range it is `f(w_i, v_i)` with newly exposed `w_i` counting
as zero, outside the operand's range the old value, or zero where newly exposed. -/
theorem C11_numeric_arith (a : Arith) (w v : Vec) (hw : Inv w) (hv : Inv v) (hne : w.len > 0) :
    ∃ r, numAssign? a w v = some r ∧ Inv r ∧ ∀ i, r.abs i =
        if min w.minIndex v.minIndex ≤ i ∧ i ≤ max w.maxIndex v.maxIndex then
          some (match v.abs i with
            | some b => a.fn ((w.abs i).getD 0) b
            | none => (w.abs i).getD 0)
        else none := by
  obtain ⟨r, h1, h2, h3⟩ := numAssign_spec a w v hw hv
  refine ⟨r, h1, h2, fun i => ?_⟩
  rw [h3 i]
  unfold arithSpec
  rw [if_neg (by omega)]
  rfl

/-- **numeric `+=`** grows to the union of the ranges, new cells count as zero: the `add` instance of
`C11_numeric_arith` (through `binArith?` it also governs `x + y`). -/
theorem C11_numeric_add (w v : Vec) (hw : Inv w) (hv : Inv v) (hne : w.len > 0) :
    ∃ r, w.addAssign? v = some r ∧ Inv r ∧ ∀ i, r.abs i =
        if min w.minIndex v.minIndex ≤ i ∧ i ≤ max w.maxIndex v.maxIndex then
          some ((w.abs i).getD 0 + (v.abs i).getD 0) else none := by
  obtain ⟨r, h1, h2, h3⟩ := C11_numeric_arith .add w v hw hv hne
  refine ⟨r, C11_numeric_add_is_arith w v ▸ h1, h2, fun i => ?_⟩
  rw [h3 i]
  cases v.abs i with
  | some b => rfl
  | none => simp only [Option.getD_none, Int.add_zero]

/-- **numeric `+= -= *= /=` on an empty vector**: the result has the operand's range and is the
operand itself (`+=`), its negation (`-=`), or zero (`*=`, `/=`), as the comments in
NumericVectorWithOffset.inl say ("an object of the same dimensions as v, but filled with 0"). -/
theorem C11_numeric_arith_empty (a : Arith) (w v : Vec) (hw : Inv w) (hv : Inv v) (he : w.len = 0) :
    ∃ r, numAssign? a w v = some r ∧ Inv r ∧ ∀ i, r.abs i =
        (v.abs i).map fun x => match a with
          | .add => x
          | .sub => -x
          | .mul => 0
          | .div => 0 := by
  obtain ⟨r, h1, h2, h3⟩ := numAssign_spec a w v hw hv
  refine ⟨r, h1, h2, fun i => ?_⟩
  rw [h3 i]
  unfold arithSpec
  rw [if_pos he]
  cases a <;> cases v.abs i <;> simp [Arith.emptyScale]

/-- concrete instance (non-empty case, ranges differing at both ends):
`[0..2]` filled with 7 `-=` `[1..4]` filled with 3 is `7 4 4 -3 -3` on `[0..4]`. -/
example : ((Vec.empty.resize? 0 2).bind fun w => (w.fill? 7).bind fun w =>
      (Vec.empty.resize? 1 4).bind fun v => (v.fill? 3).bind fun v =>
        (numAssign? .sub w v).bind fun r => r.contents?.map fun cs => (r.minIndex, r.maxIndex, cs))
    = some (0, 4, [7, 4, 4, -3, -3]) := by decide

/-- concrete instance (empty case): `[] /= [1..2]` is `0 0` on `[1..2]`. -/
example : ((Vec.empty.resize? 1 2).bind fun v => (v.fill? 3).bind fun v =>
      (numAssign? .div Vec.empty v).bind fun r => r.contents?.map fun cs => (r.minIndex, r.maxIndex, cs))
    = some (1, 2, [0, 0]) := by decide

/-- **scalar `+= -= *= /=`** act elementwise and change neither range nor anything else. -/
theorem C11_scalar_arith (a : Arith) (v : Vec) (x : Int) (h : Inv v) :
    ∃ r, mapInPlace? (fun e => a.fn e x) v = some r ∧ Inv r ∧ r.minIndex = v.minIndex ∧ r.len = v.len ∧
      ∀ i, r.abs i = (v.abs i).map fun e => a.fn e x := by
  obtain ⟨r, hr, hd⟩ := mapInPlace_spec (fun e => a.fn e x) v h
  exact ⟨r, hr, hd.inv, hd.start, hd.len, hd.abs⟩

/-- C++ `int` division truncates towards zero: `-7 / 2 = -3`. -/
example : ((Vec.empty.resize? 0 1).bind fun v => (v.fill? (-7)).bind fun v =>
      (mapInPlace? (fun e => Arith.div.fn e 2) v).bind (·.contents?)) = some [-3, -3] := by decide

/-- **base-class `+= -= *= /=`, incompatible ranges** ("operations whose operands have incompatible
index ranges … are reported as errors"): every one of the four operators reports an error and
touches nothing as soon as the ranges differ at either end. -/
theorem C11_base_arith_range_errors (a : Arith) (w v : Vec) (hw : Inv w) (hv : Inv v)
    (hne : ¬ (w.minIndex = v.minIndex ∧ w.maxIndex = v.maxIndex)) :
    w.baseArith? a Vec.baseArithGuard v = some none :=
  baseArith_range_error a w v (mt (range_eq_iff w v).mpr hne)

/-- the `+=` instance, for the operator the model keeps separately -/
theorem C11_arith_range_errors (w v : Vec) (hw : Inv w) (hv : Inv v)
    (hne : ¬ (w.minIndex = v.minIndex ∧ w.maxIndex = v.maxIndex)) :
    w.baseAddAssign? Vec.baseArithGuard v = some none :=
  C11_base_arith_range_errors .add w v hw hv hne

/-- **base-class `+= -= *= /=`, equal ranges**: combined elementwise, in bounds, range unchanged. -/
theorem C11_base_arith_equal_ranges (a : Arith) (w v : Vec) (hw : Inv w) (hv : Inv v)
    (he : w.minIndex = v.minIndex ∧ w.maxIndex = v.maxIndex) :
    ∃ r, w.baseArith? a Vec.baseArithGuard v = some (some r) ∧ Inv r ∧
      r.minIndex = w.minIndex ∧ r.len = w.len ∧
      ∀ i, r.abs i = match w.abs i, v.abs i with
        | some p, some q => some (a.fn p q)
        | _, _ => none := by
  obtain ⟨r, hr, hd⟩ := baseArith_spec a w v hw hv ((range_eq_iff w v).mp he)
  exact ⟨r, hr, hd.inv, hd.start, hd.len, hd.abs⟩

/-- the hypotheses of both theorems are met by real operands: ranges differing at one end only
(the case the `&&` guard of the pinned source let through) are an error for `*=` as well … -/
example : ((Vec.empty.resize? 0 2).bind fun w => (Vec.empty.resize? 0 5).bind fun v =>
    w.baseArith? .mul Vec.baseArithGuard v) = some none := by decide
/-- … and equal ranges divide elementwise. -/
example : ((Vec.empty.resize? 0 1).bind fun w => (w.fill? 9).bind fun w =>
      (Vec.empty.resize? 0 1).bind fun v => (v.fill? 2).bind fun v =>
        (w.baseArith? .div Vec.baseArithGuard v).bind fun o => o.bind (·.contents?)) = some [4, 4] := by decide

/-- **binary operators** `d = x op y` of `Array<1>`: the result is the map that `x op= y` would
produce on a copy of `x` — whatever `d` held before (any capacity, any earlier shrink), and
also when `d`, `x`, `y` are the same object. -/
theorem C11_binary_arith (a : Arith) (d x y : Vec) (hx : Inv x) (hy : Inv y) :
    ∃ r t, binArith? a d x y = some r ∧ numAssign? a x y = some t ∧ Inv r ∧ ∀ i, r.abs i = t.abs i := by
  obtain ⟨r, h1, h2, h3⟩ := binArith_spec a d x y hx hy
  obtain ⟨t, g1, _, g3⟩ := numAssign_spec a x y hx hy
  exact ⟨r, t, h1, g1, h2, fun i => by rw [h3 i, g3 i]⟩

/-- **binary operators with a scalar** `d = x op c`. -/
theorem C11_binary_scalar (a : Arith) (d x : Vec) (c : Int) (hx : Inv x) :
    ∃ r, binScalar? (fun e => a.fn e c) d x = some r ∧ Inv r ∧
      ∀ i, r.abs i = (x.abs i).map fun e => a.fn e c :=
  binScalar_spec _ d x hx

/-- concrete instance: `d = x * y` with `x = [0..1]` of 3, `y = [1..2]` of 5: `3 15 0` on `[0..2]`
(outside `y`'s range `x` is kept, the newly exposed element counts as zero). -/
example : ((Vec.empty.resize? 0 1).bind fun x => (x.fill? 3).bind fun x =>
      (Vec.empty.resize? 1 2).bind fun y => (y.fill? 5).bind fun y =>
        (binArith? .mul Vec.empty x y).bind (·.contents?)) = some [3, 15, 0] := by decide

/-- the range test of `xapyb` / `sapyb` (`sameRange`) in the terms of `get_min_index()` / `get_max_index()`, as the hypotheses
    of `C11_xapyb` and `C11_xapyb_range_errors` have it -/
theorem C11_sameRange_iff (w v : Vec) :
    sameRange w v = true ↔ (w.minIndex = v.minIndex ∧ w.maxIndex = v.maxIndex) :=
  (sameRange_iff w v).trans (range_eq_iff w v).symm

/-- **`xapyb` / `sapyb` with scalar factors, equal ranges**: `this_i = x_i * a + y_i * b` on the
common range, in bounds; `sapyb(a, y, b)` is the instance `x = *this`. -/
theorem C11_xapyb (w x : Vec) (a : Int) (y : Vec) (b : Int) (hw : Inv w) (hx : Inv x) (hy : Inv y)
    (hxr : w.minIndex = x.minIndex ∧ w.maxIndex = x.maxIndex)
    (hyr : w.minIndex = y.minIndex ∧ w.maxIndex = y.maxIndex) :
    ∃ r, w.xapyb? x a y b = some (some r) ∧ Inv r ∧ r.minIndex = w.minIndex ∧ r.len = w.len ∧
      ∀ i, r.abs i = match x.abs i, y.abs i with
        | some p, some q => some (p * a + q * b)
        | _, _ => none := by
  obtain ⟨r, hr, hd⟩ :=
    xapyb_spec w x a y b hw hx hy ((C11_sameRange_iff w x).mpr hxr) ((C11_sameRange_iff w y).mpr hyr)
  exact ⟨r, hr, hd.inv, hd.start, hd.len, hd.abs⟩

/-- **`xapyb` / `sapyb`, incompatible ranges** are reported as an error, nothing is touched. -/
theorem C11_xapyb_range_errors (w x : Vec) (a : Int) (y : Vec) (b : Int) (hw : Inv w) (hx : Inv x) (hy : Inv y)
    (hne : ¬ ((w.minIndex = x.minIndex ∧ w.maxIndex = x.maxIndex) ∧
              (w.minIndex = y.minIndex ∧ w.maxIndex = y.maxIndex))) :
    w.xapyb? x a y b = some none :=
  xapyb_range_error w x a y b fun hs =>
    hne ⟨(C11_sameRange_iff w x).mp hs.1, (C11_sameRange_iff w y).mp hs.2⟩

/-- **`xapyb` / `sapyb` with vector factors**: `this_i = x_i * a_i + y_i * b_i` when all five
ranges agree, an error (nothing touched) otherwise. -/
theorem C11_xapyb_vec (w x a y b : Vec) (hw : Inv w) (hx : Inv x) (ha : Inv a) (hy : Inv y) (hb : Inv b) :
    ((sameRange w x = true ∧ sameRange w y = true ∧ sameRange w a = true ∧ sameRange w b = true) →
      ∃ r, w.xapybVec? x a y b = some (some r) ∧ Inv r ∧ r.minIndex = w.minIndex ∧ r.len = w.len ∧
        ∀ i, r.abs i = if w.minIndex ≤ i ∧ i ≤ w.maxIndex then
            some ((x.abs i).getD 0 * (a.abs i).getD 0 + (y.abs i).getD 0 * (b.abs i).getD 0) else none) ∧
    (¬ (sameRange w x = true ∧ sameRange w y = true ∧ sameRange w a = true ∧ sameRange w b = true) →
      w.xapybVec? x a y b = some none) :=
  ⟨fun hs =>
      have ⟨r, hr, hd⟩ := xapybVec_spec w x a y b hw hx ha hy hb hs.1 hs.2.1 hs.2.2.1 hs.2.2.2
      ⟨r, hr, hd.inv, hd.start, hd.len, hd.abs⟩,
    xapybVec_range_error w x a y b⟩

/-- concrete instances: `sapyb(2, y, -1)` on equal ranges, and an error when `y` is longer. -/
example : ((Vec.empty.resize? 0 1).bind fun w => (w.fill? 5).bind fun w =>
      (Vec.empty.resize? 0 1).bind fun y => (y.fill? 3).bind fun y =>
        (w.xapyb? w 2 y (-1)).bind fun o => o.bind (·.contents?)) = some [7, 7] := by decide
example : ((Vec.empty.resize? 0 1).bind fun w => (Vec.empty.resize? 0 2).bind fun y =>
      w.xapyb? w 2 y (-1)) = some none := by decide

/-- **`operator==`** answers `true` exactly when the two vectors denote the same index-range map (same range, same values). -/
theorem C11_equality_reflects_contents (a b : Vec) (ha : Inv a) (hb : Inv b) :
    ∃ t, a.beq? b = some t ∧ (t = true ↔ ∀ i, a.abs i = b.abs i) :=
  beq_spec a b ha hb

/-! ### regression witnesses: the two defects of the pinned source (repaired by `fix:` commits)

`assignOld?` and `baseArithGuardOld` transcribe the code *before* the repairs.  The witnesses
below are the histories that the correspondence harness replays (corpus/C11). -/

def witnessShrunk : Option Vec := (Vec.empty.resize? 0 9).bind (·.resize? 5 9)
def witnessFull : Option Vec := Vec.empty.resize? 0 9

/-- F1: before the fix, `operator=` after a left-shrinking `resize` wrote 10 elements starting
at allocation+5 — outside the storage. -/
theorem C11_F1_assignOld_out_of_bounds :
    (witnessShrunk.bind fun v => witnessFull.bind fun il => v.assignOld? il) = none := by decide

/-- … and the repaired `operator=` is fine on the same history (instance of `C11_assign_equal_map`). -/
theorem C11_F1_assign_fixed_ok :
    (witnessShrunk.bind fun v => witnessFull.bind fun il => v.assign? il).isSome = true := by decide

/-- F2: before the fix, ranges differing at one end passed the `&&` guard and the loop ran
outside the shorter operand. -/
theorem C11_F2_baseAddOld_out_of_bounds :
    ((Vec.empty.resize? 0 2).bind fun w => (Vec.empty.resize? 0 5).bind fun v =>
        w.baseAddAssign? Vec.baseArithGuardOld v) = none := by decide

/-- … and with the repaired guard (`||`) the same history reports the error and touches nothing. -/
theorem C11_F2_baseAdd_fixed_reports_error :
    ((Vec.empty.resize? 0 2).bind fun w => (Vec.empty.resize? 0 5).bind fun v =>
        w.baseAddAssign? Vec.baseArithGuard v) = some none := by decide

/-- F1b: before the fix, assigning an empty vector left `start ≠ 0`, so two empty vectors
compared unequal. -/
theorem C11_F1b_assignOld_empty_unequal :
    ((Vec.empty.resize? 3 5).bind fun v => (v.assignOld? Vec.empty).bind fun r => r.beq? Vec.empty)
      = some false := by decide

/-- … and after the repaired `operator=` the two empty vectors compare equal. -/
theorem C11_F1b_assign_fixed_empty_equal :
    ((Vec.empty.resize? 3 5).bind fun v => (v.assign? Vec.empty).bind fun r => r.beq? Vec.empty)
      = some true := by decide

/-! ### N-dimensional arrays as nested index-range maps (model `RArr`, tied to `Array<2..4,int>` by the `nd …` lines of the
    correspondence run: the real array is serialised level by level and the real `at()` answers the same coordinate) -/

/-- "arrays behave as index-range maps … checked accesses outside the range are reported as errors": for every nesting depth,
    every shape (regular or not, empty rows included) and EVERY coordinate, `Array<n>::at(coordinate)` — the chain
    `at(c[1]).at(c[2])…` — returns the value the finite map holds at that coordinate, and throws exactly when the map has no
    such coordinate. -/
theorem C11_nd_checked_access_is_map (a : RArr) (cs : List Int) : a.at? cs = a.elems.lookup cs :=
  RArr.at?_eq_lookup a cs

/-- `size_all()` is the number of entries of the map, i.e. of the elements `begin_all()` … `end_all()` visits -/
theorem C11_nd_size_all (a : RArr) : a.elems.length = a.sizeAll := RArr.elems_length a

/-- the map is a function: no coordinate occurs twice among the elements `begin_all()` … `end_all()` visits, for every depth and
    shape — together with `C11_nd_checked_access_is_map`: the checked access returns THE element at that coordinate -/
theorem C11_nd_coordinates_unique (a : RArr) : (a.elems.map (·.1)).Nodup := RArr.elems_keys_nodup a

/-- non-vacuity: an irregular 2-D array (row 5 has indices -1..1, row 6 is empty, row 7 has index 3 only) -/
example : (RArr.node 5 [.leaf (-1) [10, 11, 12], .leaf 0 [], .leaf 3 [13]]).elems
    = [([5, -1], 10), ([5, 0], 11), ([5, 1], 12), ([7, 3], 13)] := by decide
example : (RArr.node 5 [.leaf (-1) [10, 11, 12], .leaf 0 [], .leaf 3 [13]]).at? [7, 3] = some 13 := by decide
example : (RArr.node 5 [.leaf (-1) [10, 11, 12], .leaf 0 [], .leaf 3 [13]]).at? [6, 0] = none := by decide
example : (RArr.node 5 [.leaf (-1) [10, 11, 12], .leaf 0 [], .leaf 3 [13]]).at? [5, 2] = none := by decide
example : (RArr.node 5 [.leaf (-1) [10, 11, 12], .leaf 0 [], .leaf 3 [13]]).at? [4, 0] = none := by decide

/-- a broken variant for comparison: an access that checks every level but the last (what an unchecked `operator[]` in the
    innermost `at` amounts to, with the index clamped into the allocation) answers outside the map -/
def RArr.atLastUnchecked? : RArr → List Int → Option Int
  | .leaf lo xs, [i] => xs[(i - lo).toNat]? <|> xs.getLast?
  | .node lo rows, i :: cs =>
    match listAt? lo rows i with
    | some (.leaf lo' xs) => RArr.atLastUnchecked? (.leaf lo' xs) cs
    | _ => none
  | _, _ => none

theorem C11_nd_last_level_unchecked_is_wrong :
    (RArr.node 5 [.leaf (-1) [10, 11, 12]]).atLastUnchecked? [5, 2] = some 12 ∧
    (RArr.node 5 [.leaf (-1) [10, 11, 12]]).elems.lookup [5, 2] = none := by decide

/-! ### nested lists flattened row by row: the flattening has as many elements as the sizes of the rows add up to
    (no index ranges here; the N-dimensional index-range maps are `RArr` above) -/

inductive NArr where
  | leaf (xs : List Int)
  | node (rows : List NArr)

mutual
def NArr.flatten : NArr → List Int
  | .leaf xs => xs
  | .node rows => NArr.flattenList rows
def NArr.flattenList : List NArr → List Int
  | [] => []
  | r :: rs => r.flatten ++ NArr.flattenList rs
end

mutual
def NArr.size : NArr → Nat
  | .leaf xs => xs.length
  | .node rows => NArr.sizeList rows
def NArr.sizeList : List NArr → Nat
  | [] => 0
  | r :: rs => r.size + NArr.sizeList rs
end

mutual
theorem NArr.length_flatten : ∀ a : NArr, a.flatten.length = a.size
  | .leaf xs => by simp [NArr.flatten, NArr.size]
  | .node rows => by simp [NArr.flatten, NArr.size, NArr.length_flattenList rows]
theorem NArr.length_flattenList : ∀ rs : List NArr, (NArr.flattenList rs).length = NArr.sizeList rs
  | [] => by simp [NArr.flattenList, NArr.sizeList]
  | r :: rs => by
    simp [NArr.flattenList, NArr.sizeList, NArr.length_flatten r, NArr.length_flattenList rs]
end

end StirVerif.C11
