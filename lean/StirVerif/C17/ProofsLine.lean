/-
C17 — one line `keyword[index] := value`.
Numbers and lists (`ostream << int` followed by `istream >> int` / `atoi`, the `{a, b, c}` readers and their allocation bounds),
splitting a line into keyword, index and value, storing into a vectorised key, and the print → parse round trip at the level of
a line: the line(s) that `parameter_info` prints for a key, parsed by `parse_value_in_line` + `set_variable`, store the printed value.
At the end the keymap: the entry that a line finds (`parseLine_of_find`) and overwrites (`setEntry`).
-/
import StirVerif.C17.ProofsStd

namespace StirVerif.C17

theorem isDigit_of_toNat {c : Char} (h : 48 ≤ c.toNat ∧ c.toNat ≤ 57) : c.isDigit = true := by
  unfold Char.isDigit
  simp only [ge_iff_le, Bool.and_eq_true, decide_eq_true_eq, UInt32.le_iff_toNat_le]
  exact h

theorem ne_of_isDigit {c d : Char} (h : c.isDigit = true) (hd : d.isDigit = false) : c ≠ d := by
  rintro rfl
  rw [h] at hd
  cases hd

theorem isCSpace_digit {c : Char} (h : c.isDigit = true) : isCSpace c = false := by
  simp [isCSpace, ne_of_isDigit h]

theorem showNat_ne_nil (n : Nat) : showNat n ≠ [] := Nat.toDigits_ne_nil

theorem showNat_isDigit (n : Nat) : ∀ c ∈ showNat n, c.isDigit = true :=
  fun _ hc => Nat.isDigit_of_mem_toDigits (by decide) (by decide) hc

theorem digitsVal_showNat (n : Nat) : digitsVal (showNat n) = n := Nat.ofDigitChars_ten_toDigits

theorem showNat_ne_lf_bs_cr (n : Nat) : ∀ c ∈ showNat n, c ≠ '\n' ∧ c ≠ '\\' ∧ c ≠ '\r' := by
  intro c hc
  have h := showNat_isDigit n c hc
  exact ⟨ne_of_isDigit h (by decide), ne_of_isDigit h (by decide), ne_of_isDigit h (by decide)⟩

theorem showInt_ne_lf_bs_cr (n : Int) : ∀ c ∈ showInt n, c ≠ '\n' ∧ c ≠ '\\' ∧ c ≠ '\r' := by
  unfold showInt
  split
  · exact List.forall_mem_cons.mpr ⟨by decide, showNat_ne_lf_bs_cr _⟩
  · exact showNat_ne_lf_bs_cr _

def NoDigitHead (rest : Str) : Prop := ∀ c ∈ rest.head?, c.isDigit = false

theorem span_digits (n : Nat) (rest : Str) (h : NoDigitHead rest) :
    (showNat n ++ rest).takeWhile Char.isDigit = showNat n ∧ (showNat n ++ rest).dropWhile Char.isDigit = rest := by
  rw [List.takeWhile_append_of_pos (showNat_isDigit n), List.dropWhile_append_of_pos (showNat_isDigit n)]
  cases rest with
  | nil => simp
  | cons c cs =>
    have : c.isDigit = false := h c (by simp)
    simp [this]

theorem showNat_head (n : Nat) : ∃ d ds, showNat n = d :: ds ∧ d.isDigit = true := by
  cases h : showNat n with
  | nil => exact absurd h (showNat_ne_nil n)
  | cons d ds => exact ⟨d, ds, rfl, showNat_isDigit n d (by rw [h]; exact List.mem_cons_self)⟩

theorem takeSign_digit (d : Char) (t : Str) (h : d.isDigit = true) : takeSign (d :: t) = (false, d :: t) := by
  simp [takeSign, ne_of_isDigit h]

theorem dropWhile_isCSpace_digit (d : Char) (t : Str) (h : d.isDigit = true) :
    (d :: t).dropWhile isCSpace = d :: t := by
  rw [List.dropWhile_cons_of_neg]
  simp [isCSpace_digit h]

def InIntRange (v : Int) : Prop := -2147483648 ≤ v ∧ v ≤ 2147483647
instance (v : Int) : Decidable (InIntRange v) := by unfold InIntRange; infer_instance

theorem readInt_sign_showNat (s rest : Str) (neg : Bool) (n : Nat) (v : Int) (h : NoDigitHead rest)
    (h1 : s.dropWhile isCSpace = s) (h2 : takeSign s = (neg, showNat n ++ rest)) (hv : (if neg then -(n : Int) else n) = v)
    (hr : InIntRange v) : readInt s = (some v, rest) := by
  obtain ⟨d, ds, hd, -⟩ := showNat_head n
  have hne : (showNat n).isEmpty = false := by
    rw [hd]
    rfl
  have : (decide (v < -2147483648) || decide (2147483647 < v)) = false := by
    unfold InIntRange at hr
    simp
    omega
  unfold readInt
  simp only [h1, h2, (span_digits _ _ h).1, (span_digits _ _ h).2, digitsVal_showNat, hne, Bool.false_eq_true, if_false, hv, this]

theorem readInt_showInt (v : Int) (hv : InIntRange v) (rest : Str) (h : NoDigitHead rest) :
    readInt (showInt v ++ rest) = (some v, rest) := by
  obtain ⟨d, ds, hd, hdig⟩ := showNat_head v.natAbs
  unfold showInt
  by_cases hneg : v < 0
  · rw [if_pos hneg]
    refine readInt_sign_showNat _ rest true v.natAbs v h ?_ (by simp [takeSign]) (by simp; omega) hv
    rw [List.cons_append, List.dropWhile_cons_of_neg]
    decide
  · rw [if_neg hneg]
    refine readInt_sign_showNat _ rest false v.natAbs v h ?_ ?_ (by simp; omega) hv
    · rw [hd, List.cons_append, dropWhile_isCSpace_digit _ _ hdig]
    · rw [hd, List.cons_append, takeSign_digit _ _ hdig]

theorem atoi_showNat (n : Nat) (hn : n ≤ 2147483647) : atoi (showNat n) = n := by
  unfold atoi
  obtain ⟨d, ds, hd, hdig⟩ := showNat_head n
  have h1 : (showNat n).dropWhile isCSpace = showNat n := by rw [hd, dropWhile_isCSpace_digit _ _ hdig]
  simp only [h1]
  have h2 : takeSign (showNat n) = (false, showNat n) := by rw [hd, takeSign_digit _ _ hdig]
  simp only [h2]
  have h3 : (showNat n).takeWhile Char.isDigit = showNat n := by
    have := (span_digits n [] (by intro c hc; simp at hc)).1
    simpa using this
  rw [h3, digitsVal_showNat]
  simp only [Bool.false_eq_true, if_false]
  unfold clampInt wrap32
  have a1 : ¬ ((n : Int) < -9223372036854775808) := by omega
  have a2 : ¬ ((9223372036854775807 : Int) < (n : Int)) := by omega
  rw [if_neg a1, if_neg a2]
  omega

theorem length_dropWhile_le (p : Char → Bool) (s : Str) : (s.dropWhile p).length ≤ s.length :=
  (List.dropWhile_sublist p).length_le

theorem length_takeSign_le (s : Str) : (takeSign s).2.length ≤ s.length := by
  unfold takeSign
  cases s with
  | nil => simp
  | cons c t =>
    by_cases h1 : (c == '-') = true
    · simp [h1]
    · by_cases h2 : (c == '+') = true
      · simp [h1, h2]
      · simp [h1, h2]

theorem readInt_snd (s : Str) : (readInt s).2 = (takeSign (s.dropWhile isCSpace)).2.dropWhile Char.isDigit := by
  simp only [readInt, apply_ite Prod.snd, ite_self]

theorem readInt_digits {s : Str} {t : Int} (h : (readInt s).1 = some t) :
    (takeSign (s.dropWhile isCSpace)).2.takeWhile Char.isDigit ≠ [] := by
  intro e
  simp [readInt, e] at h

theorem readInt_consumes (s : Str) (t : Int) (r : Str) (h : readInt s = (some t, r)) : r.length + 1 ≤ s.length := by
  obtain rfl : (readInt s).2 = r := congrArg Prod.snd h
  have hd := List.length_pos_iff.mpr (readInt_digits (congrArg Prod.fst h))
  have l1 := length_dropWhile_le isCSpace s
  have l2 := length_takeSign_le (s.dropWhile isCSpace)
  have l3 := congrArg List.length (List.takeWhile_append_dropWhile (p := Char.isDigit) (l := (takeSign (s.dropWhile isCSpace)).2))
  rw [List.length_append] at l3
  rw [readInt_snd]
  omega

theorem readInt_rest_le (s : Str) : (readInt s).2.length ≤ s.length := by
  rw [readInt_snd]
  exact Nat.le_trans (length_dropWhile_le _ _) (Nat.le_trans (length_takeSign_le _) (length_dropWhile_le _ _))

theorem readChar_consumes (s : Str) (c : Char) (r : Str) (h : readChar s = some (c, r)) : r.length + 1 ≤ s.length := by
  unfold readChar at h
  have l1 := length_dropWhile_le isCSpace s
  cases hh : s.dropWhile isCSpace with
  | nil =>
    rw [hh] at h
    cases h
  | cons a as =>
    rw [hh] at h l1
    cases h
    simp at l1
    omega

theorem readIntListAux_length (fuel : Nat) (s : Str) (acc l : List Int) (h : readIntListAux fuel s acc = some l) :
    l.length ≤ acc.length + s.length := by
  fun_induction readIntListAux fuel s acc with
  | case1 => cases h
  | case2 fuel s acc t r hr c r' hc hcomma ih =>
    have := ih h
    have := readInt_consumes s t r hr
    have := readChar_consumes r c r' hc
    simp only [List.length_append, List.length_singleton] at *
    omega
  | case3 fuel s acc t r hr c r' hc hcomma =>
    cases h
    have := readInt_consumes s t r hr
    simp only [List.length_append, List.length_singleton]
    omega
  | case4 => cases h
  | case5 =>
    cases h
    omega
  | case6 => cases h

/-- one round of the string-list reader: the element it takes and the text it leaves are shorter than the text it is given -/
theorem readStringListAux_step_le {s s1 : Str} {c : Char} (h1 : (s.dropWhile isBraceOrComma).dropWhile isBlank = c :: s1) :
    0 < s.length ∧ (dropEndWhile isBlank ((c :: s1).takeWhile (fun d => !isBraceOrComma d))).length ≤ s.length ∧
      ∀ b t, (c :: s1).dropWhile (fun d => !isBraceOrComma d) = b :: t → t.length + 1 ≤ s.length := by
  have l1 : (c :: s1).length ≤ s.length :=
    h1 ▸ Nat.le_trans (length_dropWhile_le _ _) (length_dropWhile_le _ _)
  refine ⟨Nat.lt_of_lt_of_le (Nat.succ_pos _) l1,
    Nat.le_trans (Nat.le_trans (dropEndWhile_sublist _ _).length_le (List.takeWhile_sublist _).length_le) l1,
    fun b t h2 => Nat.le_trans ?_ l1⟩
  have := length_dropWhile_le (fun d => !isBraceOrComma d) (c :: s1)
  rwa [h2] at this

theorem readStringListAux_length (fuel : Nat) (s : Str) (acc : List Str) :
    (readStringListAux fuel s acc).length ≤ acc.length + s.length ∧
      ∀ e ∈ readStringListAux fuel s acc, e ∈ acc ∨ e.length ≤ s.length := by
  fun_induction readStringListAux fuel s acc with
  | case1 s acc => exact ⟨Nat.le_add_right _ _, fun e he => Or.inl he⟩
  | case2 fuel s acc h1 => exact ⟨Nat.le_add_right _ _, fun e he => Or.inl he⟩
  | case3 fuel s acc c s1 h1 elem h2 =>
    obtain ⟨l0, l, -⟩ := readStringListAux_step_le h1
    refine ⟨by simp only [List.length_append, List.length_singleton]; omega, fun e he => ?_⟩
    rcases List.mem_append.mp he with he | he
    · exact .inl he
    · exact .inr (List.mem_singleton.mp he ▸ l)
  | case4 fuel s acc c s1 h1 elem b t h2 ih =>
    obtain ⟨-, l, l2⟩ := readStringListAux_step_le h1
    have l2 := l2 b t h2
    refine ⟨by have := ih.1; simp only [List.length_append, List.length_singleton] at this; omega, fun e he => ?_⟩
    rcases ih.2 e he with h | h
    · rcases List.mem_append.mp h with h | h
      · exact .inl h
      · exact .inr (List.mem_singleton.mp h ▸ l)
    · exact .inr (by omega)

/-- a keyword as it is printed: none of the characters that end a keyword or start a value -/
def PlainKey (k : Str) : Prop := ∀ c ∈ k, c ≠ ':' ∧ c ≠ '[' ∧ c ≠ '='
instance (k : Str) : Decidable (PlainKey k) := by unfold PlainKey; infer_instance

theorem getKeyword_append (k rest : Str) (hk : PlainKey k) : getKeyword (k ++ rest) = k ++ getKeyword rest := by
  induction k with
  | nil => rfl
  | cons c cs ih =>
    obtain ⟨h, hcs⟩ := List.forall_mem_cons.mp hk
    have e1 : (c == '[') = false := by simp [h.2.1]
    have e2 : (c == ':') = false := by simp [h.1]
    show getKeyword (c :: (cs ++ rest)) = c :: (cs ++ getKeyword rest)
    rw [← ih hcs]
    simp [getKeyword, e1, e2]

theorem getKeyword_assign (k rest : Str) (hk : PlainKey k) : getKeyword (k ++ ':' :: '=' :: rest) = k := by
  simp [getKeyword_append _ _ hk, getKeyword]

theorem getKeyword_bracket (k rest : Str) (hk : PlainKey k) : getKeyword (k ++ '[' :: rest) = k := by
  simp [getKeyword_append _ _ hk, getKeyword]

theorem getIndex_append (k rest : Str) (hk : PlainKey k) : getIndex (k ++ rest) = getIndex rest := by
  unfold getIndex
  rw [List.dropWhile_append_of_pos fun c hc => by simp [isColonOrBracket, (hk c hc).1, (hk c hc).2.1]]

theorem getIndex_assign (k rest : Str) (hk : PlainKey k) : getIndex (k ++ ':' :: '=' :: rest) = 0 :=
  getIndex_append k _ hk

theorem getIndex_bracket (k rest : Str) (i : Nat) (hk : PlainKey k) (hi : i ≤ 2147483647) :
    getIndex (k ++ '[' :: (showNat i ++ ']' :: rest)) = i := by
  rw [getIndex_append k _ hk]
  have hd : ∀ c ∈ showNat i, (c != ']') = true := by
    intro c hc
    simp only [bne_iff_ne, ne_eq]
    exact ne_of_isDigit (showNat_isDigit i c hc) (by decide)
  have e1 : (showNat i ++ ']' :: rest).takeWhile (fun d => d != ']') = showNat i := by
    rw [List.takeWhile_append_of_pos hd]
    simp
  simp [getIndex, isColonOrBracket, e1, atoi_showNat i hi]

def trimBlanks (v : Str) : Str := dropEndWhile isBlank (v.dropWhile isBlank)

theorem afterEq_prefix (pre rest : Str) (h : ∀ c ∈ pre, c ≠ '=') : afterEq (pre ++ '=' :: rest) = some rest := by
  unfold afterEq
  have : (pre ++ '=' :: rest).dropWhile (fun c => c != '=') = '=' :: rest := by
    rw [List.dropWhile_append_of_pos (by intro c hc; simp [h c hc])]
    simp
  rw [this]

theorem getStringParam_of_afterEq {s v : Str} (h : afterEq s = some v) :
    getStringParam s = if (v.dropWhile isBlank).isEmpty then none else some (trimBlanks v) := by
  unfold getStringParam trimBlanks
  rw [h]
  simp only
  split
  · next h => simp [h]
  · next h =>
    have : ¬ v.dropWhile isBlank = [] := fun e => h e
    simp [this]

theorem getIntParam_of_afterEq {s v : Str} (h : afterEq s = some v) : getIntParam s = (readInt v).1 := by
  rw [getIntParam, h]

theorem afterEq_line (k x : Str) (hk : ∀ c ∈ k, c ≠ '=') : afterEq (k ++ assign ++ x) = some (' ' :: x) := by
  rw [show k ++ assign ++ x = (k ++ [' ', ':']) ++ '=' :: ' ' :: x by simp [assign]]
  exact afterEq_prefix _ _ (List.forall_mem_append.mpr ⟨hk, by decide⟩)

theorem assignToList_eq {α : Type} (l : List α) (x : α) (i : Int) :
    assignToList l x i = if 0 ≤ i ∧ i ≤ l.length then some (l.set (i.toNat - 1) x) else none := by
  unfold assignToList
  by_cases h0 : i < 0
  · rw [if_pos h0, if_neg (by omega)]
  · rw [if_neg h0]
    by_cases h1 : l.length < i.toNat
    · rw [if_pos h1, if_neg (by omega)]
    · rw [if_neg h1, if_pos (by omega)]

theorem assignToList_eq_some {α : Type} {l l' : List α} {x : α} {i : Int} :
    assignToList l x i = some l' ↔ (0 ≤ i ∧ i ≤ l.length) ∧ l.set (i.toNat - 1) x = l' := by
  rw [assignToList_eq, Option.ite_none_right_eq_some, Option.some.injEq]

theorem assignToList_length {α : Type} (l l' : List α) (x : α) (i : Int) (h : assignToList l x i = some l') :
    l'.length = l.length := by
  obtain ⟨-, rfl⟩ := assignToList_eq_some.mp h
  exact List.length_set

theorem readInt_skip_ws (ws s : Str) (h : ∀ c ∈ ws, isCSpace c = true) : readInt (ws ++ s) = readInt s := by
  simp only [readInt, List.dropWhile_append_of_pos h]

theorem noDigitHead_of_head (c : Char) (t : Str) (h : c.isDigit = false) : NoDigitHead (c :: t) := by
  intro d hd
  simp at hd
  subst hd
  exact h

theorem noDigitHead_nil : NoDigitHead [] := by
  intro d hd
  simp at hd

def sepCS : Str := [',', ' ']

/-- the printed list, head first: every further element comes with its separator in front -/
theorem intercalateStr_cons (sep x : Str) (l : List Str) :
    intercalateStr sep (x :: l) = x ++ l.flatMap (sep ++ ·) := by
  induction l generalizing x with
  | nil => simp [intercalateStr]
  | cons y l ih =>
    show x ++ sep ++ intercalateStr sep (y :: l) = _
    rw [ih, List.flatMap_cons]
    simp

theorem mem_intercalateStr (sep : Str) (l : List Str) (c : Char) (h : c ∈ intercalateStr sep l) :
    c ∈ sep ∨ ∃ e ∈ l, c ∈ e := by
  cases l with
  | nil => simp [intercalateStr] at h
  | cons x l =>
    rw [intercalateStr_cons, List.mem_append, List.mem_flatMap] at h
    rcases h with h | ⟨y, hy, h⟩
    · exact .inr ⟨x, List.mem_cons_self, h⟩
    · exact (List.mem_append.mp h).imp id fun h => ⟨y, List.mem_cons_of_mem _ hy, h⟩

/-- the printed tail, one element further -/
theorem flatMap_sep_cons (y : Str) (l : List Str) (tl : Str) :
    (y :: l).flatMap (sepCS ++ ·) ++ tl = ',' :: ([' '] ++ (y ++ (l.flatMap (sepCS ++ ·) ++ tl))) := by
  simp [sepCS]

/-- generalised over a white-space prefix `ws`: the blank that the printer puts behind each comma is the prefix of the induction step
    (likewise `readStringListAux_print`) -/
theorem readIntListAux_print (l : List Int) (hl : ∀ x ∈ l, InIntRange x) (x : Int) (hx : InIntRange x) :
    ∀ (fuel : Nat) (ws : Str) (acc : List Int), (∀ c ∈ ws, isCSpace c = true) →
      (ws ++ (showInt x ++ ((l.map showInt).flatMap (sepCS ++ ·) ++ ['}']))).length < fuel →
      readIntListAux fuel (ws ++ (showInt x ++ ((l.map showInt).flatMap (sepCS ++ ·) ++ ['}']))) acc = some (acc ++ x :: l) := by
  induction l generalizing x with
  | nil =>
    intro fuel ws acc hws hf
    cases fuel with
    | zero => omega
    | succ fuel =>
      rw [readIntListAux, readInt_skip_ws ws _ hws]
      simp only [List.map_nil, List.flatMap_nil, List.nil_append]
      rw [readInt_showInt x hx _ (noDigitHead_of_head '}' [] (by decide))]
      have hr : readChar ['}'] = some ('}', []) := by decide
      simp [hr]
  | cons y l ih =>
    intro fuel ws acc hws hf
    cases fuel with
    | zero => omega
    | succ fuel =>
      rw [List.map_cons, flatMap_sep_cons] at hf ⊢
      rw [readIntListAux, readInt_skip_ws ws _ hws, readInt_showInt x hx _ (noDigitHead_of_head ',' _ (by decide))]
      have hr : ∀ r : Str, readChar (',' :: r) = some (',', r) := fun r => by simp [readChar, isCSpace]
      simp only [hr, beq_self_eq_true, if_true]
      rw [ih (fun z hz => hl z (List.mem_cons_of_mem _ hz)) y (hl y List.mem_cons_self) fuel [' '] (acc ++ [x])
        (List.forall_mem_singleton.mpr rfl) (by simp only [List.length_append, List.length_cons] at hf ⊢; omega)]
      simp

theorem readIntList_print (l : List Int) (hl : ∀ x ∈ l, InIntRange x) :
    readIntList (intercalateStr sepCS (l.map showInt) ++ ['}']) = some l := by
  unfold readIntList
  cases l with
  | nil => simp [intercalateStr, readIntListAux, readInt, takeSign, readChar, isCSpace]
  | cons x l' =>
    rw [List.map_cons, intercalateStr_cons, List.append_assoc]
    exact readIntListAux_print l' (fun z hz => hl z (List.mem_cons_of_mem _ hz)) x (hl x List.mem_cons_self) _ [] []
      (by simp) (Nat.lt_succ_self _)

/-- a list element that survives printing and re-reading: not empty, no `,` or `}`, no blank or tab at either end
    (the reader trims both ends, like the scalar string reader) -/
def CleanElem (e : Str) : Prop :=
  (∀ c ∈ e, isBraceOrComma c = false) ∧ (∃ c t, e = c :: t ∧ isBlank c = false) ∧ dropEndWhile isBlank e = e

/-- one round on a printed element `x` followed by `s` (`,` or `}`): `x` is taken, the text behind `s` is left -/
theorem readStringListAux_elem {x : Str} (hx : CleanElem x) (fuel : Nat) {ws : Str} (acc : List Str) {s : Char} (rest : Str)
    (hws : ∀ c ∈ ws, isBlank c = true) (hs : isBraceOrComma s = true) :
    readStringListAux (fuel + 1) (ws ++ (x ++ s :: rest)) acc = readStringListAux fuel rest (acc ++ [x]) := by
  obtain ⟨hx1, ⟨c, t, hxe, hcb⟩, hxt⟩ := hx
  have hcbr : isBraceOrComma c = false := hx1 c (by rw [hxe]; exact List.mem_cons_self)
  have h1 : (ws ++ (x ++ s :: rest)).dropWhile isBraceOrComma = ws ++ (x ++ s :: rest) := by
    cases ws with
    | nil =>
      rw [hxe]
      simp [hcbr]
    | cons w ws' =>
      have hw : isBlank w = true := hws w List.mem_cons_self
      have : isBraceOrComma w = false := by
        unfold isBlank at hw
        unfold isBraceOrComma
        simp only [Bool.or_eq_true, beq_iff_eq] at hw
        rcases hw with hw | hw <;> subst hw <;> decide
      simp [this]
  have skip : ((ws ++ (x ++ s :: rest)).dropWhile isBraceOrComma).dropWhile isBlank = c :: (t ++ s :: rest) := by
    rw [h1, List.dropWhile_append_of_pos hws, hxe]
    simp [hcb]
  have hall : ∀ a ∈ x, (!isBraceOrComma a) = true := by
    intro a ha
    simp [hx1 a ha]
  have e : c :: (t ++ s :: rest) = x ++ s :: rest := by
    rw [hxe]
    simp
  rw [readStringListAux, skip]
  simp only
  rw [e, List.takeWhile_append_of_pos hall, List.dropWhile_append_of_pos hall]
  simp only [List.takeWhile_cons, List.dropWhile_cons, hs, Bool.not_true, Bool.false_eq_true, if_false, List.append_nil, hxt]

theorem readStringListAux_print (l : List Str) (hl : ∀ e ∈ l, CleanElem e) (x : Str) (hx : CleanElem x) :
    ∀ (fuel : Nat) (ws : Str) (acc : List Str), (∀ c ∈ ws, isBlank c = true) →
      (ws ++ (x ++ (l.flatMap (sepCS ++ ·) ++ ['}']))).length < fuel →
      readStringListAux fuel (ws ++ (x ++ (l.flatMap (sepCS ++ ·) ++ ['}']))) acc = acc ++ x :: l := by
  induction l generalizing x with
  | nil =>
    intro fuel ws acc hws hf
    cases fuel with
    | zero => omega
    | succ fuel =>
      rw [List.flatMap_nil, List.nil_append, readStringListAux_elem hx fuel acc [] hws (by decide)]
      cases fuel <;> simp [readStringListAux]
  | cons y l ih =>
    intro fuel ws acc hws hf
    cases fuel with
    | zero => omega
    | succ fuel =>
      rw [flatMap_sep_cons] at hf ⊢
      rw [readStringListAux_elem hx fuel acc _ hws (by decide),
        ih (fun z hz => hl z (List.mem_cons_of_mem _ hz)) y (hl y List.mem_cons_self) fuel [' '] (acc ++ [x])
          (List.forall_mem_singleton.mpr rfl) (by simp only [List.length_append, List.length_cons] at hf ⊢; omega)]
      simp

theorem readStringList_print (l : List Str) (hl : ∀ e ∈ l, CleanElem e) :
    readStringList (intercalateStr sepCS l ++ ['}']) = l := by
  unfold readStringList
  cases l with
  | nil => simp [intercalateStr, readStringListAux, isBraceOrComma]
  | cons x l' =>
    rw [intercalateStr_cons, List.append_assoc]
    exact readStringListAux_print l' (fun z hz => hl z (List.mem_cons_of_mem _ hz)) x (hl x List.mem_cons_self) _ [] []
      (by simp) (Nat.lt_succ_self _)

/-- the value of a non-vectorised key as it appears on its line of `parameter_info` (lists: without the `endl`) -/
def valueText : Var → Str
  | .int n => showInt n
  | .bool b => if b then ['1'] else ['0']
  | .ascii s => s
  | .ints l => '{' :: (intercalateStr sepCS (l.map showInt) ++ ['}'])
  | .strs l => '{' :: (intercalateStr sepCS l ++ ['}'])
  | _ => []

theorem valueToStream_scalar (v : Var) (h : match v with | .int _ | .bool _ | .ascii _ => True | _ => False) :
    valueToStream v = valueText v := by
  cases v <;> first | rfl | exact absurd h (by simp)

theorem valueToStream_ints (l : List Int) : valueToStream (.ints l) = valueText (.ints l) ++ ['\n'] := by
  simp [valueToStream, valueText, showList, sepCS]

theorem valueToStream_strs (l : List Str) : valueToStream (.strs l) = valueText (.strs l) ++ ['\n'] := by
  simp [valueToStream, valueText, showList, sepCS]

/-- a string value that survives print → parse -/
def CleanStr (s : Str) : Prop := s ≠ [] ∧ s.dropWhile isBlank = s ∧ dropEndWhile isBlank s = s
instance (s : Str) : Decidable (CleanStr s) := by unfold CleanStr; infer_instance

/-- values for which printing is injective enough to be read back -/
def Printable : Var → Prop
  | .int n => InIntRange n
  | .bool _ => True
  | .ascii s => CleanStr s
  | .ints l => ∀ x ∈ l, InIntRange x
  | .strs l => ∀ e ∈ l, CleanElem e
  | .vInt l => ∀ x ∈ l, InIntRange x
  | .vAscii l => ∀ s ∈ l, CleanStr s
  | .vInts l => ∀ x ∈ l, ∀ y ∈ x, InIntRange y
  | _ => False

/-- same `KeyArgument` type (and, for vectorised keys, same size) -/
def SameKind : Var → Var → Prop
  | .none, .none => True
  | .int _, .int _ => True
  | .bool _, .bool _ => True
  | .ascii _, .ascii _ => True
  | .ints _, .ints _ => True
  | .strs _, .strs _ => True
  | .vInt a, .vInt b => a.length = b.length
  | .vAscii a, .vAscii b => a.length = b.length
  | .vInts a, .vInts b => a.length = b.length
  | _, _ => False

theorem plainKey_snoc_space (k : Str) (hk : PlainKey k) : PlainKey (k ++ [' ']) :=
  List.forall_mem_append.mpr ⟨hk, by decide⟩

theorem assign_line_eq (k x : Str) : k ++ assign ++ x = (k ++ [' ']) ++ ':' :: '=' :: (' ' :: x) := by
  simp [assign]

theorem readInt_space (s : Str) : readInt (' ' :: s) = readInt s :=
  readInt_skip_ws [' '] s (List.forall_mem_singleton.mpr rfl)

theorem getIndex_line (k x : Str) (hk : PlainKey k) : getIndex (k ++ assign ++ x) = 0 := by
  rw [assign_line_eq]
  exact getIndex_assign _ _ (plainKey_snoc_space k hk)

/-- the `Param` that the printed text of a value is read back as -/
def paramOf : Var → Param
  | .int n => .int n
  | .bool b => .int (if b then 1 else 0)
  | .ascii s => .str s
  | .ints l => .ints l
  | .strs l => .strs l
  | _ => .absent

theorem dropWhile_blank_brace (s : Str) : (' ' :: '{' :: s).dropWhile isBlank = '{' :: s := by
  simp [isBlank]

/-- the value after the first `=` of a line, read by the reader that `v0` selects, when `v0` selects the reader of `v`'s kind
    (`v0` of the same kind, or the vectorised key with elements of that kind) -/
theorem valueFor_printed {line : Str} (v0 v : Var) (hl : afterEq line = some (' ' :: valueText v)) (hv : Printable v)
    (hnv : v.vectorised = false) (hr : valueFor v0 = valueFor v) : valueFor v0 line = paramOf v := by
  have hint : ∀ n, InIntRange n → afterEq line = some (' ' :: showInt n) → getIntParam line = some n := fun n hn h => by
    have := readInt_showInt n hn [] noDigitHead_nil
    rw [List.append_nil] at this
    rw [getIntParam_of_afterEq h, readInt_space, this]
  rw [hr]
  cases v with
  | none | choice _ _ => exact absurd hv (by simp [Printable])
  | vInt _ | vAscii _ | vInts _ => simp [Var.vectorised] at hnv
  | int n => simp only [valueFor, hint n hv hl, paramOf]
  | bool b =>
    have e : valueText (.bool b) = showInt (if b then 1 else 0) := by cases b <;> rfl
    simp only [valueFor, hint (if b then 1 else 0) (by unfold InIntRange; split <;> omega) (e ▸ hl), paramOf]
  | ascii s =>
    have e : (' ' :: s).dropWhile isBlank = s := by
      rw [List.dropWhile_cons]
      simp [isBlank, hv.2.1]
    simp only [valueFor, getStringParam_of_afterEq hl, valueText, trimBlanks, e, List.isEmpty_iff, hv.1, if_false, hv.2.2, paramOf]
  | ints l =>
    simp only [valueFor, valueText, getIntListParam, hl, dropWhile_blank_brace, beq_self_eq_true, if_true,
      readIntList_print l hv, paramOf]
  | strs l =>
    simp only [valueFor, valueText, getStringListParam, hl, dropWhile_blank_brace, beq_self_eq_true, if_true,
      readStringList_print l hv, paramOf]

theorem valueFor_of_sameKind {v0 v : Var} (h : SameKind v0 v) : valueFor v0 = valueFor v := by
  cases v0 <;> cases v <;> first | rfl | exact h.elim

theorem setVariable_paramOf {v0 v : Var} (h : SameKind v0 v) (hv : Printable v) (hnv : v.vectorised = false) :
    setVariable v0 (paramOf v) 0 = some v := by
  cases v with
  | none | choice _ _ => exact absurd hv (by simp [Printable])
  | vInt _ | vAscii _ | vInts _ => simp [Var.vectorised] at hnv
  | bool b => cases v0 <;> simp only [SameKind] at h <;> cases b <;> rfl
  | int _ | ascii _ | ints _ | strs _ => cases v0 <;> simp only [SameKind] at h <;> simp [setVariable, setScalar, paramOf]

theorem setVariable_printed (k : Str) (hk : PlainKey k) (v0 v : Var) (hv : Printable v) (hs : SameKind v0 v)
    (hnv : v.vectorised = false) :
    setVariable v0 (valueFor v0 (k ++ assign ++ valueText v)) (getIndex (k ++ assign ++ valueText v)) = some v := by
  rw [getIndex_line k _ hk, valueFor_printed v0 v (afterEq_line k _ fun c h => (hk c h).2.2) hv hnv (valueFor_of_sameKind hs)]
  exact setVariable_paramOf hs hv hnv

/-- the line printed by `vectorised_value_to_stream` for element `i` (1-based) -/
def indexedLine (k : Str) (i : Nat) (x : Str) : Str := k ++ '[' :: (showNat i ++ ']' :: (assign ++ x))

/-- the line of element `i` is the line of the key text `k[i]` -/
theorem indexedLine_eq (k : Str) (i : Nat) (x : Str) : indexedLine k i x = (k ++ '[' :: (showNat i ++ [']'])) ++ assign ++ x := by
  simp [indexedLine]

theorem afterEq_indexedLine (k : Str) (hk : PlainKey k) (i : Nat) (x : Str) :
    afterEq (indexedLine k i x) = some (' ' :: x) := by
  rw [indexedLine_eq]
  exact afterEq_line _ _ (List.forall_mem_append.mpr ⟨fun c h => (hk c h).2.2, List.forall_mem_cons.mpr ⟨by decide,
    List.forall_mem_append.mpr ⟨fun c h => ne_of_isDigit (showNat_isDigit i c h) (by decide), by decide⟩⟩⟩)

theorem getIndex_indexedLine (k : Str) (hk : PlainKey k) (i : Nat) (hi : i ≤ 2147483647) (x : Str) :
    getIndex (indexedLine k i x) = i :=
  getIndex_bracket k _ i hk hi

theorem assignToList_nat {α : Type} (l : List α) (x : α) (i : Nat) :
    assignToList l x i = if i ≤ l.length then some (l.set (i - 1) x) else none := by
  rw [assignToList_eq]
  by_cases h : i ≤ l.length
  · rw [if_pos (by omega), if_pos h]
    rfl
  · rw [if_neg (by omega), if_neg h]

/-- `mk`, `el`: `.vInt`/`.int`, `.vAscii`/`.ascii`, `.vInts`/`.ints` -/
theorem setVariable_indexed {α : Type} (mk : List α → Var) (el : α → Var) (k : Str) (hk : PlainKey k) (i : Nat) (hi0 : 1 ≤ i)
    (hi : i ≤ 2147483647) (l0 : List α) (x : α) (hv : Printable (el x)) (hnv : (el x).vectorised = false)
    (hr : valueFor (mk l0) = valueFor (el x)) (hpar : paramOf (el x) ≠ .absent)
    (hset : ∀ j, setIndexed (mk l0) (paramOf (el x)) j = (assignToList l0 x j).map mk) :
    setVariable (mk l0) (valueFor (mk l0) (indexedLine k i (valueText (el x)))) (getIndex (indexedLine k i (valueText (el x))))
      = if i ≤ l0.length then some (mk (l0.set (i - 1) x)) else none := by
  rw [valueFor_printed _ _ (afterEq_indexedLine k hk i _) hv hnv hr, getIndex_indexedLine k hk i hi]
  have h0 : ((i : Nat) : Int) ≠ 0 := by omega
  simp only [setVariable, if_neg hpar, if_neg h0, hset, assignToList_nat l0 x i]
  by_cases h : i ≤ l0.length <;> simp [h]

/-- `find?` after "overwrite the entry with this key, else append" -/
theorem find?_upsert {α : Type} (key : α → Str) (l : List α) (x : α) :
    (if (l.find? (fun y => key y == key x)).isSome then l.map (fun y => if key y == key x then x else y) else l ++ [x]).find?
      (fun y => key y == key x) = some x := by
  cases h : l.find? (fun y => key y == key x) with
  | none => simp [List.find?_append, h]
  | some a =>
    have hf : (fun y => key y == key x) ∘ (fun y => if key y == key x then x else y) = fun y => key y == key x :=
      funext fun y => by simp only [Function.comp]; split <;> simp [*]
    simp only [Option.isSome_some, if_true, List.find?_map, hf, h, Option.map_some, List.find?_some h]

theorem assocFind_assocSet (l : List (Str × Str)) (k v : Str) : assocFind (assocSet l k v) k = some v := by
  unfold assocSet assocFind
  rw [find?_upsert Prod.fst l (k, v)]
  rfl

theorem resolveAlias_addAlias (p : KP) (kw al : Str) (dep : Bool)
    (h : dep = true → assocFind p.aliases (standardise al) = none) :
    (p.addAlias kw al dep).resolveAlias (standardise al) = standardise kw := by
  cases dep
  · simp [KP.addAlias, KP.resolveAlias, assocFind_assocSet]
  · simp [KP.addAlias, KP.resolveAlias, assocFind_assocSet, h rfl]

theorem findInKeymap_addInKeymap (m : List Entry) (e : Entry) : findInKeymap (addInKeymap m e) e.key = some e :=
  find?_upsert Entry.key m e

theorem setEntry_cons (e : Entry) (m : List Entry) (k : Str) (v : Var) :
    setEntry (e :: m) k v = (if e.key == k then { e with var := v } else e) :: setEntry m k v := rfl

theorem findInKeymap_cons (e : Entry) (m : List Entry) (k : Str) :
    findInKeymap (e :: m) k = if e.key = k then some e else findInKeymap m k := by
  unfold findInKeymap
  rw [List.find?_cons]
  by_cases h : e.key = k
  · simp [h]
  · have : (e.key == k) = false := by simpa using h
    simp [this, h]

theorem setEntry_keys (m : List Entry) (k : Str) (v : Var) : (setEntry m k v).map (·.key) = m.map (·.key) := by
  unfold setEntry
  rw [List.map_map]
  exact List.map_congr_left fun e _ => by simp only [Function.comp]; split <;> rfl

theorem findInKeymap_setEntry (m : List Entry) (k k' : Str) (v : Var) :
    findInKeymap (setEntry m k v) k' = (findInKeymap m k').map fun e => if e.key == k then { e with var := v } else e := by
  unfold findInKeymap setEntry
  rw [List.find?_map]
  congr 2
  exact funext fun e => by simp only [Function.comp]; split <;> rfl

theorem key_of_find {m : List Entry} {k : Str} {e : Entry} (h : findInKeymap m k = some e) : e.key = k := by
  simpa using List.find?_some h

theorem findInKeymap_setEntry_eq {m : List Entry} {k : Str} {e : Entry} (v : Var) (h : findInKeymap m k = some e) :
    findInKeymap (setEntry m k v) k = some { e with var := v } := by
  rw [findInKeymap_setEntry, h, Option.map_some, key_of_find h, beq_self_eq_true, if_pos rfl]

theorem findInKeymap_setEntry_ne {m : List Entry} {k k' : Str} (v : Var) (h : k' ≠ k) :
    findInKeymap (setEntry m k v) k' = findInKeymap m k' := by
  rw [findInKeymap_setEntry]
  cases hf : findInKeymap m k' with
  | none => rfl
  | some e =>
    have : (e.key == k) = false := by
      rw [key_of_find hf]
      simpa using h
    rw [Option.map_some, this]
    rfl

theorem setEntry_setEntry (m : List Entry) (k : Str) (v v' : Var) : setEntry (setEntry m k v) k v' = setEntry m k v' := by
  unfold setEntry
  rw [List.map_map]
  refine List.map_congr_left fun e _ => ?_
  simp only [Function.comp]
  by_cases h : (e.key == k) = true <;> simp [h]

theorem parseLine_of_find (q : KP) (x : Entry) (line : Str) {k : Str} (hkw : q.keywordOf line = k)
    (hf : findInKeymap q.kmap k = some x) :
    q.parseLine line = match x.action with
      | .start => some { q with parsing := true }
      | .stop => some { q with parsing := false }
      | .ignore => some q
      | .set => (setVariable x.var (valueFor x.var line) (getIndex line)).map fun v => { q with kmap := setEntry q.kmap k v } := by
  unfold KP.parseLine processLine
  rw [hkw, hf]
  obtain ⟨key, act, var⟩ := x
  cases act
  · rfl
  · rfl
  · rfl
  · simp only
    cases setVariable var (valueFor var line) (getIndex line) <;> rfl

/-- a key as it sits in the keymap and is printed by `parameter_info`: standardised, free of `:`, `[`, `=`, not an alias -/
def Canonical (p : KP) (kw : Str) : Prop := standardise kw = kw ∧ PlainKey kw ∧ p.resolveAlias kw = kw

theorem keywordOf_assign (p : KP) (kw rest : Str) (h : Canonical p kw) : p.keywordOf (kw ++ ' ' :: ':' :: '=' :: rest) = kw := by
  unfold KP.keywordOf
  have e : kw ++ ' ' :: ':' :: '=' :: rest = (kw ++ [' ']) ++ ':' :: '=' :: rest := by simp
  rw [e, getKeyword_assign _ _ (plainKey_snoc_space kw h.2.1), standardise_snoc_space, h.1, h.2.2]

theorem keywordOf_line (p : KP) (kw x : Str) (h : Canonical p kw) : p.keywordOf (kw ++ assign ++ x) = kw := by
  simpa [assign] using keywordOf_assign p kw (' ' :: x) h

theorem keywordOf_indexedLine (p : KP) (kw x : Str) (i : Nat) (h : Canonical p kw) :
    p.keywordOf (indexedLine kw i x) = kw := by
  unfold KP.keywordOf indexedLine
  rw [getKeyword_bracket _ _ h.2.1, h.1, h.2.2]

end StirVerif.C17
