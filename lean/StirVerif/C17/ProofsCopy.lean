/-
C17 — copies of `ParsingObject`s (model: `PObj`, `Heap.step`, `Heap.run` of Model.lean).  `WF`: every parser refers to the members of
ITS OWN object (or has no keys yet); every operation keeps it (the copy constructor leaves the parser empty, `operator=` leaves it
alone), and in such a heap `parse` / `parameter_info` work on the members of the object they are called on.
Core Lean only.
-/
import StirVerif.C17.Model
namespace StirVerif.C17

/-- every parser's pointers refer to the members of its own object; an initialised keymap has keys -/
@[reducible] def WF (h : Heap) : Prop :=
  ∀ (i : Nat) (o : PObj), h[i]? = some o → (o.owner = none ∨ o.owner = some i) ∧ (o.init = true → o.owner = some i)

theorem wf_nil : WF [] := by
  intro i o h
  simp at h

theorem wf_push (h : Heap) (hw : WF h) (o : PObj) (ho : o.owner = none) (hi : o.init = false) : WF (h ++ [o]) := by
  intro i x hx
  rw [List.getElem?_append] at hx
  split at hx
  · exact hw i x hx
  · rw [List.getElem?_singleton] at hx
    split at hx
    · cases hx
      exact ⟨Or.inl ho, fun h' => nomatch hi.symm.trans h'⟩
    · cases hx

theorem wf_modify (h : Heap) (hw : WF h) (i : Nat) (f : PObj → PObj)
    (hf : ∀ o, h[i]? = some o →
      ((f o).owner = none ∨ (f o).owner = some i) ∧ ((f o).init = true → (f o).owner = some i)) :
    WF (h.modify i f) := by
  intro k x hx
  rw [List.getElem?_modify] at hx
  obtain ⟨o, ho, rfl⟩ := Option.map_eq_some_iff.mp hx
  split
  · next hik =>
    subst hik
    exact hf o ho
  · exact hw k o ho

theorem wf_set (h : Heap) (hw : WF h) (i : Nat) (o : PObj)
    (ho : (o.owner = none ∨ o.owner = some i) ∧ (o.init = true → o.owner = some i)) : WF (h.set i o) := by
  intro k x hx
  rw [List.getElem?_set] at hx
  split at hx
  · next hik =>
    subst hik
    split at hx
    · cases hx
      exact ho
    · cases hx
  · exact hw k x hx

theorem wf_ensureInit (h : Heap) (hw : WF h) (i : Nat) : WF (h.ensureInit i) :=
  wf_modify h hw i _ fun o ho => by
    by_cases hi : o.init = true
    · rw [if_pos hi]
      exact hw i o ho
    · simp [hi]

theorem ensureInit_ne (h : Heap) (i k : Nat) (hk : k ≠ i) : (h.ensureInit i)[k]? = h[k]? :=
  List.getElem?_modify_ne _ _ hk.symm

theorem wf_storeParse (h : Heap) (hw : WF h) (i t : Nat) (ot : PObj) (hot : h[t]? = some ot) (text : Str) :
    WF (h.storeParse i t ot text).1 := by
  unfold Heap.storeParse
  simp only
  have hw1 : WF (h.set t { ot with vals := { (({ ot.vals with parsing := h.statusOf i } : KP).parse text).kp with parsing := false } }) :=
    wf_set h hw t _ (hw t ot hot)
  exact wf_modify _ hw1 i _ (fun x hx => hw1 i x hx)

theorem live_iff (h : Heap) (i : Nat) : h.live i = true ↔ ∃ o, h[i]? = some o ∧ o.alive = true := by
  unfold Heap.live
  cases h[i]? <;> simp

/-- in a well-formed heap `initialise_keymap()` on a live object leaves it with its own members as the target of its parser:
    `parse` and `parameter_info` work on the object they are called on -/
theorem step_own (tmpl : KP) (h : Heap) (hw : WF h) (i : Nat) (o : PObj) (ho : h[i]? = some o) (hl : o.alive = true) :
    (h.ensureInit i)[i]? = some { o with init := true, owner := some i } ∧
    (∀ text, h.step tmpl (.parse i text) = (h.ensureInit i).storeParse i i { o with init := true, owner := some i } text) ∧
    h.step tmpl (.info i) = (h.ensureInit i, .text o.vals.parameterInfo) := by
  have he : (h.ensureInit i)[i]? = some { o with init := true, owner := some i } := by
    unfold Heap.ensureInit
    rw [List.getElem?_modify_eq, ho]
    show some (if o.init = true then o else _) = _
    split
    · -- already initialised: the parser refers to the object itself
      next hi => rw [← (hw i o ho).2 hi, ← hi]
    · rfl
  have hlive := (live_iff h i).mpr ⟨o, ho, hl⟩
  have ht : (h.ensureInit i).target i = some (i, { o with init := true, owner := some i }) := by
    unfold Heap.target
    simp only [he, hl, if_true]
  exact ⟨he, fun text => by simp only [Heap.step, hlive, Bool.not_true, Bool.false_eq_true, if_false, ht],
    by simp only [Heap.step, hlive, Bool.not_true, Bool.false_eq_true, if_false, ht]⟩

theorem step_dead (tmpl : KP) (h : Heap) (i : Nat) (hl : ¬ h.live i = true) :
    (∀ text, h.step tmpl (.parse i text) = (h, .bad)) ∧ h.step tmpl (.info i) = (h, .bad) := by
  simp [Heap.step, hl]

/-- the object an operation writes to (a copy or a new object is appended: no existing object is written) -/
def POp.subject : POp → Option Nat
  | .parse i _ | .info i | .destroy i | .assign i _ => some i
  | .copy _ | .new => none

theorem step_effect (tmpl : KP) (h : Heap) (hw : WF h) (op : POp) :
    WF (h.step tmpl op).1 ∧ (h.step tmpl op).2 ≠ .uaf ∧
      ∀ k, k < h.length → op.subject ≠ some k → (h.step tmpl op).1[k]? = h[k]? := by
  cases op with
  | new => exact ⟨wf_push h hw _ rfl rfl, nofun, fun k hk _ => List.getElem?_append_left hk⟩
  | copy i =>
    simp only [Heap.step]
    split
    · split
      · exact ⟨wf_push h hw _ rfl rfl, nofun, fun k hk _ => List.getElem?_append_left hk⟩
      · exact ⟨hw, nofun, fun _ _ _ => rfl⟩
    · exact ⟨hw, nofun, fun _ _ _ => rfl⟩
  | assign i j =>
    simp only [Heap.step]
    split
    · next oi oj hi hj =>
      split
      · exact ⟨wf_set h hw i _ ⟨(hw i oi hi).1, nofun⟩, nofun, fun k _ hik => List.getElem?_set_ne fun e => hik (congrArg some e)⟩
      · exact ⟨hw, nofun, fun _ _ _ => rfl⟩
    · exact ⟨hw, nofun, fun _ _ _ => rfl⟩
  | destroy i =>
    simp only [Heap.step]
    split
    · exact ⟨wf_modify h hw i _ fun o ho => hw i o ho, nofun, fun k _ hik => List.getElem?_modify_ne _ _ fun e => hik (congrArg some e)⟩
    · exact ⟨hw, nofun, fun _ _ _ => rfl⟩
  | parse i text =>
    by_cases hl : h.live i = true
    · obtain ⟨o, ho, hoa⟩ := (live_iff h i).mp hl
      obtain ⟨he, hp, -⟩ := step_own tmpl h hw i o ho hoa
      rw [hp]
      refine ⟨wf_storeParse _ (wf_ensureInit h hw i) i i _ he text, nofun, fun k _ hik => ?_⟩
      have hki : k ≠ i := fun e => hik (congrArg some e.symm)
      unfold Heap.storeParse
      simp only
      rw [List.getElem?_modify_ne _ _ (Ne.symm hki), List.getElem?_set_ne (Ne.symm hki)]
      exact ensureInit_ne h i k hki
    · rw [(step_dead tmpl h i hl).1]
      exact ⟨hw, nofun, fun _ _ _ => rfl⟩
  | info i =>
    by_cases hl : h.live i = true
    · obtain ⟨o, ho, hoa⟩ := (live_iff h i).mp hl
      rw [(step_own tmpl h hw i o ho hoa).2.2]
      exact ⟨wf_ensureInit h hw i, nofun, fun k _ hik => ensureInit_ne h i k fun e => hik (congrArg some e.symm)⟩
    · rw [(step_dead tmpl h i hl).2]
      exact ⟨hw, nofun, fun _ _ _ => rfl⟩

theorem step_wf (tmpl : KP) (h : Heap) (hw : WF h) (op : POp) : WF (h.step tmpl op).1 :=
  (step_effect tmpl h hw op).1

theorem run_wf (tmpl : KP) (ops : List POp) : ∀ h : Heap, WF h → WF (Heap.run tmpl h ops).1 := by
  induction ops with
  | nil =>
    intro h hw
    exact hw
  | cons op ops ih =>
    intro h hw
    simp only [Heap.run]
    exact ih _ (step_wf tmpl h hw op)

theorem step_not_uaf (tmpl : KP) (h : Heap) (hw : WF h) (op : POp) : (h.step tmpl op).2 ≠ .uaf :=
  (step_effect tmpl h hw op).2.1

theorem info_answer (tmpl : KP) (h : Heap) (hw : WF h) (i : Nat) (o : PObj) (ho : h[i]? = some o) (hl : o.alive = true) :
    (h.step tmpl (.info i)).2 = .text o.vals.parameterInfo := by
  rw [(step_own tmpl h hw i o ho hl).2.2]

theorem step_frame (tmpl : KP) (h : Heap) (hw : WF h) (k : Nat) (hk : k < h.length) :
    (∀ i text, i ≠ k → (h.step tmpl (.parse i text)).1[k]? = h[k]?) ∧
    (∀ i, i ≠ k → (h.step tmpl (.info i)).1[k]? = h[k]?) ∧
    (∀ i, i ≠ k → (h.step tmpl (.destroy i)).1[k]? = h[k]?) ∧
    (∀ i j, i ≠ k → (h.step tmpl (.assign i j)).1[k]? = h[k]?) ∧
    (∀ i, (h.step tmpl (.copy i)).1[k]? = h[k]?) ∧
    (h.step tmpl .new).1[k]? = h[k]? :=
  have hf := fun op => (step_effect tmpl h hw op).2.2 k hk
  ⟨fun i text hik => hf (.parse i text) fun e => hik (Option.some.inj e), fun i hik => hf (.info i) fun e => hik (Option.some.inj e),
   fun i hik => hf (.destroy i) fun e => hik (Option.some.inj e), fun i j hik => hf (.assign i j) fun e => hik (Option.some.inj e),
   fun i => hf (.copy i) nofun, hf .new nofun⟩

theorem parse_own_members (tmpl : KP) (h : Heap) (hw : WF h) (i : Nat) (o : PObj) (ho : h[i]? = some o) (hl : o.alive = true)
    (text : Str) :
    ∃ o', (h.step tmpl (.parse i text)).1[i]? = some o' ∧
      o'.vals = { (({ o.vals with parsing := o.status } : KP).parse text).kp with parsing := false } ∧ o'.alive = true := by
  obtain ⟨he, hp, -⟩ := step_own tmpl h hw i o ho hl
  have hlt : i < (h.ensureInit i).length := (List.getElem?_eq_some_iff.mp he).1
  have hst : (h.ensureInit i).statusOf i = o.status := by
    unfold Heap.statusOf
    rw [he]
  rw [hp]
  unfold Heap.storeParse
  simp only
  rw [List.getElem?_modify_eq, List.getElem?_set_self hlt, hst]
  exact ⟨_, rfl, rfl, hl⟩

/-- a class with one `int` member -/
def exClass : KP := ((({} : KP).addKey "Obj".toList .start .none).addKey "n".toList .set (.int 5)).addKey "End".toList .stop .none

/-- original parsed and printed, copied, original re-parsed with another value and destroyed: the copy still prints 7 -/
theorem ex_copy_history :
    (Heap.run exClass [] [.new, .parse 0 "Obj :=\nn := 7\nEnd :=\n".toList, .info 0, .copy 0, .parse 0 "Obj :=\nn := 9\nEnd :=\n".toList,
      .destroy 0, .info 1]).2.getLast? = some (.text "obj :=\nn := 7\nend := \n".toList) := by
  repeat rw [String.toList_ofList]
  decide +kernel

end StirVerif.C17
