/-
C17 — termination.  The loops of the model run on fuel; here: (1) the fuel given to the list readers is never exhausted
(more fuel gives the same result), (2) `read_line` returns, and leaves a stream that is at its end or usable and shorter; so does
the line-skipping loop whenever it hands over a line (`nextLine_spec`: its other answer, `none`, is the early end of the text and
also what it says when its own fuel has run out; nothing here tells the two apart), (3) the `while (status == parsing)` loop with
ANY per-line function does not run out of fuel (`parseWith_total`), hence neither does `parse`, for every keymap and every text
(`parseWith_parseLine`: with `KP.parseLine` the loop is `KP.parse`).
-/
import StirVerif.C17.ProofsLine

namespace StirVerif.C17

theorem readIntListAux_fuel (fuel fuel' : Nat) (s : Str) (acc : List Int) (h : s.length < fuel) (h' : s.length < fuel') :
    readIntListAux fuel s acc = readIntListAux fuel' s acc := by
  induction fuel generalizing fuel' s acc with
  | zero => omega
  | succ fuel ih =>
    cases fuel' with
    | zero => omega
    | succ fuel' =>
      rw [readIntListAux, readIntListAux]
      cases hr : readInt s with
      | mk o r =>
        cases o with
        | none => rfl
        | some t =>
          simp only
          have c1 := readInt_consumes s t r hr
          cases hc : readChar r with
          | none => rfl
          | some x =>
            obtain ⟨c, r'⟩ := x
            simp only
            have c2 := readChar_consumes r c r' hc
            split
            · exact ih fuel' r' _ (by omega) (by omega)
            · rfl

theorem readStringListAux_fuel (fuel fuel' : Nat) (s : Str) (acc : List Str) (h : s.length < fuel) (h' : s.length < fuel') :
    readStringListAux fuel s acc = readStringListAux fuel' s acc := by
  fun_induction readStringListAux fuel s acc generalizing fuel' with
  | case1 s acc => omega
  | case2 fuel s acc h1 => cases fuel' <;> simp only [readStringListAux, h1]
  | case3 fuel s acc c s1 h1 elem h2 =>
    cases fuel' with
    | zero => omega
    | succ fuel' => simp only [readStringListAux, h1, h2, elem]
  | case4 fuel s acc c s1 h1 elem b t h2 ih =>
    cases fuel' with
    | zero => omega
    | succ fuel' =>
      have := (readStringListAux_step_le h1).2.2 b t h2
      simp only [readStringListAux, h1, h2]
      exact ih fuel' (by omega) (by omega)

theorem Stream.good_iff (s : Stream) : s.good = true ↔ s.eof = false ∧ s.fail = false := by
  unfold Stream.good
  cases s.eof <;> cases s.fail <;> simp

/-- `getline` on a stream that has not failed: failing means the end was reached; otherwise something was consumed -/
theorem getline_spec {s s' : Stream} {tl : Str} (hf : s.fail = false) (h : getline s = (s', tl)) :
    (s'.fail = true → s'.eof = true) ∧ (s'.fail = false → s'.rest.length < s.rest.length) := by
  obtain rfl : (getline s).1 = s' := congrArg Prod.fst h
  unfold getline
  by_cases hg : s.good = true
  · simp only [hg, Bool.not_true, Bool.false_eq_true, if_false]
    have hsub := (List.dropWhile_sublist (fun c => c != '\n') (l := s.rest)).length_le
    cases hd : s.rest.dropWhile (fun c => c != '\n') with
    | nil =>
      -- no line feed: the stream has not failed only if the line, which is all of `s.rest`, is not empty
      cases hr : s.rest <;> simp
    | cons a t =>
      rw [hd] at hsub
      simp only [List.length_cons] at hsub
      exact ⟨by simp [hf], fun _ => by simp; omega⟩
  · have he : s.eof = true := by simpa [Stream.good, hf] using hg
    simp [hg, he]

theorem readLineLoop_total (fuel : Nat) (s : Stream) (line : Str) (hf : s.fail = false) (hfuel : s.rest.length < fuel) :
    ∃ l s', readLineLoop fuel s line = .line l s' ∧ (s'.eof = true ∨ (s'.fail = false ∧ s'.rest.length < s.rest.length)) := by
  fun_induction readLineLoop fuel s line with
  | case1 => omega
  | case2 fuel s line s' tl hgl hfail => exact ⟨_, _, rfl, .inl ((getline_spec hf hgl).1 hfail)⟩
  | case3 fuel s line s' tl hgl hfail line' hlast ih =>
    -- continuation: one more round on what `getline` has left
    have hf' : s'.fail = false := by simpa using hfail
    have sp := (getline_spec hf hgl).2 hf'
    obtain ⟨l, s'', h1, h2⟩ := ih hf' (by omega)
    exact ⟨l, s'', h1, h2.imp id fun h => ⟨h.1, by omega⟩⟩
  | case4 fuel s line s' tl hgl hfail line' hlast =>
    have hf' : s'.fail = false := by simpa using hfail
    exact ⟨_, _, rfl, .inr ⟨hf', (getline_spec hf hgl).2 hf'⟩⟩

theorem readLine_total (s : Stream) (hf : s.fail = false) :
    ∃ l s', readLine s = .line l s' ∧ (s'.eof = true ∨ (s'.fail = false ∧ s'.rest.length < s.rest.length)) := by
  unfold readLine
  rw [if_neg (by simp [hf])]
  exact readLineLoop_total _ s [] hf (by omega)

theorem nextLine_spec (fuel : Nat) (s : Stream) :
    nextLine fuel s = none ∨
      ∃ l s', nextLine fuel s = some (.line l s') ∧ (s'.eof = true ∨ (s'.fail = false ∧ s'.rest.length < s.rest.length)) := by
  induction fuel generalizing s with
  | zero =>
    left
    rfl
  | succ fuel ih =>
    rw [nextLine]
    by_cases hg : s.good = true
    · simp only [hg, Bool.not_true, Bool.false_eq_true, if_false]
      obtain ⟨l, s', hr, hp⟩ := readLine_total s ((Stream.good_iff s).mp hg).2
      rw [hr]
      simp only
      split
      · right
        exact ⟨l, s', rfl, hp⟩
      · split
        · right
          exact ⟨l, s', rfl, hp⟩
        · -- a line of blanks only was skipped
          rcases hp with e' | ⟨-, e'⟩
          · -- at the end of the stream the next round stops at once
            left
            cases fuel with
            | zero => rfl
            | succ f =>
              rw [nextLine]
              have : s'.good = false := by
                unfold Stream.good
                simp [e']
              simp [this]
          · exact (ih s').imp id fun ⟨l2, s2, h2, hp2⟩ => ⟨l2, s2, h2, hp2.imp id fun h => ⟨h.1, by omega⟩⟩
    · have hg' : s.good = false := by simpa using hg
      left
      simp [hg']

theorem parseLoopWith_parseLine (fuel : Nat) (p : KP) (s : Stream) :
    parseLoopWith KP.parseLine fuel p s = parseLoop fuel p s := by
  induction fuel generalizing p s with
  | zero => rfl
  | succ fuel ih =>
    rw [parseLoopWith, parseLoop]
    split
    · rfl
    · split
      · rfl
      · rfl
      · split
        · rfl
        · split
          · rfl
          · exact ih _ _

theorem parseWith_parseLine (p : KP) (text : Str) : p.parseWith KP.parseLine text = p.parse text := by
  unfold KP.parseWith KP.parse
  simp only [parseLoopWith_parseLine]

theorem parseLoopWith_total (step : KP → Str → Option KP) (fuel : Nat) (p : KP) (s : Stream)
    (hfuel : s.rest.length + 1 < fuel) : (parseLoopWith step fuel p s).tag ≠ .diverges := by
  induction fuel generalizing p s with
  | zero => omega
  | succ fuel ih =>
    rw [parseLoopWith]
    split
    · simp
    · rcases nextLine_spec (s.rest.length + 2) s with h1 | ⟨l, s', h1, hp⟩
      · rw [h1]
        simp
      · rw [h1]
        simp only
        cases hpl : step p l with
        | none => simp
        | some p' =>
          simp only
          rcases hp with e | ⟨-, e⟩
          · simp [e]
          · split
            · simp
            · exact ih p' s' (by omega)

theorem parseWith_total (step : KP → Str → Option KP) (p : KP) (text : Str) : (p.parseWith step text).tag ≠ .diverges := by
  unfold KP.parseWith
  simp only
  rcases nextLine_spec (text.length + 2) { rest := text } with h1 | ⟨l, s', h1, hp⟩
  · rw [h1]
    simp
  · rw [h1]
    simp only
    cases hpl : step p l with
    | none => simp
    | some p' =>
      simp only
      split
      · simp
      · rcases hp with e | ⟨-, e⟩
        · simp [e]
        · split
          · simp
          · exact parseLoopWith_total step _ p' s' (by simp at e; omega)

theorem parse_total (p : KP) (text : Str) : (p.parse text).tag ≠ .diverges :=
  parseWith_parseLine p text ▸ parseWith_total KP.parseLine p text

end StirVerif.C17
