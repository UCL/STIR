/-
C17 — Interfile projection-data headers (`InterfilePDFSHeader`) with their TOF keys and size-giving keys in ANY order:
the per-segment lists of an accepted header have one entry per segment (`pdfsSegments_ok`), the two errors of
`ProjDataInfo::set_tof_mash_factor` (`tofBinsOf_error`), what `post_processing` has checked when it accepts (`pdfsPost_spec`), and
concrete header texts evaluated in the model.
Core Lean only.
-/
import StirVerif.C17.ProofsTotal
namespace StirVerif.C17

theorem toU32_of_range (n : Int) (h0 : 0 ≤ n) (h1 : n < 4294967296) : toU32 n = n := by
  unfold toU32
  exact Int.emod_eq_of_lt h0 h1

theorem toU32_nonneg (n : Int) : 0 ≤ toU32 n := by
  unfold toU32
  exact Int.emod_nonneg n (by decide)

theorem filter_neg_lt_of_any_zero (l : List Int) (h : l.any (· == 0) = true) :
    (l.filter (· < 0)).length < l.length := by
  -- the 0 is an element that the filter drops
  obtain ⟨x, hx, h0⟩ := List.any_eq_true.mp h
  refine List.length_filter_lt_length_iff_exists.mpr ⟨x, hx, ?_⟩
  rw [beq_iff_eq] at h0
  rw [h0]
  decide

theorem pdfsSegments_ok (t : SegTables) (a b : Int) (h : pdfsSegments t = .ok a b) :
    (t.minRD.length : Int) = toU32 t.numSegments ∧ (t.maxRD.length : Int) = toU32 t.numSegments ∧
    (t.ringsPerSeg.length : Int) = toU32 t.numSegments ∧ b - a + 1 = t.minRD.length ∧ a ≤ 0 ∧ 0 ≤ b := by
  unfold pdfsSegments at h
  split at h
  · cases h
  · next h1 =>
    split at h
    · cases h
    · next h2 =>
      split at h
      · cases h
      · next h3 =>
        have e1 := Decidable.not_not.mp h1
        have e2 := Decidable.not_not.mp h2
        have e3 := Decidable.not_not.mp h3
        simp only at h
        split at h
        · next hz =>
          have hlen : (List.zipWith (· + ·) t.minRD t.maxRD).length = t.minRD.length := by
            rw [List.length_zipWith]
            have : (t.minRD.length : Int) = t.maxRD.length := by rw [e1, e2]
            omega
          have hlt := filter_neg_lt_of_any_zero _ hz
          injection h with ha hb
          refine ⟨e1, e2, e3, ?_, ?_, ?_⟩ <;> omega
        · cases h

theorem pdfsSegments_no_lists : pdfsSegments (segTablesOf 5 [1, 2, 3, 2, 1] none none) = .rejected := by decide

theorem tofBinsOf_error (ready : Bool) (maxTof mash : Int) (e : PdfsOutcome) (h : tofBinsOf ready maxTof mash = .error e) :
    e = .errMash ∨ e = .errEven := by
  unfold tofBinsOf at h
  split at h
  · split at h
    · injection h with h
      exact .inl h.symm
    · dsimp only at h
      split at h
      · injection h with h
        exact .inr h.symm
      · cases h
  · cases h

/-- `post_processing` answers for EVERY state of the header object (so for every order of the keys that led to it), and what it
    has checked when it accepts: the geometry has exactly `num_timing_poss` TOF bins — the member that `find_storage_order`
    derived from the declared dimensions — the per-segment list of axial positions is the member `num_rings_per_segment` and
    has `num_segments` entries. -/
theorem pdfsPost_spec (g : Guess) (p : KP) :
    match pdfsPost g p with
    | .diverges => False
    | .ok ntp bins _ S V B rings =>
      bins = ntp ∧ ntp = getInt p.kmap kNumTimingPoss ∧ S = getInt p.kmap kNumSegments ∧ V = getInt p.kmap kNumViews ∧
      B = getInt p.kmap kNumBins ∧ rings = getInts p.kmap kRingsPerSeg ∧ (rings.length : Int) = toU32 S
    | _ => True := by
  generalize hr : pdfsPost g p = r
  unfold pdfsPost at hr
  -- the `let`s stay local definitions, so that the case splits work on a small goal
  extract_lets m ntp order fill maxTof sz res ready mash at hr
  split at hr
  · split at hr
    · subst hr
      trivial
    · split at hr
      · subst hr
        trivial
      · subst hr
        trivial
      · next hseg =>
        split at hr
        · subst hr
          trivial
        · split at hr
          · next e he =>
            subst hr
            rcases tofBinsOf_error _ _ _ _ he with rfl | rfl <;> trivial
          · split at hr
            · subst hr
              trivial
            · next hb =>
              subst hr
              exact ⟨by simpa using hb, rfl, rfl, rfl, rfl, rfl, (pdfsSegments_ok _ _ _ hseg).2.2.1⟩
  · subst hr
    trivial

theorem parsePdfsHeader_cases (g : Guess) (text : Str) :
    parsePdfsHeader g text = .error ∨ parsePdfsHeader g text = .rejected ∨
      parsePdfsHeader g text = pdfsPost g (pdfsHeader0.parseWith pdfsLine text).kp := by
  unfold parsePdfsHeader
  simp only
  split
  · next e => exact absurd e (parseWith_total pdfsLine pdfsHeader0 text)
  · exact .inl rfl
  · exact .inr (.inl rfl)
  · exact .inr (.inr rfl)

/-- a small 4-D projection-data header (3 segments) of a TOF-capable scanner (15 unmashed bins, named in the header itself);
    `mid` goes between the matrix keys and the ring-difference keys, `tail` behind them -/
def exPdfs (mid tail : String) : Str :=
  ("!INTERFILE :=\nnumber of dimensions := 4\nmatrix axis label [4] := segment\n!matrix size [4] := 3\n" ++
   "matrix axis label [3] := view\n!matrix size [3] := 4\nmatrix axis label [2] := axial coordinate\n!matrix size [2] := {1,2,1}\n" ++
   "matrix axis label [1] := tangential coordinate\n!matrix size [1] := 5\n" ++
   "Number of TOF time bins := 15\nSize of timing bin (ps) := 100\ntiming resolution (ps) := 400\n" ++ mid ++
   "minimum ring difference per segment := {-1,0,1}\nmaximum ring difference per segment := {-1,0,1}\n" ++ tail ++
   "!END OF INTERFILE :=\n").toList

def noGuess : Guess := { known := false, maxTof := -1, sizePos := -1, resPos := -1 }

/-- both texts in one conjunction, so that the kernel builds the header object once; evaluated on lists of characters
    (`String.toList_ofList`; string literals are slow to decode under `decide`) -/
theorem exPdfs_evals :
    parsePdfsHeader noGuess (exPdfs "TOF mashing factor := 3\n" "") = .ok 1 1 0 3 4 5 [1, 2, 1] ∧
    parsePdfsHeader noGuess (exPdfs "" "%TOF mashing factor := 3\n") = .errTof := by
  simp only [exPdfs, String.toList_append]
  repeat rw [String.toList_ofList]
  decide +kernel

/-- the writer's order: the mashing factor in front of the ring-difference keys is reset by `find_storage_order`: non-TOF, accepted -/
theorem ex_pdfs_mash_before : parsePdfsHeader noGuess (exPdfs "TOF mashing factor := 3\n" "") = .ok 1 1 0 3 4 5 [1, 2, 1] :=
  exPdfs_evals.1

/-- the same key BEHIND the ring-difference keys overwrites the reset; the geometry would have
    5 TOF bins for a 4-D header: refused by the final check (the C++ calls `error()`) -/
theorem ex_pdfs_mash_after : parsePdfsHeader noGuess (exPdfs "" "%TOF mashing factor := 3\n") = .errTof :=
  exPdfs_evals.2

end StirVerif.C17
