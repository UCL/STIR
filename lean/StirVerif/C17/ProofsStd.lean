/-
C17 — proofs about `standardise` (standardise_interfile_keyword): normal form, insensitivity to case and to
runs of the characters `" \t_!"`.
-/
import StirVerif.C17.Model

namespace StirVerif.C17

theorem toLower_cases (c : Char) :
    c.toLower = c ∨ (65 ≤ c.toNat ∧ c.toNat ≤ 90 ∧ c.toLower.toNat = c.toNat + 32) := by
  unfold Char.toLower
  split
  · next h =>
    right
    have h1 : 65 ≤ c.val.toNat := by
      have := h.1
      simp only [ge_iff_le, UInt32.le_iff_toNat_le] at this
      exact this
    have h2 : c.val.toNat ≤ 90 := by
      have := h.2
      simp only [UInt32.le_iff_toNat_le] at this
      exact this
    refine ⟨h1, h2, ?_⟩
    show (c.val + ('a'.val - 'A'.val)).toNat = c.val.toNat + 32
    rw [UInt32.toNat_add]
    have : ('a'.val - 'A'.val).toNat = 32 := by decide
    rw [this]
    omega
  · left
    rfl

theorem beq_false_of_toNat_ne {c d : Char} (h : c.toNat ≠ d.toNat) : (c == d) = false := by
  simp only [beq_eq_false_iff_ne, ne_eq]
  intro e
  exact h (by rw [e])

theorem isCollapse_letter {c : Char} (h : (65 ≤ c.toNat ∧ c.toNat ≤ 90) ∨ (97 ≤ c.toNat ∧ c.toNat ≤ 122)) :
    isCollapse c = false := by
  unfold isCollapse isCSpace
  rw [beq_false_of_toNat_ne (d := ' '), beq_false_of_toNat_ne (d := '\t'), beq_false_of_toNat_ne (d := '\n'),
    beq_false_of_toNat_ne (d := '\x0b'), beq_false_of_toNat_ne (d := '\x0c'), beq_false_of_toNat_ne (d := '\r'),
    beq_false_of_toNat_ne (d := '_'), beq_false_of_toNat_ne (d := '!')] <;> simp <;> omega

theorem isCollapse_of_isTrimWs {c : Char} (h : isTrimWs c = true) : isCollapse c = true := by
  unfold isTrimWs at h
  unfold isCollapse isCSpace
  simp only [Bool.or_eq_true] at h ⊢
  rcases h with ((h | h) | h) | h <;> simp [h]

theorem isTrimWs_letter {c : Char} (h : (65 ≤ c.toNat ∧ c.toNat ≤ 90) ∨ (97 ≤ c.toNat ∧ c.toNat ≤ 122)) :
    isTrimWs c = false := by
  cases ht : isTrimWs c with
  | false => rfl
  | true => exact absurd (isCollapse_of_isTrimWs ht) (by simp [isCollapse_letter h])

theorem isCollapse_toLower (c : Char) : isCollapse c.toLower = isCollapse c := by
  rcases toLower_cases c with h | ⟨h1, h2, h3⟩
  · rw [h]
  · rw [isCollapse_letter (c := c) (Or.inl ⟨h1, h2⟩), isCollapse_letter (c := c.toLower) (Or.inr (by omega))]

theorem isTrimWs_toLower (c : Char) : isTrimWs c.toLower = isTrimWs c := by
  rcases toLower_cases c with h | ⟨h1, h2, h3⟩
  · rw [h]
  · rw [isTrimWs_letter (c := c) (Or.inl ⟨h1, h2⟩), isTrimWs_letter (c := c.toLower) (Or.inr (by omega))]

theorem toLower_toLower (c : Char) : c.toLower.toLower = c.toLower := by
  rcases toLower_cases c with h | ⟨h1, h2, h3⟩
  · rw [h, h]
  · rcases toLower_cases c.toLower with h' | ⟨h1', h2', _⟩
    · exact h'
    · omega

theorem isCollapse_space : isCollapse ' ' = true := by decide
theorem isTrimWs_space : isTrimWs ' ' = true := by decide

theorem dropEndWhile_eq (p : Char → Bool) (l : Str) : dropEndWhile p l = (l.reverse.dropWhile p).reverse := by
  induction l with
  | nil => rfl
  | cons c cs ih =>
    rw [dropEndWhile, ih, List.reverse_cons, List.dropWhile_append]
    cases h : cs.reverse.dropWhile p with
    | nil => cases hp : p c <;> simp [hp]
    | cons a as => simp

theorem dropEndWhile_cons (p : Char → Bool) (c : Char) (cs : Str) :
    dropEndWhile p (c :: cs) = if (dropEndWhile p cs).isEmpty && p c then [] else c :: dropEndWhile p cs := by
  rw [dropEndWhile]
  cases h : dropEndWhile p cs with
  | nil => cases hp : p c <;> simp
  | cons a as => simp

theorem dropEndWhile_append (p : Char → Bool) (x y : Str) :
    dropEndWhile p (x ++ y) = if (dropEndWhile p y).isEmpty then dropEndWhile p x else x ++ dropEndWhile p y := by
  simp only [dropEndWhile_eq, List.reverse_append, List.dropWhile_append, List.isEmpty_reverse]
  split <;> simp

theorem dropEndWhile_singleton (p : Char → Bool) (c : Char) : dropEndWhile p [c] = if p c then [] else [c] := by
  simp [dropEndWhile]

theorem dropEndWhile_snoc_neg (p : Char → Bool) (x : Str) (d : Char) (h : p d = false) :
    dropEndWhile p (x ++ [d]) = x ++ [d] := by
  rw [dropEndWhile_append, dropEndWhile_singleton]
  simp [h]

theorem dropEndWhile_snoc_pos (p : Char → Bool) (x : Str) (d : Char) (h : p d = true) :
    dropEndWhile p (x ++ [d]) = dropEndWhile p x := by
  rw [dropEndWhile_append, dropEndWhile_singleton]
  simp [h]

theorem dropEndWhile_nil_or_snoc (p : Char → Bool) (u : Str) :
    dropEndWhile p u = [] ∨ ∃ x d, dropEndWhile p u = x ++ [d] ∧ p d = false := by
  rw [dropEndWhile_eq]
  cases h : u.reverse.dropWhile p with
  | nil => exact .inl rfl
  | cons d x =>
    refine .inr ⟨x.reverse, d, by simp, ?_⟩
    have := List.head_dropWhile_not p (l := u.reverse) (by simp [h])
    simpa [h] using this

theorem dropEndWhile_sublist (p : Char → Bool) (u : Str) : List.Sublist (dropEndWhile p u) u := by
  rw [dropEndWhile_eq, ← List.reverse_sublist, List.reverse_reverse]
  exact List.dropWhile_sublist p

theorem dropWhile_map (p : Char → Bool) (f : Char → Char) (hf : ∀ c, p (f c) = p c) (u : Str) :
    (u.map f).dropWhile p = (u.dropWhile p).map f := by
  rw [List.dropWhile_map, show p ∘ f = p from funext hf]

theorem dropEndWhile_map (p : Char → Bool) (f : Char → Char) (hf : ∀ c, p (f c) = p c) (u : Str) :
    dropEndWhile p (u.map f) = (dropEndWhile p u).map f := by
  rw [dropEndWhile_eq, dropEndWhile_eq, ← List.map_reverse, dropWhile_map p f hf, List.map_reverse]

/-- characters that may appear in a standardised keyword apart from the single space -/
def good (c : Char) : Bool := !isCollapse c && c.toLower == c

/-- normal form: lower case, no special character except single spaces, none directly after `prev` -/
def nf : Bool → Str → Bool
  | _, [] => true
  | prev, c :: cs => if c == ' ' then !prev && nf true cs else good c && nf false cs

theorem nf_collapse (prev : Bool) (t : Str) : nf prev (collapse prev t) = true := by
  induction t generalizing prev with
  | nil => rfl
  | cons c cs ih =>
    rw [collapse]
    by_cases hc : isCollapse c = true
    · rw [if_pos hc]
      cases prev
      · simp [nf, ih]
      · simp [ih]
    · rw [if_neg hc]
      have hc' : isCollapse c = false := by simpa using hc
      have hl : isCollapse c.toLower = false := by rw [isCollapse_toLower, hc']
      have hne : (c.toLower == ' ') = false := by
        simp only [beq_eq_false_iff_ne, ne_eq]
        intro e
        rw [e, isCollapse_space] at hl
        exact absurd hl (by decide)
      simp [nf, hne, good, hl, toLower_toLower, ih]

theorem collapse_of_nf (prev : Bool) (o : Str) (h : nf prev o = true) : collapse prev o = o := by
  induction o generalizing prev with
  | nil => rfl
  | cons c cs ih =>
    rw [nf] at h
    rw [collapse]
    by_cases hc : (c == ' ') = true
    · rw [if_pos hc] at h
      have hcs : c = ' ' := by simpa using hc
      subst hcs
      simp only [Bool.and_eq_true, Bool.not_eq_eq_eq_not, Bool.not_true] at h
      rw [if_pos isCollapse_space, h.1]
      simp [ih true h.2]
    · rw [if_neg hc] at h
      simp only [good, Bool.and_eq_true, Bool.not_eq_eq_eq_not, Bool.not_true, beq_iff_eq] at h
      rw [if_neg (by simp [h.1.1]), h.1.2, ih false h.2]

theorem nf_noNL (prev : Bool) (k : Str) (h : nf prev k = true) : '\n' ∉ k := by
  induction k generalizing prev with
  | nil => simp
  | cons c cs ih =>
    rw [nf] at h
    intro hm
    rcases List.mem_cons.mp hm with e | e
    · subst e
      simp [good, isCollapse, isCSpace] at h
    · by_cases hc : (c == ' ') = true
      · rw [if_pos hc] at h
        simp only [Bool.and_eq_true] at h
        exact ih true h.2 e
      · rw [if_neg hc] at h
        simp only [Bool.and_eq_true] at h
        exact ih false h.2 e

/-- the flag `previous_was_white_space` after processing `a` -/
def flagAfter : Bool → Str → Bool
  | prev, [] => prev
  | _, c :: cs => flagAfter (isCollapse c) cs

theorem collapse_append (prev : Bool) (a b : Str) :
    collapse prev (a ++ b) = collapse prev a ++ collapse (flagAfter prev a) b := by
  induction a generalizing prev with
  | nil => simp [collapse, flagAfter]
  | cons c cs ih =>
    rw [List.cons_append, collapse, collapse, flagAfter]
    by_cases hc : isCollapse c = true
    · rw [if_pos hc, if_pos hc, hc]
      cases prev <;> simp [ih]
    · have hc' : isCollapse c = false := by simpa using hc
      rw [if_neg hc, if_neg hc, hc']
      simp [ih]

theorem collapse_snoc (prev : Bool) (t : Str) (c : Char) (h : isCollapse c = false) :
    collapse prev (t ++ [c]) = collapse prev t ++ [c.toLower] := by
  rw [collapse_append]
  simp [collapse, h]

theorem collapse_map (f : Char → Char) (h1 : ∀ c, isCollapse (f c) = isCollapse c) (h2 : ∀ c, (f c).toLower = c.toLower)
    (prev : Bool) (t : Str) : collapse prev (t.map f) = collapse prev t := by
  induction t generalizing prev with
  | nil => rfl
  | cons c cs ih =>
    rw [List.map_cons, collapse, collapse, h1, h2]
    simp [ih]

/-- the keyword without the white space at its two ends: what `standardise` collapses -/
def trimEnds (k : Str) : Str := dropEndWhile isTrimWs (k.dropWhile isTrimWs)

theorem standardise_eq (k : Str) : standardise k = collapse false (trimEnds k) := rfl

theorem nf_standardise (k : Str) : nf false (standardise k) = true := nf_collapse false _

/-- `isspace` characters other than blank and tab do not occur (they are collapsed but not trimmed by the C++) -/
def NoCtl (k : Str) : Prop := ∀ c ∈ k, isCollapse c = isTrimWs c
instance (k : Str) : Decidable (NoCtl k) := by unfold NoCtl; infer_instance

theorem trimEnds_head (k : Str) : trimEnds k = [] ∨ ∃ c cs, trimEnds k = c :: cs ∧ isTrimWs c = false := by
  unfold trimEnds
  cases h : k.dropWhile isTrimWs with
  | nil =>
    left
    rfl
  | cons c cs =>
    have hc : isTrimWs c = false := by
      have := List.head_dropWhile_not isTrimWs (l := k) (by simp [h])
      simpa [h] using this
    rw [dropEndWhile_cons]
    right
    refine ⟨c, dropEndWhile isTrimWs cs, ?_, hc⟩
    simp [hc]

theorem mem_trimEnds (k : Str) (c : Char) (h : c ∈ trimEnds k) : c ∈ k :=
  (List.dropWhile_sublist isTrimWs).subset ((dropEndWhile_sublist _ _).subset h)

theorem trimEnds_standardise (k : Str) (hk : NoCtl k) : trimEnds (standardise k) = standardise k := by
  rw [standardise_eq]
  rcases trimEnds_head k with h | ⟨c, cs, h, hc⟩
  · rw [h]
    rfl
  · rcases dropEndWhile_nil_or_snoc isTrimWs (k.dropWhile isTrimWs) with h' | ⟨x, d, h', hd⟩
    · rw [trimEnds, h'] at h
      cases h
    · have hcc : isCollapse c = false := by rw [hk c (mem_trimEnds k c (h ▸ List.mem_cons_self)), hc]
      have hdd : isCollapse d = false := by rw [hk d (mem_trimEnds k d (by rw [trimEnds, h']; simp)), hd]
      have e1 : (collapse false (trimEnds k)).dropWhile isTrimWs = collapse false (trimEnds k) := by
        rw [h, collapse, if_neg (by simp [hcc]), List.dropWhile_cons_of_neg (by simp [isTrimWs_toLower, hc])]
      have e2 : dropEndWhile isTrimWs (collapse false (trimEnds k)) = collapse false (trimEnds k) := by
        rw [trimEnds, h', collapse_snoc _ _ _ hdd, dropEndWhile_snoc_neg _ _ _ (by rw [isTrimWs_toLower, hd])]
      exact (congrArg _ e1).trans e2

theorem standardise_map (f : Char → Char) (h0 : ∀ c, isTrimWs (f c) = isTrimWs c)
    (h1 : ∀ c, isCollapse (f c) = isCollapse c) (h2 : ∀ c, (f c).toLower = c.toLower) (k : Str) :
    standardise (k.map f) = standardise k := by
  unfold standardise
  rw [dropWhile_map _ _ h0, dropEndWhile_map _ _ h0, collapse_map f h1 h2]

theorem standardise_toLower (k : Str) : standardise (k.map Char.toLower) = standardise k :=
  standardise_map Char.toLower isTrimWs_toLower isCollapse_toLower toLower_toLower k

theorem standardise_case (a b : Str) (h : a.map Char.toLower = b.map Char.toLower) :
    standardise a = standardise b := by
  rw [← standardise_toLower a, ← standardise_toLower b, h]

theorem dropEndWhile_all (p : Char → Bool) (w : Str) (h : ∀ c ∈ w, p c = true) : dropEndWhile p w = [] := by
  rw [dropEndWhile_eq, ← List.append_nil w.reverse, List.dropWhile_append_of_pos fun c hc => h c (List.mem_reverse.mp hc)]
  rfl

theorem collapse_ws_block (f : Bool) (w : Str) (h : ∀ c ∈ w, isCollapse c = true) (hne : w ≠ []) :
    collapse f w = (if f then [] else [' ']) ∧ flagAfter f w = true := by
  induction w generalizing f with
  | nil => exact absurd rfl hne
  | cons c cs ih =>
    have hc := h c List.mem_cons_self
    rw [collapse, if_pos hc, flagAfter, hc]
    cases cs with
    | nil => cases f <;> simp [collapse, flagAfter]
    | cons d ds =>
      have := ih true (fun x hx => h x (List.mem_cons_of_mem _ hx)) (by simp)
      cases f <;> simp [this.1, this.2]

theorem standardise_ws_run (a b w : Str) (hw : ∀ c ∈ w, isTrimWs c = true) (hne : w ≠ []) :
    standardise (a ++ w ++ b) = standardise (a ++ ' ' :: b) := by
  have hsp : ∀ c ∈ [' '], isTrimWs c = true := List.forall_mem_singleton.mpr rfl
  -- the idea: a closed form of `standardise (a ++ v ++ b)` in which the run `v` does not occur; both sides are instances of it
  have key : ∀ (v : Str), (∀ c ∈ v, isTrimWs c = true) → v ≠ [] →
      standardise (a ++ (v ++ b)) =
        if (a.dropWhile isTrimWs).isEmpty then collapse false (dropEndWhile isTrimWs (b.dropWhile isTrimWs))
        else if (dropEndWhile isTrimWs b).isEmpty then collapse false (dropEndWhile isTrimWs (a.dropWhile isTrimWs))
        else collapse false (a.dropWhile isTrimWs)
              ++ ((if flagAfter false (a.dropWhile isTrimWs) then [] else [' ']) ++ collapse true (dropEndWhile isTrimWs b)) := by
    intro v hv hvne
    unfold standardise
    rw [List.dropWhile_append]
    by_cases ha : (a.dropWhile isTrimWs).isEmpty = true
    · rw [if_pos ha, if_pos ha, List.dropWhile_append_of_pos hv]
    · rw [if_neg ha, if_neg ha, dropEndWhile_append, dropEndWhile_append]
      by_cases hb : (dropEndWhile isTrimWs b).isEmpty = true
      · rw [if_pos hb, if_pos hb, dropEndWhile_all _ _ hv]
        simp
      · rw [if_neg hb, if_neg hb]
        have hvb : (v ++ dropEndWhile isTrimWs b).isEmpty = false := by
          cases v with
          | nil => exact absurd rfl hvne
          | cons x xs => rfl
        rw [hvb]
        simp only [Bool.false_eq_true, if_false]
        rw [collapse_append, collapse_append]
        have := collapse_ws_block (flagAfter false (a.dropWhile isTrimWs)) v
          (fun c hc => isCollapse_of_isTrimWs (hv c hc)) hvne
        rw [this.1, this.2]
  have e1 : a ++ w ++ b = a ++ (w ++ b) := by simp
  have e2 : a ++ ' ' :: b = a ++ ([' '] ++ b) := by simp
  rw [e1, e2, key w hw hne, key [' '] hsp (by simp)]

theorem standardise_ws_lead (w k : Str) (hw : ∀ c ∈ w, isTrimWs c = true) : standardise (w ++ k) = standardise k := by
  unfold standardise
  rw [List.dropWhile_append_of_pos hw]

theorem standardise_ws_trail (w k : Str) (hw : ∀ c ∈ w, isTrimWs c = true) : standardise (k ++ w) = standardise k := by
  unfold standardise
  rw [List.dropWhile_append]
  by_cases hk : (k.dropWhile isTrimWs).isEmpty = true
  · rw [if_pos hk]
    have : w.dropWhile isTrimWs = [] := by
      have := List.dropWhile_append_of_pos (p := isTrimWs) (l₂ := []) hw
      simpa using this
    rw [this]
    have hk' : k.dropWhile isTrimWs = [] := by simpa using hk
    rw [hk']
  · rw [if_neg hk, dropEndWhile_append, dropEndWhile_all _ _ hw]
    rfl

theorem standardise_snoc_space (k : Str) : standardise (k ++ [' ']) = standardise k :=
  standardise_ws_trail [' '] k (List.forall_mem_singleton.mpr rfl)

/-- "the keywords differ only in case and in the runs of the characters blank, tab, `_`, `!`" -/
inductive KeyEquiv : Str → Str → Prop
  | refl (a : Str) : KeyEquiv a a
  | symm {a b : Str} : KeyEquiv a b → KeyEquiv b a
  | trans {a b c : Str} : KeyEquiv a b → KeyEquiv b c → KeyEquiv a c
  /-- same length, position-wise the same letter up to case -/
  | case {a b : Str} : a.map Char.toLower = b.map Char.toLower → KeyEquiv a b
  /-- a non-empty run of white-space characters in the middle replaced by another non-empty run -/
  | run (a b w w' : Str) : (∀ c ∈ w, isTrimWs c = true) → w ≠ [] → (∀ c ∈ w', isTrimWs c = true) → w' ≠ [] →
      KeyEquiv (a ++ w ++ b) (a ++ w' ++ b)
  /-- white space added in front -/
  | lead (w k : Str) : (∀ c ∈ w, isTrimWs c = true) → KeyEquiv (w ++ k) k
  /-- white space added at the end -/
  | trail (w k : Str) : (∀ c ∈ w, isTrimWs c = true) → KeyEquiv (k ++ w) k

theorem standardise_eq_of_keyEquiv {a b : Str} (h : KeyEquiv a b) : standardise a = standardise b := by
  induction h with
  | refl a => rfl
  | symm _ ih => exact ih.symm
  | trans _ _ ih1 ih2 => exact ih1.trans ih2
  | case h => exact standardise_case _ _ h
  | run a b w w' hw hne hw' hne' => rw [standardise_ws_run a b w hw hne, standardise_ws_run a b w' hw' hne']
  | lead w k hw => exact standardise_ws_lead w k hw
  | trail w k hw => exact standardise_ws_trail w k hw

end StirVerif.C17
