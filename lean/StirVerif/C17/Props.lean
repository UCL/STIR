/-
C17 — "Text and header input is parsed faithfully or rejected, never mis-handled".
Property theorems over the model of `Model.lean` (KeyParser text core).  All statements are for arbitrary strings /
keymaps / lists (no size bounds).  The memory-safety / allocation clause for the *implementation* is runtime evidence
(sanitizer run of harness/c17_fuzz.cxx); here the corresponding facts are proved for the model's lists only.
-/
import StirVerif.C17.ProofsObject
import StirVerif.C17.ProofsHeader
import StirVerif.C17.ProofsCopy
import StirVerif.C17.ProofsPdfs

namespace StirVerif.C17

/-! ## Keyword matching ignores case and white space as documented -/

/-- `standardise_interfile_keyword` is idempotent — for keywords without the `isspace` characters `\n \v \f \r`,
    which the C++ collapses like white space but does not trim (see `C17_standardise_idempotent_fails`). -/
theorem C17_standardise_idempotent_partial (k : Str) (h : NoCtl k) : standardise (standardise k) = standardise k := by
  rw [standardise_eq (standardise k), trimEnds_standardise k h]
  exact collapse_of_nf false _ (nf_standardise k)

/-- negative witness: with a leading carriage return the standardised keyword keeps a leading blank, which a second
    standardisation removes (`isspace` is used in the loop but `" \t_!"` for trimming). -/
theorem C17_standardise_idempotent_fails :
    standardise (standardise ['\r', 'a']) ≠ standardise ['\r', 'a'] := by decide +kernel

/-- a standardised keyword is in normal form: lower case, no `_`, `!`, tab, … , single blanks only -/
theorem C17_standardise_normal_form (k : Str) : nf false (standardise k) = true := nf_standardise k

/-- "keyword matching ignores case": keywords that agree after lower-casing every character standardise equal -/
theorem C17_standardise_case_insensitive (a b : Str) (h : a.map Char.toLower = b.map Char.toLower) :
    standardise a = standardise b := standardise_case a b h

/-- "… and white space": any non-empty run of blank, tab, `_`, `!` inside a keyword is as good as one blank -/
theorem C17_standardise_ws_run (a b w : Str) (hw : ∀ c ∈ w, isTrimWs c = true) (hne : w ≠ []) :
    standardise (a ++ w ++ b) = standardise (a ++ ' ' :: b) := standardise_ws_run a b w hw hne

/-- … and white space in front of or behind the keyword is ignored -/
theorem C17_standardise_ws_ends (w k : Str) (hw : ∀ c ∈ w, isTrimWs c = true) :
    standardise (w ++ k) = standardise k ∧ standardise (k ++ w) = standardise k :=
  ⟨standardise_ws_lead w k hw, standardise_ws_trail w k hw⟩

/-- **standardise_case_ws_insensitive**: keywords that differ only in case and in the runs of white space
    (`KeyEquiv`: the equivalence generated by case changes, replacing a non-empty inner run by another, adding or removing
    white space at the ends) have the same standardised form, hence select the same keymap entry. -/
theorem C17_standardise_case_ws_insensitive {a b : Str} (h : KeyEquiv a b) : standardise a = standardise b :=
  standardise_eq_of_keyEquiv h

/-- … so on a line `keyword := value` the look-up key does not depend on the spelling variant -/
theorem C17_keyword_lookup_insensitive (p : KP) (k k' x : Str) (hk : PlainKey k) (hk' : PlainKey k')
    (h : KeyEquiv k k') : p.keywordOf (k ++ ':' :: '=' :: x) = p.keywordOf (k' ++ ':' :: '=' :: x) := by
  unfold KP.keywordOf
  rw [getKeyword_assign _ _ hk, getKeyword_assign _ _ hk', standardise_eq_of_keyEquiv h]

/-- **keyword splitting round trip**: for a keyword without `:`, `[`, `=` the line `key := value` gives back the
    standardised keyword, index 0 and the value trimmed of blanks and tabs (no value if only blanks follow). -/
theorem C17_split_roundtrip (key value : Str) (hk : PlainKey key) :
    standardise (getKeyword (key ++ assign ++ value)) = standardise key ∧
    getIndex (key ++ assign ++ value) = 0 ∧
    getStringParam (key ++ assign ++ value)
      = if (value.dropWhile isBlank).isEmpty then none else some (trimBlanks value) := by
  refine ⟨?_, getIndex_line key value hk, ?_⟩
  · rw [assign_line_eq, getKeyword_assign _ _ (plainKey_snoc_space key hk)]
    exact standardise_snoc_space key
  · rw [getStringParam_of_afterEq (afterEq_line key value fun c h => (hk c h).2.2)]
    have e : (' ' :: value).dropWhile isBlank = value.dropWhile isBlank := by
      rw [List.dropWhile_cons]
      simp [isBlank]
    simp only [trimBlanks, e]

/-- the index of `key[i] …` is `i` (for every index that fits an `int`) -/
theorem C17_index_extracted (key rest : Str) (i : Nat) (hk : PlainKey key) (hi : i ≤ 2147483647) :
    getIndex (key ++ '[' :: (showNat i ++ ']' :: rest)) = i := getIndex_bracket key rest i hk hi

/-! ## Aliases resolve to their target -/

/-- "aliases resolve to their target": `add_alias_key(kw, al)` followed by a look-up of the (standardised) alias gives the
    (standardised) keyword, for ARBITRARY spellings `kw`, `al` of target and alias (both are standardised when the alias is
    registered).  The correspondence run drives the real `add_alias_key` with targets whose spelling differs from the registered
    one and from its standardised form (capitals, `_`, `!`, repeated / leading / trailing blanks). -/
theorem C17_alias_resolves (p : KP) (kw al : Str) :
    (p.addAlias kw al false).resolveAlias (standardise al) = standardise kw ∧
    (assocFind p.aliases (standardise al) = none →
      (p.addAlias kw al true).resolveAlias (standardise al) = standardise kw) :=
  ⟨resolveAlias_addAlias p kw al false nofun, fun h => resolveAlias_addAlias p kw al true fun _ => h⟩

/-- **alias, end to end** ("keyword matching ignores case and white space as documented, aliases resolve to their target"):
    a keyword registered in any spelling `kw`, an alias registered by `add_alias_key(kw', al)` where `kw'` is any spelling
    of the same keyword, and a line `al' := …` using any spelling `al'` of the alias: the line is looked up under the
    registered (standardised) keyword, and the keymap holds the registered entry under that key — so the line sets the
    target's variable.  (A deprecated alias is consulted after the non-deprecated ones: `hfresh`.) -/
theorem C17_alias_line_resolves (p : KP) (kw kw' al al' x : Str) (a : Action) (v : Var) (dep : Bool)
    (hkw : KeyEquiv kw kw') (hal : KeyEquiv al al') (hp : PlainKey al')
    (hfresh : dep = true → assocFind p.aliases (standardise al) = none) :
    ((p.addKey kw a v).addAlias kw' al dep).keywordOf (al' ++ ':' :: '=' :: x) = standardise kw ∧
    findInKeymap ((p.addKey kw a v).addAlias kw' al dep).kmap (standardise kw)
      = some { key := standardise kw, action := a, var := v } := by
  constructor
  · unfold KP.keywordOf
    rw [getKeyword_assign _ _ hp, ← standardise_eq_of_keyEquiv hal, standardise_eq_of_keyEquiv hkw]
    exact resolveAlias_addAlias _ kw' al dep hfresh
  · have hk : ((p.addKey kw a v).addAlias kw' al dep).kmap
        = addInKeymap p.kmap { key := standardise kw, action := a, var := v } := by
      unfold KP.addAlias KP.addKey
      cases dep <;> rfl
    rw [hk]
    exact findInKeymap_addInKeymap p.kmap { key := standardise kw, action := a, var := v }

/-- one checked instance with the spellings of the library's own TOF alias (`InterfilePDFSHeader`): target registered as
    "Maximum number of (unmashed) TOF time bins", alias "Number of TOF time bins", line spelled `number_of TOF  time bins` -/
example :
    ((({} : KP).addKey "Maximum number of (unmashed) TOF time bins".toList .set (.int (-1))).addAlias
        "Maximum number of (unmashed) TOF time bins".toList "Number of TOF time bins".toList true).parseLine
      "number_of TOF  time bins := 5".toList
    = some ((({} : KP).addKey "Maximum number of (unmashed) TOF time bins".toList .set (.int 5)).addAlias
        "Maximum number of (unmashed) TOF time bins".toList "Number of TOF time bins".toList true) := by decide +kernel

/-! ## Vectorised keys are stored at the index given -/

/-- `assign_to_list`: for an index `i ≠ 0` the value goes to element `i-1` if `1 ≤ i ≤ size`; otherwise `error()`
    (negative `i` included: `static_cast<unsigned>(i)` exceeds every size); the vector is never resized.
    `assign_to_list` is one template for all element types (`α` here): the correspondence run compares it with the code for
    `vector<int>`, `vector<string>`, `vector<vector<int>>` at indices 0, negative, 1..size, size+1, beyond and wrapping
    (`atoi`), and the harness oracle evaluates the same statement on the implementation for the other five vectorised types
    (`unsigned`, `unsigned long`, `float`, `double`, `vector<double>`). -/
theorem C17_vectorised_stored_at_index {α : Type} (l : List α) (x : α) (i : Int) (hi : i ≠ 0) :
    assignToList l x i = (if 1 ≤ i ∧ i ≤ l.length then some (l.set (i.toNat - 1) x) else none) ∧
    ∀ l', assignToList l x i = some l' →
      l'.length = l.length ∧ l'[i.toNat - 1]? = some x ∧ ∀ j, j ≠ i.toNat - 1 → l'[j]? = l[j]? := by
  have e : (0 ≤ i ∧ i ≤ (l.length : Int)) ↔ (1 ≤ i ∧ i ≤ (l.length : Int)) := by omega
  refine ⟨by rw [assignToList_eq]; simp only [e], fun l' h => ?_⟩
  obtain ⟨hr, rfl⟩ := assignToList_eq_some.mp h
  exact ⟨List.length_set, by rw [List.getElem?_set_self]; omega, fun j hj => List.getElem?_set_ne (Ne.symm hj)⟩

/-- end to end for a line as printed by `parameter_info`: `key[i] := n` stores `n` in element `i` (1-based) -/
theorem C17_vectorised_line (k : Str) (hk : PlainKey k) (i : Nat) (hi0 : 1 ≤ i) (hi : i ≤ 2147483647)
    (l0 : List Int) (n : Int) (hn : InIntRange n) :
    setVariable (.vInt l0) (valueFor (.vInt l0) (indexedLine k i (showInt n))) (getIndex (indexedLine k i (showInt n)))
      = if i ≤ l0.length then some (.vInt (l0.set (i - 1) n)) else none :=
  setVariable_indexed .vInt .int k hk i hi0 hi l0 n hn rfl rfl nofun fun _ => rfl

/-- the same for a vectorised key of strings: `key[i] := s` stores `s` (a string that survives printing, `CleanStr`) in element `i` -/
theorem C17_vectorised_line_string (k : Str) (hk : PlainKey k) (i : Nat) (hi0 : 1 ≤ i) (hi : i ≤ 2147483647)
    (l0 : List Str) (s : Str) (hs : CleanStr s) :
    setVariable (.vAscii l0) (valueFor (.vAscii l0) (indexedLine k i s)) (getIndex (indexedLine k i s))
      = if i ≤ l0.length then some (.vAscii (l0.set (i - 1) s)) else none :=
  setVariable_indexed .vAscii .ascii k hk i hi0 hi l0 s hs rfl rfl nofun fun _ => rfl

/-- … and for a vectorised key of integer lists: `key[i] := {a, b, c}` stores the list in element `i` -/
theorem C17_vectorised_line_list (k : Str) (hk : PlainKey k) (i : Nat) (hi0 : 1 ≤ i) (hi : i ≤ 2147483647)
    (l0 : List (List Int)) (l : List Int) (hl : ∀ x ∈ l, InIntRange x) :
    setVariable (.vInts l0) (valueFor (.vInts l0) (indexedLine k i (valueText (.ints l))))
        (getIndex (indexedLine k i (valueText (.ints l))))
      = if i ≤ l0.length then some (.vInts (l0.set (i - 1) l)) else none :=
  setVariable_indexed .vInts .ints k hk i hi0 hi l0 l hl rfl rfl nofun fun _ => rfl

/-- a vectorised key without index / a plain key with an index is rejected (`error()`), never stored somewhere -/
theorem C17_index_mismatch_rejected (v : Var) (p : Param) (hp : p ≠ .absent) :
    (v.vectorised = true → setVariable v p 0 = none) ∧
    (v.vectorised = false → ∀ i : Int, i ≠ 0 → setVariable v p i = none) := by
  constructor
  · intro hv
    cases v <;> simp [Var.vectorised] at hv <;> simp [setVariable, setScalar, hp]
  · intro hv i hi
    cases v <;> simp [Var.vectorised] at hv <;> simp [setVariable, setIndexed, hp, hi]

/-! ## Print → parse round trip -/

/-- `ostream << int` followed by `istream >> int` -/
theorem C17_int_roundtrip (v : Int) (hv : InIntRange v) (rest : Str) (h : NoDigitHead rest) :
    readInt (showInt v ++ rest) = (some v, rest) := readInt_showInt v hv rest h

/-- `{a, b, c}` of integers: `operator<<` followed by `operator>>` -/
theorem C17_int_list_roundtrip (l : List Int) (hl : ∀ x ∈ l, InIntRange x) :
    readIntList (intercalateStr sepCS (l.map showInt) ++ ['}']) = some l := readIntList_print l hl

/-- `{a, b, c}` of strings (elements without `,`/`}`, not empty, no blank or tab at either end) -/
theorem C17_string_list_roundtrip (l : List Str) (hl : ∀ e ∈ l, CleanElem e) :
    readStringList (intercalateStr sepCS l ++ ['}']) = l := readStringList_print l hl

/-- **print_parse_roundtrip (one key)**: the line that `parameter_info` prints for a non-vectorised key of kind
    int / bool / string / list of ints / list of strings, read back by `parse_value_in_line` and `set_variable` into a
    variable of the same kind, stores exactly the printed value — whatever that variable held before. -/
theorem C17_print_parse_roundtrip_value (k : Str) (hk : PlainKey k) (v0 v : Var) (hv : Printable v)
    (hs : SameKind v0 v) (hnv : v.vectorised = false) :
    setVariable v0 (valueFor v0 (k ++ assign ++ valueText v)) (getIndex (k ++ assign ++ valueText v)) = some v :=
  setVariable_printed k hk v0 v hv hs hnv

/-- … and through the keymap: parsing the printed line of an entry updates that entry to the printed value and
    nothing else (`Canonical`: the key is standardised, free of `:[=` and not itself an alias). -/
theorem C17_print_parse_roundtrip_line (p : KP) (e : Entry) (v : Var) (hc : Canonical p e.key)
    (hf : findInKeymap p.kmap e.key = some e) (ha : e.action = .set)
    (hv : Printable v) (hs : SameKind e.var v) (hnv : v.vectorised = false) :
    p.parseLine (e.key ++ assign ++ valueText v) = some { p with kmap := setEntry p.kmap e.key v } := by
  rw [parseLine_of_find p e _ (keywordOf_line p e.key _ hc) hf, ha]
  simp only [setVariable_printed e.key hc.2.1 e.var v hv hs hnv, Option.map_some]

/-- an empty string value does not survive print → parse (the reason for `s ≠ []` in `CleanStr`, hence in `Printable`): it is
    printed as `key := `, which has "no value", so `set_variable` returns early and the receiving variable keeps what it held
    (here `x`). -/
theorem C17_roundtrip_empty_string_fails :
    setVariable (.ascii ['x']) (valueFor (.ascii ['x']) ("k".toList ++ assign ++ valueText (.ascii [])))
      (getIndex ("k".toList ++ assign ++ valueText (.ascii []))) = some (.ascii ['x']) := by decide +kernel

/-- The round trip for a whole object without further hypotheses (`(p0.parse p.parameterInfo).kp.kmap = p.kmap` for every keymap `p` of
    printable values and every `p0` of the same shape).  In this form it is FALSE of the model
    (`C17_print_parse_roundtrip_object_fails`): three hypotheses are missing, each of them needed
    (`C17_roundtrip_object_without_…_fails`); with them it is a theorem (`C17_print_parse_roundtrip_object_partial`), proved
    by composing the line theorems above over the text of `parameter_info`, through the `read_line` stream model and the
    parse loop (`ProofsObject.lean`).  The statement is kept as a `Prop` so that the negative result can refer to it. -/
def C17_print_parse_roundtrip_object : Prop :=
  ∀ (p p0 : KP), (∀ e ∈ p.kmap, (e.action = .set → Printable e.var) ∧ Canonical p e.key) →
    p0.kmap.map (·.key) = p.kmap.map (·.key) → p0.kmap.map (·.action) = p.kmap.map (·.action) →
    (∀ e ∈ p.kmap, ∀ e0 ∈ p0.kmap, e0.key = e.key → SameKind e0.var e.var) →
    p0.aliases = p.aliases → p0.depAliases = p.depAliases →
    (p.kmap.map (·.key)).Nodup → (∃ s b t, p.kmap = s :: (b ++ [t]) ∧ s.action = .start ∧ t.action = .stop ∧
      ∀ e ∈ b, e.action = .set ∨ e.action = .ignore) →
    (p0.parse p.parameterInfo).tag = .ok true ∧ (p0.parse p.parameterInfo).kp.kmap = p.kmap

/-- one checked instance of the whole-object round trip (every modelled kind of key, different values in the receiving
    object), evaluated by the kernel -/
example :
    let a := exampleKP 42 true "hello world" [1, -2, 3] ["x", "y z"] [7, 8, 9] ["p", "q r", "s"] [[1], [], [2, 3]]
    let b := exampleKP 0 false "dflt" [] ["k"] [0, 0, 0] ["", "", ""] [[9], [9], [9]]
    (b.parse a.parameterInfo).tag = .ok true ∧ (b.parse a.parameterInfo).kp.kmap = a.kmap := by
  decide +kernel

/-- **print_parse_roundtrip (whole object)**: for a parsing object `p` with one start key, a body of `set_variable` and
    ignored keys, one stop key, unique canonical keys and `Printable` values, and a receiving object `p0` with the same
    keys, call-backs, kinds of variables (vectorised keys: same sizes) and aliases — whatever values `p0` holds —
    `p0.parse(p.parameter_info())` returns `true` and leaves in `p0` exactly the keymap of `p`, under three hypotheses that
    `C17_print_parse_roundtrip_object` lacks:
    * `ValuesLineSafe p`: string values are `OneLine` (no line feed inside, last character neither `\` — the continuation
      character of `read_line` — nor a carriage return, which `read_line` strips), elements of string lists contain no line
      feed, and vectorised keys have at most 2147483647 elements (`get_index` reads the printed index with `atoi` into an
      `int`: index 2^31 wraps to a negative number and `assign_to_list` throws);
    * `MarkersPlain p`: start, stop and ignored keys carry no variable (`KeyArgument::NONE`, as `add_start_key`,
      `add_stop_key`, `ignore_key` register them) — parsing never writes to them, so `SameKind` alone cannot make the two
      objects agree there;
    * `EmptyKeyNotStop p`: the empty keyword is not (an alias of) the stop key — `operator<<(ostream&, vector)` ends in
      `std::endl` and `parameter_info` adds its own, so every printed list is followed by an EMPTY line, which `parse`
      looks up under the keyword "" (used only if a list or a vectorised key is printed).
    All three hold for every object built through the registration API from values that fit on a line. -/
theorem C17_print_parse_roundtrip_object_partial (p p0 : KP)
    (hv : ∀ e ∈ p.kmap, (e.action = .set → Printable e.var) ∧ Canonical p e.key)
    (hkeys : p0.kmap.map (·.key) = p.kmap.map (·.key)) (hacts : p0.kmap.map (·.action) = p.kmap.map (·.action))
    (hkind : ∀ e ∈ p.kmap, ∀ e0 ∈ p0.kmap, e0.key = e.key → SameKind e0.var e.var)
    (hal : p0.aliases = p.aliases) (hdal : p0.depAliases = p.depAliases)
    (hnd : (p.kmap.map (·.key)).Nodup)
    (hshape : ∃ s b t, p.kmap = s :: (b ++ [t]) ∧ s.action = .start ∧ t.action = .stop ∧
      ∀ e ∈ b, e.action = .set ∨ e.action = .ignore)
    (hLS : ValuesLineSafe p) (hMP : MarkersPlain p) (hES : EmptyKeyNotStop p) :
    (p0.parse p.parameterInfo).tag = .ok true ∧ (p0.parse p.parameterInfo).kp.kmap = p.kmap := by
  obtain ⟨s, b, t, hm, hs, ht, hb⟩ := hshape
  have hsm : s ∈ p.kmap := by
    rw [hm]
    exact List.mem_cons_self
  have htm : t ∈ p.kmap := by
    rw [hm]
    simp
  have hbm : ∀ e ∈ b, e ∈ p.kmap := by
    intro e he
    rw [hm]
    simp [he]
  have hnd' : (s.key :: (b.map (·.key) ++ [t.key])).Nodup := by simpa [hm] using hnd
  obtain ⟨hs', hbt⟩ := List.nodup_cons.mp hnd'
  obtain ⟨hbnd, -, hdisj⟩ := List.nodup_append.mp hbt
  have hsb : s.key ∉ b.map (·.key) := fun h => hs' (List.mem_append_left _ h)
  have htb : t.key ∉ b.map (·.key) := fun h => hdisj _ h _ (List.mem_singleton.mpr rfl) rfl
  have halign : Aligned p0.kmap p.kmap := aligned_of_maps hkeys hacts
  have hfind : ∀ e ∈ p.kmap, ∃ e0, findInKeymap p0.kmap e.key = some e0 ∧ e0.action = e.action ∧ SameKind e0.var e.var := fun e he =>
    let ⟨e0, hm0, hf, ha⟩ := halign.find hnd he
    ⟨e0, hf, ha, hkind e he e0 hm0 (key_of_find hf)⟩
  let q : KP := { p0 with parsing := true }
  have hcan : ∀ k, Canonical p k → Canonical q k := fun k h => canonical_congr q p hal hdal k h
  have hcan0 : ∀ k, Canonical p k → Canonical p0 k := fun k h => canonical_congr p0 p hal hdal k h
  have hbok : ∀ r : KP, (∀ k, Canonical p k → Canonical r k) → ∀ e ∈ b, BodyEntryOK r e := fun r hr e he =>
    ⟨hr _ (hv e (hbm e he)).2, hb e he, fun ha => ⟨(hv e (hbm e he)).1 ha, hLS e (hbm e he) ha⟩, hMP e (hbm e he)⟩
  have hready : Ready q := ⟨rfl, hkeys ▸ hnd, fun x hx hxa =>
    resolveAlias_congr q p hal hdal [] ▸ halign.notStop hES x hx hxa⟩
  have hbody := runLines_body b q hready (hbok q hcan) hbnd fun e he => hfind e (hbm e he)
  let Q : KP := { q with kmap := setAll b p0.kmap }
  have hstop : runLines KP.parseLine Q [t.key ++ assign ++ []] = some { Q with parsing := false } := by
    obtain ⟨t0, hf, ha, -⟩ := hfind t htm
    apply runLines_one _ _ _ _ rfl
    rw [parseLine_of_find Q t0 _ (keywordOf_line Q t.key [] (hcan _ (hv t htm).2)) ((find_setAll_of_not_mem htb _).trans hf), ha, ht]
  have hrun : runLines KP.parseLine q (b.flatMap entryLines ++ [t.key ++ assign ++ []]) = some { Q with parsing := false } := by
    rw [runLines_append _ hbody]
    exact hstop
  have hgood : ∀ l ∈ b.flatMap entryLines ++ [t.key ++ assign ++ []], GoodLine l := by
    intro l hl
    rcases List.mem_append.mp hl with h | h
    · obtain ⟨e, he, hle⟩ := List.mem_flatMap.mp h
      exact goodLine_entryLines p e (hbok p (fun _ h => h) e he) l hle
    · simp only [List.mem_cons, List.not_mem_nil, or_false] at h
      subst h
      exact goodLine_assign _ _ (canonical_noNL p _ (hv t htm).2) oneLine_nil
  have htext := parameterInfo_eq p s t b hm hs ht (hbok p (fun _ h => h))
  generalize hlines : b.flatMap entryLines ++ [t.key ++ assign ++ []] = lines at htext hrun hgood
  -- the first line starts the parsing; the loop is `runLines` over the other lines
  have hfirst : p0.parseLine (s.key ++ [' ', ':', '=']) = some q := by
    obtain ⟨s0, hf, ha, -⟩ := hfind s hsm
    rw [parseLine_of_find p0 s0 _ (keywordOf_assign p0 s.key [] (hcan0 _ (hv s hsm).2)) hf, ha, hs]
  have hparse : p0.parse p.parameterInfo = ⟨.ok true, { Q with parsing := false }⟩ := by
    rw [← parseWith_parseLine, htext, ← textOf_cons]
    exact parseWith_lines KP.parseLine p0 q _ _ lines (goodLine_startLine _ (canonical_noNL p _ (hv s hsm).2)) hgood hfirst rfl hrun rfl
  rw [hparse]
  -- under every key the variable is the printed one: set by its lines, or none on both sides for the start and the stop key
  have hmarker : ∀ e ∈ p.kmap, e.key ∉ b.map (·.key) → e.action ≠ .set →
      ∃ e0, findInKeymap (setAll b p0.kmap) e.key = some e0 ∧ e0.var = e.var := fun e he hk ha =>
    let ⟨e0, hf, _, hsk⟩ := hfind e he
    ⟨e0, (find_setAll_of_not_mem hk _).trans hf, by rw [hMP e he ha] at hsk ⊢; exact sameKind_none hsk⟩
  refine ⟨rfl, (halign.setAll b).eq_of_vars hnd fun e he => ?_⟩
  have he' := he
  rw [hm] at he'
  simp only [List.mem_cons, List.mem_append, List.not_mem_nil, or_false] at he'
  rcases he' with rfl | heb | rfl
  · exact hmarker _ he hsb (by rw [hs]; nofun)
  · obtain ⟨e0, hf, -, -⟩ := hfind e he
    exact ⟨_, find_setAll_of_mem hbnd heb _ hf, rfl⟩
  · exact hmarker _ he htb (by rw [ht]; nofun)

/-- the pieces of that composition: (1) `parameter_info` is one start line, the lines of the body entries
    (`entryLines`: `key := value`, an empty line after each list, `key[i] := value` per element of a vectorised key) and the
    stop line, each ended by a line feed; (2) every one of these lines is read back unchanged by `read_line` and not
    skipped (`GoodLine`). -/
theorem C17_parameter_info_lines (p : KP) (s t : Entry) (b : List Entry) (hm : p.kmap = s :: (b ++ [t]))
    (hs : s.action = .start) (ht : t.action = .stop) (hb : ∀ e ∈ b, BodyEntryOK p e) :
    p.parameterInfo = (s.key ++ [' ', ':', '=']) ++ '\n' :: textOf (b.flatMap entryLines ++ [t.key ++ assign ++ []]) ∧
    ∀ e ∈ b, ∀ l ∈ entryLines e, GoodLine l :=
  ⟨parameterInfo_eq p s t b hm hs ht hb, fun e he => goodLine_entryLines p e (hb e he)⟩

/-- `read_line` on a `OneLine` text followed by a line feed returns that text and leaves the rest of the stream -/
theorem C17_read_line_one_line (l rest : Str) (h : OneLine l) :
    readLine { rest := l ++ '\n' :: rest } = .line l { rest := rest } := readLine_line l rest h

/-- each of the three extra hypotheses is needed — objects that satisfy every other hypothesis of the theorem and do not
    come back.  (1) without `ValuesLineSafe`: a string value with a line feed inside -/
theorem C17_roundtrip_object_without_line_safe_fails :
    ∃ p p0, RoundTripHyps p p0 ∧ MarkersPlain p ∧ EmptyKeyNotStop p ∧ (p0.parse p.parameterInfo).kp.kmap ≠ p.kmap :=
  ⟨frameKP [("k", .set, .ascii "a\nb".toList)], frameKP [("k", .set, .ascii "z".toList)],
    by decide +kernel⟩

/-- … the other clauses of `ValuesLineSafe`: a string ending in the continuation character swallows the next line (here the
    stop line: the value read back is `ae :=`), a trailing carriage return is stripped, a line feed in a list element cuts
    the list short -/
example : ((frameKP [("k", .set, .ascii "z".toList)]).parse (frameKP [("k", .set, .ascii "a\\".toList)]).parameterInfo).kp.kmap
    = (frameKP [("k", .set, .ascii "ae :=".toList)]).kmap := by decide +kernel
example : ((frameKP [("k", .set, .ascii "z".toList)]).parse (frameKP [("k", .set, .ascii "a\r".toList)]).parameterInfo).kp.kmap
    = (frameKP [("k", .set, .ascii "a".toList)]).kmap := by decide +kernel
example : ((frameKP [("k", .set, .strs [])]).parse (frameKP [("k", .set, .strs ["a\nb".toList])]).parameterInfo).kp.kmap
    = (frameKP [("k", .set, .strs ["a".toList])]).kmap := by decide +kernel

/-- … and the size clause: the line that `parameter_info` prints for element 2^31 of a vectorised key, `k[2147483648] := 1`,
    has index -2^31 after `atoi` and the conversion to `int`, and `set_variable` throws (an object of that size cannot be
    evaluated here, so this clause has a line-level witness only) -/
example : indexedLine ['k'] 2147483648 (showInt 1) = "k[2147483648] := 1".toList ∧
    getIndex "k[2147483648] := 1".toList = -2147483648 ∧
    setVariable (.vInt [0]) (valueFor (.vInt [0]) "k[2147483648] := 1".toList) (getIndex "k[2147483648] := 1".toList) = none := by
  decide

/-- (2) without `MarkersPlain`: an ignored key that carries a variable keeps the receiving object's value -/
theorem C17_roundtrip_object_without_markers_plain_fails :
    ∃ p p0, RoundTripHyps p p0 ∧ ValuesLineSafe p ∧ EmptyKeyNotStop p ∧ (p0.parse p.parameterInfo).kp.kmap ≠ p.kmap :=
  ⟨frameKP [("g", .ignore, .int 1)], frameKP [("g", .ignore, .int 2)],
    by decide +kernel⟩

/-- (3) without `EmptyKeyNotStop`: with the empty string as stop key, the empty line after the printed list `k := {1}`
    stops the parsing, and `j := 5` is never read -/
theorem C17_roundtrip_object_without_empty_key_not_stop_fails :
    ∃ p p0, RoundTripHyps p p0 ∧ ValuesLineSafe p ∧ MarkersPlain p ∧ (p0.parse p.parameterInfo).kp.kmap ≠ p.kmap :=
  ⟨frameKP [("k", .set, .ints [1]), ("j", .set, .int 5)] "", frameKP [("k", .set, .ints []), ("j", .set, .int 0)] "",
    by decide +kernel⟩

/-- so `C17_print_parse_roundtrip_object`, the round trip without the three hypotheses, is false: witness (1) meets all its hypotheses.
    A string value with a line feed inside is `Printable` (not empty, no blank at either end) but is printed on two lines; the
    re-parse stores the first half and takes the second for an unknown keyword.
    Object: `s :=` / `k := a⏎b` / `e := `, receiving object of the same shape. -/
theorem C17_print_parse_roundtrip_object_fails : ¬ C17_print_parse_roundtrip_object := by
  intro h
  obtain ⟨p, p0, ⟨hv, hkeys, hacts, hkind, hal, hdal, hnd, hshape⟩, -, -, hne⟩ := C17_roundtrip_object_without_line_safe_fails
  exact hne (h p p0 hv hkeys hacts hkind hal hdal hnd hshape).2

/-- non-vacuity: the object of the checked instance above (every modelled kind of key, an ignored key) and its receiving
    object satisfy all hypotheses of `C17_print_parse_roundtrip_object_partial` … -/
example :
    let a := exampleKP 42 true "hello world" [1, -2, 3] ["x", "y z"] [7, 8, 9] ["p", "q r", "s"] [[1], [], [2, 3]]
    let b := exampleKP 0 false "dflt" [] ["k"] [0, 0, 0] ["", "", ""] [[9], [9], [9]]
    RoundTripHyps a b ∧ ValuesLineSafe a ∧ MarkersPlain a ∧ EmptyKeyNotStop a :=
  exPrinted_hyps

/-- … so the theorem gives the round trip for it (the same fact as the kernel evaluation above) -/
example :
    let a := exampleKP 42 true "hello world" [1, -2, 3] ["x", "y z"] [7, 8, 9] ["p", "q r", "s"] [[1], [], [2, 3]]
    let b := exampleKP 0 false "dflt" [] ["k"] [0, 0, 0] ["", "", ""] [[9], [9], [9]]
    (b.parse a.parameterInfo).tag = .ok true ∧ (b.parse a.parameterInfo).kp.kmap = a.kmap := by
  intro a b
  obtain ⟨⟨hv, hkeys, hacts, hkind, hal, hdal, hnd, hshape⟩, hLS, hMP, hES⟩ :
    RoundTripHyps a b ∧ ValuesLineSafe a ∧ MarkersPlain a ∧ EmptyKeyNotStop a := exPrinted_hyps
  exact C17_print_parse_roundtrip_object_partial a b hv hkeys hacts hkind hal hdal hnd hshape hLS hMP hES

/-! ## Totality and allocation bounds (of the model) -/

/-- every list the integer-list reader builds is no longer than the text it reads (`alloc_bound`) -/
theorem C17_alloc_bound_int_list (s : Str) (l : List Int) (h : readIntList s = some l) : l.length ≤ s.length := by
  have := readIntListAux_length _ s [] l h
  simpa using this

/-- the string-list reader: number of elements and size of every element are bounded by the text -/
theorem C17_alloc_bound_string_list (s : Str) :
    (readStringList s).length ≤ s.length ∧ ∀ e ∈ readStringList s, e.length ≤ s.length := by
  have := readStringListAux_length (s.length + 1) s []
  unfold readStringList
  constructor
  · simpa using this.1
  · intro e he
    rcases this.2 e he with h | h
    · simp at h
    · exact h

/-- vectorised keys never allocate: storing keeps the size of the vector (≤ the size the owner declared) -/
theorem C17_alloc_bound_vectorised {α : Type} (l l' : List α) (x : α) (i : Int) (h : assignToList l x i = some l') :
    l'.length = l.length := assignToList_length l l' x i h

/-- header-declared counts (`number of dimensions`, `number of time frames`, `number of energy windows`,
    `number of image data types`, `total number of data sets`): the table gets exactly the declared number of elements
    (never more), a negative count is rejected (`std::length_error`), and a line without a readable integer changes nothing -/
theorem C17_alloc_declared_count (cur : Int) (line : Str) :
    (∀ n m, countKey cur line = some (n, m) → 0 ≤ n ∧ (m : Int) = n ∧ n = (getIntParam line).getD cur) ∧
    (countKey cur line = none ↔ (getIntParam line).getD cur < 0) := by
  unfold countKey
  refine ⟨fun n m h => ?_, by simp⟩
  obtain ⟨hn, h⟩ := Option.ite_none_left_eq_some.mp h
  cases h
  exact ⟨by omega, by omega, rfl⟩

/-- **alloc_bound for declared counts (partial)**: the table is no larger than any limit that the declared count respects.
    The missing part is exactly the open finding `alloc:proportional-to-number-declared-in-header`: the C++ has no such
    limit, so the hypothesis `n ≤ cap` is on the *input* (headers whose declared counts are plausible), not established
    by the reader. -/
theorem C17_alloc_bound_declared_count_partial (cur : Int) (line : Str) (n : Int) (m cap : Nat)
    (h : countKey cur line = some (n, m)) (hcap : n ≤ cap) : m ≤ cap := by
  have := (C17_alloc_declared_count cur line).1 n m h
  omega

/-- negative witness: the allocation is NOT bounded by the length of the input — a 33-byte line makes each table of the
    header 10^8 elements long (four tables for an image header; the three of `InterfileHeader::read_matrix_info` alone are
    6.4 GB).  Real code: `!INTERFILE :=\nnumber of dimensions := 100000000\n!END OF INTERFILE :=`
    through `read_interfile_image` (finding `alloc:proportional-to-number-declared-in-header`). -/
theorem C17_alloc_bound_declared_count_fails :
    countKey 2 "number of dimensions := 100000000".toList = some (100000000, 100000000) ∧
    "number of dimensions := 100000000".toList.length = 33 := by decide +kernel

/-- **parse_total**, list readers: the loops terminate within `length + 1` iterations — the fuel of the model is never
    exhausted, more fuel gives the same answer -/
theorem C17_list_readers_terminate (fuel : Nat) (s : Str) (hf : s.length < fuel) :
    (∀ acc, readIntListAux fuel s acc = readIntListAux (s.length + 1) s acc) ∧
    (∀ acc, readStringListAux fuel s acc = readStringListAux (s.length + 1) s acc) :=
  ⟨fun acc => readIntListAux_fuel fuel (s.length + 1) s acc hf (by omega),
   fun acc => readStringListAux_fuel fuel (s.length + 1) s acc hf (by omega)⟩

/-- **parse_total**: for every keymap and every text — well formed, malformed or truncated anywhere, continuation
    characters included — `KeyParser::parse` returns: `true`, `false`, or by `error()`; i.e. every line is either parsed
    or rejected.  (`Tag.diverges` is "fuel of the model's `read_line` loop or of its parse loop exhausted"; the line-skipping
    loop `nextLine` answers `none`, as for an early end of the text, when its own fuel runs out.) -/
theorem C17_parse_total (p : KP) (text : Str) : (p.parse text).tag ≠ .diverges := parse_total p text

/-- `read_line` itself: every call returns a line, and the stream has reached its end or has become shorter -/
theorem C17_read_line_total (s : Stream) (hf : s.fail = false) :
    ∃ l s', readLine s = .line l s' ∧ (s'.eof = true ∨ s'.rest.length < s.rest.length) :=
  let ⟨l, s', h, hp⟩ := readLine_total s hf
  ⟨l, s', h, hp.imp id And.right⟩

/-- a text that ends in the continuation character is parsed like the same text without it (regression witness for the
    repaired `read_line`: this input used to make the C++ loop for ever) -/
theorem C17_continuation_at_eof :
    (({} : KP).addKey "s".toList .start .none |>.addKey "k".toList .set (.ascii [])).parse "s :=\nk := v\\".toList
      = (({} : KP).addKey "s".toList .start .none |>.addKey "k".toList .set (.ascii [])).parse "s :=\nk := v".toList ∧
    ((({} : KP).addKey "s".toList .start .none |>.addKey "k".toList .set (.ascii [])).parse "s :=\nk := v\\".toList).tag
      = .ok true := by decide +kernel

/-! ## Per-segment lists of a projection-data header: sizes that contradict the header are rejected -/

/-- **size_contradiction_rejected** ("… or silently accepted data whose size contradicts the header"), for the per-segment
    information of an Interfile projection-data header (`InterfilePDFSHeader::post_processing` + `find_segment_sequence`):
    if the header is accepted then each of the three per-segment lists (minimum / maximum ring difference, axial positions)
    has exactly `num_segments` entries (as `unsigned`), the segments handed to the ProjDataInfo are `a..b` with
    `b - a + 1` = that same number, and segment 0 is among them: no list entry is dropped, none is read past the end.
    (`pdfsPost`, the size part of `post_processing` in the model of the projection-data header with its keys in ANY order, calls
    `pdfsSegments` on the members that the call-backs left: the theorem applies to every accepted `parsePdfsHeader`.) -/
theorem C17_segment_lists_consistent (t : SegTables) (a b : Int) (h : pdfsSegments t = .ok a b) :
    (t.minRD.length : Int) = toU32 t.numSegments ∧ (t.maxRD.length : Int) = toU32 t.numSegments ∧
    (t.ringsPerSeg.length : Int) = toU32 t.numSegments ∧ b - a + 1 = t.minRD.length ∧ a ≤ 0 ∧ 0 ≤ b :=
  pdfsSegments_ok t a b h

/-- … in the form "a header in which exactly ONE of these lists has the wrong number of entries must be rejected" (any one,
    or more): for a declared segment count that fits an `unsigned` -/
theorem C17_one_list_wrong_rejected (t : SegTables) (h0 : 0 ≤ t.numSegments) (h1 : t.numSegments < 4294967296)
    (h : (t.minRD.length : Int) ≠ t.numSegments ∨ (t.maxRD.length : Int) ≠ t.numSegments ∨
      (t.ringsPerSeg.length : Int) ≠ t.numSegments) : pdfsSegments t = .rejected := by
  unfold pdfsSegments
  rw [toU32_of_range _ h0 h1]
  by_cases a1 : (t.minRD.length : Int) ≠ t.numSegments
  · rw [if_pos a1]
  · rw [if_neg a1]
    by_cases a2 : (t.maxRD.length : Int) ≠ t.numSegments
    · rw [if_pos a2]
    · rw [if_neg a2]
      by_cases a3 : (t.ringsPerSeg.length : Int) ≠ t.numSegments
      · rw [if_pos a3]
      · exact absurd h (by simp only [not_or]; exact ⟨a1, a2, a3⟩)

/-- witness of what the transcribed code does with a header that gives only ONE of the two ring-difference keys: the other
    list is the `num_segments` zeros left by `resize_segments_and_set`, passes the length check, and the header is accepted
    (here: 3 segments, maximum ring differences all 0).  Not a size contradiction (no list that was given is contradicted),
    but the missing list is not reported either; recorded so that the reader of `C17_segment_lists_consistent` knows that
    "has `num_segments` entries" does not mean "was given". -/
theorem C17_missing_ring_difference_list_defaulted :
    pdfsSegments (segTablesOf 3 [2, 3, 2] (some [-1, 0, 1]) none) = .ok (-1) 1 := by decide +kernel

example : pdfsSegments (segTablesOf 5 [1, 2, 3, 2, 1] (some [-2, -1, 0, 1, 2]) (some [-2, -1, 0, 1, 2])) = .ok (-2) 2 := by decide +kernel
/-- only the list of minimum ring differences is short -/
example : pdfsSegments (segTablesOf 5 [1, 2, 3, 2, 1] (some [-2, -1, 0]) (some [-2, -1, 0, 1, 2])) = .rejected := by decide +kernel
example : pdfsSegments (segTablesOf 5 [1, 2, 3, 2, 1] (some [-2, -1, 0, 1, 2, 3]) (some [-2, -1, 0, 1, 2])) = .rejected := by decide +kernel
example : pdfsSegments (segTablesOf 4 [1, 2, 3, 2, 1] (some [-2, -1, 0, 1, 2]) (some [-2, -1, 0, 1, 2])) = .rejected := by decide +kernel
example : pdfsSegments (segTablesOf 2 [2, 2] (some [1, 2]) (some [1, 2])) = .error := by decide +kernel
example : pdfsSegments (segTablesOf 5 [1, 2, 3, 2, 1] none none) = .rejected := pdfsSegments_no_lists

/-! ## Interfile headers with their size-giving keys in ANY order

`parseImageHeader` / `parseMultiHeader` are `InterfileImageHeader().parse` / `MultipleDataSetHeader().parse` with the call-backs of
the count keys (`number of dimensions`, `number of time frames`, `number of image data types`, `number of energy windows`, `total
number of data sets`) run line by line, in whatever order the text gives them.  Since `KP.parseWith KP.parseLine = KP.parse`
(`C17_parseWith_is_parse`), `C17_parse_total`, the line theorems above (`C17_vectorised_stored_at_index`, `C17_alias_resolves`,
`C17_keyword_lookup_insensitive`, …) are theorems about every line of these headers as well. -/

/-- the parse loop with call-backs is the loop of the other theorems when the per-line function is `KP.parseLine` -/
theorem C17_parseWith_is_parse (p : KP) (text : Str) : p.parseWith KP.parseLine text = p.parse text := parseWith_parseLine p text

/-- "either parse … or are rejected through the library's error reporting" — the header parsers return (accept, reject, or
    throw) for every text: no fuel of the model runs out, whatever the call-backs do -/
theorem C17_header_parse_total (text : Str) : parseImageHeader text ≠ .diverges ∧ parseMultiHeader text ≠ .diverges :=
  ⟨fun h => by simpa only [h] using parseImageHeader_cases text, fun h => by simpa only [h] using parseMultiHeader_cases text⟩

/-- **header_tables_have_announced_length** ("… either parse into an internally consistent object or are rejected …; never …
    silently accepted data whose size contradicts the header"), for EVERY text — any order of the keys, any values, any indices:
    if `InterfileImageHeader::parse` accepts, then in the header object
    `matrix size`, `matrix axis label`, `scaling factor (mm/pixel)` (and `first pixel offset (mm)`, once `number of dimensions` has
    been seen) have `number of dimensions` elements; `image scaling factor` and `data offset in bytes` have `number of time frames`
    × `number of image data types` elements and `image data type description` has `number of image data types`; the per-frame
    tables have `number of time frames` elements (or are still empty because that key never came); the energy-window tables
    have `number of energy windows` elements; and every data set has one scaling factor per plane.
    (A `read_frames_info` that did `data_offset_each_dataset.resize(num_time_frames)` would falsify it for `number of time frames`
    behind `number of image data types`.) -/
theorem C17_header_tables_have_announced_length (text : Str) (p : KP) (h : parseImageHeader text = .ok p) :
    (∃ (d : Nat) (ms : List (List Int)) (lb : List Str) (ps fp : List Int),
      getVar p.kmap kNumDims = .int d ∧ getVar p.kmap kMatrixSize = .vInts ms ∧ getVar p.kmap kLabels = .vAscii lb ∧
      getVar p.kmap kPixelSizes = .vInt ps ∧ getVar p.kmap kFirstPixel = .vInt fp ∧
      ms.length = d ∧ lb.length = d ∧ ps.length = d ∧ (fp.length = d ∨ (fp.length = 0 ∧ d = 2))) ∧
    (∃ (t k : Nat) (isf : List (List Int)) (off st du : List Int) (ds : List Str),
      getVar p.kmap kNumFrames = .int t ∧ getVar p.kmap kNumTypes = .int k ∧ getVar p.kmap kScaling = .vInts isf ∧
      getVar p.kmap kOffsets = .vInt off ∧ getVar p.kmap kStart = .vInt st ∧ getVar p.kmap kDuration = .vInt du ∧
      getVar p.kmap kDescr = .vAscii ds ∧ isf.length = t * k ∧ off.length = t * k ∧ ds.length = k ∧
      ((st.length = t ∧ du.length = t) ∨ (st.length = 0 ∧ du.length = 0 ∧ t = 1))) ∧
    (∃ (w : Nat) (lo up : List Int),
      getVar p.kmap kNumWindows = .int w ∧ getVar p.kmap kLower = .vInt lo ∧ getVar p.kmap kUpper = .vInt up ∧
      lo.length = w ∧ up.length = w) ∧
    (∃ ms isf, getVar p.kmap kMatrixSize = .vInts ms ∧ getVar p.kmap kScaling = .vInts isf ∧
      ∀ x ∈ isf, x.length = (planes ms).toNat) := by
  obtain ⟨⟨hd, hf, hw⟩, hp⟩ : HdrInv p.kmap ∧ _ := by simpa only [h] using parseImageHeader_cases text
  exact ⟨hd, hf, hw, hp⟩

/-- the invariant behind it holds after EVERY line, not only at the end: no line of any text leaves a table shorter or longer
    than its count key says (so no later line, and no call-back, can index beyond a table that the invariant covers) -/
theorem C17_header_line_keeps_tables (p p' : KP) (line : Str) (hi : HdrInv p.kmap) (h : hdrLine p line = some p') : HdrInv p'.kmap :=
  hdrLine_inv p line p' hi h

/-- "… they never cause out-of-bounds memory access …", `post_processing` of the image header: the model has NO bounds check
    where the pinned source has none (`HdrOutcome.oob`).  For every text, the only table that `post_processing` indexes beyond its end is
    `PET_data_type_values`, with the index that `PET data type := <unsupported value>` leaves at -1.
    (`C17_header_pet_data_type_index_fails`: that case did occur; /repo rejects such a header since `fix:` 2bd3f32b4.) -/
theorem C17_header_oob_only_pet_data_type_partial (text : Str) (h : parseImageHeader text = .oob) :
    ∃ vals i, getVar (imageHeader0.parseWith hdrLine text).kp.kmap kPetType = .choice vals i ∧ (i < 0 ∨ (vals.length : Int) ≤ i) := by
  simpa only [h] using parseImageHeader_cases text

/-- negative witness (a defect of the pinned source, transcribed): an image header with `!PET data type := nonsense` made
    `InterfileImageHeader::post_processing` evaluate `PET_data_type_values[-1]` (InterfileHeader.cxx:529; the same expression is in
    `InterfilePDFSHeader::post_processing` :975 and `InterfileRawDataHeaderSiemens::post_processing`).  Repaired in /repo by
    `fix:` 2bd3f32b4: `InterfileHeader::post_processing` (:293) now rejects the header before the derived classes index the list. -/
theorem C17_header_pet_data_type_index_fails :
    parseImageHeader ("!INTERFILE :=\n!type of data := PET\n!PET data type := nonsense\n!number format := float\n!number of bytes per pixel := 4\nnumber of dimensions := 3\n!matrix size [1] := 1\n!matrix size [2] := 1\n!matrix size [3] := 2\n!END OF INTERFILE :=\n".toList)
      = .oob := imageHeader_evals.2.2.2.2.2

/-- negative witness for "a header with its keys in another order is rejected or gives the SAME values" (a defect of the pinned
    source, transcribed: `image_scaling_factors[i].resize(1, 1.)` over ALL data sets in `read_frames_info` /
    `read_image_data_types`; repaired in /repo by `fix:` d1722eebb, where the loop starts at the previous number of data sets):
    per-plane scaling factors `{3,4}` in front of `number of time frames` are accepted as `{3,3}`; behind it they are kept -/
theorem C17_header_scaling_list_before_count_fails :
    varOf kScaling (parseImageHeader (exHdr "image scaling factor[1] := {3,4}\nnumber of time frames := 1\n")) = .vInts [[3, 3]] ∧
    varOf kScaling (parseImageHeader (exHdr "number of time frames := 1\nimage scaling factor[1] := {3,4}\n")) = .vInts [[3, 4]] :=
  ⟨imageHeader_evals.2.2.2.1, imageHeader_evals.2.2.2.2.1⟩

/-- **multi_header_tables**: `MultipleDataSetHeader::parse`, for every text: `post_processing` never looks beyond the table of
    file names, and an accepted header has exactly `total number of data sets` file names, none of them empty -/
theorem C17_multi_header_tables (text : Str) :
    parseMultiHeader text ≠ .oob ∧
      ∀ p, parseMultiHeader text = .ok p →
        ∃ (n : Nat) (fs : List Str), getVar p.kmap kTotalSets = .int n ∧ getVar p.kmap kDataSet = .vAscii fs ∧ fs.length = n ∧
          ∀ f ∈ fs, f ≠ [] :=
  ⟨fun h => by simpa only [h] using parseMultiHeader_cases text, fun p h => by simpa only [h] using parseMultiHeader_cases text⟩

/-- non-vacuity: a parametric image header whose `number of time frames` comes AFTER
    `number of image data types` and `data offset in bytes[2]` is accepted with both offsets -/
example : varOf kOffsets (parseImageHeader (exHdr "number of image data types := 2\ndata offset in bytes[2] := 8\nnumber of time frames := 1\n"))
    = .vInt [0, 8] := ex_parametric_frames_last
/-- a per-frame key in front of `number of time frames` is refused (`error()`), not stored somewhere -/
example : parseImageHeader (exHdr "image duration (sec)[1] := 60\nnumber of time frames := 1\n") = .error := ex_duration_before_frames
example : HdrInv imageHeader0.kmap := hdrInv_init

/-! ## Interfile PROJECTION-DATA headers: TOF keys and size-giving keys in ANY order

`parsePdfsHeader g` is `InterfilePDFSHeader().parse` as far as the sizes of the projection data go (`find_storage_order`,
`resize_segments_and_set`, the size part of `post_processing`, `ProjDataInfo::set_tof_mash_factor`), run line by line in whatever
order the text gives the keys; `g` is the scanner that `originating system` names.  `pdfsLine` handles every line by the generic
`KP.parseLine` (then the call-back), so `C17_vectorised_stored_at_index`, `C17_alias_resolves` (the three deprecated TOF aliases
are aliases of `pdfsHeader0`), `C17_keyword_lookup_insensitive` and `C17_segment_lists_consistent` (`pdfsPost` calls
`pdfsSegments`) are theorems about these headers as well. -/

/-- "either parse … or are rejected through the library's error reporting": the projection-data header parser returns for every
    text and every scanner -/
theorem C17_pdfs_header_parse_total (g : Guess) (text : Str) : parsePdfsHeader g text ≠ .diverges := by
  rcases parsePdfsHeader_cases g text with e | e | e
  · simp [e]
  · simp [e]
  · rw [e]
    exact fun h => by simpa only [h] using pdfsPost_spec g (pdfsHeader0.parseWith pdfsLine text).kp

/-- **pdfs_accepted_tof_consistent** ("… never silently accepted data whose size contradicts the header"), for EVERY text — TOF
    keys (`TOF mashing factor`, `%TOF mashing factor`, the scanner timing keys, `TOF bin order`) and size-giving keys at any
    position, any values — and every scanner: if the header is accepted, the geometry that was built has exactly
    `num_timing_poss` TOF bins, the number that `find_storage_order` derived from the DECLARED dimensions at the first
    ring-difference key (1 for a 4-D header, `matrix size [5]` for a 5-D one), and one entry of axial positions per declared
    segment.  (A final check of `post_processing` guarded by `num_dimensions > 4` would falsify it for
    `TOF mashing factor := n` behind the ring-difference keys of a 4-D header.)
    What is NOT proved here: that the member `num_timing_poss` still equals what the FINAL values of `number of dimensions` /
    `matrix size [5]` say when those keys occur again behind the ring-difference keys (a text that contradicts itself); for
    texts with each size key once that link is `findStorageOrder` itself (4 ⇒ 1, 5 ⇒ `matrix size [5]`), and the part-2 oracle
    checks it on the implementation. -/
theorem C17_pdfs_accepted_tof_consistent (g : Guess) (text : Str) (ntp bins gm S V B : Int) (rings : List Int)
    (h : parsePdfsHeader g text = .ok ntp bins gm S V B rings) :
    bins = ntp ∧ (rings.length : Int) = toU32 S ∧
    ∃ p : KP, ntp = getInt p.kmap kNumTimingPoss ∧ S = getInt p.kmap kNumSegments ∧ rings = getInts p.kmap kRingsPerSeg := by
  rcases parsePdfsHeader_cases g text with e | e | e
  · cases e.symm.trans h
  · cases e.symm.trans h
  · have hp := pdfsPost_spec g (pdfsHeader0.parseWith pdfsLine text).kp
    rw [← e, h] at hp
    obtain ⟨hbins, hntp, hS, -, -, hrings, hlen⟩ := hp
    exact ⟨hbins, hlen, _, hntp, hS, hrings⟩

/-- the same for every STATE of the header object (reachable or not), i.e. independently of how the keys were ordered -/
theorem C17_pdfs_post_processing_tof_consistent (g : Guess) (p : KP) (ntp bins gm S V B : Int) (rings : List Int)
    (h : pdfsPost g p = .ok ntp bins gm S V B rings) :
    bins = ntp ∧ ntp = getInt p.kmap kNumTimingPoss ∧ S = getInt p.kmap kNumSegments ∧ V = getInt p.kmap kNumViews ∧
    B = getInt p.kmap kNumBins ∧ rings = getInts p.kmap kRingsPerSeg ∧ (rings.length : Int) = toU32 S := by
  simpa only [h] using pdfsPost_spec g p

/-- `ProjDataInfo::set_tof_mash_factor`: a geometry has 1 TOF bin (scanner without timing information, or factor ≤ 0), or
    `max / factor` bins, an odd number, for `0 < factor ≤ max`; anything else is `error()` -/
theorem C17_tof_bins_of_geometry (ready : Bool) (maxTof mash n : Int) (h : tofBinsOf ready maxTof mash = .ok n) :
    (n = 1 ∧ (ready = false ∨ mash ≤ 0)) ∨
    (ready = true ∧ 0 < mash ∧ mash ≤ maxTof ∧ n = Int.tdiv maxTof mash ∧ Int.tmod n 2 ≠ 0) := by
  unfold tofBinsOf at h
  split at h
  · rename_i hc
    have hr : ready = true ∧ 0 < mash := by simpa using hc
    split at h
    · cases h
    · simp only at h
      split at h
      · cases h
      · rename_i hodd
        injection h with h
        rw [h] at hodd
        exact .inr ⟨hr.1, hr.2, by omega, by omega, hodd⟩
  · rename_i hc
    injection h with h
    left
    refine ⟨h.symm, ?_⟩
    cases ready <;> simp_all

/-- non-vacuity: a 4-D header of a TOF-capable scanner with `TOF mashing factor := 3` in FRONT of the ring-difference keys (the
    writer's order) is accepted as non-TOF data with 3 segments … -/
example : parsePdfsHeader noGuess (exPdfs "TOF mashing factor := 3\n" "") = .ok 1 1 0 3 4 5 [1, 2, 1] := ex_pdfs_mash_before
/-- … and the same key (here through its alias) BEHIND them would give a geometry with 5 TOF
    bins for a header that declares none; the final check refuses it -/
example : parsePdfsHeader noGuess (exPdfs "" "%TOF mashing factor := 3\n") = .errTof := ex_pdfs_mash_after
example : tofBinsOf true 55 5 = .ok 11 ∧ tofBinsOf true 15 2 = .ok 7 ∧ tofBinsOf true 15 7 = .error .errEven ∧
    tofBinsOf true 15 16 = .error .errMash ∧ tofBinsOf false 55 5 = .ok 1 := ⟨rfl, rfl, rfl, rfl, rfl⟩
example : standardise "Maximum number of (unmashed) TOF time bins".toList = kMaxTof ∧
    standardise "Scanner geometry (BlocksOnCylindrical/Cylindrical/Generic)".toList = kGeometry ∧
    standardise "Size of unmashed TOF time bins (ps)".toList = kTofSize ∧ standardise "TOF timing resolution (ps)".toList = kTofRes := by
  unfold kMaxTof kGeometry kTofSize kTofRes
  repeat rw [String.toList_ofList]
  decide +kernel

/-! ## Copies of parsing objects ("re-parsing the text an object prints for itself reproduces that object, for registered classes")

Model: `PObj` / `Heap.step` (copy constructor, `operator=`, `parse`, `parameter_info`, destruction of `ParsingObject`s of one
class; the KeyParser pointers of a parser are abstracted to the object they point into). -/

/-- **copy_keymap_own**: after any history of constructions, copies, assignments, parses, prints and destructions, the parser of
    every object refers to the members of that object itself (or has no keys yet) -/
theorem C17_copy_keymap_own (tmpl : KP) (ops : List POp) : WF (Heap.run tmpl [] ops).1 :=
  run_wf tmpl ops [] wf_nil

/-- **copy_never_dangling** ("… never cause out-of-bounds memory access", here: use after free): in such a heap no operation
    reads or writes through a pointer into a destroyed object -/
theorem C17_copy_never_dangling (tmpl : KP) (ops : List POp) (op : POp) :
    ((Heap.run tmpl [] ops).1.step tmpl op).2 ≠ .uaf :=
  step_not_uaf tmpl _ (run_wf tmpl ops [] wf_nil) op

/-- **copy_prints_own_values**: `parameter_info()` of a live object prints ITS members, whatever has happened to any other object
    (in particular to the object it was copied from) -/
theorem C17_copy_prints_own_values (tmpl : KP) (ops : List POp) (i : Nat) (o : PObj)
    (ho : (Heap.run tmpl [] ops).1[i]? = some o) (hl : o.alive = true) :
    ((Heap.run tmpl [] ops).1.step tmpl (.info i)).2 = .text o.vals.parameterInfo :=
  info_answer tmpl _ (run_wf tmpl ops [] wf_nil) i o ho hl

/-- a copy has the members of the original (and the original and all other objects are untouched by the copying) -/
theorem C17_copy_has_members_of_original (tmpl : KP) (h : Heap) (i : Nat) (o : PObj) (ho : h[i]? = some o) (hl : o.alive = true) :
    (h.step tmpl (.copy i)).2 = .id h.length ∧ (h.step tmpl (.copy i)).1[h.length]? = some { vals := o.vals } ∧
      ∀ k, k < h.length → (h.step tmpl (.copy i)).1[k]? = h[k]? := by
  simp only [Heap.step, ho, hl, if_true]
  refine ⟨trivial, by simp, ?_⟩
  intro k hk
  exact List.getElem?_append_left hk

/-- **copy_independent** ("parsing into the copy must not change the original and vice versa"): parsing into, printing,
    destroying or assigning to object `i` leaves every other object `k` exactly as it is; a copy or a new object changes no
    existing object -/
theorem C17_copy_independent (tmpl : KP) (ops : List POp) (k : Nat) (hk : k < (Heap.run tmpl [] ops).1.length) :
    let h := (Heap.run tmpl [] ops).1
    (∀ i text, i ≠ k → (h.step tmpl (.parse i text)).1[k]? = h[k]?) ∧
    (∀ i, i ≠ k → (h.step tmpl (.info i)).1[k]? = h[k]?) ∧
    (∀ i, i ≠ k → (h.step tmpl (.destroy i)).1[k]? = h[k]?) ∧
    (∀ i j, i ≠ k → (h.step tmpl (.assign i j)).1[k]? = h[k]?) ∧
    (∀ i, (h.step tmpl (.copy i)).1[k]? = h[k]?) ∧
    (h.step tmpl .new).1[k]? = h[k]? :=
  step_frame tmpl _ (run_wf tmpl ops [] wf_nil) k hk

/-- parsing into a live object stores into ITS members: they become what `KeyParser::parse` (`C17_print_parse_roundtrip_…`,
    `C17_vectorised_stored_at_index`, … apply) makes of them.  With `C17_copy_has_members_of_original` and
    `C17_copy_prints_own_values`: the print → parse → print round trip of a copy is the round trip of an object with the members of
    the original. -/
theorem C17_copy_parse_own_members (tmpl : KP) (ops : List POp) (i : Nat) (o : PObj)
    (ho : (Heap.run tmpl [] ops).1[i]? = some o) (hl : o.alive = true) (text : Str) :
    ∃ o', ((Heap.run tmpl [] ops).1.step tmpl (.parse i text)).1[i]? = some o' ∧
      o'.vals = { (({ o.vals with parsing := o.status } : KP).parse text).kp with parsing := false } ∧ o'.alive = true :=
  parse_own_members tmpl _ (run_wf tmpl ops [] wf_nil) i o ho hl text

/-- non-vacuity: original parsed (n := 7) and printed, copied, original re-parsed (n := 9) and destroyed; the copy prints 7 -/
example : (Heap.run exClass [] [.new, .parse 0 "Obj :=\nn := 7\nEnd :=\n".toList, .info 0, .copy 0,
    .parse 0 "Obj :=\nn := 9\nEnd :=\n".toList, .destroy 0, .info 1]).2.getLast? = some (.text "obj :=\nn := 7\nend := \n".toList) :=
  ex_copy_history

example : NoCtl "Number_of  !Rings\t".toList := by decide +kernel
example : standardise "  Number_of  !Rings\t".toList = "number of rings".toList := by decide +kernel
example : KeyEquiv "NUMBER__of !rings".toList "number of rings".toList := by
  have h1 : KeyEquiv "NUMBER__of !rings".toList "number__of !rings".toList := .case (by decide +kernel)
  have h2 := KeyEquiv.run "number".toList "of !rings".toList ['_', '_'] [' '] (by decide +kernel) (by decide +kernel) (by decide +kernel)
    (by decide +kernel)
  have h3 := KeyEquiv.run "number of".toList "rings".toList [' ', '!'] [' '] (by decide +kernel) (by decide +kernel) (by decide +kernel)
    (by decide +kernel)
  -- the three steps compose on lists of characters
  repeat rw [String.toList_ofList] at h1 h2 h3 ⊢
  exact h1.trans (h2.trans h3)
example : PlainKey "matrix size".toList := by decide +kernel
example : getIndex "matrix size[3] := 64".toList = 3 := by decide +kernel
example : Printable (.ints [1, -2, 3]) ∧ SameKind (.ints []) (.ints [1, -2, 3]) := by
  constructor
  · intro x hx
    simp at hx
    rcases hx with h | h | h <;> subst h <;> (unfold InIntRange; omega)
  · trivial
example : CleanStr "hello world".toList := by decide +kernel
example : CleanElem "b c".toList := ⟨by decide +kernel, ⟨'b', " c".toList, rfl, by decide +kernel⟩, by decide +kernel⟩
example : assignToList [7, 8, 9] 5 2 = some [7, 5, 9] := by decide +kernel
example : assignToList [7, 8, 9] 5 4 = none := by decide +kernel
example : countKey 2 "number of dimensions := 3".toList = some (3, 3) := by decide +kernel
example : countKey 1 "number of time frames := -5".toList = none := by decide +kernel
example : countKey 1 "number of energy windows := abc".toList = some (1, 1) := by decide +kernel
/-- the string-list reader trims the elements at both ends and keeps the last element of an unterminated list whole -/
example : getStringListParam "sl := {a , b c ,d}".toList = some ["a".toList, "b c".toList, "d".toList] := by decide +kernel
example : getStringListParam "sl := {a, bc".toList = some ["a".toList, "bc".toList] := by decide +kernel
example : getStringListParam "sl := single  ".toList = some ["single".toList] := by decide +kernel

end StirVerif.C17
