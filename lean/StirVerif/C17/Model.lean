/-
C17 — executable model of the text-parsing core of `stir::KeyParser`
("Text and header input is parsed faithfully or rejected, never mis-handled").

Transcribed (one `def` per C++ function, strings are `List Char`, one `Char` per byte):

* `standardise`        — `standardise_interfile_keyword`  (src/buildblock/interfile_keyword_functions.cxx:26)
* `getKeyword`         — `KeyParser::get_keyword`          (src/buildblock/KeyParser.cxx:296)
* `getIndex`, `atoi`   — `get_index` (KeyParser.cxx:810) with glibc's `atoi` = `(int) strtol(s, 0, 10)`
* `getStringParam`     — `get_param_from_string<string>`   (KeyParser.cxx:682)
* `readInt`, `getIntParam` — `get_param_from_string<int>`  (KeyParser.cxx:669) = `istream >> int` (libstdc++, "C" locale)
* `readIntList`, `getIntListParam` — `get_vparam_from_string<vector<int>>` (KeyParser.cxx:705) and
                         `operator>>(istream&, vector<T>&)` (src/include/stir/stream.inl:78)
* `readStringList`, `getStringListParam` — `get_vparam_from_string<vector<string>>` (KeyParser.cxx:762): elements are
                         split at `,`/`}` and trimmed of blanks and tabs at both ends; a missing closing `}` is accepted;
                         without `{` the whole (trimmed) value is the single element.
* `resolveAlias`       — `KeyParser::resolve_alias` (KeyParser.cxx:610); `addAlias` — `add_alias_key` (:543)
* `findInKeymap`, `addKey` — `find_in_keymap` (:304), `add_in_keymap` (:331)
* `valueFor`           — `KeyParser::parse_value_in_line` (:862)
* `setVariable`, `assignToList` — `KeyParser::set_variable` (:1014), `assign_to_list` (:993): a vectorised key
                         `key[i]` stores into element `i-1` and is an `error()` if the vector has fewer than `i`
                         elements (the `resize` is commented out in the C++), or if `i` is negative; `key[0]`/no index on
                         a vectorised key, or an index on a plain key, are `error()`s as well.
* `processLine`        — `KeyParser::process_key` (:1151) for the call-backs start_parsing / stop_parsing / do_nothing / set_variable
* `countKey`           — the `set_variable(); resize(count)` call-backs of the Interfile count keys (InterfileHeader.cxx:410-420, :466, :498;
                         MultipleDataSetHeader.cxx:72)
* `segTablesOf`, `pdfsSegments` — the per-segment consistency checks of `InterfilePDFSHeader::post_processing`
                         (src/IO/InterfileHeader.cxx:981-994) with `resize_segments_and_set` (:679) and the segment numbering of
                         `find_segment_sequence` (:822)
* `getline`, `readLine` — `std::getline` + `read_line` (KeyParser.cxx:70): trailing `\r`, continuation `\`; the loop
                         stops when nothing could be read (`if (!input) break;`), so a continuation backslash as last
                         byte of the input is simply dropped.  All loops of the model run on fuel; for `readLineLoop` and
                         the parse loops `Tag.diverges` / `RL.diverges` is "fuel exhausted" and is proved unreachable
                         (`C17_parse_total`); `nextLine` and the list readers answer `none` / what they have read so far.
* `nextLine` + `KP.parseLine`, `parseLoop`, `KP.parse` — `read_and_parse_line`, `parse_header`, `parse` (KeyParser.cxx:635, :564, :262)
* `valueToStream`, `vectorisedValueToStream`, `parameterInfo` — KeyParser.cxx:1206, :1284, :1366 and
                         `operator<<(ostream&, vector<T>)` (stream.inl:62)

* `hdrCallback`, `hdrLine`, `imagePost`, `parseImageHeader` — `InterfileImageHeader` with the call-backs of its count keys run line
                         by line, in ANY order of the keys: `read_matrix_info` (src/IO/InterfileHeader.cxx:410, :514),
                         `read_frames_info` (:466), `read_image_data_types` (:498), `read_num_energy_windows` (:420),
                         `set_type_of_data` (:422), `InterfileHeader::post_processing` (:253), `InterfileImageHeader::post_processing` (:512)
* `multiCallback`, `multiPost`, `parseMultiHeader` — `MultipleDataSetHeader` (src/buildblock/MultipleDataSetHeader.cxx:29-75)
* `parseLoopWith`, `KP.parseWith` — `parse_header` with a per-line function (call-backs) as parameter
* `PObj`, `Heap.step`, `Heap.run` — `ParsingObject` copy constructor, `operator=`, `parse`, `parameter_info`, destruction
                         (src/buildblock/ParsingObject.cxx:30-135), pointers of a parser abstracted to the object they point into

Not modelled: `${ENV}` substitution in `read_line`, floating point / unsigned / long values, arrays, coordinates,
nested parsing objects (`PARSINGOBJECT`), `post_processing` of derived classes other than `imagePost`, `multiPost`, `pdfsPost`
(with the per-segment checks of `InterfilePDFSHeader`), 32-bit overflow of `vector::size()`.
`error()` (a C++ exception) is `Outcome.error`, with the state reached when it was thrown.

Core Lean only (linked into the driver).
-/
namespace StirVerif.C17

abbrev Str := List Char

/-! ### character classes -/

/-- `" \t_!"`, the set used by `find_first_not_of` / `find_last_not_of` in `standardise_interfile_keyword` -/
def isTrimWs (c : Char) : Bool := c == ' ' || c == '\t' || c == '_' || c == '!'

/-- `isspace` in the "C" locale -/
def isCSpace (c : Char) : Bool :=
  c == ' ' || c == '\t' || c == '\n' || c == '\x0b' || c == '\x0c' || c == '\r'

/-- the test of the loop in `standardise_interfile_keyword`: `isspace(c) || c=='_' || c=='!'` -/
def isCollapse (c : Char) : Bool := isCSpace c || c == '_' || c == '!'

/-- `" \t"` -/
def isBlank (c : Char) : Bool := c == ' ' || c == '\t'

/-- remove the longest suffix whose characters satisfy `p` (`find_last_not_of`) -/
def dropEndWhile (p : Char → Bool) : Str → Str
  | [] => []
  | c :: cs =>
    match dropEndWhile p cs with
    | [] => if p c then [] else [c]
    | r => c :: r

/-! ### `standardise_interfile_keyword` -/

/-- the `while (cp <= eok)` loop; `prev` is `previous_was_white_space` -/
def collapse : Bool → Str → Str
  | _, [] => []
  | prev, c :: cs =>
    if isCollapse c then
      if prev then collapse true cs else ' ' :: collapse true cs
    else c.toLower :: collapse false cs

def standardise (k : Str) : Str :=
  collapse false (dropEndWhile isTrimWs (k.dropWhile isTrimWs))

/-! ### `KeyParser::get_keyword`, `get_index` -/

def getKeyword : Str → Str
  | [] => []
  | c :: cs =>
    if c == '[' then []
    else if c == ':' then
      match cs with
      | [] => []
      | d :: _ => if d == '=' then [] else c :: getKeyword cs
    else c :: getKeyword cs

/-- value of a string of decimal digits -/
def digitsVal (ds : Str) : Nat := ds.foldl (fun a c => 10 * a + (c.toNat - '0'.toNat)) 0

/-- optional sign: `(negative, rest)` -/
def takeSign : Str → Bool × Str
  | [] => (false, [])
  | c :: t => if c == '-' then (true, t) else if c == '+' then (false, t) else (false, c :: t)

def clampInt (lo hi v : Int) : Int := if v < lo then lo else if hi < v then hi else v

/-- conversion `long -> int` on x86-64 (wrap modulo 2^32) -/
def wrap32 (v : Int) : Int := (v + 2147483648) % 4294967296 - 2147483648

/-- glibc `atoi(s)` = `(int) strtol(s, NULL, 10)` (strtol saturates at LONG_MIN/LONG_MAX) -/
def atoi (s : Str) : Int :=
  let s := s.dropWhile isCSpace
  let (neg, s) := takeSign s
  let n : Int := digitsVal (s.takeWhile Char.isDigit)
  wrap32 (clampInt (-9223372036854775808) 9223372036854775807 (if neg then -n else n))

def isColonOrBracket (c : Char) : Bool := c == ':' || c == '['

def getIndex (line : Str) : Int :=
  match line.dropWhile (fun c => !isColonOrBracket c) with
  | [] => 0
  | c :: rest =>
    if c == '[' then
      if rest.contains ']' then atoi (rest.takeWhile (fun d => d != ']')) else 0
    else 0

/-! ### values after `=` -/

/-- text after the first `=` of the line (`s.find('=', 0)`) -/
def afterEq (s : Str) : Option Str :=
  match s.dropWhile (fun c => c != '=') with
  | [] => none
  | _ :: t => some t

/-- `get_param_from_string<std::string>` -/
def getStringParam (s : Str) : Option Str :=
  match afterEq s with
  | none => none
  | some t =>
    match t.dropWhile isBlank with
    | [] => none
    | u => some (dropEndWhile isBlank u)

/-- `istream >> int` (libstdc++ `num_get`, base 10, "C" locale): skips white space, optional sign, digits.
    Returns the value unless `failbit` is set (no digit, or out of the range of `int`), and the unread rest. -/
def readInt (s : Str) : Option Int × Str :=
  let s := s.dropWhile isCSpace
  let (neg, s) := takeSign s
  let ds := s.takeWhile Char.isDigit
  let rest := s.dropWhile Char.isDigit
  if ds.isEmpty then (none, rest)
  else
    let v : Int := if neg then -(digitsVal ds : Int) else digitsVal ds
    if v < -2147483648 || 2147483647 < v then (none, rest) else (some v, rest)

/-- `get_param_from_string<int>` -/
def getIntParam (s : Str) : Option Int :=
  match afterEq s with
  | none => none
  | some t => (readInt t).1

/-- `str >> std::ws >> c` -/
def readChar (s : Str) : Option (Char × Str) :=
  match s.dropWhile isCSpace with
  | [] => none
  | c :: t => some (c, t)

/-- the `do … while (str && c == ',')` loop of `operator>>(istream&, vector<int>&)` after the opening `{`,
    followed by the `if (str.fail()) { str.clear(); str >> ws >> c; }  if (!str) return` tail.
    `none` = the stream is in a failed state on return (so the keyword "has no value").
    Every iteration consumes at least one digit: `fuel = length + 1` is enough (`readIntList`). -/
def readIntListAux : Nat → Str → List Int → Option (List Int)
  | 0, _, _ => none
  | fuel + 1, s, acc =>
    match readInt s with
    | (some t, r) =>
      match readChar r with
      | some (c, r') => if c == ',' then readIntListAux fuel r' (acc ++ [t]) else some (acc ++ [t])
      | none => none
    | (none, r) =>
      match readChar r with
      | some _ => some acc
      | none => none

def readIntList (s : Str) : Option (List Int) := readIntListAux (s.length + 1) s []

/-- `get_vparam_from_string<std::vector<int>>` -/
def getIntListParam (s : Str) : Option (List Int) :=
  match afterEq s with
  | none => none
  | some t =>
    match t.dropWhile isBlank with
    | [] => none
    | c :: u =>
      if c == '{' then readIntList u
      else match (readInt (c :: u)).1 with
        | some v => some [v]
        | none => none

def isBraceOrComma (c : Char) : Bool := c == '}' || c == ','

/-- the `while (!end)` loop of `get_vparam_from_string<vector<string>>`; `s` is the text from `cp` on.
    An element runs up to the next `,` or `}` (or the end of the line) and is trimmed of trailing blanks. -/
def readStringListAux : Nat → Str → List Str → List Str
  | 0, _, acc => acc
  | fuel + 1, s, acc =>
    match (s.dropWhile isBraceOrComma).dropWhile isBlank with
    | [] => acc
    | c :: s1 =>
      let elem := dropEndWhile isBlank ((c :: s1).takeWhile (fun d => !isBraceOrComma d))
      match (c :: s1).dropWhile (fun d => !isBraceOrComma d) with
      | [] => acc ++ [elem]
      | _ :: t => readStringListAux fuel t (acc ++ [elem])

def readStringList (s : Str) : List Str := readStringListAux (s.length + 1) s []

/-- `get_vparam_from_string<std::vector<std::string>>` -/
def getStringListParam (s : Str) : Option (List Str) :=
  match afterEq s with
  | none => none
  | some t =>
    match t.dropWhile isBlank with
    | [] => none
    | c :: u =>
      if c == '{' then some (readStringList u)
      else some [dropEndWhile isBlank (c :: u)]

/-! ### keymap -/

/-- the variable a key points to, together with its `KeyArgument::type` and `vectorised_key_level` -/
inductive Var
  | none                                          -- KeyArgument::NONE
  | int (v : Int)                                 -- add_key(kw, int*)
  | bool (v : Bool)                               -- add_key(kw, bool*)
  | ascii (v : Str)                               -- add_key(kw, string*)
  | choice (values : List Str) (idx : Int)        -- add_key(kw, int*, ASCIIlist_type*)   (ASCIIlist)
  | ints (v : List Int)                           -- add_key(kw, vector<int>*)            (LIST_OF_INTS)
  | strs (v : List Str)                           -- add_key(kw, vector<string>*)         (LIST_OF_ASCII)
  | vInt (v : List Int)                           -- add_vectorised_key(kw, vector<int>*)
  | vAscii (v : List Str)                         -- add_vectorised_key(kw, vector<string>*)
  | vInts (v : List (List Int))                   -- add_vectorised_key(kw, vector<vector<int>>*)
  deriving Repr, DecidableEq, Inhabited

/-- `p_object_member` -/
inductive Action
  | start | stop | ignore | set
  deriving Repr, DecidableEq, Inhabited

structure Entry where
  key : Str
  action : Action
  var : Var
  deriving Repr, DecidableEq, Inhabited

structure KP where
  kmap : List Entry := []
  aliases : List (Str × Str) := []
  depAliases : List (Str × Str) := []
  parsing : Bool := false
  deriving Repr, DecidableEq, Inhabited

def findInKeymap (m : List Entry) (kw : Str) : Option Entry := m.find? (fun e => e.key == kw)

/-- `add_in_keymap`: overwrite an existing entry, else append -/
def addInKeymap (m : List Entry) (e : Entry) : List Entry :=
  if (findInKeymap m e.key).isSome then m.map (fun x => if x.key == e.key then e else x) else m ++ [e]

/-- all the `add_key` flavours: the keyword is standardised first -/
def KP.addKey (p : KP) (kw : Str) (a : Action) (v : Var) : KP :=
  { p with kmap := addInKeymap p.kmap { key := standardise kw, action := a, var := v } }

def assocSet (l : List (Str × Str)) (k v : Str) : List (Str × Str) :=
  if (l.find? (fun p => p.1 == k)).isSome then l.map (fun p => if p.1 == k then (k, v) else p) else l ++ [(k, v)]

/-- `add_alias_key(keyword, alias, deprecated)` -/
def KP.addAlias (p : KP) (kw alias : Str) (deprecated : Bool) : KP :=
  if deprecated then { p with depAliases := assocSet p.depAliases (standardise alias) (standardise kw) }
  else { p with aliases := assocSet p.aliases (standardise alias) (standardise kw) }

def assocFind (l : List (Str × Str)) (k : Str) : Option Str := (l.find? (fun p => p.1 == k)).map (·.2)

/-- `resolve_alias` -/
def KP.resolveAlias (p : KP) (kw : Str) : Str :=
  match assocFind p.aliases kw with
  | some t => t
  | none =>
    match assocFind p.depAliases kw with
    | some t => t
    | none => kw

/-! ### one line -/

/-- `boost::any parameter` + `keyword_has_a_value` -/
inductive Param
  | absent
  | str (s : Str)
  | int (n : Int)
  | ints (l : List Int)
  | strs (l : List Str)
  deriving Repr, DecidableEq, Inhabited

/-- the `switch (current->type)` of `parse_value_in_line` -/
def valueFor (v : Var) (line : Str) : Param :=
  match v with
  | .none => .absent
  | .ascii _ | .choice _ _ | .vAscii _ => match getStringParam line with | some s => .str s | none => .absent
  | .int _ | .bool _ | .vInt _ => match getIntParam line with | some n => .int n | none => .absent
  | .ints _ | .vInts _ => match getIntListParam line with | some l => .ints l | none => .absent
  | .strs _ => match getStringListParam line with | some l => .strs l | none => .absent

/-- `find_in_ASCIIlist` -/
def findInAsciiList (s : Str) (values : List Str) : Int :=
  match values.findIdx? (fun v => standardise s == standardise v) with
  | some i => i
  | none => -1

/-- `assign_to_list`: `none` = `error()` -/
def assignToList {α : Type} (l : List α) (x : α) (index : Int) : Option (List α) :=
  if index < 0 then none                       -- static_cast<unsigned>(index) exceeds any size
  else if l.length < index.toNat then none
  else some (l.set (index.toNat - 1) x)

/-- `set_variable`, branch `if (!current_index)`: no index on the line -/
def setScalar (v : Var) (p : Param) : Option Var :=
  match v with
  | .vInt _ => none                                             -- "expected a vectorised key as in key[1]"
  | .vAscii _ => none
  | .vInts _ => none
  | .none => some v
  | .int _ => match p with | .int n => some (.int n) | _ => some v
  | .bool _ => match p with | .int n => some (.bool (n != 0)) | _ => some v
  | .ascii _ => match p with | .str s => some (.ascii s) | _ => some v
  | .choice vals _ => match p with | .str s => some (.choice vals (findInAsciiList s vals)) | _ => some v
  | .ints _ => match p with | .ints l => some (.ints l) | _ => some v
  | .strs _ => match p with | .strs l => some (.strs l) | _ => some v

/-- `set_variable`, branch with an index: `assign_to_list` -/
def setIndexed (v : Var) (p : Param) (index : Int) : Option Var :=
  match v with
  | .vInt l => match p with | .int n => (assignToList l n index).map .vInt | _ => none
  | .vAscii l => match p with | .str s => (assignToList l s index).map .vAscii | _ => none
  | .vInts l => match p with | .ints x => (assignToList l x index).map .vInts | _ => none
  | _ => none                                                   -- "unexpected vectorisation of key"

/-- `set_variable`: new value of the variable, `none` = `error()` thrown.
    (A `Param` of the wrong type cannot occur: `valueFor` chooses it from the same `Var`.) -/
def setVariable (v : Var) (p : Param) (index : Int) : Option Var :=
  if p = .absent then some v                     -- `if (!keyword_has_a_value) return;`
  else if index = 0 then setScalar v p
  else setIndexed v p index

inductive Tag
  | ok (b : Bool)      -- `parse` returned `b`
  | error              -- `error()` threw
  | diverges           -- fuel of the model exhausted (unreachable: `C17_parse_total`); the harness answers `hang` if the C++ does not return
  deriving Repr, DecidableEq, Inhabited

def setEntry (m : List Entry) (kw : Str) (v : Var) : List Entry :=
  m.map (fun e => if e.key == kw then { e with var := v } else e)

/-- `parse_value_in_line` + `process_key` for a line whose (standardised, alias-resolved) keyword is `kw`.
    Returns `none` on `error()`. -/
def processLine (p : KP) (kw line : Str) : Option KP :=
  match findInKeymap p.kmap kw with
  | none => some p                                       -- unrecognised keyword: warning only
  | some e =>
    match e.action with
    | .start => some { p with parsing := true }
    | .stop => some { p with parsing := false }
    | .ignore => some p
    | .set =>
      match setVariable e.var (valueFor e.var line) (getIndex line) with
      | none => none
      | some v => some { p with kmap := setEntry p.kmap kw v }

/-- keyword of a line as used for the look-up -/
def KP.keywordOf (p : KP) (line : Str) : Str := p.resolveAlias (standardise (getKeyword line))

/-- one line: what `read_and_parse_line` does after the line has been read, then `process_key` -/
def KP.parseLine (p : KP) (line : Str) : Option KP := processLine p (p.keywordOf line) line

/-! ### header-declared counts -/

/-- `set_variable(); table.resize(count);` — the call-back of the keys `number of dimensions`
    (`InterfileHeader::read_matrix_info`, src/IO/InterfileHeader.cxx:410), `number of time frames` (`read_frames_info`, :466),
    `number of energy windows` (`read_num_energy_windows`, :420), `number of image data types`
    (`InterfileImageHeader::read_image_data_types`, :498) and `total number of data sets`
    (`MultipleDataSetHeader::read_num_data_sets`, src/buildblock/MultipleDataSetHeader.cxx:72), for a line of that key when
    the count variable holds `cur`: the new count and the number of elements of the table.  A line without a readable
    `int` has "no value" and leaves the count alone; a negative count becomes a huge `size_t` and `resize` throws
    `std::length_error` (`none`).  There is no upper limit: the table gets as many elements as the header says. -/
def countKey (cur : Int) (line : Str) : Option (Int × Nat) :=
  let n := (getIntParam line).getD cur
  if n < 0 then none else some (n, n.toNat)

/-! ### per-segment tables of a projection-data header -/

/-- conversion `int -> unsigned int` on x86-64 (`static_cast<unsigned int>(num_segments)`) -/
def toU32 (v : Int) : Int := v % 4294967296

/-- what `InterfilePDFSHeader::post_processing` (src/IO/InterfileHeader.cxx:969) looks at for the per-segment information -/
structure SegTables where
  numSegments : Int          -- `num_segments`: `matrix size[4]`, or -1 if `find_storage_order` never ran
  minRD : List Int           -- `min_ring_difference`
  maxRD : List Int           -- `max_ring_difference`
  ringsPerSeg : List Int     -- `num_rings_per_segment` (the list in `matrix size[2]` / `[3]`)
  deriving Repr, DecidableEq, Inhabited

/-- `InterfilePDFSHeader::resize_segments_and_set` (InterfileHeader.cxx:679), the call-back of both ring-difference keys, for a
    header whose `find_storage_order` (:693) succeeds with `S` segments and the axial-positions list `ax`: the first of the two
    keys resizes BOTH lists to `S` (new elements 0) and each key then replaces its own list by the list on its line.  A list
    whose key does not occur keeps the `S` zeros; if neither occurs `find_storage_order` never runs (`num_segments` stays -1). -/
def segTablesOf (S : Int) (ax : List Int) (mn mx : Option (List Int)) : SegTables :=
  match mn, mx with
  | none, none => { numSegments := -1, minRD := [], maxRD := [], ringsPerSeg := [] }
  | _, _ => { numSegments := S, minRD := mn.getD (List.replicate S.toNat 0), maxRD := mx.getD (List.replicate S.toNat 0),
              ringsPerSeg := ax }

inductive SegOutcome
  | rejected                       -- `post_processing` returns true ("per-segment information is inconsistent")
  | error                          -- `error("This data does not seem to contain segment 0")`
  | ok (minSeg maxSeg : Int)       -- segment numbers `minSeg..maxSeg` are handed to the ProjDataInfo constructor
  deriving Repr, DecidableEq, Inhabited

/-- the three length checks of `InterfilePDFSHeader::post_processing` (InterfileHeader.cxx:981-994: `list.size() !=
    static_cast<unsigned int>(num_segments)`) followed by the segment numbering of `find_segment_sequence` (:822): the sums
    `min+max` are sorted, the segments with a negative sum get the negative numbers, the first non-negative sum has to be 0
    (segment 0), otherwise `error()`.  (The sums are compared as `float`s with a tolerance of 1e-3: exact for |sum| < 2^24;
    overflow of the `int` addition is not modelled.) -/
def pdfsSegments (t : SegTables) : SegOutcome :=
  if (t.minRD.length : Int) ≠ toU32 t.numSegments then .rejected
  else if (t.maxRD.length : Int) ≠ toU32 t.numSegments then .rejected
  else if (t.ringsPerSeg.length : Int) ≠ toU32 t.numSegments then .rejected
  else
    let sums := List.zipWith (· + ·) t.minRD t.maxRD
    let neg := (sums.filter (· < 0)).length
    if sums.any (· == 0) then .ok (-(neg : Int)) ((sums.length : Int) - 1 - neg) else .error

/-! ### the stream: `std::getline`, `read_line` -/

structure Stream where
  rest : Str
  eof : Bool := false
  fail : Bool := false
  deriving Repr, DecidableEq, Inhabited

def Stream.good (s : Stream) : Bool := !s.eof && !s.fail

/-- `std::getline(input, thisline)` (libstdc++): with a stream that is not `good()` the sentry fails and `failbit` is
    set (`thisline` is then not changed; `read_line` does not look at it in that case).  Reaching the end of the
    stream sets `eofbit`, and `failbit` too if no character was extracted. -/
def getline (s : Stream) : Stream × Str :=
  if !s.good then ({ s with fail := true }, [])
  else
    let l := s.rest.takeWhile (fun c => c != '\n')
    match s.rest.dropWhile (fun c => c != '\n') with
    | [] => ({ rest := [], eof := true, fail := l.isEmpty }, l)
    | _ :: t => ({ s with rest := t }, l)

def stripCR (l : Str) : Str :=
  match l.getLast? with
  | some '\r' => l.dropLast
  | _ => l

inductive RL
  | line (l : Str) (s : Stream)
  | diverges                      -- fuel exhausted (unreachable: `readLine_total`)
  deriving Repr, DecidableEq, Inhabited

/-- the `while (true)` loop of `read_line` -/
def readLineLoop : Nat → Stream → Str → RL
  | 0, _, _ => .diverges
  | fuel + 1, s, line =>
    let (s', tl) := getline s
    if s'.fail then .line line s'                    -- `if (!input) break;`
    else
      let line := line ++ stripCR tl
      match line.getLast? with
      | some '\\' => readLineLoop fuel s' line.dropLast    -- continuation: keep on reading
      | _ => .line line s'

/-- `read_line(input, line)`; fuel: every iteration that does not stop either consumes a line feed or reaches the end
    of the stream, after which the next `getline` fails -/
def readLine (s : Stream) : RL :=
  if s.fail then .line [] s else readLineLoop (s.rest.length + 2) s []

/-- the line-skipping loop of `read_and_parse_line`: lines consisting of blanks only (but not empty lines) are skipped.
    `none` = `!input->good()`: "early EOF", `stop_parsing()`. -/
def nextLine : Nat → Stream → Option RL
  | 0, _ => none
  | fuel + 1, s =>
    if !s.good then none
    else
      match readLine s with
      | .diverges => some .diverges
      | .line l s' =>
        if l.any (fun c => !isBlank c) then some (.line l s')
        else if l.isEmpty then some (.line l s')
        else nextLine fuel s'

structure Outcome where
  tag : Tag
  kp : KP
  deriving Repr, DecidableEq, Inhabited

/-- the `while (status == parsing)` loop of `parse_header` -/
def parseLoop : Nat → KP → Stream → Outcome
  | 0, p, _ => ⟨.diverges, p⟩
  | fuel + 1, p, s =>
    if !p.parsing then ⟨.ok true, p⟩
    else
      match nextLine (s.rest.length + 2) s with
      | none => ⟨.ok true, { p with parsing := false }⟩              -- early EOF: stop_parsing, then loop ends
      | some .diverges => ⟨.diverges, p⟩
      | some (.line l s') =>
        match p.parseLine l with
        | none => ⟨.error, p⟩
        | some p' =>
          if s'.eof then ⟨.ok true, { p' with parsing := false }⟩
          else parseLoop fuel p' s'

/-- `KeyParser::parse(istream&)` = `parse_header() == yes && !post_processing()` with the base-class `post_processing` -/
def KP.parse (p : KP) (text : Str) : Outcome :=
  let s : Stream := { rest := text }
  -- first line
  match nextLine (text.length + 2) s with
  | some .diverges => ⟨.diverges, p⟩
  | none =>                                                            -- cannot happen for a fresh stream
    let p := { p with parsing := false }
    ⟨.ok false, p⟩
  | some (.line l s') =>
    match p.parseLine l with
    | none => ⟨.error, p⟩
    | some p' =>
      if !p'.parsing then ⟨.ok false, p'⟩                              -- "required first keyword not found"
      else if s'.eof then ⟨.ok true, { p' with parsing := false }⟩
      else parseLoop (text.length + 2) p' s'

/-! ### `parameter_info` -/

def showNat (n : Nat) : Str := Nat.toDigits 10 n

/-- `ostream << int` -/
def showInt (n : Int) : Str := if n < 0 then '-' :: showNat n.natAbs else showNat n.natAbs

def intercalateStr (sep : Str) : List Str → Str
  | [] => []
  | [x] => x
  | x :: xs => x ++ sep ++ intercalateStr sep xs

/-- `operator<<(ostream&, const vector<T>&)`: `{a, b, c}` followed by `std::endl` -/
def showList (l : List Str) : Str := '{' :: intercalateStr [',', ' '] l ++ ['}', '\n']

def assign : Str := [' ', ':', '=', ' ']

/-- `value_to_stream` -/
def valueToStream : Var → Str
  | .none => []
  | .int n => showInt n
  | .bool b => if b then ['1'] else ['0']
  | .ascii s => s
  | .choice vals idx => if idx == -1 then "UNALLOWED VALUE".toList else vals.getD idx.toNat []
  | .ints l => showList (l.map showInt)
  | .strs l => showList l
  | _ => []

def vectorisedLines (key : Str) (vals : List Str) : Str :=
  ((List.range vals.length).zip vals).flatMap fun (i, v) =>
    key ++ ['['] ++ showNat (i + 1) ++ [']'] ++ assign ++ v ++ ['\n']

/-- `vectorised_value_to_stream` -/
def vectorisedValueToStream (key : Str) : Var → Str
  | .vInt l => vectorisedLines key (l.map showInt)
  | .vAscii l => vectorisedLines key l
  | .vInts l => vectorisedLines key (l.map fun x => showList (x.map showInt))
  | _ => []

def Var.vectorised : Var → Bool
  | .vInt _ | .vAscii _ | .vInts _ => true
  | _ => false

def entryInfo (e : Entry) : Str :=
  match e.action with
  | .start | .stop => []
  | _ =>
    (if e.var.vectorised then vectorisedValueToStream e.key e.var
     else e.key ++ assign ++ valueToStream e.var) ++ ['\n']

/-- `KeyParser::parameter_info` -/
def KP.parameterInfo (p : KP) : Str :=
  (p.kmap.filter (fun e => e.action == .start)).flatMap (fun e => e.key ++ [' ', ':', '=', '\n'])
  ++ p.kmap.flatMap entryInfo
  ++ (p.kmap.filter (fun e => e.action == .stop)).flatMap (fun e => e.key ++ [' ', ':', '=', ' ', '\n'])


/-! ### Interfile headers whose size-giving keys come in ANY order

`InterfileImageHeader` (src/IO/InterfileHeader.cxx) and `MultipleDataSetHeader` (src/buildblock/MultipleDataSetHeader.cxx) are
`KeyParser`s whose count keys have call-backs that run `set_variable()` and then `resize` the tables of the header.  The data
members of the header are the variables of a `KP` (one entry per member, in the order of `imageHeader0`); a line is handled by the
generic `KP.parseLine` followed by the call-back of its keyword (`hdrCallback`), so nothing here assumes the order in which the
library's own writer emits the keys.  `parseLoopWith` / `KP.parseWith` are `parseLoop` / `KP.parse` with the per-line function as
a parameter (`parseWith_parseLine`: with `KP.parseLine` they ARE `parseLoop` / `KP.parse`).

Float-valued members (`scaling factor (mm/pixel)`, `image scaling factor`, `image duration (sec)`, `image relative start time
(sec)`, `energy window lower/upper level`, `first pixel offset (mm)`) and the `unsigned long` table `data offset in bytes` are
modelled as tables of `Int`: exact for header texts that give them small non-negative/negative INTEGER values (the `hdr`
operations of the harness do).  Keys of the C++ header that are not size-giving and not needed by `post_processing`
(originating system, radionuclide, patient position, study date, bed position, calibration factor, `quantification units`,
Siemens keys) are not in the model and not in those texts; `version of keys := STIR3.0` (which swaps the energy-window keys for
scalar ones) is not modelled either. -/

/-- `std::vector::resize(n, fill)` -/
def resizeList {α : Type} (l : List α) (n : Nat) (fill : α) : List α :=
  l.take n ++ List.replicate (n - l.length) fill

/-- the variable behind keyword `k` (`.none` if there is no such key) -/
def getVar (m : List Entry) (k : Str) : Var :=
  match findInKeymap m k with
  | some e => e.var
  | none => .none

def getInt (m : List Entry) (k : Str) : Int :=
  match getVar m k with
  | .int n => n
  | _ => 0

/-- `table.resize(n, fill)` for the table behind a vectorised key (`fill` is used for tables of numbers only) -/
def resizeVar (v : Var) (n : Nat) (fill : Int) : Var :=
  match v with
  | .vInt l => .vInt (resizeList l n fill)
  | .vAscii l => .vAscii (resizeList l n [])
  | .vInts l => .vInts (resizeList l n [])
  | v => v

def KP.setKey (p : KP) (k : Str) (v : Var) : KP := { p with kmap := setEntry p.kmap k v }

def KP.resizeKey (p : KP) (k : Str) (n : Nat) (fill : Int := 0) : KP :=
  p.setKey k (resizeVar (getVar p.kmap k) n fill)

def kImagingModality : Str := "imaging modality".toList
def kVersionOfKeys : Str := "version of keys".toList
def kDataFile : Str := "name of data file".toList
def kTypeOfData : Str := "type of data".toList
def kByteOrder : Str := "imagedata byte order".toList
def kNumberFormat : Str := "number format".toList
def kBytesPerPixel : Str := "number of bytes per pixel".toList
def kNumDims : Str := "number of dimensions".toList
def kMatrixSize : Str := "matrix size".toList
def kLabels : Str := "matrix axis label".toList
def kPixelSizes : Str := "scaling factor (mm/pixel)".toList
def kNumFrames : Str := "number of time frames".toList
def kStart : Str := "image relative start time (sec)".toList
def kDuration : Str := "image duration (sec)".toList
def kScaling : Str := "image scaling factor".toList
def kNumWindows : Str := "number of energy windows".toList
def kLower : Str := "energy window lower level".toList
def kUpper : Str := "energy window upper level".toList
def kFirstPixel : Str := "first pixel offset (mm)".toList
def kNumTypes : Str := "number of image data types".toList
def kNesting : Str := "index nesting level".toList
def kDescr : Str := "image data type description".toList
def kPetType : Str := "pet data type".toList
def kOffsets : Str := "data offset in bytes".toList
/-- not a keyword (a standardised keyword has no capitals, so no line can match it): `true` once the call-back of
    `type of data := PET` has run `add_key("PET data type", …)` and `add_vectorised_key("data offset in bytes", …)`
    (`InterfileHeader::set_type_of_data`, InterfileHeader.cxx:422).  The members behind these two keys exist from construction
    (and `data_offset_each_dataset` is resized by the count call-backs all along); only the KEYS are missing before. -/
def kPetKeysRegistered : Str := "PET KEYS REGISTERED".toList

/-- `MinimalInterfileHeader::double_value_not_set` (a value no `int` line can give) -/
def notSet : Int := -99999999999

/-- the members of a freshly constructed `InterfileImageHeader` (constructors of `MinimalInterfileHeader`, `InterfileHeader`,
    `InterfileImageHeader`: InterfileHeader.cxx:65, :100, :472) -/
def imageHeader0 : KP :=
  let keys : List (Str × Action × Var) :=
    [("INTERFILE".toList, .start, .none),
     (kImagingModality, .set, .ascii []),
     (kVersionOfKeys, .set, .ascii []),
     ("END OF INTERFILE".toList, .stop, .none),
     (kDataFile, .set, .ascii []),
     ("GENERAL DATA".toList, .ignore, .none),
     ("GENERAL IMAGE DATA".toList, .ignore, .none),
     (kTypeOfData, .set, .choice ["Static".toList, "Dynamic".toList, "Tomographic".toList, "Curve".toList, "ROI".toList,
                                  "PET".toList, "Other".toList] 6),
     (kByteOrder, .set, .choice ["LITTLEENDIAN".toList, "BIGENDIAN".toList] 1),
     (kNumberFormat, .set, .choice ["bit".toList, "ascii".toList, "signed integer".toList, "unsigned integer".toList,
                                    "float".toList] 3),
     (kBytesPerPixel, .set, .int (-1)),
     (kNumDims, .set, .int 2),
     (kMatrixSize, .set, .vInts [[], []]),
     (kLabels, .set, .vAscii [[], []]),
     (kPixelSizes, .set, .vInt [1, 1]),
     (kNumFrames, .set, .int 1),
     (kStart, .set, .vInt []),
     (kDuration, .set, .vInt []),
     (kScaling, .set, .vInts [[1]]),
     (kNumWindows, .set, .int 1),
     (kLower, .set, .vInt [-1]),
     (kUpper, .set, .vInt [-1]),
     (kFirstPixel, .set, .vInt []),
     (kNumTypes, .set, .int 1),
     (kNesting, .set, .strs [[]]),
     (kDescr, .set, .vAscii [[]]),
     (kPetType, .set, .choice ["Emission".toList, "Transmission".toList, "Blank".toList, "AttenuationCorrection".toList,
                               "Normalisation".toList, "Image".toList] 5),
     (kOffsets, .set, .vInt [0])]
  let p : KP := keys.foldl (fun p k => p.addKey k.1 k.2.1 k.2.2) {}
  { p with kmap := p.kmap ++ [{ key := kPetKeysRegistered, action := .ignore, var := .bool false }] }

/-- `image_scaling_factors.resize(n); for (i < n) image_scaling_factors[i].resize(1, 1.);` — the second loop runs over ALL
    data sets, so a list of per-plane factors given BEFORE the count key is cut down to its first element (the pinned source;
    repaired in /repo by `fix:` d1722eebb) -/
def resizeScaling (v : Var) (n : Nat) : Var :=
  match v with
  | .vInts l => .vInts ((resizeList l n []).map fun x => resizeList x 1 1)
  | v => v

/-- the call-backs of the size-giving keys of `InterfileImageHeader`, run after `set_variable()` has stored the value of the
    line (`none` = an exception leaves the parser: `std::length_error` from `resize` with a negative count, `error()`):
    `read_matrix_info` (InterfileHeader.cxx:410 and :514), `read_frames_info` (:466), `read_image_data_types` (:498),
    `read_num_energy_windows` (:420), `set_type_of_data` (:429).  `get_num_datasets()` = `num_time_frames *
    num_image_data_types` (InterfileHeader.h:223; `int` overflow is not modelled). -/
def hdrCallback (kw : Str) (p : KP) : Option KP :=
  let m := p.kmap
  if kw == kNumDims then
    let n := getInt m kNumDims
    if n < 0 then none
    else some ((((p.resizeKey kLabels n.toNat).resizeKey kMatrixSize n.toNat).resizeKey kPixelSizes n.toNat 1).setKey kFirstPixel
                 (.vInt (List.replicate n.toNat notSet)))
  else if kw == kNumFrames then
    let tf := getInt m kNumFrames
    let nd := tf * getInt m kNumTypes
    if nd < 0 || tf < 0 then none
    else some ((((p.setKey kScaling (resizeScaling (getVar m kScaling) nd.toNat)).resizeKey kOffsets nd.toNat).resizeKey kStart
                 tf.toNat).resizeKey kDuration tf.toNat)
  else if kw == kNumTypes then
    let k := getInt m kNumTypes
    let nd := getInt m kNumFrames * k
    if nd < 0 || k < 0 then none
    else some (((p.setKey kScaling (resizeScaling (getVar m kScaling) nd.toNat)).resizeKey kOffsets nd.toNat).resizeKey kDescr
                 k.toNat)
  else if kw == kNumWindows then
    let n := getInt m kNumWindows
    if n < 0 then none else some ((p.resizeKey kUpper n.toNat (-1)).resizeKey kLower n.toNat (-1))
  else if kw == kTypeOfData then
    match getVar m kTypeOfData with
    | .choice vals idx =>
      if idx == -1 then none                                   -- error("type_of_data needs to be set to supported value")
      else if vals.getD idx.toNat [] == "PET".toList then some (p.setKey kPetKeysRegistered (.bool true))
      else some p
    | _ => some p
  else some p

/-- one line of an Interfile image header: `process_key` with the call-backs.  Lines of the two keys that only exist after
    `type of data := PET` are lines of an unknown keyword before (warning only). -/
def hdrLine (p : KP) (line : Str) : Option KP :=
  let kw := p.keywordOf line
  if (kw == kPetType || kw == kOffsets) && getVar p.kmap kPetKeysRegistered != .bool true then some p
  else
    match p.parseLine line with
    | none => none
    | some p' => hdrCallback kw p'

/-- `parseLoop` with the per-line function as a parameter -/
def parseLoopWith (step : KP → Str → Option KP) : Nat → KP → Stream → Outcome
  | 0, p, _ => ⟨.diverges, p⟩
  | fuel + 1, p, s =>
    if !p.parsing then ⟨.ok true, p⟩
    else
      match nextLine (s.rest.length + 2) s with
      | none => ⟨.ok true, { p with parsing := false }⟩
      | some .diverges => ⟨.diverges, p⟩
      | some (.line l s') =>
        match step p l with
        | none => ⟨.error, p⟩
        | some p' =>
          if s'.eof then ⟨.ok true, { p' with parsing := false }⟩
          else parseLoopWith step fuel p' s'

/-- `KP.parse` with the per-line function as a parameter (`parse_header`, KeyParser.cxx:564) -/
def KP.parseWith (step : KP → Str → Option KP) (p : KP) (text : Str) : Outcome :=
  let s : Stream := { rest := text }
  match nextLine (text.length + 2) s with
  | some .diverges => ⟨.diverges, p⟩
  | none =>
    let p := { p with parsing := false }
    ⟨.ok false, p⟩
  | some (.line l s') =>
    match step p l with
    | none => ⟨.error, p⟩
    | some p' =>
      if !p'.parsing then ⟨.ok false, p'⟩
      else if s'.eof then ⟨.ok true, { p' with parsing := false }⟩
      else parseLoopWith step (text.length + 2) p' s'

inductive HdrOutcome
  | rejected            -- `parse()` returned false
  | error               -- an exception left `parse()`
  | oob                 -- `post_processing` indexes a table beyond its end (the C++ has no check there)
  | diverges            -- fuel exhausted (unreachable)
  | ok (p : KP)         -- accepted, with the members as `post_processing` leaves them
  deriving Repr, DecidableEq, Inhabited

/-- the loop over the data sets in `InterfileHeader::post_processing` (InterfileHeader.cxx:341): a single factor is used for
    every plane, otherwise there have to be `nz` of them.  `none` = `image_scaling_factors[frame]` beyond the end of the table. -/
def scalingLoop (nz : Int) : Nat → List (List Int) → Option (Option (List (List Int)))
  | 0, rest => some (some rest)
  | _ + 1, [] => none
  | n + 1, x :: rest =>
    if x.length == 1 then
      match scalingLoop nz n rest with
      | some (some r) => some (some (List.replicate nz.toNat (x.headD 0) :: r))
      | o => o
    else if (x.length : Int) ≠ nz then some none
    else
      match scalingLoop nz n rest with
      | some (some r) => some (some (x :: r))
      | o => o

/-- `InterfileImageHeader::post_processing` (InterfileHeader.cxx:512) after `InterfileHeader::post_processing` (:253), as far as
    the modelled members go (the exam-info part, `quantification units` and the date are left out) -/
def imagePost (p : KP) : HdrOutcome :=
  let m := p.kmap
  match getVar m kTypeOfData, getVar m kNumberFormat, getVar m kMatrixSize, getVar m kScaling, getVar m kPetType, getVar m kLabels with
  | .choice _ tIdx, .choice fvals fIdx, .vInts ms, .vInts isf, .choice pvals pIdx, .vAscii labels =>
    if tIdx < 0 then .rejected
    else if fIdx < 0 || (fvals.length : Int) ≤ fIdx then .rejected
    else if fIdx != 0 && getInt m kBytesPerPixel ≤ 0 then .rejected
    else if ms.isEmpty then .rejected
    else if ms.any (fun l => l.isEmpty || l.any (· ≤ 0)) then .rejected
    else
      let nd := getInt m kNumFrames * getInt m kNumTypes
      if nd < 1 then .rejected
      else
        let nz := (ms.getLast?.getD []).headD 0
        match scalingLoop nz nd.toNat isf with
        | none => .oob
        | some none => .rejected
        | some (some isf') =>
          let p := p.setKey kScaling (.vInts isf')
          let emptyTable (k : Str) : Bool := match getVar m k with | .vInt l => l.isEmpty | _ => true
          let len (k : Str) : Nat := match getVar m k with | .vInt l => l.length | _ => 0
          if getInt m kNumWindows > 0 && (emptyTable kUpper || emptyTable kLower) then .oob
          else if len kStart ≠ len kDuration then .error          -- TimeFrameDefinitions: "different length"
          else if pIdx < 0 || (pvals.length : Int) ≤ pIdx then .oob
          else if pvals.getD pIdx.toNat [] != "Image".toList then .rejected
          else if getInt m kNumDims != 3 then .rejected
          else if ms.length < 3 || labels.length < 3 then .oob
          else if (ms.take 3).any (fun l => l.length != 1) then .rejected
          else if !(labels.headD []).isEmpty && (labels.take 3 != ["x".toList, "y".toList, "z".toList]) then .rejected
          else .ok p
  | _, _, _, _, _, _ => .rejected

/-- `KeyParser::parse` = `parse_header() == yes && !post_processing()` for a header with call-backs -/
def hdrParse (step : KP → Str → Option KP) (post : KP → HdrOutcome) (p0 : KP) (text : Str) : HdrOutcome :=
  let o := p0.parseWith step text
  match o.tag with
  | .diverges => .diverges
  | .error => .error
  | .ok false => .rejected
  | .ok true => post o.kp

/-- `InterfileImageHeader().parse(text)` -/
def parseImageHeader (text : Str) : HdrOutcome := hdrParse hdrLine imagePost imageHeader0 text

def kTotalSets : Str := "total number of data sets".toList
def kDataSet : Str := "data set".toList

/-- `MultipleDataSetHeader` (MultipleDataSetHeader.cxx:29-54) -/
def multiHeader0 : KP :=
  (((({} : KP).addKey "Multi".toList .start .none).addKey "End".toList .stop .none).addKey kTotalSets .set (.int 0)).addKey kDataSet
    .set (.vAscii [])

/-- `MultipleDataSetHeader::read_num_data_sets` (:72) -/
def multiCallback (kw : Str) (p : KP) : Option KP :=
  if kw == kTotalSets then
    let n := getInt p.kmap kTotalSets
    if n < 0 then none else some (p.resizeKey kDataSet n.toNat)
  else some p

def multiLine (p : KP) (line : Str) : Option KP :=
  match p.parseLine line with
  | none => none
  | some p' => multiCallback (p.keywordOf line) p'

/-- `MultipleDataSetHeader::post_processing` (:56): an empty file name among the first `_num_data_sets` ones rejects -/
def multiPost (p : KP) : HdrOutcome :=
  match getVar p.kmap kDataSet with
  | .vAscii fs =>
    let n := (getInt p.kmap kTotalSets).toNat
    if fs.length < n then .oob
    else if (fs.take n).any (·.isEmpty) then .rejected
    else .ok p
  | _ => .rejected

def parseMultiHeader (text : Str) : HdrOutcome := hdrParse multiLine multiPost multiHeader0 text

/-! ### Interfile projection-data header: TOF keys and ring-difference keys in ANY order

`InterfilePDFSHeader` (src/IO/InterfileHeader.cxx:562) as far as the SIZES of the projection data go: the members that decide how
many bins the returned `ProjDataFromStream` will read.  As for the image header, the members are the variables of a `KP` and a
line is handled by the generic `KP.parseLine` followed by the call-back of its keyword, so nothing assumes the writer's key order.
Members without a keyword (`num_segments`, `num_timing_poss`, `num_views`, `num_bins`, `num_rings_per_segment`) are entries whose
name contains capitals (no standardised keyword can match them).  The three scanner timing keys are `int`/`float` in the C++;
the model keeps integers (the `hdr pdfs` operations of the harness give them integer values): only `> 0` / `< 0` is used.
NOT modelled: the checks of `InterfileHeader::post_processing` on keys outside the model (type of data, number format, patient
position, PET data type...), the geometry checks of the `ProjDataInfo` constructors and of `Scanner::check_consistency`, the
scanner keys other than the timing ones.  The scanner that `originating system` names (`Scanner::get_scanner_from_name`) enters
as the parameter `Guess`. -/

def kMinRD : Str := "minimum ring difference per segment".toList
def kMaxRD : Str := "maximum ring difference per segment".toList
def kTofMash : Str := "tof mashing factor".toList
def kMaxTof : Str := "maximum number of (unmashed) tof time bins".toList
def kTofSize : Str := "size of unmashed tof time bins (ps)".toList
def kTofRes : Str := "tof timing resolution (ps)".toList
def kTofOrder : Str := "tof bin order".toList
def kGeometry : Str := "scanner geometry (blocksoncylindrical/cylindrical/generic)".toList
def kNumSegments : Str := "NUM SEGMENTS".toList
def kNumTimingPoss : Str := "NUM TIMING POSS".toList
def kNumViews : Str := "NUM VIEWS".toList
def kNumBins : Str := "NUM BINS".toList
def kRingsPerSeg : Str := "NUM RINGS PER SEGMENT".toList

/-- the modelled members of a freshly constructed `InterfilePDFSHeader` (InterfileHeader.cxx:100 and :562-676), with the three
    deprecated aliases of the TOF keys (`#if STIR_VERSION < 070000`).  `num_timing_poss` is NOT initialised by the C++
    constructor; it is read only after `find_storage_order` has set it (`pdfsPost` reads it behind the length checks, which
    fail while `num_segments` is still -1), so the 0 here is never observed. -/
def pdfsHeader0 : KP :=
  let keys : List (Str × Action × Var) :=
    [("INTERFILE".toList, .start, .none),
     ("END OF INTERFILE".toList, .stop, .none),
     (kNumDims, .set, .int 2),
     (kMatrixSize, .set, .vInts [[], []]),
     (kLabels, .set, .vAscii [[], []]),
     (kMinRD, .set, .ints []),
     (kMaxRD, .set, .ints []),
     ("TOF mashing factor".toList, .set, .int 1),
     ("Maximum number of (unmashed) TOF time bins".toList, .set, .int (-1)),
     ("TOF bin order".toList, .set, .ints []),
     ("Size of unmashed TOF time bins (ps)".toList, .set, .int (-1)),
     ("TOF timing resolution (ps)".toList, .set, .int (-1)),
     ("Scanner geometry (BlocksOnCylindrical/Cylindrical/Generic)".toList, .set, .ascii "Cylindrical".toList)]
  let p : KP := keys.foldl (fun p k => p.addKey k.1 k.2.1 k.2.2) {}
  let p := (((p.addAlias "TOF mashing factor".toList "%TOF mashing factor".toList false).addAlias
              "Maximum number of (unmashed) TOF time bins".toList "Number of TOF time bins".toList false).addAlias
              "Size of unmashed TOF time bins (ps)".toList "Size of timing bin (ps)".toList false).addAlias
              "TOF timing resolution (ps)".toList "timing resolution (ps)".toList false
  { p with kmap := p.kmap ++ [{ key := kNumSegments, action := .ignore, var := .int (-1) },
                              { key := kNumTimingPoss, action := .ignore, var := .int 0 },
                              { key := kNumViews, action := .ignore, var := .int 0 },
                              { key := kNumBins, action := .ignore, var := .int 0 },
                              { key := kRingsPerSeg, action := .ignore, var := .ints [] }] }

def getInts (m : List Entry) (k : Str) : List Int :=
  match getVar m k with
  | .ints l => l
  | _ => []

/-- `stop_parsing()` -/
def KP.stop (p : KP) : KP := { p with parsing := false }

/-- `InterfilePDFSHeader::find_storage_order` (InterfileHeader.cxx:693): `(true, _)` = "already found (or error)", the parser
    has been stopped; `(false, _)` = found now.  A 4-D header RESETS `tof_mash_factor` to 0 here, i.e. at the first
    ring-difference key: a `TOF mashing factor` line further down the header overwrites the reset.  (`matrix_size[dim]`,
    `matrix_labels[dim]` for `dim < num_dimensions` are inside the tables: `read_matrix_info` has resized them.) -/
def findStorageOrder (p : KP) : Bool × KP :=
  let m := p.kmap
  let nd := getInt m kNumDims
  if nd ≠ 4 ∧ nd ≠ 5 then (true, p.stop)
  else
    match getVar m kMatrixSize, getVar m kLabels with
    | .vInts ms, .vAscii labels =>
      let size (d : Nat) : Int := (ms.getD d []).headD 0
      let label (d : Nat) : Str := labels.getD d []
      if (List.range nd.toNat).any (fun d => (ms.getD d []).isEmpty) then (true, p.stop)
      else
        let tof : Option KP :=
          if nd = 4 then some ((p.setKey kNumTimingPoss (.int 1)).setKey kTofMash (.int 0))
          else if label 4 == "timing positions".toList then some (p.setKey kNumTimingPoss (.int (size 4)))
          else none
        match tof with
        | none => (true, p.stop)
        | some p1 =>
          if label 0 != "tangential coordinate".toList then (true, p1.stop)
          else
            let p2 := p1.setKey kNumBins (.int (size 0))
            if label 3 == "segment".toList then
              let p3 := p2.setKey kNumSegments (.int (size 3))
              if label 1 == "axial coordinate".toList && label 2 == "view".toList then
                (false, (p3.setKey kNumViews (.int (size 2))).setKey kRingsPerSeg (.ints (ms.getD 1 [])))
              else if label 1 == "view".toList && label 2 == "axial coordinate".toList then
                (false, (p3.setKey kNumViews (.int (size 1))).setKey kRingsPerSeg (.ints (ms.getD 2 [])))
              else (true, p3.stop)
            else (true, p2.stop)
    | _, _ => (true, p.stop)

/-- `InterfilePDFSHeader::resize_segments_and_set` (InterfileHeader.cxx:679), the call-back of both ring-difference keys, for a
    line whose keyword is `kw`.  `none` = `resize` with a negative count (`std::length_error`) or `error()` in `set_variable`. -/
def resizeSegmentsAndSet (p : KP) (kw line : Str) : Option KP :=
  let p1 : Option KP :=
    if getInt p.kmap kNumSegments < 0 then
      match findStorageOrder p with
      | (false, q) =>
        let S := getInt q.kmap kNumSegments
        if S < 0 then none
        else some ((q.setKey kMinRD (.ints (resizeList (getInts q.kmap kMinRD) S.toNat 0))).setKey kMaxRD
                     (.ints (resizeList (getInts q.kmap kMaxRD) S.toNat 0)))
      | (true, q) => some q
    else some p
  match p1 with
  | none => none
  | some p1 => if getInt p1.kmap kNumSegments ≥ 0 then processLine p1 kw line else some p1

/-- one line of an Interfile projection-data header: `process_key` with the call-backs (`read_matrix_info`,
    InterfileHeader.cxx:410, for `number of dimensions`; `resize_segments_and_set` for the ring-difference keys). -/
def pdfsLine (p : KP) (line : Str) : Option KP :=
  let kw := p.keywordOf line
  if kw == kMinRD || kw == kMaxRD then resizeSegmentsAndSet p kw line
  else
    match p.parseLine line with
    | none => none
    | some p' =>
      if kw == kNumDims then
        let n := getInt p'.kmap kNumDims
        if n < 0 then none else some ((p'.resizeKey kLabels n.toNat).resizeKey kMatrixSize n.toNat)
      else some p'

/-- the scanner named by `originating system`: `known` = recognised and not `User_defined_scanner`; then its three timing values -/
structure Guess where
  known : Bool
  maxTof : Int
  sizePos : Int
  resPos : Int
  deriving Repr, DecidableEq, Inhabited

inductive PdfsOutcome
  | rejected                -- `parse()` returned false
  | error                   -- an exception left `parse()` (segment 0 missing, `resize` with a negative count, ...)
  | errMash                 -- `ProjDataInfo::set_tof_mash_factor`: mashing factor larger than the scanner's number of TOF bins
  | errEven                 -- `ProjDataInfo::set_tof_mash_factor`: "Number of TOF bins should be an odd number"
  | errTof                  -- the final check of `post_processing`: TOF bins of the geometry ≠ TOF bins the header declares
  | diverges
  | ok (numTimingPoss tofBins geomMash numSegments numViews numBins : Int) (rings : List Int)   -- `geomMash`: `ProjDataInfo::get_tof_mash_factor()`
  deriving Repr, DecidableEq, Inhabited

/-- `ProjDataInfo::set_tof_mash_factor` (src/buildblock/ProjDataInfo.cxx:174) for a scanner with `maxTof` unmashed bins that
    `is_tof_ready()` or not: the number of TOF bins of the geometry (`Except`: the two `error()` calls). -/
def tofBinsOf (tofReady : Bool) (maxTof mash : Int) : Except PdfsOutcome Int :=
  if tofReady && mash > 0 then
    if mash > maxTof then .error .errMash
    else
      let n := Int.tdiv maxTof mash
      let mn := -(Int.tdiv n 2)
      let mx := mn + n - 1
      let num := mx - mn + 1
      if Int.tmod num 2 = 0 then .error .errEven else .ok num
  else .ok 1

/-- `InterfilePDFSHeader::post_processing` (InterfileHeader.cxx:969) as far as the sizes go: the three length checks and the
    segment numbering (`pdfsSegments`), the `TOF bin order` check (:1055), the timing values of the scanner filled in from the
    guessed scanner (:1135), `Scanner::is_tof_ready` (Scanner.inl:263), the TOF bins of the geometry (only the two cylindrical
    `ProjDataInfo` constructors get `tof_mash_factor`, :1431-1459), and the final check (:1461). -/
def pdfsPost (g : Guess) (p : KP) : PdfsOutcome :=
  let m := p.kmap
  match getVar m kMatrixSize with
  | .vInts ms =>
    -- InterfileHeader::post_processing: every dimension has a size, all sizes positive
    if ms.isEmpty || ms.any (fun l => l.isEmpty || l.any (· ≤ 0)) then .rejected
    else
      match pdfsSegments { numSegments := getInt m kNumSegments, minRD := getInts m kMinRD, maxRD := getInts m kMaxRD,
                           ringsPerSeg := getInts m kRingsPerSeg } with
      | .rejected => .rejected
      | .error => .error
      | .ok _ _ =>
        let ntp := getInt m kNumTimingPoss
        let order := getInts m kTofOrder
        if !order.isEmpty && (order.length : Int) ≠ toU32 ntp then .rejected
        else
          let fill (v gv : Int) : Int := if g.known && g.maxTof > 0 && g.sizePos > 0 && g.resPos > 0 && v < 0 then gv else v
          let maxTof := fill (getInt m kMaxTof) g.maxTof
          let sz := fill (getInt m kTofSize) g.sizePos
          let res := fill (getInt m kTofRes) g.resPos
          let ready := maxTof > 0 && sz > 0 && res > 0
          let mash := if getVar m kGeometry == .ascii "Cylindrical".toList then getInt m kTofMash else 0
          match tofBinsOf ready maxTof mash with
          | .error e => e
          | .ok bins =>
            if bins ≠ ntp then .errTof
            else .ok ntp bins (if ready && mash > 0 then mash else 0) (getInt m kNumSegments) (getInt m kNumViews)
                   (getInt m kNumBins) (getInts m kRingsPerSeg)
  | _ => .rejected

/-- `InterfilePDFSHeader().parse(text)` for a header whose `originating system` names the scanner `g` -/
def parsePdfsHeader (g : Guess) (text : Str) : PdfsOutcome :=
  let o := pdfsHeader0.parseWith pdfsLine text
  match o.tag with
  | .diverges => .diverges
  | .error => .error
  | .ok false => .rejected
  | .ok true => pdfsPost g o.kp

/-! ### `ParsingObject`: copies, assignment, destruction (src/buildblock/ParsingObject.cxx)

A `ParsingObject` has data members, a `KeyParser parser` and the flag `keymap_is_initialised`.  `initialise_keymap()` of the
concrete class registers its keys with POINTERS to the members of `this`.  In the model the members of an object are a `KP`
(keys + current values, i.e. the table that `initialise_keymap` would build for it) and the pointers of its `parser` are
abstracted to ONE object id, `owner`: every `initialise_keymap()` (re-)registers all keys with the members of the object it
runs on, so all pointers of a parser refer to the same object.  `parse` / `parameter_info` go through these pointers: they
read and write the members of `owner`, not necessarily those of the object they are called on.
Copy constructor (ParsingObject.cxx:34): members copied, flag false, parser EMPTY.  `operator=` (:38): members copied, flag
false, parser untouched.  The parse status of a `KeyParser` belongs to the parser, not to the members: `vals.parsing` is kept
`false` and the status of the parser of each object is the field `status`.  A destroyed object stays in the heap as `alive := false`; going through a pointer to it is `uaf`. -/

structure PObj where
  vals : KP                    -- the data members (as the key table of the class, with their current values)
  init : Bool := false         -- keymap_is_initialised
  owner : Option Nat := none   -- the object whose members the pointers in `parser` refer to (none: parser without keys)
  status : Bool := false       -- `parser.status == parsing` (left set when `error()` threw in the middle of a text)
  alive : Bool := true
  deriving Repr, DecidableEq, Inhabited

abbrev Heap := List PObj

inductive POp
  | new                          -- default constructor of the class
  | copy (i : Nat)               -- `new T(*obj_i)`
  | assign (i j : Nat)           -- `*obj_i = *obj_j`
  | parse (i : Nat) (text : Str) -- `obj_i->parse(stream)`
  | info (i : Nat)               -- `obj_i->parameter_info()`
  | destroy (i : Nat)            -- `delete obj_i`
  deriving Repr, DecidableEq, Inhabited

inductive PAns
  | id (n : Nat)
  | done
  | parsed (tag : Tag) (vals : KP)   -- result of `parse` and the members of the object afterwards
  | text (s : Str)
  | uaf                              -- a pointer into a destroyed object was used
  | bad                              -- operation on an object that does not exist (any more): not generated
  deriving Repr, DecidableEq, Inhabited

def Heap.live (h : Heap) (i : Nat) : Bool := match h[i]? with | some o => o.alive | none => false

/-- `if (!keymap_is_initialised) { initialise_keymap(); keymap_is_initialised = true; }` on object `i` -/
def Heap.ensureInit (h : Heap) (i : Nat) : Heap :=
  h.modify i fun o => if o.init then o else { o with init := true, owner := some i }

/-- the object that the KeyParser pointers of object `i` refer to, if it is still there (`none`: dangling, or no keys) -/
def Heap.target (h : Heap) (i : Nat) : Option (Nat × PObj) :=
  match h[i]? with
  | some o =>
    match o.owner with
    | some t =>
      match h[t]? with
      | some ot => if ot.alive then some (t, ot) else none
      | none => none
    | none => none
  | none => none

def Heap.statusOf (h : Heap) (i : Nat) : Bool := match h[i]? with | some o => o.status | none => false

/-- `parser.parse(text)` of object `i` whose pointers refer to the members `ot` of object `t` -/
def Heap.storeParse (h : Heap) (i t : Nat) (ot : PObj) (text : Str) : Heap × PAns :=
  let r := ({ ot.vals with parsing := h.statusOf i } : KP).parse text
  let h1 := h.set t { ot with vals := { r.kp with parsing := false } }
  let h2 := h1.modify i fun x => { x with status := r.kp.parsing }
  (h2, .parsed r.tag ((h2[i]?.map (·.vals)).getD ot.vals))

/-- one operation on the heap of objects of a class whose default-constructed members are `tmpl` -/
def Heap.step (tmpl : KP) (h : Heap) : POp → Heap × PAns
  | .new => (h ++ [{ vals := tmpl }], .id h.length)
  | .copy i =>
    match h[i]? with
    | some o => if o.alive then (h ++ [{ vals := o.vals }], .id h.length) else (h, .bad)
    | none => (h, .bad)
  | .assign i j =>
    match h[i]?, h[j]? with
    | some oi, some oj =>
      if oi.alive && oj.alive then (h.set i { oi with vals := oj.vals, init := false }, .done) else (h, .bad)
    | _, _ => (h, .bad)
  | .destroy i => if h.live i then (h.modify i fun o => { o with alive := false }, .done) else (h, .bad)
  | .parse i text =>
    if !h.live i then (h, .bad)
    else
      let h := h.ensureInit i
      match h.target i with
      | some (t, ot) => h.storeParse i t ot text
      | none => (h, .uaf)
  | .info i =>
    if !h.live i then (h, .bad)
    else
      let h := h.ensureInit i
      match h.target i with
      | some (_, ot) => (h, .text ot.vals.parameterInfo)
      | none => (h, .uaf)

/-- a history of operations from the heap `h`: final heap and the answers -/
def Heap.run (tmpl : KP) : Heap → List POp → Heap × List PAns
  | h, [] => (h, [])
  | h, op :: ops =>
    let (h', a) := h.step tmpl op
    let (h'', as) := Heap.run tmpl h' ops
    (h'', a :: as)

end StirVerif.C17
