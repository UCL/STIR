/-
C17 — Interfile headers with their size-giving keys in ANY order (model: `hdrLine`, `hdrCallback`, `imagePost`,
`parseImageHeader`, `parseMultiHeader` of Model.lean).  `HdrInv`: every table of the image header has the length given by its count
key; it holds after EVERY line of EVERY text (`hdrLine_inv`; the call-backs of the count keys are runs of key modifications, `modKeys`),
hence for the members that `post_processing` sees (`parseImageHeader_cases`; `parseMultiHeader_cases` for `MultipleDataSetHeader`).
Core Lean only.
-/
import StirVerif.C17.ProofsTotal
namespace StirVerif.C17

theorem parseLoopWith_inv (Inv : List Entry → Prop) (step : KP → Str → Option KP)
    (hstep : ∀ p l p', Inv p.kmap → step p l = some p' → Inv p'.kmap) (fuel : Nat) (p : KP) (s : Stream) (hp : Inv p.kmap) :
    Inv (parseLoopWith step fuel p s).kp.kmap := by
  induction fuel generalizing p s with
  | zero => exact hp
  | succ fuel ih =>
    rw [parseLoopWith]
    split
    · exact hp
    · split
      · exact hp
      · exact hp
      · next l s' _ =>
        cases hpl : step p l with
        | none => exact hp
        | some p' =>
          have hp' := hstep p l p' hp hpl
          simp only
          split
          · exact hp'
          · exact ih p' s' hp'

theorem parseWith_inv (Inv : List Entry → Prop) (step : KP → Str → Option KP)
    (hstep : ∀ p l p', Inv p.kmap → step p l = some p' → Inv p'.kmap) (p : KP) (text : Str) (hp : Inv p.kmap) :
    Inv (p.parseWith step text).kp.kmap := by
  unfold KP.parseWith
  simp only
  split
  · exact hp
  · exact hp
  · next l s' _ =>
    cases hpl : step p l with
    | none => exact hp
    | some p' =>
      have hp' := hstep p l p' hp hpl
      simp only
      split
      · exact hp'
      · split
        · exact hp'
        · exact parseLoopWith_inv Inv step hstep _ p' s' hp'

theorem getVar_nil (k : Str) : getVar [] k = .none := rfl

theorem getVar_setEntry_ne {m : List Entry} {k k' : Str} {v : Var} (h : k' ≠ k) :
    getVar (setEntry m k v) k' = getVar m k' := by
  unfold getVar
  rw [findInKeymap_setEntry_ne v h]

theorem getVar_setEntry_eq (m : List Entry) (k : Str) (v : Var) (h : (findInKeymap m k).isSome = true) :
    getVar (setEntry m k v) k = v := by
  obtain ⟨e, he⟩ := Option.isSome_iff_exists.mp h
  unfold getVar
  rw [findInKeymap_setEntry_eq v he]

theorem isSome_of_getVar (m : List Entry) (k : Str) (h : getVar m k ≠ .none) : (findInKeymap m k).isSome = true := by
  unfold getVar at h
  cases hf : findInKeymap m k with
  | none =>
    rw [hf] at h
    exact absurd rfl h
  | some e => rfl

theorem getVar_setKey_ne (p : KP) (k k' : Str) (v : Var) (h : k' ≠ k) : getVar (p.setKey k v).kmap k' = getVar p.kmap k' :=
  getVar_setEntry_ne h

theorem getVar_setKey_eq (p : KP) (k : Str) (v : Var) (h : getVar p.kmap k ≠ .none) : getVar (p.setKey k v).kmap k = v :=
  getVar_setEntry_eq _ _ _ (isSome_of_getVar _ _ h)

theorem getVar_resizeKey_ne (p : KP) (k k' : Str) (n : Nat) (fill : Int) (h : k' ≠ k) :
    getVar (p.resizeKey k n fill).kmap k' = getVar p.kmap k' :=
  getVar_setEntry_ne h

theorem getVar_resizeKey_eq (p : KP) (k : Str) (n : Nat) (fill : Int) :
    getVar (p.resizeKey k n fill).kmap k = resizeVar (getVar p.kmap k) n fill := by
  unfold KP.resizeKey KP.setKey getVar
  rw [findInKeymap_setEntry]
  cases hf : findInKeymap p.kmap k with
  | none => rfl
  | some e => simp [key_of_find hf]

theorem getVar_of_find (m : List Entry) (k : Str) (e : Entry) (h : findInKeymap m k = some e) : getVar m k = e.var := by
  unfold getVar
  rw [h]

/-- what `set_variable` preserves: the kind of the variable and, for a table, its number of elements (`SameKind` of ProofsLine, the
    hypothesis of the print → parse round trip), or, for a choice, its list of values (a choice is not `Printable`, so `SameKind` has
    no case for it) -/
def sameShape (v w : Var) : Prop := SameKind v w ∨ ∃ a i j, v = .choice a i ∧ w = .choice a j

theorem sameShape_refl (v : Var) : sameShape v v := by cases v <;> simp [sameShape, SameKind]

theorem setVariable_shape (v : Var) (p : Param) (i : Int) (v' : Var) (h : setVariable v p i = some v') : sameShape v v' := by
  unfold setVariable at h
  split at h
  · cases h
    exact sameShape_refl v
  · split at h
    · unfold setScalar at h
      -- every kind of variable with every kind of parameter: `setScalar` refuses (`h` is absurd) or stores a value of the kind of `v`
      cases v <;> cases p <;> simp at h <;> (try subst h) <;> simp [sameShape, SameKind]
    · unfold setIndexed at h
      cases v <;> cases p <;> simp at h
      all_goals
        obtain ⟨l', hl, rfl⟩ := h
        simp [sameShape, SameKind, assignToList_length _ _ _ _ hl]

theorem parseLine_effect (p : KP) (line : Str) (p' : KP) (h : p.parseLine line = some p') :
    p'.kmap = p.kmap ∨
      ∃ v, sameShape (getVar p.kmap (p.keywordOf line)) v ∧ (findInKeymap p.kmap (p.keywordOf line)).isSome = true ∧
        p'.kmap = setEntry p.kmap (p.keywordOf line) v := by
  cases hf : findInKeymap p.kmap (p.keywordOf line) with
  | none =>
    unfold KP.parseLine processLine at h
    rw [hf] at h
    cases h
    exact .inl rfl
  | some e =>
    rw [parseLine_of_find p e line rfl hf] at h
    cases ha : e.action with
    | start | stop | ignore =>
      rw [ha] at h
      cases h
      exact .inl rfl
    | set =>
      rw [ha] at h
      obtain ⟨v, hs, rfl⟩ := Option.map_eq_some_iff.mp h
      exact .inr ⟨v, getVar_of_find _ _ _ hf ▸ setVariable_shape _ _ _ _ hs, rfl, rfl⟩

/-- `number of dimensions` and the tables it sizes (`first pixel offset (mm)` is empty until the key has been seen: then the
    count is still 2, the constructor's value) -/
def DimsInv (m : List Entry) : Prop :=
  ∃ (d : Nat) (ms : List (List Int)) (lb : List Str) (ps fp : List Int),
    getVar m kNumDims = .int d ∧ getVar m kMatrixSize = .vInts ms ∧ getVar m kLabels = .vAscii lb ∧
    getVar m kPixelSizes = .vInt ps ∧ getVar m kFirstPixel = .vInt fp ∧
    ms.length = d ∧ lb.length = d ∧ ps.length = d ∧ (fp.length = d ∨ (fp.length = 0 ∧ d = 2))

/-- `number of time frames`, `number of image data types` and the tables they size (the per-frame tables are empty until
    `number of time frames` has been seen: then the count is still 1, the constructor's value) -/
def FramesInv (m : List Entry) : Prop :=
  ∃ (t k : Nat) (isf : List (List Int)) (off st du : List Int) (ds : List Str),
    getVar m kNumFrames = .int t ∧ getVar m kNumTypes = .int k ∧ getVar m kScaling = .vInts isf ∧
    getVar m kOffsets = .vInt off ∧ getVar m kStart = .vInt st ∧ getVar m kDuration = .vInt du ∧ getVar m kDescr = .vAscii ds ∧
    isf.length = t * k ∧ off.length = t * k ∧ ds.length = k ∧
    ((st.length = t ∧ du.length = t) ∨ (st.length = 0 ∧ du.length = 0 ∧ t = 1))

def WindowsInv (m : List Entry) : Prop :=
  ∃ (w : Nat) (lo up : List Int),
    getVar m kNumWindows = .int w ∧ getVar m kLower = .vInt lo ∧ getVar m kUpper = .vInt up ∧ lo.length = w ∧ up.length = w

def HdrInv (m : List Entry) : Prop := DimsInv m ∧ FramesInv m ∧ WindowsInv m

/-- the tables of the three groups, in the order in which the call-backs of the count keys set them -/
def dimsTabs : List Str := [kLabels, kMatrixSize, kPixelSizes, kFirstPixel]
def framesTabs : List Str := [kScaling, kOffsets, kStart, kDuration, kDescr]
def windowsTabs : List Str := [kUpper, kLower]

/-- the members that `HdrInv` speaks of — positions 0-4: `number of dimensions` and its tables; 5-11: the two count keys
    `number of time frames`, `number of image data types` and their tables; 12-14: `number of energy windows` and its tables — and
    the flag that `type of data` sets -/
def hdrKeys : List Str :=
  [kNumDims, kLabels, kMatrixSize, kPixelSizes, kFirstPixel, kNumFrames, kNumTypes, kScaling, kOffsets, kStart, kDuration, kDescr,
   kNumWindows, kUpper, kLower, kPetKeysRegistered]

/-- the proofs about the image header take the differences of keys from here, as `nodup_sel hdrKeys_nodup [positions]` or
    `hdrKeys_ne i j` -/
theorem hdrKeys_nodup : hdrKeys.Nodup := by decide +kernel

theorem nodup_sel {α : Type} {l : List α} (h : l.Nodup) (is : List Nat) (his : is.Nodup) : (is.filterMap (l[·]?)).Nodup :=
  List.Pairwise.filterMap (S := (· ≠ ·)) _ (fun i j (hij : i ≠ j) a ha b hb (e : a = b) =>
    hij ((List.getElem?_inj (List.getElem?_eq_some_iff.mp ha).1 h).mp (ha.trans (e ▸ hb.symm)))) his

theorem hdrKeys_ne (i j : Nat) (h : i ≠ j) {a b : Str} (ha : hdrKeys[i]? = some a) (hb : hdrKeys[j]? = some b) : a ≠ b :=
  fun e => h ((List.getElem?_inj (List.getElem?_eq_some_iff.mp ha).1 hdrKeys_nodup).mp (ha.trans (e ▸ hb.symm)))

theorem sameShape_cases {v w : Var} (h : sameShape v w) :
    match v with
    | .int _ => ∃ n, w = .int n
    | .vInt l => ∃ l', w = .vInt l' ∧ l'.length = l.length
    | .vAscii l => ∃ l', w = .vAscii l' ∧ l'.length = l.length
    | .vInts l => ∃ l', w = .vInts l' ∧ l'.length = l.length
    | _ => True := by
  -- all pairs of constructors: off the diagonal `h` is `False`, on it the goal is `h` up to the symmetry of `=` on the lengths
  cases v <;> cases w <;> simp [sameShape, SameKind] at h ⊢ <;> omega

theorem DimsInv_shape (m m' : List Entry) (h : DimsInv m) (hc : getVar m' kNumDims = getVar m kNumDims)
    (hs : ∀ k ∈ dimsTabs, sameShape (getVar m k) (getVar m' k)) : DimsInv m' := by
  obtain ⟨d, ms, lb, ps, fp, h1, h2, h3, h4, h5, l2, l3, l4, l5⟩ := h
  obtain ⟨ms', e2, n2⟩ := sameShape_cases (h2 ▸ hs kMatrixSize (by simp [dimsTabs]))
  obtain ⟨lb', e3, n3⟩ := sameShape_cases (h3 ▸ hs kLabels (by simp [dimsTabs]))
  obtain ⟨ps', e4, n4⟩ := sameShape_cases (h4 ▸ hs kPixelSizes (by simp [dimsTabs]))
  obtain ⟨fp', e5, n5⟩ := sameShape_cases (h5 ▸ hs kFirstPixel (by simp [dimsTabs]))
  exact ⟨d, ms', lb', ps', fp', hc.trans h1, e2, e3, e4, e5, by omega, by omega, by omega, by omega⟩

theorem FramesInv_shape (m m' : List Entry) (h : FramesInv m) (hc1 : getVar m' kNumFrames = getVar m kNumFrames)
    (hc2 : getVar m' kNumTypes = getVar m kNumTypes) (hs : ∀ k ∈ framesTabs, sameShape (getVar m k) (getVar m' k)) :
    FramesInv m' := by
  obtain ⟨t, k, isf, off, st, du, ds, h1, h2, h3, h4, h5, h6, h7, l3, l4, l7, l56⟩ := h
  obtain ⟨isf', e3, n3⟩ := sameShape_cases (h3 ▸ hs kScaling (by simp [framesTabs]))
  obtain ⟨off', e4, n4⟩ := sameShape_cases (h4 ▸ hs kOffsets (by simp [framesTabs]))
  obtain ⟨st', e5, n5⟩ := sameShape_cases (h5 ▸ hs kStart (by simp [framesTabs]))
  obtain ⟨du', e6, n6⟩ := sameShape_cases (h6 ▸ hs kDuration (by simp [framesTabs]))
  obtain ⟨ds', e7, n7⟩ := sameShape_cases (h7 ▸ hs kDescr (by simp [framesTabs]))
  exact ⟨t, k, isf', off', st', du', ds', hc1.trans h1, hc2.trans h2, e3, e4, e5, e6, e7, by omega, by omega, by omega, by omega⟩

theorem WindowsInv_shape (m m' : List Entry) (h : WindowsInv m) (hc : getVar m' kNumWindows = getVar m kNumWindows)
    (hs : ∀ k ∈ windowsTabs, sameShape (getVar m k) (getVar m' k)) : WindowsInv m' := by
  obtain ⟨w, lo, up, h1, h2, h3, l2, l3⟩ := h
  obtain ⟨lo', e2, n2⟩ := sameShape_cases (h2 ▸ hs kLower (by simp [windowsTabs]))
  obtain ⟨up', e3, n3⟩ := sameShape_cases (h3 ▸ hs kUpper (by simp [windowsTabs]))
  exact ⟨w, lo', up', hc.trans h1, e2, e3, by omega, by omega⟩

theorem DimsInv_congr (m m' : List Entry) (h : DimsInv m) (he : ∀ k ∈ kNumDims :: dimsTabs, getVar m' k = getVar m k) : DimsInv m' :=
  DimsInv_shape m m' h (he _ List.mem_cons_self) fun k hk => he k (List.mem_cons_of_mem _ hk) ▸ sameShape_refl _

theorem FramesInv_congr (m m' : List Entry) (h : FramesInv m) (he : ∀ k ∈ kNumFrames :: kNumTypes :: framesTabs, getVar m' k = getVar m k) :
    FramesInv m' :=
  FramesInv_shape m m' h (he _ List.mem_cons_self) (he _ (List.mem_cons_of_mem _ List.mem_cons_self)) fun k hk =>
    he k (List.mem_cons_of_mem _ (List.mem_cons_of_mem _ hk)) ▸ sameShape_refl _

theorem WindowsInv_congr (m m' : List Entry) (h : WindowsInv m) (he : ∀ k ∈ kNumWindows :: windowsTabs, getVar m' k = getVar m k) :
    WindowsInv m' :=
  WindowsInv_shape m m' h (he _ List.mem_cons_self) fun k hk => he k (List.mem_cons_of_mem _ hk) ▸ sameShape_refl _

theorem parseLine_vars (p : KP) (line : Str) (p' : KP) (h : p.parseLine line = some p') :
    (∀ k, sameShape (getVar p.kmap k) (getVar p'.kmap k)) ∧ (∀ k, k ≠ p.keywordOf line → getVar p'.kmap k = getVar p.kmap k) := by
  rcases parseLine_effect p line p' h with e | ⟨v, hs, hp, e⟩
  · rw [e]
    exact ⟨fun k => sameShape_refl _, fun k _ => rfl⟩
  · rw [e]
    refine ⟨fun k => ?_, fun k hk => getVar_setEntry_ne hk⟩
    by_cases hk : k = p.keywordOf line
    · subst hk
      rw [getVar_setEntry_eq _ _ _ hp]
      exact hs
    · rw [getVar_setEntry_ne hk]
      exact sameShape_refl _

/-! ### the call-backs

Every call-back of a count key is a run of `p.setKey k (f (getVar p.kmap k))` over some of the tables of its group. -/

/-- The pairs are matched, here and in the statements below, never projected: where `Prod.fst (kX, f)` has to be seen to be the
    key constant `kX`, the unifier unfolds the string literal behind `kX` before it reduces the projection. -/
def modKeys (m : List Entry) (ops : List (Str × (Var → Var))) : List Entry :=
  ops.foldl (fun m (k, f) => setEntry m k (f (getVar m k))) m

theorem getVar_modKeys_of_not_mem {m : List Entry} {ops : List (Str × (Var → Var))} {k : Str} (h : k ∉ ops.map fun (k, _) => k) :
    getVar (modKeys m ops) k = getVar m k := by
  induction ops generalizing m with
  | nil => rfl
  | cons o ops ih =>
    rw [List.map_cons, List.mem_cons, not_or] at h
    exact (ih h.2).trans (getVar_setEntry_ne h.1)

theorem getVar_modKeys_of_mem (m : List Entry) (ops : List (Str × (Var → Var))) (k : Str) (f : Var → Var)
    (hnd : (ops.map fun (k, _) => k).Nodup) (hm : (k, f) ∈ ops) (hp : getVar m k ≠ .none) : getVar (modKeys m ops) k = f (getVar m k) := by
  induction ops generalizing m with
  | nil => cases hm
  | cons o ops ih =>
    obtain ⟨k0, f0⟩ := o
    rw [List.map_cons, List.nodup_cons] at hnd
    rcases List.mem_cons.mp hm with e | hm'
    · cases e
      exact (getVar_modKeys_of_not_mem hnd.1).trans (getVar_setEntry_eq _ _ _ (isSome_of_getVar _ _ hp))
    · have hne : k ≠ k0 := fun e => hnd.1 (e ▸ List.mem_map.mpr ⟨_, hm', rfl⟩)
      have e := getVar_setEntry_ne (m := m) (v := f0 (getVar m k0)) hne
      exact (ih _ hnd.2 hm' (e ▸ hp)).trans (congrArg f e)

def dimsOps (n : Nat) : List (Str × (Var → Var)) :=
  [(kLabels, (resizeVar · n 0)), (kMatrixSize, (resizeVar · n 0)), (kPixelSizes, (resizeVar · n 1)),
   (kFirstPixel, fun _ => .vInt (List.replicate n notSet))]

def framesOps (nd t : Nat) : List (Str × (Var → Var)) :=
  [(kScaling, (resizeScaling · nd)), (kOffsets, (resizeVar · nd 0)), (kStart, (resizeVar · t 0)), (kDuration, (resizeVar · t 0))]

def typesOps (nd k : Nat) : List (Str × (Var → Var)) :=
  [(kScaling, (resizeScaling · nd)), (kOffsets, (resizeVar · nd 0)), (kDescr, (resizeVar · k 0))]

def windowsOps (n : Nat) : List (Str × (Var → Var)) := [(kUpper, (resizeVar · n (-1))), (kLower, (resizeVar · n (-1)))]

theorem hdrCallback_dims (p : KP) :
    hdrCallback kNumDims p = if getInt p.kmap kNumDims < 0 then none
      else some { p with kmap := modKeys p.kmap (dimsOps (getInt p.kmap kNumDims).toNat) } := by
  unfold hdrCallback
  rw [if_pos (beq_self_eq_true _)]
  rfl

theorem hdrCallback_frames (p : KP) :
    hdrCallback kNumFrames p =
      if getInt p.kmap kNumFrames * getInt p.kmap kNumTypes < 0 || getInt p.kmap kNumFrames < 0 then none
      else some { p with kmap := modKeys p.kmap (framesOps (getInt p.kmap kNumFrames * getInt p.kmap kNumTypes).toNat
                                                   (getInt p.kmap kNumFrames).toNat) } := by
  have h1 : kNumFrames ≠ kNumDims := hdrKeys_ne 5 0 (by decide) rfl rfl
  unfold hdrCallback
  rw [if_neg (by simpa using h1), if_pos (beq_self_eq_true _)]
  rfl

theorem hdrCallback_types (p : KP) :
    hdrCallback kNumTypes p =
      if getInt p.kmap kNumFrames * getInt p.kmap kNumTypes < 0 || getInt p.kmap kNumTypes < 0 then none
      else some { p with kmap := modKeys p.kmap (typesOps (getInt p.kmap kNumFrames * getInt p.kmap kNumTypes).toNat
                                                   (getInt p.kmap kNumTypes).toNat) } := by
  have h1 : kNumTypes ≠ kNumDims := hdrKeys_ne 6 0 (by decide) rfl rfl
  have h2 : kNumTypes ≠ kNumFrames := hdrKeys_ne 6 5 (by decide) rfl rfl
  unfold hdrCallback
  rw [if_neg (by simpa using h1), if_neg (by simpa using h2), if_pos (beq_self_eq_true _)]
  rfl

theorem hdrCallback_windows (p : KP) :
    hdrCallback kNumWindows p = if getInt p.kmap kNumWindows < 0 then none
      else some { p with kmap := modKeys p.kmap (windowsOps (getInt p.kmap kNumWindows).toNat) } := by
  have h1 : kNumWindows ≠ kNumDims := hdrKeys_ne 12 0 (by decide) rfl rfl
  have h2 : kNumWindows ≠ kNumFrames := hdrKeys_ne 12 5 (by decide) rfl rfl
  have h3 : kNumWindows ≠ kNumTypes := hdrKeys_ne 12 6 (by decide) rfl rfl
  unfold hdrCallback
  rw [if_neg (by simpa using h1), if_neg (by simpa using h2), if_neg (by simpa using h3), if_pos (beq_self_eq_true _)]
  rfl

/-- any other keyword: the members of the three groups are not touched (`type of data` only registers keys) -/
theorem hdrCallback_other (kw : Str) (p p' : KP) (h1 : kw ≠ kNumDims) (h2 : kw ≠ kNumFrames) (h3 : kw ≠ kNumTypes) (h4 : kw ≠ kNumWindows)
    (h : hdrCallback kw p = some p') : p' = p ∨ p' = p.setKey kPetKeysRegistered (.bool true) := by
  unfold hdrCallback at h
  rw [if_neg (by simpa using h1), if_neg (by simpa using h2), if_neg (by simpa using h3), if_neg (by simpa using h4)] at h
  split at h
  · split at h
    · split at h
      · cases h
      · split at h
        · right
          cases h
          rfl
        · left
          cases h
          rfl
    · left
      cases h
      rfl
  · left
    cases h
    rfl

theorem getInt_of {m : List Entry} {k : Str} {n : Int} (h : getVar m k = .int n) : getInt m k = n := by
  unfold getInt
  rw [h]

theorem toNat_mul_cast (a k : Nat) : ((a : Int) * (k : Int)).toNat = a * k := by
  rw [← Int.natCast_mul]
  exact Int.toNat_natCast _

theorem length_resizeList {α : Type} {l : List α} {n : Nat} {fill : α} : (resizeList l n fill).length = n := by
  unfold resizeList
  simp [List.length_take]
  omega

theorem resizeScaling_vInts (l : List (List Int)) (n : Nat) :
    resizeScaling (.vInts l) n = .vInts ((resizeList l n []).map fun x => resizeList x 1 1) := rfl

/-- the variables after the call-back `ops` of the count key `c`, in terms of those before the line (`p`; `p1` is `p` after
    `set_variable`, which has touched the count only): the members `rest` are as before, each table has been modified -/
theorem callback_vars (p p1 : KP) (c : Str) (ops : List (Str × (Var → Var))) (rest : List Str)
    (hne : ∀ k, k ≠ c → getVar p1.kmap k = getVar p.kmap k) (hnd : ((c :: ops.map fun (k, _) => k) ++ rest).Nodup) :
    (∀ k ∈ rest, getVar (modKeys p1.kmap ops) k = getVar p.kmap k) ∧
    getVar (modKeys p1.kmap ops) c = getVar p1.kmap c ∧
    ∀ k f, (k, f) ∈ ops → ∀ v, getVar p.kmap k = v → v ≠ .none → getVar (modKeys p1.kmap ops) k = f v := by
  obtain ⟨hw, -, hoff⟩ := List.nodup_append.mp hnd
  rw [List.nodup_cons] at hw
  refine ⟨fun k hk => ?_, getVar_modKeys_of_not_mem hw.1, fun k f ho v hv hp => ?_⟩
  · exact (getVar_modKeys_of_not_mem fun h => hoff _ (.tail _ h) k hk rfl).trans (hne k fun e => hoff c (.head _) k hk e.symm)
  · have hk : k ≠ c := fun e => hw.1 (e ▸ List.mem_map.mpr ⟨_, ho, rfl⟩)
    subst hv
    rw [getVar_modKeys_of_mem _ _ k f hw.2 ho (hne _ hk ▸ hp), hne _ hk]

theorem dims_step (p p1 p' : KP) (hi : HdrInv p.kmap) (hsh : ∀ k, sameShape (getVar p.kmap k) (getVar p1.kmap k))
    (hne : ∀ k, k ≠ kNumDims → getVar p1.kmap k = getVar p.kmap k) (h : hdrCallback kNumDims p1 = some p') : HdrInv p'.kmap := by
  obtain ⟨⟨d, ms, lb, ps, fp, e1, e2, e3, e4, e5, -⟩, hf, hw⟩ := hi
  obtain ⟨n, en⟩ := sameShape_cases (e1 ▸ hsh kNumDims)
  rw [hdrCallback_dims, getInt_of en] at h
  split at h
  · cases h
  · cases h
    -- positions in `hdrKeys`: the count key, the tables that the call-back modifies, then the members it leaves alone
    obtain ⟨hrest, hcount, htab⟩ := callback_vars p p1 kNumDims (dimsOps n.toNat)
      ((kNumFrames :: kNumTypes :: framesTabs) ++ (kNumWindows :: windowsTabs)) hne
      (nodup_sel hdrKeys_nodup (List.range 15) (by decide))
    refine ⟨⟨n.toNat, resizeList ms n.toNat [], resizeList lb n.toNat [], resizeList ps n.toNat 1, List.replicate n.toNat notSet,
      ?_, ?_, ?_, ?_, ?_, length_resizeList, length_resizeList, length_resizeList, Or.inl List.length_replicate⟩,
      FramesInv_congr _ _ hf fun k hk => hrest k (List.mem_append_left _ hk),
      WindowsInv_congr _ _ hw fun k hk => hrest k (List.mem_append_right _ hk)⟩
    · rw [hcount, en, Int.toNat_of_nonneg (by omega)]
    · exact htab _ _ (.tail _ (.head _)) _ e2 nofun
    · exact htab _ _ (.head _) _ e3 nofun
    · exact htab _ _ (.tail _ (.tail _ (.head _))) _ e4 nofun
    · exact htab _ _ (.tail _ (.tail _ (.tail _ (.head _)))) _ e5 nofun

theorem frames_step (p p1 p' : KP) (hi : HdrInv p.kmap) (hsh : ∀ k, sameShape (getVar p.kmap k) (getVar p1.kmap k))
    (hne : ∀ k, k ≠ kNumFrames → getVar p1.kmap k = getVar p.kmap k) (h : hdrCallback kNumFrames p1 = some p') : HdrInv p'.kmap := by
  obtain ⟨hd, ⟨t, k, isf, off, st, du, ds, e1, e2, e3, e4, e5, e6, e7, -, -, l7, -⟩, hw⟩ := hi
  obtain ⟨n, en⟩ := sameShape_cases (e1 ▸ hsh kNumFrames)
  rw [hdrCallback_frames, getInt_of en, getInt_of ((hne _ (hdrKeys_ne 6 5 (by decide) rfl rfl)).trans e2)] at h
  split at h
  · cases h
  · next hn =>
    cases h
    obtain ⟨a, rfl⟩ := Int.eq_ofNat_of_zero_le (a := n) (by simp at hn; omega)
    rw [toNat_mul_cast, Int.toNat_natCast]
    obtain ⟨hrest, hcount, htab⟩ := callback_vars p p1 kNumFrames (framesOps (a * k) a)
      ((kNumDims :: dimsTabs) ++ (kNumWindows :: windowsTabs) ++ [kNumTypes, kDescr]) hne
      (nodup_sel hdrKeys_nodup [5, 7, 8, 9, 10, 0, 1, 2, 3, 4, 12, 13, 14, 6, 11] (by decide))
    refine ⟨DimsInv_congr _ _ hd fun k hk => hrest k (List.mem_append_left _ (List.mem_append_left _ hk)),
      ⟨a, k, (resizeList isf (a * k) []).map (fun x => resizeList x 1 1), resizeList off (a * k) 0, resizeList st a 0,
        resizeList du a 0, ds, ?_, ?_, ?_, ?_, ?_, ?_, ?_, by simp [length_resizeList], length_resizeList, l7,
        Or.inl ⟨length_resizeList, length_resizeList⟩⟩,
      WindowsInv_congr _ _ hw fun k hk => hrest k (List.mem_append_left _ (List.mem_append_right _ hk))⟩
    · rw [hcount, en]
    · rw [hrest kNumTypes (List.mem_append_right _ (.head _)), e2]
    · exact htab _ _ (.head _) _ e3 nofun
    · exact htab _ _ (.tail _ (.head _)) _ e4 nofun
    · exact htab _ _ (.tail _ (.tail _ (.head _))) _ e5 nofun
    · exact htab _ _ (.tail _ (.tail _ (.tail _ (.head _)))) _ e6 nofun
    · rw [hrest kDescr (List.mem_append_right _ (.tail _ (.head _))), e7]

theorem types_step (p p1 p' : KP) (hi : HdrInv p.kmap) (hsh : ∀ k, sameShape (getVar p.kmap k) (getVar p1.kmap k))
    (hne : ∀ k, k ≠ kNumTypes → getVar p1.kmap k = getVar p.kmap k) (h : hdrCallback kNumTypes p1 = some p') : HdrInv p'.kmap := by
  obtain ⟨hd, ⟨t, k, isf, off, st, du, ds, e1, e2, e3, e4, e5, e6, e7, -, -, -, l56⟩, hw⟩ := hi
  obtain ⟨n, en⟩ := sameShape_cases (e2 ▸ hsh kNumTypes)
  rw [hdrCallback_types, getInt_of en, getInt_of ((hne _ (hdrKeys_ne 5 6 (by decide) rfl rfl)).trans e1)] at h
  split at h
  · cases h
  · next hn =>
    cases h
    obtain ⟨a, rfl⟩ := Int.eq_ofNat_of_zero_le (a := n) (by simp at hn; omega)
    rw [toNat_mul_cast, Int.toNat_natCast]
    obtain ⟨hrest, hcount, htab⟩ := callback_vars p p1 kNumTypes (typesOps (t * a) a)
      ((kNumDims :: dimsTabs) ++ (kNumWindows :: windowsTabs) ++ [kNumFrames, kStart, kDuration]) hne
      (nodup_sel hdrKeys_nodup [6, 7, 8, 11, 0, 1, 2, 3, 4, 12, 13, 14, 5, 9, 10] (by decide))
    refine ⟨DimsInv_congr _ _ hd fun k hk => hrest k (List.mem_append_left _ (List.mem_append_left _ hk)),
      ⟨t, a, (resizeList isf (t * a) []).map (fun x => resizeList x 1 1), resizeList off (t * a) 0, st, du, resizeList ds a [],
        ?_, ?_, ?_, ?_, ?_, ?_, ?_, by simp [length_resizeList], length_resizeList, length_resizeList, l56⟩,
      WindowsInv_congr _ _ hw fun k hk => hrest k (List.mem_append_left _ (List.mem_append_right _ hk))⟩
    · rw [hrest kNumFrames (List.mem_append_right _ (.head _)), e1]
    · rw [hcount, en]
    · exact htab _ _ (.head _) _ e3 nofun
    · exact htab _ _ (.tail _ (.head _)) _ e4 nofun
    · rw [hrest kStart (List.mem_append_right _ (.tail _ (.head _))), e5]
    · rw [hrest kDuration (List.mem_append_right _ (.tail _ (.tail _ (.head _)))), e6]
    · exact htab _ _ (.tail _ (.tail _ (.head _))) _ e7 nofun

theorem windows_step (p p1 p' : KP) (hi : HdrInv p.kmap) (hsh : ∀ k, sameShape (getVar p.kmap k) (getVar p1.kmap k))
    (hne : ∀ k, k ≠ kNumWindows → getVar p1.kmap k = getVar p.kmap k) (h : hdrCallback kNumWindows p1 = some p') : HdrInv p'.kmap := by
  obtain ⟨hd, hf, ⟨w, lo, up, e1, e2, e3, -⟩⟩ := hi
  obtain ⟨n, en⟩ := sameShape_cases (e1 ▸ hsh kNumWindows)
  rw [hdrCallback_windows, getInt_of en] at h
  split at h
  · cases h
  · cases h
    obtain ⟨hrest, hcount, htab⟩ := callback_vars p p1 kNumWindows (windowsOps n.toNat)
      ((kNumDims :: dimsTabs) ++ (kNumFrames :: kNumTypes :: framesTabs)) hne
      (nodup_sel hdrKeys_nodup [12, 13, 14, 0, 1, 2, 3, 4, 5, 6, 7, 8, 9, 10, 11] (by decide))
    refine ⟨DimsInv_congr _ _ hd fun k hk => hrest k (List.mem_append_left _ hk),
      FramesInv_congr _ _ hf fun k hk => hrest k (List.mem_append_right _ hk),
      ⟨n.toNat, resizeList lo n.toNat (-1), resizeList up n.toNat (-1), ?_, ?_, ?_, length_resizeList, length_resizeList⟩⟩
    · rw [hcount, en, Int.toNat_of_nonneg (by omega)]
    · exact htab _ _ (.tail _ (.head _)) _ e2 nofun
    · exact htab _ _ (.head _) _ e3 nofun

theorem HdrInv_shape (m m' : List Entry) (h : HdrInv m) (hc : ∀ k ∈ [kNumDims, kNumFrames, kNumTypes, kNumWindows], getVar m' k = getVar m k)
    (hs : ∀ k ∈ dimsTabs ++ framesTabs ++ windowsTabs, sameShape (getVar m k) (getVar m' k)) : HdrInv m' :=
  ⟨DimsInv_shape m m' h.1 (hc _ (by simp)) fun k hk => hs k (by simp [hk]),
   FramesInv_shape m m' h.2.1 (hc _ (by simp)) (hc _ (by simp)) fun k hk => hs k (by simp [hk]),
   WindowsInv_shape m m' h.2.2 (hc _ (by simp)) fun k hk => hs k (by simp [hk])⟩

theorem other_step (p p1 p' : KP) (kw : Str) (hi : HdrInv p.kmap) (hsh : ∀ k, sameShape (getVar p.kmap k) (getVar p1.kmap k))
    (hne : ∀ k, k ≠ kw → getVar p1.kmap k = getVar p.kmap k)
    (h1 : kw ≠ kNumDims) (h2 : kw ≠ kNumFrames) (h3 : kw ≠ kNumTypes) (h4 : kw ≠ kNumWindows)
    (h : hdrCallback kw p1 = some p') : HdrInv p'.kmap := by
  -- the call-back sets at most the key-registration flag, which is none of the members of the invariant
  have hflag : kPetKeysRegistered ∉ [kNumDims, kNumFrames, kNumTypes, kNumWindows] ++ (dimsTabs ++ framesTabs ++ windowsTabs) :=
    (List.nodup_cons.mp (nodup_sel hdrKeys_nodup [15, 0, 5, 6, 12, 1, 2, 3, 4, 7, 8, 9, 10, 11, 13, 14] (by decide))).1
  have hv : ∀ k ∈ [kNumDims, kNumFrames, kNumTypes, kNumWindows] ++ (dimsTabs ++ framesTabs ++ windowsTabs),
      getVar p'.kmap k = getVar p1.kmap k := by
    intro k hk
    rcases hdrCallback_other kw p1 p' h1 h2 h3 h4 h with e | e
    · rw [e]
    · rw [e]
      exact getVar_setEntry_ne fun e' => hflag (e' ▸ hk)
  refine HdrInv_shape _ _ hi (fun k hk => ?_) fun k hk => ?_
  · rw [hv k (List.mem_append_left _ hk), hne]
    rintro rfl
    simp only [List.mem_cons, List.not_mem_nil, or_false] at hk
    rcases hk with e | e | e | e
    · exact h1 e
    · exact h2 e
    · exact h3 e
    · exact h4 e
  · rw [hv k (List.mem_append_right _ hk)]
    exact hsh k

/-- `parseLine` keeps all shapes and touches the variable of one key; then one case per count key -/
theorem hdrLine_inv (p : KP) (line : Str) (p' : KP) (hi : HdrInv p.kmap) (h : hdrLine p line = some p') : HdrInv p'.kmap := by
  unfold hdrLine at h
  simp only at h
  split at h
  · cases h
    exact hi
  · cases hpl : p.parseLine line with
    | none =>
      rw [hpl] at h
      cases h
    | some p1 =>
      rw [hpl] at h
      simp only at h
      obtain ⟨hsh, hne⟩ := parseLine_vars p line p1 hpl
      by_cases c1 : p.keywordOf line = kNumDims
      · rw [c1] at h hne
        exact dims_step p p1 p' hi hsh hne h
      · by_cases c2 : p.keywordOf line = kNumFrames
        · rw [c2] at h hne
          exact frames_step p p1 p' hi hsh hne h
        · by_cases c3 : p.keywordOf line = kNumTypes
          · rw [c3] at h hne
            exact types_step p p1 p' hi hsh hne h
          · by_cases c4 : p.keywordOf line = kNumWindows
            · rw [c4] at h hne
              exact windows_step p p1 p' hi hsh hne h
            · exact other_step p p1 p' _ hi hsh hne c1 c2 c3 c4 h

/-- a small valid image header (1 x 1 x 2 voxels) with `tail` in front of the end key -/
def exHdr (tail : String) : Str :=
  ("!INTERFILE :=\n!type of data := PET\n!PET data type := Image\n!number format := float\n!number of bytes per pixel := 4\n" ++
   "number of dimensions := 3\n!matrix size [1] := 1\n!matrix size [2] := 1\n!matrix size [3] := 2\n" ++ tail ++
   "!END OF INTERFILE :=\n").toList

def varOf (k : Str) (o : HdrOutcome) : Var :=
  match o with
  | .ok p => getVar p.kmap k
  | _ => .none

/-- the members of a freshly constructed image header that the invariant speaks of, and what the concrete image-header texts used
    below and in Props parse to.  One conjunction on purpose: the kernel builds the header object once for all of them, and it
    evaluates on lists of characters (`String.toList_ofList`; string literals are slow to decode under `decide`). -/
theorem imageHeader_evals :
    (hdrKeys.take 15).map (getVar imageHeader0.kmap) =
      [.int 2, .vAscii [[], []], .vInts [[], []], .vInt [1, 1], .vInt [], .int 1, .int 1, .vInts [[1]], .vInt [0], .vInt [], .vInt [],
       .vAscii [[]], .int 1, .vInt [-1], .vInt [-1]] ∧
    varOf kOffsets (parseImageHeader (exHdr "number of image data types := 2\ndata offset in bytes[2] := 8\nnumber of time frames := 1\n"))
      = .vInt [0, 8] ∧
    parseImageHeader (exHdr "image duration (sec)[1] := 60\nnumber of time frames := 1\n") = .error ∧
    varOf kScaling (parseImageHeader (exHdr "image scaling factor[1] := {3,4}\nnumber of time frames := 1\n")) = .vInts [[3, 3]] ∧
    varOf kScaling (parseImageHeader (exHdr "number of time frames := 1\nimage scaling factor[1] := {3,4}\n")) = .vInts [[3, 4]] ∧
    parseImageHeader ("!INTERFILE :=\n!type of data := PET\n!PET data type := nonsense\n!number format := float\n!number of bytes per pixel := 4\nnumber of dimensions := 3\n!matrix size [1] := 1\n!matrix size [2] := 1\n!matrix size [3] := 2\n!END OF INTERFILE :=\n".toList)
      = .oob := by
  simp only [exHdr, String.toList_append]
  repeat rw [String.toList_ofList]
  decide +kernel

/-- parametric image, `number of time frames` AFTER the data-type keys and the offsets.
    The offset of the second data set survives. -/
theorem ex_parametric_frames_last :
    varOf kOffsets (parseImageHeader (exHdr "number of image data types := 2\ndata offset in bytes[2] := 8\nnumber of time frames := 1\n"))
      = .vInt [0, 8] := imageHeader_evals.2.1

/-- a per-frame key in front of `number of time frames`: the table is still empty, `error()` -/
theorem ex_duration_before_frames :
    parseImageHeader (exHdr "image duration (sec)[1] := 60\nnumber of time frames := 1\n") = .error := imageHeader_evals.2.2.1

theorem hdrInv_init : HdrInv imageHeader0.kmap := by
  have h := imageHeader_evals.1
  simp only [hdrKeys, List.take_succ_cons, List.take_zero, List.map_cons, List.map_nil, List.cons.injEq, and_true] at h
  obtain ⟨d1, d3, d2, d4, d5, f1, f2, f3, f4, f5, f6, f7, w1, w3, w2⟩ := h
  exact ⟨⟨2, _, _, _, _, d1, d2, d3, d4, d5, rfl, rfl, rfl, Or.inr ⟨rfl, rfl⟩⟩,
    ⟨1, 1, _, _, _, _, _, f1, f2, f3, f4, f5, f6, f7, rfl, rfl, rfl, Or.inr ⟨rfl, rfl, rfl⟩⟩, ⟨1, _, _, w1, w2, w3, rfl, rfl⟩⟩

theorem scalingLoop_spec (nz : Int) : ∀ (n : Nat) (l : List (List Int)), n ≤ l.length →
    scalingLoop nz n l = some none ∨
      ∃ r, scalingLoop nz n l = some (some r) ∧ r.length = l.length ∧ ∀ x ∈ r.take n, x.length = nz.toNat
  | 0, l, _ => .inr ⟨l, rfl, rfl, by simp⟩
  | n + 1, [], h => by simp at h
  | n + 1, x :: rest, h => by
    rw [scalingLoop]
    -- the answer for the other data sets first: both branches pass `some none` on and put one list of `nz` factors in front of `r`
    rcases scalingLoop_spec nz n rest (by simpa using h) with e | ⟨r, e, el, ex⟩
    · rw [e]
      left
      split
      · rfl
      · split <;> rfl
    · rw [e]
      split
      · exact .inr ⟨_, rfl, by simp [el], List.forall_mem_cons.mpr ⟨by simp, ex⟩⟩
      · split
        · exact .inl rfl
        · exact .inr ⟨_, rfl, by simp [el], List.forall_mem_cons.mpr ⟨by omega, ex⟩⟩

/-- number of planes: first element of the last `matrix size` list -/
def planes (ms : List (List Int)) : Int := (ms.getLast?.getD []).headD 0

/-- what `post_processing` of the image header can answer for members that satisfy the invariant: it rejects, throws,
    indexes `PET_data_type_values` with an index outside the list (the pinned source; /repo rejects first since `fix:` 2bd3f32b4), or accepts with one scaling factor per plane for every
    data set -/
def ImageAnswer (q : KP) : HdrOutcome → Prop
  | .diverges => False
  | .oob => ∃ vals i, getVar q.kmap kPetType = .choice vals i ∧ (i < 0 ∨ (vals.length : Int) ≤ i)
  | .ok p => ∃ ms isf isf', getVar q.kmap kMatrixSize = .vInts ms ∧ getVar q.kmap kScaling = .vInts isf ∧ isf'.length = isf.length ∧
      (∀ x ∈ isf', x.length = (planes ms).toNat) ∧ p = q.setKey kScaling (.vInts isf')
  | _ => True

theorem imagePost_cases (q : KP) (hq : HdrInv q.kmap) : ImageAnswer q (imagePost q) := by
  obtain ⟨⟨d, ms, lb, ps, fp, d1, d2, d3, d4, d5, dl2, dl3, dl4, dl5⟩,
    ⟨t, k, isf, off, st, du, ds, f1, f2, f3, f4, f5, f6, f7, fl3, fl4, fl7, fl56⟩, ⟨w, lo, up, w1, w2, w3, wl2, wl3⟩⟩ := hq
  unfold imagePost
  simp only [d2, d3, f3, f5, f6, w2, w3, getInt_of f1, getInt_of f2, getInt_of w1, getInt_of d1]
  split
  · next vals tIdx fvals fIdx ms' isf0 pvals pIdx labels e1 e2 e3 e4 e5 e6 =>
    cases e3
    cases e4
    cases e6
    -- the checks of `InterfileHeader::post_processing` in front of the loop over the data sets
    refine iteInduction (fun _ => trivial) fun _ => ?_
    refine iteInduction (fun _ => trivial) fun _ => ?_
    refine iteInduction (fun _ => trivial) fun _ => ?_
    refine iteInduction (fun _ => trivial) fun _ => ?_
    refine iteInduction (fun _ => trivial) fun _ => ?_
    refine iteInduction (fun _ => trivial) fun c6 => ?_
    have hlen : ((t : Int) * (k : Int)).toNat ≤ isf.length := by
      rw [toNat_mul_cast]
      omega
    rcases scalingLoop_spec (planes ms) _ isf hlen with e | ⟨r, e, el, ex⟩
    · unfold planes at e
      simp only [e]
      trivial
    · unfold planes at e
      simp only [e]
      have hall : ∀ x ∈ r, x.length = (planes ms).toNat := fun x hx =>
        ex x (by rw [List.take_of_length_le (by rw [el, toNat_mul_cast]; omega)]; exact hx)
      -- the energy-window tables are not empty when there are windows
      refine iteInduction (fun c7 => ?_) fun _ => ?_
      · exfalso
        simp at c7
        obtain ⟨hw0, h' | h'⟩ := c7
        · rw [h'] at wl3
          simp at wl3
          omega
        · rw [h'] at wl2
          simp at wl2
          omega
      refine iteInduction (fun _ => trivial) fun _ => ?_
      refine iteInduction (fun c9 => ⟨pvals, pIdx, e5, by simpa using c9⟩) fun _ => ?_
      refine iteInduction (fun _ => trivial) fun _ => ?_
      refine iteInduction (fun _ => trivial) fun c11 => ?_
      -- three dimensions: `matrix size` and `matrix axis label` have three elements
      refine iteInduction (fun c12 => ?_) fun _ => ?_
      · exfalso
        simp at c11 c12
        omega
      refine iteInduction (fun _ => trivial) fun _ => ?_
      refine iteInduction (fun _ => trivial) fun _ => ?_
      exact ⟨ms, isf, r, d2, f3, el, hall, rfl⟩
  · trivial

theorem hdrInv_setScaling (q : KP) (hq : HdrInv q.kmap) (isf isf' : List (List Int)) (h3 : getVar q.kmap kScaling = .vInts isf)
    (hl : isf'.length = isf.length) : HdrInv (q.setKey kScaling (.vInts isf')).kmap := by
  have hc : kScaling ∉ [kNumDims, kNumFrames, kNumTypes, kNumWindows] :=
    (List.nodup_cons.mp (nodup_sel hdrKeys_nodup [7, 0, 5, 6, 12] (by decide))).1
  refine HdrInv_shape _ _ hq (fun k hk => getVar_setEntry_ne fun e => hc (e ▸ hk)) fun k _ => ?_
  by_cases e : k = kScaling
  · subst e
    rw [getVar_setKey_eq _ _ _ (by rw [h3]; simp), h3]
    exact .inl hl.symm
  · rw [getVar_setKey_ne _ _ _ _ e]
    exact sameShape_refl _

theorem hdrParse_cases (step : KP → Str → Option KP) (post : KP → HdrOutcome) (p0 : KP) (text : Str) :
    hdrParse step post p0 text = .error ∨ hdrParse step post p0 text = .rejected ∨
      hdrParse step post p0 text = post (p0.parseWith step text).kp := by
  unfold hdrParse
  simp only
  split
  · next e => exact absurd e (parseWith_total step p0 text)
  · exact .inl rfl
  · exact .inr (.inl rfl)
  · exact .inr (.inr rfl)

theorem parseImageHeader_cases (text : Str) :
    match parseImageHeader text with
    | .diverges => False
    | .oob => ∃ vals i,
        getVar (imageHeader0.parseWith hdrLine text).kp.kmap kPetType = .choice vals i ∧ (i < 0 ∨ (vals.length : Int) ≤ i)
    | .ok p => HdrInv p.kmap ∧
        ∃ ms isf, getVar p.kmap kMatrixSize = .vInts ms ∧ getVar p.kmap kScaling = .vInts isf ∧ ∀ x ∈ isf, x.length = (planes ms).toNat
    | _ => True := by
  have hq := parseWith_inv HdrInv hdrLine hdrLine_inv imageHeader0 text hdrInv_init
  unfold parseImageHeader
  rcases hdrParse_cases hdrLine imagePost imageHeader0 text with e | e | e
  · rw [e]
    trivial
  · rw [e]
    trivial
  · rw [e]
    have h := imagePost_cases _ hq
    generalize imagePost _ = r at h ⊢
    cases r with
    | ok p =>
      obtain ⟨ms, isf, isf', e2, e3, el, hall, rfl⟩ := h
      refine ⟨hdrInv_setScaling _ hq isf isf' e3 el, ms, isf', ?_, ?_, hall⟩
      · rw [getVar_setKey_ne _ _ _ _ (hdrKeys_ne 2 7 (by decide) rfl rfl), e2]
      · rw [getVar_setKey_eq _ _ _ (by rw [e3]; simp)]
    | _ => exact h

def MultiInv (m : List Entry) : Prop :=
  ∃ (n : Nat) (fs : List Str), getVar m kTotalSets = .int n ∧ getVar m kDataSet = .vAscii fs ∧ fs.length = n

theorem kDataSet_ne_kTotalSets : kDataSet ≠ kTotalSets := by decide +kernel

theorem multiLine_inv (p : KP) (line : Str) (p' : KP) (hi : MultiInv p.kmap) (h : multiLine p line = some p') : MultiInv p'.kmap := by
  have hk := kDataSet_ne_kTotalSets
  unfold multiLine at h
  cases hpl : p.parseLine line with
  | none =>
    rw [hpl] at h
    cases h
  | some p1 =>
    rw [hpl] at h
    simp only at h
    obtain ⟨hsh, hne⟩ := parseLine_vars p line p1 hpl
    obtain ⟨n, fs, e1, e2, l2⟩ := hi
    unfold multiCallback at h
    by_cases c : p.keywordOf line = kTotalSets
    · rw [c] at h hne
      simp only [beq_self_eq_true, if_true] at h
      have s1 := hsh kTotalSets
      rw [e1] at s1
      obtain ⟨n', en⟩ := sameShape_cases s1
      rw [getInt_of en] at h
      by_cases hn : n' < 0
      · simp [hn] at h
      · simp only [hn, if_false, Option.some.injEq] at h
        subst h
        have f2 : getVar p1.kmap kDataSet = .vAscii fs := by rw [hne _ hk, e2]
        refine ⟨n'.toNat, resizeList fs n'.toNat [], ?_, ?_, length_resizeList⟩
        · rw [getVar_resizeKey_ne _ _ _ _ _ hk.symm, en, Int.toNat_of_nonneg (by omega)]
        · rw [getVar_resizeKey_eq, f2]
          rfl
    · have cb : (p.keywordOf line == kTotalSets) = false := by simpa using c
      simp only [cb, Bool.false_eq_true, if_false, Option.some.injEq] at h
      subst h
      have s2 := hsh kDataSet
      rw [e2] at s2
      obtain ⟨fs', ef, lf⟩ := sameShape_cases s2
      exact ⟨n, fs', by rw [hne _ (Ne.symm c), e1], ef, by omega⟩

theorem multiInv_init : MultiInv multiHeader0.kmap :=
  have h : getVar multiHeader0.kmap kTotalSets = .int 0 ∧ getVar multiHeader0.kmap kDataSet = .vAscii [] := by decide +kernel
  ⟨0, [], h.1, h.2, rfl⟩

theorem parseMultiHeader_cases (text : Str) :
    match parseMultiHeader text with
    | .diverges | .oob => False
    | .ok p => ∃ (n : Nat) (fs : List Str), getVar p.kmap kTotalSets = .int n ∧ getVar p.kmap kDataSet = .vAscii fs ∧ fs.length = n ∧
        ∀ f ∈ fs, f ≠ []
    | _ => True := by
  obtain ⟨n, fs, e1, e2, l2⟩ := parseWith_inv MultiInv multiLine multiLine_inv multiHeader0 text multiInv_init
  unfold parseMultiHeader
  rcases hdrParse_cases multiLine multiPost multiHeader0 text with e | e | e
  · rw [e]
    trivial
  · rw [e]
    trivial
  · rw [e]
    unfold multiPost
    simp only [e2, getInt_of e1, Int.toNat_natCast]
    rw [if_neg (by omega)]
    by_cases hany : (fs.take n).any (·.isEmpty) = true
    · rw [if_pos hany]
      trivial
    · rw [if_neg hany]
      refine ⟨n, fs, e1, e2, l2, fun f hf hfe => hany ?_⟩
      rw [List.take_of_length_le (by omega)]
      simp only [List.any_eq_true]
      exact ⟨f, hf, by simp [hfe]⟩

end StirVerif.C17
