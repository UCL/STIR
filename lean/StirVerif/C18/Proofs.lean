/-
C18 — invariants of the protocols.  `Dcl`: one inductive invariant `Inv K n s` (shared-state facts + a per-thread
obligation `PCInv` indexed by the program counter + "the lock holder is inside the critical section"), kept by every
step (`inv_step`) and hence by every schedule (`run_induction`); from it, outside any schedule, no deadlock
(`Dcl.step_isSome`, `Inv.enabled`) and exactly one build once all threads are done (`Inv.built_once`).
`Cache`: every returned / stored / about-to-be-inserted value is `spec key` (`CInv`).
Reduction: whatever thread owns an item, the sum over threads of the per-thread sums counts it once (`reduceResult_eq`).
-/
import StirVerif.C18.Model

namespace StirVerif.C18

def InCrit : PC → Prop
  | .checkIn | .build _ | .setFlag | .leave => True
  | _ => False

def PCInv (K : Nat) (flag : Bool) (cells builds : Nat) (lock : Option Nat) (u : Nat) : PC → Prop
  | .readFlag => True
  | .enterCrit => True
  | .checkIn => lock = some u ∧ (flag = false → builds = 0)
  | .build k => lock = some u ∧ cells = k ∧ k ≤ K ∧ flag = false ∧ builds = 1
  | .setFlag => lock = some u ∧ cells = K ∧ flag = false ∧ builds = 1
  | .leave => lock = some u ∧ flag = true
  | .use => flag = true
  | .done => flag = true

structure Inv (K n : Nat) (s : Dcl) : Prop where
  len : s.pcs.length = n
  saw : s.sawIncomplete = false
  b1 : s.builds ≤ 1
  fl : s.flag = true → s.cells = K ∧ s.builds = 1
  -- nobody builds outside the critical section: flag unset and lock free means nobody has built; this is what
  -- the thread that then takes the lock learns at `checkIn`
  free : s.flag = false → s.lock = none → s.builds = 0
  loc : ∀ (u : Nat) (pc : PC), s.pcs[u]? = some pc → PCInv K s.flag s.cells s.builds s.lock u pc
  holder : ∀ (u : Nat), s.lock = some u → ∃ pc, s.pcs[u]? = some pc ∧ InCrit pc

theorem inv_init (K n : Nat) : Inv K n (Dcl.init n) := by
  refine ⟨List.length_replicate, rfl, Nat.zero_le _, nofun, fun _ _ => rfl, ?_, nofun⟩
  intro u pc h
  cases List.eq_of_mem_replicate (List.mem_of_getElem? h)
  trivial

/-- What a thread other than `t` is owed survives a step of `t` that started with the lock free or
    in `t`'s hands and does not clear the flag: such a thread is outside the critical section, where
    the only obligation is a flag that stays set once seen set. -/
theorem PCInv.frame {K : Nat} {f f' : Bool} {c c' b b' : Nat} {l l' : Option Nat} {t : Nat}
    (hl : l = none ∨ l = some t) (hf : f = true → f' = true) (u : Nat) (hne : u ≠ t) (pc : PC)
    (h : PCInv K f c b l u pc) : PCInv K f' c' b' l' u pc := by
  have hu : l ≠ some u := by
    rcases hl with rfl | rfl
    · simp
    · simpa using hne.symm
  cases pc with
  | readFlag | enterCrit => trivial
  | use | done => exact hf h
  | checkIn | build _ | setFlag | leave => exact absurd h.1 hu

/-- the one place where `pcs.set t p` is opened: every case of `inv_step` re-establishes `Inv` through it -/
theorem inv_update {K n : Nat} {s : Dcl} {t : Nat} {pc0 p : PC} (h : Inv K n s)
    (hpc : s.pcs[t]? = some pc0)
    {flag' : Bool} {cells' builds' : Nat} {lock' : Option Nat}
    (b1 : builds' ≤ 1) (fl : flag' = true → cells' = K ∧ builds' = 1)
    (free : flag' = false → lock' = none → builds' = 0)
    (own : PCInv K flag' cells' builds' lock' t p)
    (others : ∀ u, u ≠ t → ∀ pc, PCInv K s.flag s.cells s.builds s.lock u pc →
            PCInv K flag' cells' builds' lock' u pc)
    (crit : lock' = some t → InCrit p) (holder : ∀ u, u ≠ t → lock' = some u → s.lock = some u) :
    Inv K n { flag := flag', cells := cells', builds := builds', lock := lock', sawIncomplete := s.sawIncomplete,
              pcs := s.pcs.set t p } := by
  have htlt : t < s.pcs.length := (List.getElem?_eq_some_iff.mp hpc).1
  refine ⟨by simpa using h.len, h.saw, b1, fl, free, ?_, ?_⟩
  · intro u pc hu
    by_cases hut : u = t
    · subst hut
      rw [List.getElem?_set_self htlt] at hu
      cases hu
      exact own
    · rw [List.getElem?_set_ne (Ne.symm hut)] at hu
      exact others u hut pc (h.loc u pc hu)
  · intro u hu
    by_cases hut : u = t
    · subst hut
      exact ⟨p, List.getElem?_set_self htlt, crit hu⟩
    · obtain ⟨pc, hpc', hc⟩ := h.holder u (holder u hut hu)
      exact ⟨pc, by rw [List.getElem?_set_ne (Ne.symm hut), hpc'], hc⟩

/-- `inv_update` for a step that changes nothing shared: only `t`'s obligation at `p` is new, and a
    step that starts inside the critical section has to end inside it (whoever holds the lock is inside). -/
theorem inv_local {K n : Nat} {s : Dcl} {t : Nat} {pc0 p : PC} (h : Inv K n s)
    (hpc : s.pcs[t]? = some pc0)
    (own : PCInv K s.flag s.cells s.builds s.lock t p) (crit : InCrit pc0 → InCrit p) :
    Inv K n { s with pcs := s.pcs.set t p } :=
  inv_update h hpc h.b1 h.fl h.free own (fun _ _ _ hP => hP) (fun _ _ hu => hu) (crit := fun hl => by
    obtain ⟨pc, hpc', hc⟩ := h.holder t hl
    rw [hpc] at hpc'
    cases hpc'
    exact crit hc)

theorem inv_step (K n : Nat) (s s' : Dcl) (t : Nat) (h : Inv K n s)
    (hs : Dcl.step K s t = some s') : Inv K n s' := by
  unfold Dcl.step at hs
  split at hs
  · cases hs
  · rename_i pc hpc
    have ht := h.loc t pc hpc
    cases pc with
    | readFlag =>
      cases hs
      refine inv_local h hpc ?_ False.elim
      by_cases hf : s.flag = true
      · rw [if_pos hf]
        exact hf
      · rw [if_neg hf]
        trivial
    | enterCrit =>
      dsimp only at hs
      split at hs
      · rename_i hl
        cases hs
        exact inv_update h hpc h.b1 h.fl (free := by simp)
          (own := ⟨rfl, fun hf => h.free hf hl⟩)
          (others := PCInv.frame (.inl hl) id)
          (crit := fun _ => trivial) (holder := fun u hne hu => absurd (Option.some.inj hu).symm hne)
      · cases hs
    | checkIn =>
      obtain ⟨htl, htb⟩ := ht
      dsimp only at hs
      split at hs
      · rename_i hf
        cases hs
        exact inv_local h hpc ⟨htl, hf⟩ fun _ => trivial
      · rename_i hf
        have hf : s.flag = false := by simpa using hf
        have hb0 := htb hf
        cases hs
        exact inv_update h hpc (b1 := by omega) (fl := by simp [hf]) (free := by simp [htl])
          (own := ⟨htl, rfl, Nat.zero_le _, hf, by omega⟩)
          (others := PCInv.frame (.inr htl) id)
          (crit := fun _ => trivial) (holder := fun _ _ hu => hu)
    | build k =>
      obtain ⟨htl, htc, htk, htf, htb⟩ := ht
      dsimp only at hs
      split at hs
      · rename_i hk
        cases hs
        exact inv_update h hpc h.b1 (fl := by simp [htf]) (free := by simp [htl])
          (own := ⟨htl, rfl, hk, htf, htb⟩)
          (others := PCInv.frame (.inr htl) id)
          (crit := fun _ => trivial) (holder := fun _ _ hu => hu)
      · rename_i hk
        cases hs
        exact inv_local h hpc ⟨htl, by omega, htf, htb⟩ fun _ => trivial
    | setFlag =>
      obtain ⟨htl, htc, htf, htb⟩ := ht
      cases hs
      exact inv_update h hpc h.b1 (fl := fun _ => ⟨htc, htb⟩) (free := by simp) (own := ⟨htl, rfl⟩)
        (others := PCInv.frame (.inr htl) (fun _ => rfl))
        (crit := fun _ => trivial) (holder := fun _ _ hu => hu)
    | leave =>
      obtain ⟨htl, htf⟩ := ht
      cases hs
      exact inv_update h hpc h.b1 h.fl (free := by simp [htf]) (own := htf)
        (others := PCInv.frame (.inr htl) id)
        (crit := nofun) (holder := fun _ _ hu => nomatch hu)
    | use =>
      have htf : s.flag = true := ht
      cases hs
      rw [show (s.sawIncomplete || s.cells != K) = s.sawIncomplete by simp [(h.fl htf).1]]
      exact inv_local h hpc htf False.elim
    | done => cases hs

/-- a property that every step keeps is kept by every schedule, for a `run` that skips the steps that are not
    enabled (`Dcl.run`, `Cache.run`) -/
theorem run_induction {σ : Type} {step : σ → Nat → Option σ} {run : σ → List Nat → σ}
    (hnil : ∀ s, run s [] = s) (hcons : ∀ s t ts, run s (t :: ts) = run ((step s t).getD s) ts)
    {P : σ → Prop} (hstep : ∀ s s' t, P s → step s t = some s' → P s') (sched : List Nat) :
    ∀ s, P s → P (run s sched) := by
  induction sched with
  | nil =>
    intro s h
    rw [hnil]
    exact h
  | cons t ts ih =>
    intro s h
    rw [hcons]
    apply ih
    cases hs : step s t with
    | none => exact h
    | some s' => exact hstep s s' t h hs

theorem inv_run (K n : Nat) (sched : List Nat) : ∀ s, Inv K n s → Inv K n (Dcl.run K s sched) :=
  run_induction (fun _ => rfl) (fun _ _ _ => rfl) (inv_step K n) sched

theorem inv_reach (K n : Nat) (sched : List Nat) : Inv K n (Dcl.run K (Dcl.init n) sched) :=
  inv_run K n sched _ (inv_init K n)

theorem Dcl.step_isSome (K : Nat) (s : Dcl) (u : Nat) (pc : PC) (hpc : s.pcs[u]? = some pc)
    (hd : pc ≠ .done) (he : pc = .enterCrit → s.lock = none) : (Dcl.step K s u).isSome = true := by
  unfold Dcl.step
  rw [hpc]
  cases pc with
  | enterCrit => simp [he rfl]
  | done => exact absurd rfl hd
  | checkIn =>
    dsimp only
    split <;> rfl
  | build k =>
    dsimp only
    split <;> rfl
  | _ => rfl

theorem Inv.enabled {K n : Nat} {s : Dcl} (hi : Inv K n s) (h : s.allDone = false) :
    ∃ t, t < n ∧ (s.step K t).isSome = true := by
  unfold Dcl.allDone at h
  rw [List.all_eq_false] at h
  obtain ⟨pc, hmem, hnd⟩ := h
  obtain ⟨u, hu⟩ := List.mem_iff_getElem?.mp hmem
  have hlt : ∀ {v pc}, s.pcs[v]? = some pc → v < n := fun hv => hi.len ▸ (List.getElem?_eq_some_iff.mp hv).1
  -- while the lock is free every thread that has not finished can move; while it is held, the holder can
  cases hl : s.lock with
  | none => exact ⟨u, hlt hu, Dcl.step_isSome K s u pc hu (by simpa using hnd) fun _ => hl⟩
  | some v =>
    obtain ⟨pcv, hv, hc⟩ := hi.holder v hl
    refine ⟨v, hlt hv, Dcl.step_isSome K s v pcv hv ?_ ?_⟩
    · rintro rfl
      exact hc
    · rintro rfl
      exact hc.elim

theorem Inv.built_once {K n : Nat} {s : Dcl} (hi : Inv K n s) (hn : 0 < n) (h : s.allDone = true) :
    s.builds = 1 ∧ s.cells = K := by
  unfold Dcl.allDone at h
  rw [List.all_eq_true] at h
  -- thread 0 has finished, so it has seen the flag set
  have h0 : 0 < s.pcs.length := hi.len ▸ hn
  have hd : s.pcs[0] = .done := by simpa using h _ (List.getElem_mem h0)
  have hf : s.flag = true := hi.loc 0 .done (hd ▸ List.getElem?_eq_getElem h0)
  exact ⟨(hi.fl hf).2, (hi.fl hf).1⟩

theorem Cache.run_induction {spec : Nat → Int} {P : Cache → Prop}
    (hstep : ∀ s s' t, P s → Cache.step spec s t = some s' → P s') (sched : List Nat) :
    ∀ s, P s → P (Cache.run spec s sched) :=
  _root_.StirVerif.C18.run_induction (fun _ => rfl) (fun _ _ _ => rfl) hstep sched

def CPCInv (spec : Nat → Int) : CPC → Prop
  | .insert k v => v = spec k
  | _ => True

structure CInv (spec : Nat → Int) (s : Cache) : Prop where
  hret : ∀ e ∈ s.returned, e.2.2 = spec e.2.1
  hstore : ∀ e ∈ s.store, e.2 = spec e.1
  hpcs : ∀ e ∈ s.pcs, CPCInv spec e.2

theorem cinv_step (spec : Nat → Int) (s s' : Cache) (t : Nat) (h : CInv spec s)
    (hs : Cache.step spec s t = some s') : CInv spec s' := by
  obtain ⟨hr, hst, hp⟩ := h
  -- the threads' obligations after `t` has moved to a program counter that meets its own
  have hset : ∀ {todo' : List Nat} {pc' : CPC}, CPCInv spec pc' →
      ∀ e ∈ s.pcs.set t (todo', pc'), CPCInv spec e.2 := by
    intro todo' pc' hpc' e he
    rcases List.mem_or_eq_of_mem_set he with he | rfl
    · exact hp e he
    · exact hpc'
  unfold Cache.step at hs
  split at hs
  · cases hs
  · rename_i todo pc hpc
    cases pc with
    | find k =>
      dsimp only at hs
      split at hs
      · rename_i v hv
        cases hs
        obtain ⟨l₁, l₂, hl, _⟩ := List.lookup_eq_some_iff.mp hv
        have hm : v = spec k := hst (k, v) (by simp [hl])
        exact ⟨List.forall_mem_cons.mpr ⟨hm, hr⟩, hst, hset trivial⟩
      · cases hs
        exact ⟨hr, hst, hset rfl⟩
    | insert k v =>
      cases hs
      have hv : v = spec k := hp _ (List.mem_of_getElem? hpc)
      refine ⟨List.forall_mem_cons.mpr ⟨hv, hr⟩, ?_, hset trivial⟩
      unfold insertIfAbsent
      split
      · exact hst
      · exact List.forall_mem_cons.mpr ⟨hv, hst⟩
    | ret v =>
      dsimp only at hs
      split at hs
      · cases hs
      · cases hs
        exact ⟨hr, hst, hset trivial⟩

theorem cinv_init (spec : Nat → Int) (reqs : List (List Nat)) : CInv spec (Cache.init reqs) := by
  refine ⟨nofun, nofun, ?_⟩
  intro e he
  obtain ⟨r, _, rfl⟩ := List.mem_map.mp he
  trivial

theorem sum_filter_lt_succ (owner : Nat → Nat) (f : Nat → Int) (n : Nat) (items : List Nat) :
    ((items.filter fun i => decide (owner i < n + 1)).map f).sum =
      ((items.filter fun i => decide (owner i < n)).map f).sum + ((items.filter fun i => owner i == n).map f).sum := by
  induction items with
  | nil => rfl
  | cons i items ih =>
    simp only [List.filter_cons, decide_eq_true_eq, beq_iff_eq]
    by_cases h1 : owner i < n
    · rw [if_pos h1, if_pos (Nat.lt_succ_of_lt h1), if_neg (Nat.ne_of_lt h1)]
      simp only [List.map_cons, List.sum_cons, ih]
      omega
    · by_cases h2 : owner i = n
      · rw [if_neg h1, if_pos h2, if_pos (h2 ▸ Nat.lt_succ_self n)]
        simp only [List.map_cons, List.sum_cons, ih]
        omega
      · rw [if_neg h1, if_neg h2, if_neg (by omega), ih]

/-- no hypothesis on `owner`: an item given to no thread is lost -/
theorem reduceResult_eq (n : Nat) (owner : Nat → Nat) (f : Nat → Int) (items : List Nat) :
    reduceResult n owner items f = ((items.filter fun i => decide (owner i < n)).map f).sum := by
  unfold reduceResult
  induction n with
  | zero => simp [List.filter_eq_nil_iff.mpr]
  | succ n ih =>
    rw [List.range_succ, List.map_append, List.sum_append, ih, sum_filter_lt_succ, List.map_singleton,
      List.sum_singleton]

end StirVerif.C18
