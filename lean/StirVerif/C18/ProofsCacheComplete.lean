/-
C18 — the system-matrix cache protocol answers every request exactly once and in order ("without lost or
duplicated contributions").  `CInv` (Proofs.lean) says that what is returned is right; the accounting invariant `CC`
of this file says that nothing is returned twice, skipped, or returned in another order than the thread asked
for, under every schedule.
-/
import StirVerif.C18.Proofs

namespace StirVerif.C18

/-- the request a thread is working on (not yet answered) -/
def pendingOf : CPC → List Nat
  | .find k => [k]
  | .insert k _ => [k]
  | .ret _ => []

/-- keys of the requests of thread `u` that have been answered, oldest first -/
def Cache.answered (s : Cache) (u : Nat) : List Nat :=
  ((s.returned.filter fun e => e.1 == u).map fun e => e.2.1).reverse

def Cache.threadFinished (s : Cache) (u : Nat) : Bool :=
  match s.pcs[u]? with
  | some ([], .ret _) => true
  | _ => false

/-- per thread: answered ++ in flight ++ still to do = what the thread was asked to look up -/
structure CC (reqs : List (List Nat)) (s : Cache) : Prop where
  len : s.pcs.length = reqs.length
  acct : ∀ (u : Nat) (todo : List Nat) (pc : CPC), s.pcs[u]? = some (todo, pc) →
    reqs[u]? = some (s.answered u ++ (pendingOf pc ++ todo))

/-- a step of thread `t` that returns `new` (a key with its value, or nothing) and goes on with `pc'`, `todo'` -/
theorem cc_update {reqs : List (List Nat)} {s s' : Cache} {t : Nat} {todo todo' : List Nat} {pc pc' : CPC}
    (new : Option (Nat × Int)) (h : CC reqs s) (hpc : s.pcs[t]? = some (todo, pc))
    (hpcs : s'.pcs = s.pcs.set t (todo', pc'))
    (hret : s'.returned = (new.map fun e => (t, e)).toList ++ s.returned)
    (heq : (new.map (·.1)).toList ++ (pendingOf pc' ++ todo') = pendingOf pc ++ todo) : CC reqs s' := by
  have hans : ∀ u, s'.answered u = s.answered u ++ if t = u then (new.map (·.1)).toList else [] := by
    intro u
    unfold Cache.answered
    rw [hret]
    cases new <;> by_cases htu : t = u <;> simp [htu]
  refine ⟨by rw [hpcs, List.length_set, h.len], ?_⟩
  intro u td p hu
  rw [hpcs] at hu
  rw [hans]
  by_cases htu : t = u
  · subst htu
    rw [List.getElem?_set_self (List.getElem?_eq_some_iff.mp hpc).1] at hu
    cases hu
    rw [if_pos rfl, h.acct t todo pc hpc, List.append_assoc, heq]
  · rw [List.getElem?_set_ne htu] at hu
    rw [if_neg htu, List.append_nil]
    exact h.acct u td p hu

theorem cc_step (spec : Nat → Int) (reqs : List (List Nat)) (s s' : Cache) (t : Nat) (h : CC reqs s)
    (hs : Cache.step spec s t = some s') : CC reqs s' := by
  unfold Cache.step at hs
  split at hs
  · cases hs
  · rename_i todo pc hpc
    cases pc with
    | find k =>
      simp only at hs
      split at hs
      · rename_i v hv
        cases hs
        exact cc_update (some (k, v)) h hpc rfl rfl rfl
      · cases hs
        exact cc_update none h hpc rfl rfl rfl
    | insert k v =>
      cases hs
      exact cc_update (some (k, v)) h hpc rfl rfl rfl
    | ret v =>
      simp only at hs
      split at hs
      · cases hs
      · rename_i k rest
        cases hs
        exact cc_update none h hpc rfl rfl rfl

theorem cc_init (reqs : List (List Nat)) : CC reqs (Cache.init reqs) := by
  -- `Cache.init` starts every thread at the placeholder `.ret 0`, a program counter with nothing in flight: all of
  -- `reqs[u]` is still to do
  refine ⟨by simp [Cache.init], ?_⟩
  intro u todo pc hu
  simp only [Cache.init, List.getElem?_map] at hu
  obtain ⟨r, hr, h⟩ := Option.map_eq_some_iff.mp hu
  cases h
  simp [hr, Cache.answered, Cache.init, pendingOf]

theorem CC.answered_prefix {reqs : List (List Nat)} {s : Cache} (h : CC reqs s) (u : Nat) (hu : u < reqs.length) :
    ∃ rest, reqs[u]? = some (s.answered u ++ rest) :=
  ⟨_, h.acct u _ _ (List.getElem?_eq_getElem (h.len ▸ hu))⟩

theorem CC.answered_all {reqs : List (List Nat)} {s : Cache} (h : CC reqs s) (u : Nat)
    (hf : s.threadFinished u = true) : reqs[u]? = some (s.answered u) := by
  unfold Cache.threadFinished at hf
  split at hf
  · rename_i v hpc
    simpa [pendingOf] using h.acct u [] (.ret v) hpc
  · cases hf

theorem cc_reach (spec : Nat → Int) (reqs : List (List Nat)) (sched : List Nat) :
    CC reqs (Cache.run spec (Cache.init reqs) sched) :=
  Cache.run_induction (cc_step spec reqs) sched _ (cc_init reqs)

end StirVerif.C18
