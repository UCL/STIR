/-
C18 — synchronisation protocols of the multi-threaded (OpenMP) code as interleaving semantics
(sequentially consistent atomic steps, arbitrary number of threads, arbitrary schedules), and the
validator for event traces recorded from the real library through the UCL_STIR_VERIF schedule points.

Protocols (with the source they transcribe):
* `Dcl`   double-checked lazy initialisation: `atomic read flag; if (!flag) critical { if (!flag) build; flag = true }`
          (ProjDataInfoCylindrical.inl:38, ProjDataInfoCylindricalNoArcCorr.inl:31/:55, the builders in the .cxx files);
* `Cache` system-matrix cache under per-(view,segment) locks: `lock; find; unlock; [compute]; lock; insert; unlock`
          (ProjMatrixByBin.cxx:203-262, ProjMatrixByBin.inl:48), also the scatter cache's atomic read / recompute / atomic write
          (cached_single_scatter_integrals.cxx:73);
* `Reduce` dynamic work distribution to per-thread accumulators followed by a sequential reduction
          (BackProjectorByBin.cxx:202-335, distributable.cxx:418-535).

What is assumed and not modelled: OpenMP `atomic read/write` + `critical`/locks give sequentially consistent
behaviour for the flag and make the builder's writes visible before the flag; `libgomp` and the hardware.
Core Lean only.
-/
namespace StirVerif.C18

/-! ## double-checked lazy initialisation -/

inductive PC where
  | readFlag            -- about to do the atomic read of the flag
  | enterCrit           -- saw `false`: waiting for the critical section
  | checkIn             -- inside the critical section, about to re-check the flag
  | build (k : Nat)     -- building the table, `k` cells written so far
  | setFlag             -- table complete, about to write the flag
  | leave               -- about to leave the critical section
  | use                 -- about to use the table
  | done
  deriving Repr, DecidableEq, Inhabited

structure Dcl where
  flag : Bool
  cells : Nat              -- cells of the table written so far (complete when `= K`)
  builds : Nat             -- number of builds started
  lock : Option Nat        -- thread inside the critical section
  sawIncomplete : Bool     -- some thread used the table before it was complete
  pcs : List PC
  deriving Repr, DecidableEq

def Dcl.init (n : Nat) : Dcl :=
  { flag := false, cells := 0, builds := 0, lock := none, sawIncomplete := false, pcs := List.replicate n .readFlag }

/-- one atomic step of thread `t` (`none`: the thread is blocked or finished or does not exist) -/
def Dcl.step (K : Nat) (s : Dcl) (t : Nat) : Option Dcl :=
  match s.pcs[t]? with
  | none => none
  | some pc =>
    let setpc (s : Dcl) (p : PC) : Dcl := { s with pcs := s.pcs.set t p }
    match pc with
    | .readFlag => some (setpc s (if s.flag then .use else .enterCrit))
    | .enterCrit => if s.lock = none then some (setpc { s with lock := some t } .checkIn) else none
    | .checkIn =>
      if s.flag then some (setpc s .leave)
      else some (setpc { s with builds := s.builds + 1, cells := 0 } (.build 0))
    | .build k =>
      if k < K then some (setpc { s with cells := k + 1 } (.build (k + 1))) else some (setpc s .setFlag)
    | .setFlag => some (setpc { s with flag := true } .leave)
    | .leave => some (setpc { s with lock := none } .use)
    | .use => some (setpc { s with sawIncomplete := s.sawIncomplete || (s.cells != K) } .done)
    | .done => none

/-- run a schedule (a list of thread ids); steps of blocked / finished threads are skipped -/
def Dcl.run (K : Nat) (s : Dcl) : List Nat → Dcl
  | [] => s
  | t :: ts => Dcl.run K ((s.step K t).getD s) ts

def Dcl.allDone (s : Dcl) : Bool := s.pcs.all (· == .done)

/-! ## cache under a lock: `find` / `insert` are atomic; `compute` happens outside the lock -/

/-- an association list that, like `std::map::insert`, does not overwrite an existing key -/
def insertIfAbsent (m : List (Nat × Int)) (k : Nat) (v : Int) : List (Nat × Int) :=
  if (m.lookup k).isSome then m else (k, v) :: m

inductive CPC where
  | find (key : Nat)
  | insert (key : Nat) (v : Int)
  | ret (v : Int)
  deriving Repr, DecidableEq, Inhabited

structure Cache where
  store : List (Nat × Int)
  pcs : List (List Nat × CPC)           -- per thread: remaining requests, current pc
  returned : List (Nat × Nat × Int)     -- (thread, key, value) of every completed request
  deriving Repr

/-- one atomic step of thread `t`; `spec` is the (deterministic) computation of a row -/
def Cache.step (spec : Nat → Int) (s : Cache) (t : Nat) : Option Cache :=
  match s.pcs[t]? with
  | none => none
  | some (todo, pc) =>
    match pc with
    | .find k =>
      match s.store.lookup k with
      | some v => some { s with pcs := s.pcs.set t (todo, .ret v), returned := (t, k, v) :: s.returned }
      | none => some { s with pcs := s.pcs.set t (todo, .insert k (spec k)) }   -- compute outside the lock
    | .insert k v =>
      some { s with store := insertIfAbsent s.store k v, pcs := s.pcs.set t (todo, .ret v),
                    returned := (t, k, v) :: s.returned }
    | .ret _ =>
      match todo with
      | [] => none
      | k :: rest => some { s with pcs := s.pcs.set t (rest, .find k) }

def Cache.run (spec : Nat → Int) (s : Cache) : List Nat → Cache
  | [] => s
  | t :: ts => Cache.run spec ((s.step spec t).getD s) ts

def Cache.init (reqs : List (List Nat)) : Cache :=
  { store := [], pcs := reqs.map fun r => (r, .ret 0), returned := [] }

/-! ## dynamic work distribution + reduction -/

/-- thread-local accumulation of the contributions `f i` of the items each thread was given, then the
    sequential reduction over threads `0 … n-1` (as `get_output` / the log-likelihood reduction do) -/
def reduceResult (n : Nat) (owner : Nat → Nat) (items : List Nat) (f : Nat → Int) : Int :=
  ((List.range n).map fun t => ((items.filter fun i => owner i == t).map f).sum).sum

/-! ## per-thread accumulators that outlive a pass

`BackProjectorByBin::_local_output_image_sptrs` (BackProjectorByBin.cxx): `set_up` (:71) resizes the vector to the number
of threads of a parallel region, keeping the images that exist; `start_accumulating_in_new_target` (:306) zeroes every
existing image; `back_project(viewgrams)` (:260) creates / adds to the image of the calling thread;
`get_output` (:327) sums every existing image.  The vector outlives a pass, a change of the number of threads
(`stir::set_num_threads`) and a second `set_up`.  An image is abstracted to one `Int`. -/

structure Accum where
  slots : List (Option Int)          -- `none`: null pointer (no thread filled anything in yet)
  deriving Repr, DecidableEq

def Accum.new : Accum := { slots := [] }

/-- `_local_output_image_sptrs.resize(n, null)` (BackProjectorByBin.cxx:82) -/
def Accum.setUp (a : Accum) (n : Nat) : Accum :=
  { slots := a.slots.take n ++ List.replicate (n - a.slots.length) none }

/-- `start_accumulating_in_new_target` (:314): every image that exists is filled with 0 -/
def Accum.start (a : Accum) : Accum := { slots := a.slots.map (Option.map fun _ => 0) }

def Accum.valueAt (a : Accum) (t : Nat) : Int :=
  match a.slots[t]? with
  | some (some x) => x
  | _ => 0

/-- thread `t` adds `v` to its image (:277-281 and `actual_back_project`); `none`: index outside the vector, which the C++ does
    not check (undefined behaviour: more threads than the vector was sized for) -/
def Accum.add (a : Accum) (t : Nat) (v : Int) : Option Accum :=
  if t < a.slots.length then some { slots := a.slots.set t (some (a.valueAt t + v)) } else none

def Accum.addAll (a : Accum) : List (Nat × Int) → Option Accum
  | [] => some a
  | w :: r => (a.add w.1 w.2).bind (·.addAll r)

/-- one pass: `start_accumulating_in_new_target`, then the work items `(thread, contribution)` in any order -/
def Accum.pass (a : Accum) (work : List (Nat × Int)) : Option Accum := a.start.addAll work

/-- `get_output` (:339): the sum over every image that exists -/
def Accum.output (a : Accum) : Int := (a.slots.map (·.getD 0)).sum

/-- the slots `get_output` adds (the `bp.reduce` events) -/
def Accum.live (a : Accum) : List Nat :=
  (List.range a.slots.length).filter fun i => match a.slots[i]? with | some (some _) => true | _ => false

inductive AccOp where
  | setUp (n : Nat)
  | pass (work : List (Nat × Int))
  deriving Repr

def Accum.run (a : Accum) : List AccOp → Option Accum
  | [] => some a
  | .setUp n :: r => (a.setUp n).run r
  | .pass w :: r => (a.pass w).bind (·.run r)

/-- a variant for comparison that zeroes only the images of the first `m` threads ("only the threads that can take part") -/
def Accum.startFirst (a : Accum) (m : Nat) : Accum :=
  { slots := (a.slots.take m).map (Option.map fun _ => 0) ++ a.slots.drop m }

/-! ## number of threads (num_threads.cxx) -/

/-- `get_default_num_threads` (num_threads.cxx:70): `nprocs` = `omp_get_num_procs()`, `env` = `atoi(getenv("OMP_NUM_THREADS"))`
    when the variable is set.  `floor(nprocs * .9)` in double arithmetic is `9 * nprocs / 10` for every non-negative `int`
    (the double nearest to 0.9 lies above 0.9 by 2.2e-17). -/
def getDefaultNumThreads (nprocs : Int) (env : Option Int) : Int :=
  match env with
  | some e => e
  | none => if nprocs == 1 then 1 else max (Int.tdiv (9 * nprocs) 10) 2

/-- libgomp's `omp_set_num_threads`: `nthreads_var = n > 0 ? n : 1`; afterwards `omp_get_max_threads()` returns it -/
def ompSetNumThreads (n : Int) : Int := if n > 0 then n else 1

structure NumThreads where
  alreadySetOnce : Bool             -- the function-local static of `set_num_threads`
  maxThreads : Int                  -- what `omp_get_max_threads()` = `get_max_num_threads()` returns
  deriving Repr, DecidableEq

/-- `set_num_threads(n)` (num_threads.cxx:43); `dflt` = what `get_default_num_threads()` returns at that moment.
    `none`: `n = 0`, nothing was set before and the default is 0 (`OMP_NUM_THREADS` empty or not a number): the function and
    `set_default_num_threads` call each other without end (observed: stack overflow). -/
def NumThreads.set (s : NumThreads) (n : Int) (dflt : Int) : Option NumThreads :=
  if n == 0 then
    if !s.alreadySetOnce then
      if dflt == 0 then none else some { alreadySetOnce := true, maxThreads := ompSetNumThreads dflt }
    else some s
  else some { alreadySetOnce := true, maxThreads := ompSetNumThreads n }

/-- `set_default_num_threads()` (num_threads.cxx:88) = `set_num_threads(get_default_num_threads())` -/
def NumThreads.setDefault (s : NumThreads) (dflt : Int) : Option NumThreads := s.set dflt dflt

/-! ## scatter simulation: detector numbering in order of first use, caches indexed by that number

`ScatterSimulation::find_in_detection_points_vector` (scatter_detection_modelling.cxx:33, inside
`critical(SCATTERESTIMATIONFINDDETECTIONPOINTS)`): a detector gets the next free number when it is met for the first time;
with `schedule(dynamic)` the order in which detectors are met depends on the schedule.
`cached_*_integral_scattpoint_det[scatter point][detector number]` (cached_single_scatter_integrals.cxx:73, atomic read /
compute / atomic write).  `set_template_proj_data_info` (ScatterSimulation.cxx:725) forgets the numbering and removes the caches.
A request `(sp, d)` is one atomic step here (the numbering is append-only during a run and two threads that compute the same
entry write the same value). -/

structure ScCache where
  dets : List Nat                            -- `detection_points_vector`: detectors in the order of their numbers
  cache : List ((Nat × Nat) × Int)           -- (scatter point, detector number) ↦ cached value
  deriving Repr, DecidableEq

def ScCache.init : ScCache := { dets := [], cache := [] }

/-- `find_in_detection_points_vector`: the number of detector `d`, appended if new -/
def ScCache.find (s : ScCache) (d : Nat) : ScCache × Nat :=
  match s.dets.idxOf? d with
  | some k => (s, k)
  | none => ({ s with dets := s.dets ++ [d] }, s.dets.length)

/-- `cached_integral_over_activity_image_between_scattpoint_det(sp, find(d))`: the cached value if there is one, else
    `spec sp d` (the integral from scatter point `sp` to the detector stored under that number), which is then cached -/
def ScCache.get (spec : Nat → Nat → Int) (s : ScCache) (sp d : Nat) : ScCache × Int :=
  let (s1, k) := s.find d
  match s1.cache.lookup (sp, k) with
  | some v => (s1, v)
  | none => ({ s1 with cache := ((sp, k), spec sp (s1.dets.getD k 0)) :: s1.cache }, spec sp (s1.dets.getD k 0))

/-- `set_template_proj_data_info`: `detection_points_vector.clear()` and both caches removed -/
def ScCache.setTemplate (_ : ScCache) : ScCache := ScCache.init

/-- a variant for comparison that forgets the numbering but keeps the caches ("the size is still right") -/
def ScCache.setTemplateKeepCache (s : ScCache) : ScCache := { s with dets := [] }

inductive ScOp where
  | get (sp d : Nat)
  | setTemplate
  deriving Repr

/-- run a history; the answers of the `get`s in order -/
def ScCache.run (spec : Nat → Nat → Int) (s : ScCache) : List ScOp → List Int
  | [] => []
  | .get sp d :: r => let (s', v) := s.get spec sp d; v :: ScCache.run spec s' r
  | .setTemplate :: r => ScCache.run spec s.setTemplate r

def ScCache.runKeepCache (spec : Nat → Nat → Int) (s : ScCache) : List ScOp → List Int
  | [] => []
  | .get sp d :: r => let (s', v) := s.get spec sp d; v :: ScCache.runKeepCache spec s' r
  | .setTemplate :: r => ScCache.runKeepCache spec s.setTemplateKeepCache r

/-! ## validator for event traces recorded from the implementation

An event is `(thread, site, key, value)`.  Events emitted inside a critical section / under a lock appear in
the log in their true order; events emitted after an atomic read may be logged late, never early. -/

structure Ev where
  tid : Nat
  site : String
  key : Int
  val : Int
  deriving Repr, Inhabited

/-- lazily initialised table `tbl` of object `key`: `crit`/`built` events, in log order, must be
    `crit 0, built, crit 1, crit 1, …` with `built` by the thread of the first `crit`;
    no `read 1` before `built`; at most one `built`. -/
def validateDcl (tbl : String) (evs : List Ev) : Option String :=
  let mine := evs.filter fun e => e.site == tbl ++ ".read" || e.site == tbl ++ ".crit" || e.site == tbl ++ ".built"
  let keys := (mine.map (·.key)).eraseDups
  keys.findSome? fun k =>
    let es := mine.filter (·.key == k)
    let builtCount := (es.filter (·.site == tbl ++ ".built")).length
    let crits := es.filter fun e => e.site != tbl ++ ".read"
    let okOrder : Bool :=
      match crits with
      | [] => true
      | c0 :: rest =>
        c0.site == tbl ++ ".crit" && c0.val == 0 &&
        (match rest with
         | [] => false                      -- a build must follow
         | b :: later => b.site == tbl ++ ".built" && b.tid == c0.tid &&
                         later.all fun e => e.site == tbl ++ ".crit" && e.val == 1)
    -- no read of `true` before the build has been logged
    let rec noEarlyRead (l : List Ev) (built : Bool) : Bool :=
      match l with
      | [] => true
      | e :: r =>
        if e.site == tbl ++ ".built" then noEarlyRead r true
        else if e.site == tbl ++ ".read" && e.val == 1 && !built then false
        else noEarlyRead r built
    if builtCount > 1 then some s!"{tbl}: table of object {k} built {builtCount} times"
    else if builtCount == 0 then
      -- the table was built before the trace started (e.g. in the constructor): nobody may see the flag unset
      if es.any (fun e => e.val == 0) then some s!"{tbl}: object {k} seen uninitialised but no build was logged"
      else none
    else if !okOrder then some s!"{tbl}: critical-section events of object {k} are not `crit 0, built, crit 1*`"
    else if !noEarlyRead es false then some s!"{tbl}: flag of object {k} read as set before the table was built"
    else none

/-- cache events (all logged under the lock of their key's (view,segment)): per key, once an `insert` has been
    logged every later `find` must hit, and an `insert` reports `already present` (val 1) iff one was logged before. -/
def validateCache (evs : List Ev) : Option String :=
  let rec go (l : List Ev) (present : List Int) : Option String :=
    match l with
    | [] => none
    | e :: r =>
      if e.site == "pm.cache.clear" then go r []
      else if e.site == "pm.cache.find" then
        if present.contains e.key && e.val == 0 then some s!"cache: key {e.key} was inserted but a later find missed it (lost entry)"
        else if !present.contains e.key && e.val == 1 then some s!"cache: key {e.key} found before any insert"
        else go r present
      else if e.site == "pm.cache.insert" then
        if (present.contains e.key) != (e.val != 0) then some s!"cache: insert of key {e.key} disagrees with the logged history"
        else go r (if present.contains e.key then present else e.key :: present)
      else go r present
  go evs []

/-- per thread, the cache events follow the request machine of `Cache.step` (`find` hit, or `find` miss → compute → `insert`
    of the key that missed; with `cache_stores_only_basic_bins = false` one more `find`, of the basic bin, may come between the
    miss and the insert): no insert without a miss, no request abandoned after a miss, none begun before the last one ended.
    This is what ties `Cache.step`'s per-thread program counter — on which `C18_cache_answers_in_order` rests — to the code. -/
def validateCacheProtocol (evs : List Ev) : Option String :=
  let rec go (l : List Ev) (pend : List (Nat × Int × Nat)) : Option String :=
    match l with
    | [] =>
      match pend with
      | [] => none
      | (t, k, _) :: _ => some s!"cache: thread {t} missed key {k} and never inserted it (request lost)"
    | e :: r =>
      if e.site == "pm.cache.find" then
        match pend.find? (·.1 == e.tid) with
        | none => if e.val == 0 then go r ((e.tid, e.key, 0) :: pend) else go r pend
        | some (_, k, n) =>
          if n ≥ 1 then some s!"cache: thread {e.tid} began another request before inserting key {k}, which it had missed"
          else go r ((e.tid, k, 1) :: pend.filter (·.1 != e.tid))
      else if e.site == "pm.cache.insert" then
        match pend.find? (·.1 == e.tid) with
        | none => some s!"cache: thread {e.tid} inserted key {e.key} without having missed it"
        | some (_, k, _) =>
          if k != e.key then some s!"cache: thread {e.tid} missed key {k} but inserted key {e.key}"
          else go r (pend.filter (·.1 != e.tid))
      else go r pend
  go evs []

/-- work distribution: between two `begin` markers every work item key is processed exactly once -/
def validateWork (site : String) (expected : Nat) (evs : List Ev) : Option String :=
  let ks := (evs.filter (·.site == site)).map (·.key)
  if ks.length != expected then some s!"{site}: {ks.length} work items processed, expected {expected}"
  else if ks.eraseDups.length != ks.length then some s!"{site}: a work item was processed twice"
  else none

/-- after `stir::set_num_threads(T)` no event comes from a thread `≥ T`, and the work items report a thread number `< T` -/
def validateThreads (bound : Nat) (evs : List Ev) : Option String :=
  if bound == 0 then none
  else
    evs.findSome? fun e =>
      if e.tid ≥ bound then some s!"{e.site}: event from thread {e.tid} although only {bound} threads were asked for"
      else if (e.site == "bp.work" || e.site == "fp.work" || e.site == "dist.work") && (e.val < 0 || e.val.toNat ≥ bound) then
        some s!"{e.site}: work item done by thread {e.val} although only {bound} threads were asked for"
      else none

end StirVerif.C18
