/-
C18 — proofs about state that outlives a parallel pass:
* `Accum`: the per-thread images of a back projector (set_up / start / add / get_output) under any history of passes,
  thread-count changes and repeated set_up;
* `ScCache`: the scatter simulation's caches indexed by detector numbers given in order of first use, under any order of
  requests (= any schedule) and any number of `set_template_proj_data_info` calls in between.
-/
import StirVerif.C18.Model

namespace StirVerif.C18

theorem accum_setUp_length (a : Accum) (n : Nat) : (a.setUp n).slots.length = n := by
  simp only [Accum.setUp, List.length_append, List.length_take, List.length_replicate]
  omega

theorem accum_start_output (a : Accum) : a.start.output = 0 := by
  unfold Accum.start Accum.output
  induction a.slots with
  | nil => rfl
  | cons x r ih =>
    cases x with
    | none => simpa using ih
    | some v => simpa using ih

theorem accum_start_length (a : Accum) : a.start.slots.length = a.slots.length := by
  simp [Accum.start]

theorem accum_valueAt (a : Accum) (t : Nat) (h : t < a.slots.length) :
    a.valueAt t = a.slots[t].getD 0 := by
  unfold Accum.valueAt
  rw [List.getElem?_eq_getElem h]
  cases a.slots[t] <;> rfl

theorem sum_map_set {α : Type} (f : α → Int) (l : List α) (t : Nat) (x : α) (h : t < l.length) :
    ((l.set t x).map f).sum = (l.map f).sum + (f x - f l[t]) := by
  have hl := congrArg (fun l => (l.map f).sum) (List.take_append_drop t l)
  rw [List.drop_eq_getElem_cons h] at hl
  rw [List.set_eq_take_append_cons_drop, if_pos h, ← hl]
  simp only [List.map_append, List.map_cons, List.sum_append, List.sum_cons]
  omega

theorem accum_add {n : Nat} (a : Accum) (t : Nat) (v : Int) (hn : a.slots.length = n) (h : t < n) :
    ∃ a', a.add t v = some a' ∧ a'.output = a.output + v ∧ a'.slots.length = n := by
  subst hn
  refine ⟨{ slots := a.slots.set t (some (a.valueAt t + v)) }, by simp [Accum.add, h], ?_, by simp⟩
  unfold Accum.output
  rw [sum_map_set _ _ _ _ h, accum_valueAt a t h]
  simp only [Option.getD_some]
  omega

theorem accum_addAll {n : Nat} (work : List (Nat × Int)) (a : Accum) (hn : a.slots.length = n)
    (h : ∀ w ∈ work, w.1 < n) :
    ∃ a', a.addAll work = some a' ∧ a'.output = a.output + (work.map (·.2)).sum ∧ a'.slots.length = n := by
  induction work generalizing a with
  | nil => exact ⟨a, rfl, by simp, hn⟩
  | cons w r ih =>
    rw [List.forall_mem_cons] at h
    obtain ⟨a1, h1, o1, l1⟩ := accum_add a w.1 w.2 hn h.1
    obtain ⟨a2, h2, o2, l2⟩ := ih a1 l1 h.2
    refine ⟨a2, by simp [Accum.addAll, h1, h2], ?_, l2⟩
    rw [o2, o1]
    simp only [List.map_cons, List.sum_cons]
    omega

/-- the invariant: detector numbers are given to distinct detectors, and every cache entry holds the value of the detector
    that currently owns its number -/
structure ScInv (spec : Nat → Nat → Int) (s : ScCache) : Prop where
  nodup : s.dets.Nodup
  ok : ∀ sp k v, ((sp, k), v) ∈ s.cache → k < s.dets.length ∧ v = spec sp (s.dets.getD k 0)

theorem scInv_init (spec : Nat → Nat → Int) : ScInv spec ScCache.init :=
  ⟨List.nodup_nil, nofun⟩

theorem sc_find (spec : Nat → Nat → Int) (s : ScCache) (d : Nat) (h : ScInv spec s) :
    ScInv spec (s.find d).1 ∧ (s.find d).2 < (s.find d).1.dets.length ∧
      (s.find d).1.dets.getD (s.find d).2 0 = d := by
  unfold ScCache.find
  cases hi : s.dets.idxOf? d with
  | some k =>
    obtain ⟨hk, hd, _⟩ := List.idxOf?_eq_some_iff.mp hi
    exact ⟨h, hk, by simp [hk, hd]⟩
  | none =>
    have hn : d ∉ s.dets := List.idxOf?_eq_none_iff.mp hi
    refine ⟨⟨(List.perm_append_singleton d s.dets).nodup_iff.mpr (List.nodup_cons.mpr ⟨hn, h.nodup⟩), ?_⟩,
      by simp, by simp⟩
    intro sp k v hm
    obtain ⟨hk, hv⟩ := h.ok sp k v hm
    refine ⟨?_, ?_⟩
    · simp
      omega
    · rw [hv]
      simp only [List.getD_eq_getElem?_getD]
      rw [List.getElem?_append_left hk]

theorem sc_get (spec : Nat → Nat → Int) (s : ScCache) (sp d : Nat) (h : ScInv spec s) :
    ScInv spec (s.get spec sp d).1 ∧ (s.get spec sp d).2 = spec sp d := by
  obtain ⟨hinv, hk, hd⟩ := sc_find spec s d h
  unfold ScCache.get
  generalize s.find d = f at hinv hk hd
  obtain ⟨s1, k⟩ := f
  simp only at hinv hk hd ⊢
  cases hl : s1.cache.lookup (sp, k) with
  | some v =>
    obtain ⟨l₁, l₂, hm, _⟩ := List.lookup_eq_some_iff.mp hl
    obtain ⟨_, hv⟩ := hinv.ok sp k v (by simp [hm])
    exact ⟨hinv, by rw [hv, hd]⟩
  | none =>
    refine ⟨⟨hinv.nodup, ?_⟩, by rw [hd]⟩
    intro sp' k' v' hm
    rcases List.mem_cons.mp hm with e | hm
    · cases e
      exact ⟨hk, rfl⟩
    · exact hinv.ok sp' k' v' hm

theorem sc_run (spec : Nat → Nat → Int) (ops : List ScOp) (s : ScCache) (h : ScInv spec s) :
    ScCache.run spec s ops = ops.filterMap fun o => match o with | .get sp d => some (spec sp d) | .setTemplate => none := by
  induction ops generalizing s with
  | nil => rfl
  | cons o r ih =>
    cases o with
    | get sp d =>
      obtain ⟨hi, hv⟩ := sc_get spec s sp d h
      simp only [ScCache.run, List.filterMap_cons]
      rw [ih _ hi, hv]
    | setTemplate =>
      simp only [ScCache.run, List.filterMap_cons]
      exact ih _ (scInv_init spec)

end StirVerif.C18
