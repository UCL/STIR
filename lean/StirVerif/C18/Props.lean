/-
C18 — "Multi-threaded execution gives the single-thread result under every schedule".
What is a theorem here is the *protocol level*: the synchronisation patterns of the library, transcribed as
interleaving semantics in `Model.lean`, are safe for every number of threads and every schedule.  What the
OpenMP runtime and the hardware do is not a theorem (see the check's exploration part).
-/
import StirVerif.C18.Proofs
import StirVerif.C18.ProofsRethread
import StirVerif.C18.ProofsCacheComplete

namespace StirVerif.C18

/-- **lazy tables**: under every schedule of any number of threads the table is never used before it is
    complete, it is built at most once, and the flag is only set when the table is complete. -/
theorem C18_dcl_safe (K n : Nat) (sched : List Nat) :
    (Dcl.run K (Dcl.init n) sched).sawIncomplete = false ∧
    (Dcl.run K (Dcl.init n) sched).builds ≤ 1 ∧
    ((Dcl.run K (Dcl.init n) sched).flag = true → (Dcl.run K (Dcl.init n) sched).cells = K) :=
  have h := inv_reach K n sched
  ⟨h.saw, h.b1, fun hf => (h.fl hf).1⟩

/-- **no deadlock**: as long as some thread has not finished, some thread can take a step. -/
theorem C18_dcl_no_deadlock (K n : Nat) (sched : List Nat)
    (h : (Dcl.run K (Dcl.init n) sched).allDone = false) :
    ∃ t, t < n ∧ ((Dcl.run K (Dcl.init n) sched).step K t).isSome = true :=
  (inv_reach K n sched).enabled h

/-- **built exactly once**: when every thread (there is at least one) has finished, the table has been built once and is
    complete. -/
theorem C18_dcl_built_once_when_done (K n : Nat) (sched : List Nat) (hn : 0 < n)
    (h : (Dcl.run K (Dcl.init n) sched).allDone = true) :
    (Dcl.run K (Dcl.init n) sched).builds = 1 ∧ (Dcl.run K (Dcl.init n) sched).cells = K :=
  (inv_reach K n sched).built_once hn h

/-- "the system-matrix cache may be used concurrently from the first call on, without lost or duplicated contributions":
    every row handed out and every row stored is the row of its key, for every schedule.  The requests come from the
    projectors' parallel loops and — exercised by the check's list-mode scenarios — from the event loop of
    `LM_distributable_computation`.  The model has find / compute / insert only: `clear_cache()` running at the same time is
    NOT covered by this theorem (at the pinned source it did not take the per-(view, segment) locks this model assumes;
    /repo `fix:` cf0311315 makes it take them; see the check's `clear_cache` scenario). -/
theorem C18_cache_returns_spec (spec : Nat → Int) (reqs : List (List Nat)) (sched : List Nat) :
    (∀ e ∈ (Cache.run spec (Cache.init reqs) sched).returned, e.2.2 = spec e.2.1) ∧
    (∀ e ∈ (Cache.run spec (Cache.init reqs) sched).store, e.2 = spec e.1) :=
  have h := Cache.run_induction (cinv_step spec) sched _ (cinv_init spec reqs)
  ⟨h.hret, h.hstore⟩

/-- "without lost or duplicated contributions", the other half: under every schedule and at every moment the requests a
    thread has been answered are an initial part of the requests it made, in the order it made them — no row request is
    answered twice, skipped or overtaken, however the other threads' finds, computations and inserts are interleaved
    (same model and same exclusion of a concurrent `clear_cache()` as `C18_cache_returns_spec`). -/
theorem C18_cache_answers_in_order (spec : Nat → Int) (reqs : List (List Nat)) (sched : List Nat) (u : Nat)
    (hu : u < reqs.length) :
    ∃ rest, reqs[u]? = some ((Cache.run spec (Cache.init reqs) sched).answered u ++ rest) :=
  (cc_reach spec reqs sched).answered_prefix u hu

/-- a thread that has come to the end of its loop has been answered exactly its requests, each once -/
theorem C18_cache_all_answered (spec : Nat → Int) (reqs : List (List Nat)) (sched : List Nat) (u : Nat)
    (hf : (Cache.run spec (Cache.init reqs) sched).threadFinished u = true) :
    reqs[u]? = some ((Cache.run spec (Cache.init reqs) sched).answered u) :=
  (cc_reach spec reqs sched).answered_all u hf

/-- "… or deadlock": in every state of the cache protocol (reachable or not) a thread that has requests left can take its
    next step; the locks are only held inside the atomic `find` / `insert` steps, so no thread ever waits for another -/
theorem C18_cache_never_blocked (spec : Nat → Int) (s : Cache) (u : Nat) (hu : u < s.pcs.length)
    (hf : s.threadFinished u = false) : (s.step spec u).isSome = true := by
  unfold Cache.threadFinished at hf
  unfold Cache.step
  rw [List.getElem?_eq_getElem hu] at hf ⊢
  generalize s.pcs[u] = p at hf ⊢
  obtain ⟨todo, pc⟩ := p
  cases pc with
  | find k =>
    dsimp only
    split <;> rfl
  | insert k v => rfl
  | ret v =>
    cases todo with
    | nil => cases hf
    | cons k rest => rfl

/-- non-vacuity: two threads asking for the same two rows in opposite order both finish, each answered in its own order -/
example :
    let s := Cache.run (fun k => (k : Int)) (Cache.init [[1, 2], [2, 1]]) [0, 1, 0, 1, 0, 1, 0, 1, 0, 1, 0, 1, 0, 1]
    s.threadFinished 0 = true ∧ s.threadFinished 1 = true ∧ s.answered 0 = [1, 2] ∧ s.answered 1 = [2, 1] := by
  decide

/-- a broken variant for comparison: a `find` that, on a miss, waits for "whoever is computing the row" instead of computing
    it itself loses the request when nobody is (the thread goes straight to its next request) -/
def Cache.stepSkipOnMiss (spec : Nat → Int) (s : Cache) (t : Nat) : Option Cache :=
  match s.pcs[t]? with
  | some (todo, .find k) =>
    match s.store.lookup k with
    | some _ => s.step spec t
    | none => some { s with pcs := s.pcs.set t (todo, .ret 0) }
  | _ => s.step spec t

def Cache.runSkipOnMiss (spec : Nat → Int) (s : Cache) : List Nat → Cache
  | [] => s
  | t :: ts => Cache.runSkipOnMiss spec ((s.stepSkipOnMiss spec t).getD s) ts

/-- with `stepSkipOnMiss` a single thread asking for two rows finishes without having been answered either -/
theorem C18_cache_skip_on_miss_loses_requests :
    let s := Cache.runSkipOnMiss (fun k => (k : Int)) (Cache.init [[1, 2]]) [0, 0, 0, 0, 0, 0]
    s.threadFinished 0 = true ∧ s.answered 0 = [] := by
  decide

/-- the trace validator that ties the per-thread request machine to the recorded events accepts a racing double computation
    (two threads miss the same key, both insert, the second insert finds the entry present) … -/
example : validateCacheProtocol [⟨0, "pm.cache.find", 7, 0⟩, ⟨1, "pm.cache.find", 7, 0⟩, ⟨0, "pm.cache.insert", 7, 0⟩,
    ⟨1, "pm.cache.insert", 7, 1⟩, ⟨0, "pm.cache.find", 7, 1⟩] = none := by decide
/-- … and rejects a request abandoned after a miss, an insert without a miss, and a miss that is never followed by an insert -/
example : (validateCacheProtocol [⟨0, "pm.cache.find", 7, 0⟩, ⟨0, "pm.cache.find", 8, 1⟩, ⟨0, "pm.cache.find", 9, 0⟩]).isSome = true := by decide
example : (validateCacheProtocol [⟨0, "pm.cache.insert", 7, 0⟩]).isSome = true := by decide
example : (validateCacheProtocol [⟨0, "pm.cache.find", 7, 0⟩]).isSome = true := by decide

/-- "up to floating-point reassociation of the per-thread partial sums … without lost or duplicated contributions":
    whatever thread each work item is given to, the sum over the threads of the per-thread sums is the sum over the items.
    The same pattern (per-thread accumulator indexed by `omp_get_thread_num()`, sequential reduction afterwards) is
    `BackProjectorByBin::get_output`, the `local_log_likelihoods` of `distributable_computation`, and — exercised by the
    check's list-mode scenarios — the `local_output_image_sptrs` / `local_double_outs` of
    `LM_distributable_computation` (distributable.txx:76-159). -/
theorem C18_reduction_any_assignment (n : Nat) (owner : Nat → Nat) (items : List Nat) (f : Nat → Int)
    (h : ∀ i ∈ items, owner i < n) : reduceResult n owner items f = (items.map f).sum := by
  rw [reduceResult_eq, List.filter_eq_self.mpr fun i hi => by simp [h i hi]]

/-- non-vacuity: a schedule in which three threads race for a 2-cell table and all finish -/
example : (Dcl.run 2 (Dcl.init 3) [0, 1, 2, 1, 1, 0, 1, 1, 1, 1, 1, 1, 0, 0, 0, 0, 2, 2, 2, 2, 2]).allDone = true := by decide

/-- a broken variant for comparison: without the re-check inside the critical section two builds happen
    (this is what the second `if (!flag)` protects against) -/
def Dcl.stepNoRecheck (K : Nat) (s : Dcl) (t : Nat) : Option Dcl :=
  match s.pcs[t]? with
  | some .checkIn => some { s with builds := s.builds + 1, cells := 0, pcs := s.pcs.set t (.build 0) }
  | _ => s.step K t

def Dcl.runNoRecheck (K : Nat) (s : Dcl) : List Nat → Dcl
  | [] => s
  | t :: ts => Dcl.runNoRecheck K ((Dcl.stepNoRecheck K s t).getD s) ts

/-- with `stepNoRecheck` two threads that both saw the flag unset build the table twice -/
theorem C18_recheck_is_needed :
    (Dcl.runNoRecheck 1 (Dcl.init 2) [0, 1, 0, 0, 0, 0, 0, 0, 1, 1, 1]).builds = 2 := by decide

/-- "back projection of whole data sets, … gradient, sensitivity and Hessian products … give, for any number of threads …,
    the result of the single-threaded computation … without lost or duplicated contributions", for an object that is used
    again: in WHATEVER state the per-thread images of a back projector are (i.e. after any history of passes with any numbers of
    threads and any repeated `set_up`), a pass in which every participating thread has a slot returns exactly the sum of the
    contributions of that pass — nothing of an earlier pass, nothing of a thread that no longer runs. -/
theorem C18_accum_pass_any_state (a : Accum) (work : List (Nat × Int)) (h : ∀ w ∈ work, w.1 < a.slots.length) :
    ∃ a', a.pass work = some a' ∧ a'.output = (work.map (·.2)).sum := by
  obtain ⟨a', e, o, _⟩ := accum_addAll work a.start (accum_start_length a) h
  refine ⟨a', e, ?_⟩
  rw [o, accum_start_output]
  omega

/-- the same after `set_up` with `n` threads (the call that re-sizes the vector of per-thread images): any `m ≤ n` threads -/
theorem C18_accum_after_setUp (a : Accum) (n m : Nat) (work : List (Nat × Int)) (hm : m ≤ n) (h : ∀ w ∈ work, w.1 < m) :
    ∃ a', (a.setUp n).pass work = some a' ∧ a'.output = (work.map (·.2)).sum :=
  C18_accum_pass_any_state (a.setUp n) work (by
    intro w hw
    rw [accum_setUp_length]
    exact Nat.lt_of_lt_of_le (h w hw) hm)

/-- every state reached by a history of `set_up`s and passes is covered by the two theorems above (they hold for all states) -/
example (h : List AccOp) (a : Accum) (_ : Accum.new.run h = some a) (work : List (Nat × Int))
    (hw : ∀ w ∈ work, w.1 < a.slots.length) : ∃ a', a.pass work = some a' ∧ a'.output = (work.map (·.2)).sum :=
  C18_accum_pass_any_state a work hw

/-- non-vacuity: set up with 3 threads, a pass by 3 threads, then a pass by 2 threads: 8 + 16 and nothing else -/
example : (((Accum.new.setUp 3).pass [(0, 1), (1, 2), (2, 4)]).bind (·.pass [(0, 8), (1, 16)])).map (·.output) = some 24 := by
  decide

/-- more threads than slots is outside the model's defined behaviour (the C++ indexes the vector unchecked) -/
example : (Accum.new.setUp 2).pass [(0, 1), (5, 2)] = none := by decide

def Accum.passFirst (a : Accum) (m : Nat) (work : List (Nat × Int)) : Option Accum := (a.startFirst m).addAll work

/-- a broken variant for comparison: zeroing only the images of the threads that can take part in the next pass is wrong as
    soon as the number of threads goes down (3 threads, then 1: the old contributions 2 and 4 of threads 1 and 2 come back) -/
theorem C18_partial_reset_is_wrong :
    (((Accum.new.setUp 3).pass [(0, 1), (1, 2), (2, 4)]).bind (·.passFirst 1 [(0, 8)])).map (·.output) = some 14 := by
  decide

/-- "scatter simulation give[s], for any number of threads and any interleaving of the threads, the result of the
    single-threaded computation": the detectors are numbered in the order in which the threads meet them and the caches are
    indexed by that number; for every order of the requests (every schedule) and every number of
    `set_template_proj_data_info` calls in between, every request is answered with the value of the detector asked for. -/
theorem C18_scatter_cache_any_order (spec : Nat → Nat → Int) (ops : List ScOp) :
    ScCache.run spec ScCache.init ops =
      ops.filterMap fun o => match o with | .get sp d => some (spec sp d) | .setTemplate => none :=
  sc_run spec ops ScCache.init (scInv_init spec)

/-- non-vacuity: two detectors met in one order, the template set again, met in the other order -/
example : ScCache.run (fun sp d => 10 * sp + d) ScCache.init [.get 1 5, .get 1 7, .setTemplate, .get 1 7, .get 1 5] = [15, 17, 17, 15] := by
  decide

/-- a broken variant for comparison: forgetting the numbering but keeping the caches answers with the value of another
    detector as soon as the detectors are met in another order (which only happens with more than one thread) -/
theorem C18_scatter_cache_kept_is_wrong :
    ScCache.runKeepCache (fun sp d => 10 * sp + d) ScCache.init [.get 1 5, .get 1 7, .setTemplate, .get 1 7, .get 1 5] = [15, 17, 15, 17] := by
  decide

/-- `stir::set_num_threads(n)`, `n ≥ 1`: from then on `get_max_num_threads()` is `n` -/
theorem C18_set_num_threads (s : NumThreads) (n d : Int) (h : 0 < n) :
    s.set n d = some { alreadySetOnce := true, maxThreads := n } := by
  have h0 : (n == 0) = false := by
    simp only [beq_eq_false_iff_ne, ne_eq]
    omega
  simp only [NumThreads.set, h0, ompSetNumThreads]
  simp [h]

/-- `stir::set_num_threads()` after any earlier call keeps the number of threads -/
theorem C18_set_num_threads_zero_keeps (s : NumThreads) (d : Int) (h : s.alreadySetOnce = true) : s.set 0 d = some s := by
  simp [NumThreads.set, h]

/-- the first `set_num_threads()` takes the default (`OMP_NUM_THREADS`, else 90 % of the processors, at least 2) -/
example : (NumThreads.set ⟨false, 16⟩ 0 (getDefaultNumThreads 16 none)) = some ⟨true, 14⟩ := by decide
example : (NumThreads.set ⟨false, 16⟩ 0 (getDefaultNumThreads 16 (some 5))) = some ⟨true, 5⟩ := by decide

end StirVerif.C18
