import StirVerif.C10.Model

namespace StirVerif.C10

theorem eq_error_iff_ne_ok (r : Except Unit Unit) : r = .error () ↔ ¬r = .ok () := by
  cases r <;> simp

theorem readDataset_eq_ok_iff {offset sizeAll bytes fileLen : Nat} :
    readDataset offset sizeAll bytes fileLen = .ok () ↔ offset + sizeAll * bytes ≤ fileLen := by
  simp only [readDataset, ite_eq_right_iff, reduceCtorEq, imp_false, Nat.not_lt]

theorem readAll_eq_ok_iff {sizeAll bytes fileLen : Nat} {offs : List Nat} :
    readAll sizeAll bytes fileLen offs = .ok () ↔ ∀ o ∈ offs, o + sizeAll * bytes ≤ fileLen := by
  induction offs with
  | nil => simp [readAll]
  | cons a r ih =>
    rw [List.forall_mem_cons, ← ih, ← readDataset_eq_ok_iff, readAll]
    cases readDataset a sizeAll bytes fileLen <;> simp

theorem readMembers_eq_ok_iff {sizeAll bytes : Nat} {lens : List Nat} :
    readMembers sizeAll bytes lens = .ok () ↔ ∀ len ∈ lens, sizeAll * bytes ≤ len := by
  induction lens with
  | nil => simp [readMembers]
  | cons a r ih =>
    rw [List.forall_mem_cons, ← ih, ← Nat.zero_add (sizeAll * bytes), ← readDataset_eq_ok_iff, readMembers]
    cases readDataset 0 sizeAll bytes a <;> simp

theorem readAll_datasetOffsets_ok_iff {nsets sizeAll bytes fileLen : Nat} :
    readAll sizeAll bytes fileLen (datasetOffsets nsets sizeAll bytes) = .ok () ↔ nsets * (sizeAll * bytes) ≤ fileLen := by
  simp only [readAll_eq_ok_iff, datasetOffsets, List.mem_map, List.mem_range]
  constructor
  · intro h
    cases nsets with
    | zero => omega
    | succ n =>
      have := h _ ⟨n, Nat.lt_succ_self n, rfl⟩
      rwa [Nat.succ_mul]
  · rintro h o ⟨i, hi, rfl⟩
    have := Nat.mul_le_mul_right (sizeAll * bytes) (Nat.succ_le_of_lt hi)
    rw [Nat.succ_mul] at this
    omega

/-- `hg`: a parsed offset is the unparsed default 0 or the announced one; a frame without offset follows the previous one,
    which is where the announced offset puts it -/
theorem followAux_map_range' (fb : Nat) (g : Nat → Nat) (hg : ∀ i, g i = 0 ∨ g i = i * fb) (n k : Nat) :
    followAux fb (k * fb) ((List.range' (k + 1) n).map g) = (List.range' (k + 1) n).map (· * fb) := by
  induction n generalizing k with
  | zero => rfl
  | succ n ih =>
    have ho : (if g (k + 1) = 0 then k * fb + fb else g (k + 1)) = (k + 1) * fb := by
      rcases hg (k + 1) with h | h
      · rw [if_pos h, Nat.succ_mul]
      · split
        · rw [Nat.succ_mul]
        · exact h
    simp only [List.range'_succ, List.map_cons, followAux, ho, ih (k + 1)]

theorem dynamicOffsets_map_range (fb : Nat) (g : Nat → Nat) (hg : ∀ i, g i = 0 ∨ g i = i * fb) (n : Nat) :
    dynamicOffsets fb ((List.range n).map g) = (List.range n).map (· * fb) := by
  cases n with
  | zero => rfl
  | succ n =>
    have h0 : g 0 = 0 := by simpa using hg 0
    have h := followAux_map_range' fb g hg n 0
    rw [Nat.zero_mul] at h
    simp only [List.range_eq_range', List.range'_succ, List.map_cons, dynamicOffsets, h0, h, Nat.zero_mul]

theorem usedOffsets_announced {dyn nm : Bool} (hd : dyn = true ∨ nm = false) (nsets sizeAll bytes : Nat) :
    usedOffsets dyn nm (datasetOffsets nsets sizeAll bytes) sizeAll bytes = datasetOffsets nsets sizeAll bytes := by
  cases dyn
  · have hnm : nm = false := by simpa using hd
    simp [usedOffsets, parsedOffsets, hnm]
  · have hp : parsedOffsets nm (datasetOffsets nsets sizeAll bytes)
        = (List.range nsets).map fun i => if nm then 0 else i * (sizeAll * bytes) := by
      cases nm <;> simp [parsedOffsets, datasetOffsets]
    rw [usedOffsets, if_pos rfl, hp, dynamicOffsets_map_range]
    · rfl
    · intro i
      cases nm <;> simp

theorem readAll_unparsed_ok {offsets : List Nat} {sizeAll bytes fileLen : Nat} (h : sizeAll * bytes ≤ fileLen) :
    readAll sizeAll bytes fileLen (parsedOffsets true offsets) = .ok () := by
  simp only [readAll_eq_ok_iff, parsedOffsets, if_true, List.mem_map]
  rintro o ⟨_, _, rfl⟩
  omega

/-- `read_interfile_dynamic_image` before repo commit 0e66b8adc used the parsed offsets as they were (like the parametric
    reader still does) -/
def readDynamicOld (nm : Bool) (offsets : List Nat) (sizeAll bytes fileLen : Nat) : Except Unit Unit :=
  readAll sizeAll bytes fileLen (parsedOffsets nm offsets)

/-- a frame number outside `1..number of frames` is an error (`get_start_time` throws) -/
theorem member_exam_out_of_range (e : Exam) (f : Nat) (hf : f = 0 ∨ e.frames.length < f) : memberExam e f = none := by
  simp only [memberExam, frameOf, Option.map_eq_none_iff, ite_eq_left_iff, List.getElem?_eq_none_iff]
  omega

end StirVerif.C10
