import StirVerif.C10.Model
import Mathlib.Tactic.Ring
import Mathlib.Tactic.Linarith
import Mathlib.Tactic.NormNum

namespace StirVerif.C10

/-- what the reader reports for an `Exam` all of whose stored fields survive: unset values come back as the
    reader's defaults (-1, "Unknown", one empty time frame) -/
def Exam.normalised (e : Exam) : Exam :=
  { e with
    calibration := if e.calibration > 0 then e.calibration else -1
    lowThres := if e.highThres > 0 ∧ e.lowThres ≥ 0 then e.lowThres else -1
    highThres := if e.highThres > 0 ∧ e.lowThres ≥ 0 then e.highThres else -1
    frames := if e.frames = [] then [(0, 0)] else e.frames
    rnName := if e.rnName = "" ∨ e.rnName = "Unknown" then "Unknown" else e.rnName
    rnHalfLife := if e.rnHalfLife > 0 then e.rnHalfLife else -1
    rnBranching := if e.rnBranching > 0 then e.rnBranching else -1 }

/-- hypotheses under which the Interfile image header stores the exam information faithfully -/
structure Exam.Storable (e : Exam) : Prop where
  orientation : e.orientation ≤ 3
  rotation : e.rotation ≤ 5
  durations : ∀ p ∈ e.frames, p.2 - p.1 > 0                -- frames of duration ≤ 0 are not written

theorem enumFrom1_map_snd {α : Type} (l : List α) (i : Nat) : (enumFrom1 i l).map Prod.snd = l := by
  induction l generalizing i with
  | nil => rfl
  | cons a r ih => simp [enumFrom1, ih]

theorem enumFrom1_length {α : Type} (l : List α) (i : Nat) : (enumFrom1 i l).length = l.length := by
  rw [← List.length_map Prod.snd, enumFrom1_map_snd]

/-- the frame keys of the header when every frame is written, numbered from `i` -/
def hdrFrames (i : Nat) (l : List (Rat × Rat)) : List (Nat × Rat × Rat) :=
  (enumFrom1 i l).map fun p => (p.1, p.2.2 - p.2.1, p.2.1)

theorem lookup_hdrFrames (l : List (Rat × Rat)) (i k : Nat) (hk : k < l.length) :
    lookupFrame (hdrFrames i l) (i + k) = l[k] := by
  induction l generalizing i k with
  | nil => simp at hk
  | cons a r ih =>
    cases k with
    | zero => simp [lookupFrame, hdrFrames, enumFrom1]
    | succ k' =>
      have := ih (i + 1) k' (by simpa using hk)
      simp only [lookupFrame, hdrFrames, enumFrom1, List.map_cons, List.find?_cons] at this ⊢
      have hne : ¬(i = i + (k' + 1)) := by omega
      simp only [hne, decide_false]
      have he : i + (k' + 1) = i + 1 + k' := by omega
      rw [he]
      simpa using this

theorem frames_roundtrip (l : List (Rat × Rat)) :
    (List.range l.length).map (fun k => lookupFrame (hdrFrames 1 l) (k + 1)) = l := by
  apply List.ext_getElem
  · simp
  · intro k h1 h2
    simp only [List.getElem_map, List.getElem_range, Nat.add_comm k 1]
    exact lookup_hdrFrames l 1 k h2

theorem writeExam_frames (e : Exam) (hd : ∀ p ∈ e.frames, p.2 - p.1 > 0) : (writeExam e).frames = hdrFrames 1 e.frames := by
  have hfilter : ((enumFrom1 1 e.frames).filter fun p => decide (p.2.2 - p.2.1 > 0)) = enumFrom1 1 e.frames :=
    List.filter_eq_self.2 fun p hp => by
      simpa using hd p.2 (enumFrom1_map_snd e.frames 1 ▸ List.mem_map_of_mem hp)
  rw [writeExam, hfilter]
  rfl

/-- an optional key written for positive values only, read with the default `-1` (calibration factor, half life, branching ratio) -/
theorem getD_ite_pos (x : Rat) : (if x > 0 then some x else none).getD (-1) = if x > 0 then x else -1 := by
  split <;> rfl

/-- an enumeration whose last value `d` is not written and is the reader's default (patient orientation, rotation) -/
theorem getD_ite_lt {n d : Nat} (h : n ≤ d) : (if n < d then some n else none).getD d = n := by
  split
  · rfl
  · show d = n
    omega

/-! ### field by field: what `readExam` makes of what `writeExam` wrote

Each field of `readExam (writeExam e) db` is, by unfolding, the reader's default applied to the writer's optional key (`show`). -/

section Fields
variable (e : Exam) (db : Option (Rat × Rat))

theorem readWrite_modality : (readExam (writeExam e) db).modality = e.modality := by
  show (if e.modality = 0 then none else some e.modality).getD 0 = e.modality
  split
  · next h => exact h.symm
  · rfl

theorem readWrite_orientation (h : e.orientation ≤ 3) : (readExam (writeExam e) db).orientation = e.orientation :=
  getD_ite_lt h

/-- every patient rotation, including `right` (2) and `left` (3), is read back unchanged (repo commit 697526ee8) -/
theorem readWrite_rotation (h : e.rotation ≤ 5) : (readExam (writeExam e) db).rotation = e.rotation :=
  getD_ite_lt h

theorem readWrite_calibration :
    (readExam (writeExam e) db).calibration = if e.calibration > 0 then e.calibration else -1 :=
  getD_ite_pos e.calibration

/-- the energy window is written when `high > 0 ∧ low ≥ 0`, the very condition under which the reader accepts it
    (repo commit ccc9f5cdc; before, the reader wanted `low > 0`) -/
theorem readWrite_window :
    (readExam (writeExam e) db).lowThres = (if e.highThres > 0 ∧ e.lowThres ≥ 0 then e.lowThres else -1) ∧
      (readExam (writeExam e) db).highThres = (if e.highThres > 0 ∧ e.lowThres ≥ 0 then e.highThres else -1) := by
  simp only [readExam, writeExam]
  by_cases h : e.highThres > 0 ∧ e.lowThres ≥ 0
  · simp only [h, and_self, if_true]
  · simp only [h, if_false, and_self]

theorem readWrite_frames (hd : ∀ p ∈ e.frames, p.2 - p.1 > 0) :
    (readExam (writeExam e) db).frames = if e.frames = [] then [(0, 0)] else e.frames := by
  show (List.range (writeExam e).numFrames).map (fun k => lookupFrame (writeExam e).frames (k + 1)) = _
  rw [writeExam_frames e hd]
  by_cases hne : e.frames = []
  · simp [hne, writeExam, hdrFrames, enumFrom1, lookupFrame]
  · rw [if_neg hne, show (writeExam e).numFrames = e.frames.length from if_pos (List.length_pos_iff.mpr hne)]
    exact frames_roundtrip e.frames

theorem readWrite_rnName :
    (readExam (writeExam e) none).rnName = if e.rnName = "" ∨ e.rnName = "Unknown" then "Unknown" else e.rnName := by
  show (if (if e.rnName ≠ "" ∧ e.rnName ≠ "Unknown" then some e.rnName else none).getD "" = "" then "Unknown"
    else (if e.rnName ≠ "" ∧ e.rnName ≠ "Unknown" then some e.rnName else none).getD "") = _
  by_cases h1 : e.rnName = ""
  · simp [h1]
  · by_cases h2 : e.rnName = "Unknown"
    · simp [h2]
    · simp [h1, h2]

end Fields

attribute [ext] Exam

theorem exam_roundtrip (e : Exam) (h : e.Storable) : readExam (writeExam e) none = e.normalised := by
  apply Exam.ext
  · exact readWrite_modality e none
  · exact readWrite_orientation e none h.orientation
  · exact readWrite_rotation e none h.rotation
  · exact readWrite_calibration e none
  · exact (readWrite_window e none).1
  · exact (readWrite_window e none).2
  · exact readWrite_frames e none h.durations
  · exact readWrite_rnName e
  · exact getD_ite_pos e.rnHalfLife
  · exact getD_ite_pos e.rnBranching

/-- old `write_interfile_patient_position`: `right`, `left` and `other` were all written as `other` -/
def writeRotationOld (r : Nat) : Option Nat :=
  if r = 0 then some 0 else if r = 1 then some 1 else if r = 2 ∨ r = 3 ∨ r = 4 then some 4 else none

/-- old `InterfileHeader::post_processing`: the window was accepted only when both thresholds were > 0 -/
def windowAcceptedOld (lo hi : Rat) : Bool := decide (hi > 0 ∧ lo > 0)

end StirVerif.C10
