import StirVerif.C10.Model
import Mathlib.Tactic.Ring
import Mathlib.Tactic.Linarith
import Mathlib.Tactic.Push
import Mathlib.Algebra.Order.AbsoluteValue.Basic
import Mathlib.Algebra.Order.Ring.Abs

namespace StirVerif.C10

/-- one axis: position of voxel `m' + k` of the image read back (index range starting at `m'`, origin recomputed as
    `pf - pv * m'`) in terms of the header numbers `pf` (first pixel offset) and `pv` (pixel size) only -/
theorem axis_read (pv pf : Rat) (m' k : Int) :
    physPos1 pv (pf - pv * m') (m' + k) = pf + pv * k := by
  unfold physPos1
  push_cast
  ring

theorem axis_orig (v o : Rat) (mn k : Int) :
    physPos1 v o (mn + k) = firstPixelOffset v mn o + v * k := by
  unfold physPos1 firstPixelOffset
  push_cast
  ring

/-- voxel `k` of an image, in terms of what the writer prints: first pixel offset and voxel size -/
theorem posOfOffset_eq (g : Geom) (k : V3 Int) :
    posOfOffset g k = ⟨firstPixelOffset g.voxel.z g.minI.z g.origin.z + g.voxel.z * k.z,
      firstPixelOffset g.voxel.y g.minI.y g.origin.y + g.voxel.y * k.y,
      firstPixelOffset g.voxel.x g.minI.x g.origin.x + g.voxel.x * k.x⟩ := by
  simp only [posOfOffset, physPos, axis_orig]

theorem axis_err (a a' v v' k : Rat) : |a' + v' * k - (a + v * k)| ≤ |a' - a| + |k| * |v' - v| := by
  rw [← abs_mul]
  refine le_of_eq_of_le ?_ (abs_add_le _ _)
  congr 1
  ring

theorem fmt_err_le {f : Rat → Rat} {ε : Rat} (hf : ∀ x, |f x - x| ≤ ε * |x|) (a v k : Rat) :
    |f a - a| + |k| * |f v - v| ≤ ε * (|a| + |k| * |v|) := by
  have h := mul_le_mul_of_nonneg_left (hf v) (abs_nonneg k)
  linarith [hf a]

theorem renormalise_invariant (h : Header) (f : V3 Rat) (hf : h.fpo = some f) (m k : V3 Int) :
    posOfOffset (geomWithMin h m) k = ⟨f.z + h.pixel.z * k.z, f.y + h.pixel.y * k.y, f.x + h.pixel.x * k.x⟩ := by
  simp only [posOfOffset, physPos, geomWithMin, hf, axis_read]

theorem renormalise_invariant_nofpo (h : Header) (hf : h.fpo = none) (k : V3 Int) :
    posOfOffset (readGeom h) k = ⟨h.pixel.z * k.z, h.pixel.y * ((-h.size.y).tdiv 2 + k.y : Int), h.pixel.x * ((-h.size.x).tdiv 2 + k.x : Int)⟩ := by
  simp only [posOfOffset, physPos, readGeom, geomWithMin, hf, readMin, physPos1]
  congr 1 <;> simp

theorem write_size (fmt : Rat → Rat) (g : Geom) :
    (writeHeader fmt g).size = ⟨g.maxI.z - g.minI.z + 1, g.maxI.y - g.minI.y + 1, g.maxI.x - g.minI.x + 1⟩ := by
  simp [writeHeader, V3.zip, dimension]

end StirVerif.C10
