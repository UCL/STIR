import StirVerif.C10.ProofsRound
import Mathlib.Tactic.FieldSimp

namespace StirVerif.C10

theorem maxValue_eq (sg : Bool) (b : Nat) : (NumT.int sg b).maxValue = (imax sg b : Rat) := by
  cases sg <;> simp [NumT.maxValue, imax]

theorem minValue_eq (sg : Bool) (b : Nat) : (NumT.int sg b).minValue = (imin sg b : Rat) := by
  cases sg <;> simp [NumT.minValue, imin]

theorem minValue_neg (b : Nat) : (NumT.int true b).minValue < 0 := by
  simp [NumT.minValue]

theorem castToFloat_of_ne {r : Rat} (h : castToFloat r ≠ 0) : castToFloat r = r :=
  if_neg fun hc => h (if_pos hc)

theorem castToFloat_eq_zero {r : Rat} (h : |r| ≤ 1 / 2 ^ 150) : castToFloat r = 0 :=
  if_pos (abs_le.1 h)

theorem findScaleFactor_of_ne {t : NumT} (ht : t ≠ .float32) (given : Rat) (xs : List Rat) :
    findScaleFactor t given xs =
      if given = 0 ∨ tmpScale t xs > given then castToFloat (tmpScale t xs) else given :=
  if_neg ht

theorem findScaleFactor_auto {t : NumT} (ht : t ≠ .float32) (xs : List Rat) :
    findScaleFactor t 0 xs = castToFloat (tmpScale t xs) := by
  rw [findScaleFactor_of_ne ht, if_pos (Or.inl rfl)]

theorem findScaleFactor_keep {t : NumT} (ht : t ≠ .float32) {s : Rat} (hs : s ≠ 0) {xs : List Rat}
    (h : tmpScale t xs ≤ s) : findScaleFactor t s xs = s := by
  rw [findScaleFactor_of_ne ht, if_neg (not_or.2 ⟨hs, not_lt.2 h⟩)]

theorem tmpScale_le_scale {t : NumT} (ht : t ≠ .float32) {given : Rat} {xs : List Rat}
    (hs : findScaleFactor t given xs ≠ 0) : tmpScale t xs ≤ findScaleFactor t given xs := by
  rw [findScaleFactor_of_ne ht] at hs ⊢
  by_cases hc : given = 0 ∨ tmpScale t xs > given
  · rw [if_pos hc] at hs ⊢
    rw [castToFloat_of_ne hs]
  · rw [if_neg hc]
    exact not_lt.1 (not_or.1 hc).2

theorem max_quotient_le (t : NumT) (xs : List Rat) : dataMax xs / t.maxValue ≤ tmpScale t xs * (100 / 101) := by
  have h : ∀ q : Rat, q * (101 / 100) * (100 / 101) = q := fun q => by ring
  unfold tmpScale
  rw [h]
  split
  · exact le_max_left _ _
  · exact le_refl _

theorem min_quotient_le {t : NumT} (ht : t.isSigned = true) (xs : List Rat) :
    dataMin xs / t.minValue ≤ tmpScale t xs * (100 / 101) := by
  have h : ∀ q : Rat, q * (101 / 100) * (100 / 101) = q := fun q => by ring
  unfold tmpScale
  rw [h, if_pos ht]
  exact le_max_right _ _

/-- a scale factor `s` with `tmpScale / 1.01 ≤ ρ s` keeps every quotient `x / s` inside `ρ` times the range of the type.
    `ρ = 1` is "no overflow"; `ρ = 100/101`, which `find_scale_factor` guarantees, leaves the margin that the conversion
    through `int` needs. -/
theorem quotient_le {t : NumT} {xs : List Rat} {x s ρ : Rat} (hx : x ∈ xs) (hmax : 0 < t.maxValue) (hs : 0 < s)
    (h : tmpScale t xs * (100 / 101) ≤ ρ * s) : x / s ≤ ρ * t.maxValue := by
  rw [div_le_iff₀ hs]
  calc x ≤ dataMax xs := le_dataMax hx
    _ = dataMax xs / t.maxValue * t.maxValue := (div_mul_cancel₀ _ hmax.ne').symm
    _ ≤ ρ * s * t.maxValue := mul_le_mul_of_nonneg_right ((max_quotient_le t xs).trans h) hmax.le
    _ = ρ * t.maxValue * s := by ring

theorem le_quotient {t : NumT} {xs : List Rat} {x s ρ : Rat} (hx : x ∈ xs) (ht : t.isSigned = true)
    (hmin : t.minValue < 0) (hs : 0 < s) (h : tmpScale t xs * (100 / 101) ≤ ρ * s) : ρ * t.minValue ≤ x / s := by
  rw [le_div_iff₀ hs]
  calc ρ * t.minValue * s = ρ * s * t.minValue := by ring
    _ ≤ dataMin xs / t.minValue * t.minValue := mul_le_mul_of_nonpos_right ((min_quotient_le ht xs).trans h) hmin.le
    _ = dataMin xs := div_mul_cancel₀ _ hmin.ne
    _ ≤ x := dataMin_le hx

/-- for a signed type the two quotients cannot both be negative -/
theorem tmpScale_signed_nonneg (b : Nat) (xs : List Rat) : 0 ≤ tmpScale (.int true b) xs := by
  have hmax : (0 : Rat) ≤ (NumT.int true b).maxValue := sub_nonneg.2 (one_le_pow₀ (by norm_num))
  rw [← mul_nonneg_iff_of_pos_right (by norm_num : (0 : Rat) < 100 / 101)]
  rcases le_or_gt 0 (dataMax xs) with h | h
  · exact (div_nonneg h hmax).trans (max_quotient_le _ xs)
  · have hmin : dataMin xs < 0 := lt_of_le_of_lt (dataMin_le_dataMax xs) h
    exact (div_pos_of_neg_of_neg hmin (minValue_neg b)).le.trans (min_quotient_le (t := .int true b) rfl xs)

theorem convertIdeal_unsigned (s x : Rat) :
    convertIdeal false s x = if x < 0 then 0 else roundHalfAway (x / s) := by
  simp [convertIdeal]

theorem zero_in_range (b : Nat) : imin false b ≤ 0 ∧ 0 ≤ imax false b :=
  ⟨le_refl 0, Int.le_sub_one_of_lt (by positivity)⟩

theorem no_overflow_of_margin (sg : Bool) (b : Nat) {xs : List Rat} {x : Rat} (hx : x ∈ xs)
    (hmax : 0 < (NumT.int sg b).maxValue) {s : Rat} (hs : 0 < s) (h : tmpScale (.int sg b) xs * (100 / 101) ≤ s) :
    imin sg b ≤ convertIdeal sg s x ∧ convertIdeal sg s x ≤ imax sg b := by
  rw [← one_mul s] at h
  have hhi := quotient_le hx hmax hs h
  rw [one_mul, maxValue_eq] at hhi
  cases sg with
  | false =>
    rw [convertIdeal_unsigned]
    split
    · exact zero_in_range b
    · next hneg =>
      refine ⟨le_roundHalfAway ?_, roundHalfAway_le hhi⟩
      simpa [imin] using div_nonneg (not_lt.1 hneg) hs.le
  | true =>
    have hlo := le_quotient hx rfl (minValue_neg b) hs h
    rw [one_mul, minValue_eq] at hlo
    exact ⟨le_roundHalfAway hlo, roundHalfAway_le hhi⟩

/-- a scale factor `s ≠ 0` that is at least the computed one keeps every element in range: `s > 0` by `no_overflow_of_margin`;
    `s < 0` only for unsigned output of all-negative data, where everything is stored as 0 -/
theorem no_overflow_of_scale (sg : Bool) (b : Nat) {xs : List Rat} {x : Rat} (hx : x ∈ xs)
    (hmax : 0 < (NumT.int sg b).maxValue) {s : Rat} (hs : s ≠ 0) (hle : tmpScale (.int sg b) xs ≤ s) :
    imin sg b ≤ convertIdeal sg s x ∧ convertIdeal sg s x ≤ imax sg b := by
  rcases lt_or_gt_of_ne hs with hneg | hpos
  · cases sg with
    | true => linarith [tmpScale_signed_nonneg b xs]
    | false =>
      have h1 := max_quotient_le (.int false b) xs
      have hdm : dataMax xs < 0 := by
        by_contra hc
        linarith [div_nonneg (not_lt.1 hc) hmax.le]
      rw [convertIdeal_unsigned, if_pos (lt_of_le_of_lt (le_dataMax hx) hdm)]
      exact zero_in_range b
  · apply no_overflow_of_margin sg b hx hmax hpos
    -- `t / 1.01 ≤ t ≤ s` if `t ≥ 0`, and `t / 1.01 ≤ 0 < s` otherwise
    rcases le_total 0 (tmpScale (.int sg b) xs) with h | h
    · linarith
    · linarith

/-- **no overflow**: with the scale factor of `find_scale_factor` every element of the array is converted to a number
    inside the range of the integer type (`hg` plays no role: this is `no_overflow_of_scale` at that scale factor) -/
theorem no_overflow (sg : Bool) (b : Nat) (given : Rat) (hg : 0 ≤ given) (xs : List Rat) (x : Rat) (hx : x ∈ xs)
    (hmax : 0 < (NumT.int sg b).maxValue)
    (hs : findScaleFactor (.int sg b) given xs ≠ 0) :
    imin sg b ≤ convertIdeal sg (findScaleFactor (.int sg b) given xs) x ∧
      convertIdeal sg (findScaleFactor (.int sg b) given xs) x ≤ imax sg b :=
  no_overflow_of_scale sg b hx hmax hs (tmpScale_le_scale (by simp) hs)

theorem convertOne_of_in_range {sg : Bool} {b : Nat} (hb : 1 ≤ b) {s x : Rat}
    (hr : imin sg b ≤ convertIdeal sg s x ∧ convertIdeal sg s x ≤ imax sg b)
    (hint : -(2 ^ 31 : Int) < convertIdeal sg s x ∧ convertIdeal sg s x < (2 ^ 31 : Int)) :
    convertOne sg b s x = some (convertIdeal sg s x) := by
  unfold convertOne
  unfold convertIdeal at *
  by_cases hc : (!sg && decide (x < 0)) = true
  · simp only [hc, if_true]
  · simp only [hc, Bool.false_eq_true, if_false] at hr hint ⊢
    rw [stirRound_some hint, Option.map_some, wrap_id hb hr]

/-- **the conversion as coded agrees with the correctly rounded quotient** whenever the integer type fits in
    `int` (`maxValue < 2³¹`: all of STIR's types except `unsigned int`, `long`, `unsigned long`) -/
theorem convertOne_eq_ideal (sg : Bool) (b : Nat) (hb : 1 ≤ b) {xs : List Rat} {x : Rat}
    (hx : x ∈ xs) (hmax : 0 < (NumT.int sg b).maxValue) (hfit : (NumT.int sg b).maxValue < 2 ^ 31)
    {s : Rat} (hs : s ≠ 0) (hle : tmpScale (.int sg b) xs ≤ s) :
    convertOne sg b s x = some (convertIdeal sg s x) := by
  have hr := no_overflow_of_scale sg b hx hmax hs hle
  refine convertOne_of_in_range hb hr ⟨?_, lt_of_le_of_lt hr.2 (by exact_mod_cast maxValue_eq sg b ▸ hfit)⟩
  cases sg with
  | false =>
    have := hr.1
    simp only [imin, Bool.false_eq_true, if_false] at this
    omega
  | true =>
    -- `int` itself: the quotient is at least `minValue · 100/101`, which is above `-2³¹ + 1`
    have hspos : 0 < s := lt_of_le_of_ne (le_trans (tmpScale_signed_nonneg b xs) hle) (Ne.symm hs)
    have hm := le_quotient (ρ := 100 / 101) hx rfl (minValue_neg b) hspos (by linarith)
    simp only [NumT.minValue, NumT.maxValue] at hm hfit
    have : (-(2 ^ 31) + 1 : Int) ≤ roundHalfAway (x / s) := le_roundHalfAway (by
      push_cast
      linarith)
    exact Int.lt_of_lt_of_le (by norm_num) this

theorem quantisation_bound (s : Rat) (hs : 0 < s) (x : Rat) :
    |x - decodeInt s (roundHalfAway (x / s))| ≤ s / 2 := by
  have h := roundHalfAway_err (x / s)
  have : x - decodeInt s (roundHalfAway (x / s)) = -(s * ((roundHalfAway (x / s) : Rat) - x / s)) := by
    unfold decodeInt
    field_simp
    ring
  rw [this, abs_neg, abs_mul, abs_of_pos hs]
  linarith [mul_le_mul_of_nonneg_left h hs.le]

/-- the automatic scale factor of `[1]` for `unsigned int` output is `101 / (100·(2³² − 1))`, far above the `2⁻¹⁵⁰` that
    `castToFloat` flushes to 0 (used by the negative witnesses) -/
theorem scale_u32_one_ne : findScaleFactor (.int false 32) 0 [1] ≠ 0 := by
  decide +kernel

end StirVerif.C10
