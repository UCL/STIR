import StirVerif.C10.Model
import Mathlib.Tactic.Ring
import Mathlib.Tactic.Linarith
import Mathlib.Tactic.NormNum
import Mathlib.Tactic.Positivity
import Mathlib.Data.Rat.Floor
import Mathlib.Algebra.Order.Floor.Ring

namespace StirVerif.C10

/-- `(NumT.int sg b).maxValue`, a `Rat`, as an integer: `maxValue_eq` -/
def imax (sg : Bool) (b : Nat) : Int := if sg then 2 ^ (b - 1) - 1 else 2 ^ b - 1
/-- `(NumT.int sg b).minValue` as an integer: `minValue_eq` -/
def imin (sg : Bool) (b : Nat) : Int := if sg then -(2 ^ (b - 1)) else 0

theorem floor_eq (q : Rat) : q.floor = ⌊q⌋ := rfl

/-- `roundHalfAway` is Mathlib's `round` (half up), mirrored for negative arguments -/
theorem roundHalfAway_eq_round (q : Rat) : roundHalfAway q = if 0 ≤ q then round q else -round (-q) := by
  simp only [roundHalfAway, floor_eq, round_eq]

theorem roundHalfAway_err (q : Rat) : |((roundHalfAway q : Int) : Rat) - q| ≤ 1 / 2 := by
  rw [roundHalfAway_eq_round]
  split
  · rw [abs_sub_comm]
    exact abs_sub_round q
  · rw [Int.cast_neg, neg_sub_comm]
    exact abs_sub_round (-q)

/-- rounding does not cross an integer: the two facts about `roundHalfAway` that the range arguments use.
    Both follow from the error bound, an integer within 1/2 of `q ≥ n` being at least `n`. -/
theorem le_roundHalfAway {n : Int} {q : Rat} (h : (n : Rat) ≤ q) : n ≤ roundHalfAway q := by
  have hq := (abs_le.1 (roundHalfAway_err q)).1
  have : ((n - 1 : Int) : Rat) < (roundHalfAway q : Int) := by
    push_cast
    linarith
  have := Int.cast_lt.1 this
  omega

theorem roundHalfAway_le {n : Int} {q : Rat} (h : q ≤ (n : Rat)) : roundHalfAway q ≤ n := by
  have hq := (abs_le.1 (roundHalfAway_err q)).2
  have : ((roundHalfAway q : Int) : Rat) < ((n + 1 : Int) : Rat) := by
    push_cast
    linarith
  have := Int.cast_lt.1 this
  omega

theorem stirRound_some {q : Rat} (h : -(2 ^ 31 : Int) < roundHalfAway q ∧ roundHalfAway q < (2 ^ 31 : Int)) :
    stirRound q = some (roundHalfAway q) :=
  if_pos h

theorem stirRound_none_of_ge {q : Rat} (h : (2 : Rat) ^ 31 ≤ q) : stirRound q = none := by
  have : (2 ^ 31 : Int) ≤ roundHalfAway q := le_roundHalfAway (by exact_mod_cast h)
  exact if_neg fun hh => by omega

theorem wrap_id {sg : Bool} {b : Nat} (hb : 1 ≤ b) {r : Int} (h : imin sg b ≤ r ∧ r ≤ imax sg b) :
    wrap sg b r = r := by
  cases sg
  · simp only [imin, imax, Bool.false_eq_true, if_false] at h
    simp only [wrap, Bool.false_eq_true, if_false]
    exact Int.emod_eq_of_lt h.1 (by omega)
  · simp only [imin, imax, if_true] at h
    have hp : (2 : Int) ^ b = 2 * 2 ^ (b - 1) := by
      rw [← pow_succ', Nat.sub_add_cancel hb]
    simp only [wrap, if_true]
    rw [Int.emod_eq_of_lt (by omega) (by omega)]
    omega

theorem dataMax_mem {xs : List Rat} (h : xs ≠ []) : dataMax xs ∈ xs := by
  cases xs with
  | nil => exact absurd rfl h
  | cons a r => exact List.max?_mem List.max?_cons'

theorem le_dataMax {xs : List Rat} {x : Rat} (h : x ∈ xs) : x ≤ dataMax xs := by
  cases xs with
  | nil => cases h
  | cons a r => exact (List.max?_eq_some_iff.1 List.max?_cons').2 x h

theorem dataMin_mem {xs : List Rat} (h : xs ≠ []) : dataMin xs ∈ xs := by
  cases xs with
  | nil => exact absurd rfl h
  | cons a r => exact List.min?_mem List.min?_cons'

theorem dataMin_le {xs : List Rat} {x : Rat} (h : x ∈ xs) : dataMin xs ≤ x := by
  cases xs with
  | nil => cases h
  | cons a r => exact (List.min?_eq_some_iff.1 List.min?_cons').2 x h

theorem dataMin_le_dataMax (xs : List Rat) : dataMin xs ≤ dataMax xs := by
  cases xs with
  | nil => exact le_refl _
  | cons a r => exact le_trans (dataMin_le List.mem_cons_self) (le_dataMax List.mem_cons_self)

theorem dataMax_of_forall {P : Rat → Prop} {xs : List Rat} (h0 : P 0) (h : ∀ x ∈ xs, P x) : P (dataMax xs) := by
  cases xs with
  | nil => exact h0
  | cons a r => exact h _ (dataMax_mem (List.cons_ne_nil a r))

theorem dataMin_of_forall {P : Rat → Prop} {xs : List Rat} (h0 : P 0) (h : ∀ x ∈ xs, P x) : P (dataMin xs) := by
  cases xs with
  | nil => exact h0
  | cons a r => exact h _ (dataMin_mem (List.cons_ne_nil a r))

end StirVerif.C10
