/-
C10 — "Image files round-trip voxel positions, values and exam information".
All statements are for every index range, origin, voxel size, array content and length, integer width, given
scale factor and exam information (no bounds).  Clauses of the property that the code as it stands violates are stated as negative theorems
(general, plus concrete witnesses) next to the theorem that excludes exactly those inputs.
-/
import StirVerif.C10.ProofsGeom
import StirVerif.C10.ProofsWrite
import StirVerif.C10.ProofsExam
import StirVerif.C10.ProofsContainer

namespace StirVerif.C10

/-! ## Positions

(The header of a dynamic / parametric Interfile image is written from the geometry of its first member and every
member is read back with the geometry built from that header; the members of a Multi image are single images.  The
correspondence run replays `whdr`/`rhdr` for every header and every member read back.) -/

/-- "Writing an image to file and reading it back preserves, for every voxel, its physical position … for all index
    ranges, origins, voxel sizes": when the header numbers are printed exactly, the `k`-th voxel (per axis, counted
    from the first) of the image read back is where the `k`-th voxel of the original was — although the reader
    re-normalises the index range and recomputes the origin. -/
theorem C10_position_preserved_exact (g : Geom) (k : V3 Int) :
    posOfOffset (readGeom (writeHeader id g)) k = posOfOffset g k := by
  rw [readGeom, renormalise_invariant _ _ rfl, posOfOffset_eq]
  rfl

/-- … with an explicit error bound otherwise: for any formatting `fmt` of the header numbers the position error is at
    most the error of the printed first pixel offset plus `|k|` times the error of the printed voxel size, per axis. -/
theorem C10_position_preserved_fmt (fmt : Rat → Rat) (g : Geom) (k : V3 Int) :
    |(posOfOffset (readGeom (writeHeader fmt g)) k).z - (posOfOffset g k).z|
        ≤ |fmt (firstPixelOffset g.voxel.z g.minI.z g.origin.z) - firstPixelOffset g.voxel.z g.minI.z g.origin.z|
          + |(k.z : Rat)| * |fmt g.voxel.z - g.voxel.z| ∧
    |(posOfOffset (readGeom (writeHeader fmt g)) k).y - (posOfOffset g k).y|
        ≤ |fmt (firstPixelOffset g.voxel.y g.minI.y g.origin.y) - firstPixelOffset g.voxel.y g.minI.y g.origin.y|
          + |(k.y : Rat)| * |fmt g.voxel.y - g.voxel.y| ∧
    |(posOfOffset (readGeom (writeHeader fmt g)) k).x - (posOfOffset g k).x|
        ≤ |fmt (firstPixelOffset g.voxel.x g.minI.x g.origin.x) - firstPixelOffset g.voxel.x g.minI.x g.origin.x|
          + |(k.x : Rat)| * |fmt g.voxel.x - g.voxel.x| := by
  rw [readGeom, renormalise_invariant _ _ rfl, posOfOffset_eq]
  exact ⟨axis_err _ _ _ _ _, axis_err _ _ _ _ _, axis_err _ _ _ _ _⟩

/-- … in particular, if printing has relative error at most `ε` (`ε = 5·10⁻⁶` for 6 significant digits), the position
    error of voxel `k` is at most `ε (|first pixel offset| + |k| |voxel size|)`. -/
theorem C10_position_preserved_rel (fmt : Rat → Rat) (ε : Rat) (hf : ∀ x, |fmt x - x| ≤ ε * |x|) (g : Geom) (k : V3 Int) :
    |(posOfOffset (readGeom (writeHeader fmt g)) k).z - (posOfOffset g k).z|
        ≤ ε * (|firstPixelOffset g.voxel.z g.minI.z g.origin.z| + |(k.z : Rat)| * |g.voxel.z|) ∧
    |(posOfOffset (readGeom (writeHeader fmt g)) k).y - (posOfOffset g k).y|
        ≤ ε * (|firstPixelOffset g.voxel.y g.minI.y g.origin.y| + |(k.y : Rat)| * |g.voxel.y|) ∧
    |(posOfOffset (readGeom (writeHeader fmt g)) k).x - (posOfOffset g k).x|
        ≤ ε * (|firstPixelOffset g.voxel.x g.minI.x g.origin.x| + |(k.x : Rat)| * |g.voxel.x|) := by
  have h := C10_position_preserved_fmt fmt g k
  exact ⟨h.1.trans (fmt_err_le hf _ _ _), h.2.1.trans (fmt_err_le hf _ _ _), h.2.2.trans (fmt_err_le hf _ _ _)⟩

/-- the hypothesis of `C10_position_preserved_rel` is satisfiable (exact printing, ε = 0) -/
example : ∀ x : Rat, |id x - x| ≤ 0 * |x| := by
  intro x
  simp

/-- re-normalising the index range with the recomputed origin never changes physical positions: whatever first index
    `m` the reader chooses, voxel `k` sits at `first pixel offset + k · voxel size`. -/
theorem C10_renormalise_invariant (h : Header) (f : V3 Rat) (hf : h.fpo = some f) (m k : V3 Int) :
    posOfOffset (geomWithMin h m) k = ⟨f.z + h.pixel.z * k.z, f.y + h.pixel.y * k.y, f.x + h.pixel.x * k.x⟩ :=
  renormalise_invariant h f hf m k

example : (writeHeader id ⟨⟨-2, -3, 4⟩, ⟨1, 0, 8⟩, ⟨3, 4, 5⟩, ⟨32 / 5, -7 / 2, 12 / 5⟩⟩).fpo = some ⟨2 / 5, -31 / 2, 112 / 5⟩ := by
  simp [writeHeader, V3.map, firstPixelOffset]
  norm_num

/-- the reader's index range has the announced sizes, and starts at `(0, -⌊ny/2⌋, -⌊nx/2⌋)` -/
theorem C10_read_range (h : Header) (hy : 0 ≤ h.size.y) (hx : 0 ≤ h.size.x) :
    V3.zip dimension (readGeom h).minI (readGeom h).maxI = h.size ∧
      (readGeom h).minI = ⟨0, -(h.size.y / 2), -(h.size.x / 2)⟩ := by
  have ht : ∀ n : Int, 0 ≤ n → (-n).tdiv 2 = -(n / 2) := fun n hn => by
    rw [Int.neg_tdiv, Int.tdiv_eq_ediv_of_nonneg hn]
  obtain ⟨⟨sz, sy, sx⟩, pixel, fpo⟩ := h
  simp only [readGeom, geomWithMin, readMin, V3.zip, dimension, ht sy hy, ht sx hx, V3.mk.injEq, and_true]
  omega

/-! ## Values: scaled integer output

`write_basic_interfile` writes every data set of a dynamic or parametric image with the same `write_data`, each
with a scale factor of its own (interfile.cxx:872-878, 919-925), and the Multi formats write every member as a
single image: the theorems of this and the next two sections apply per data set / member (the correspondence run
replays `fsf` and `conv` for every data set of every container). -/

/-- "scaled integer output, which never overflows the chosen type … for all number types … and scale factors":
    with the scale factor `find_scale_factor` returns (for any requested scale ≥ 0) the correctly rounded quotient of
    every element lies in `[minValue, maxValue]`, for every signed/unsigned width.  (`s ≠ 0`: otherwise zeros are
    written, `C10_all_zero_case`.) -/
theorem C10_no_overflow (sg : Bool) (b : Nat) (given : Rat) (hg : 0 ≤ given) (xs : List Rat) (x : Rat) (hx : x ∈ xs)
    (hmax : 0 < (NumT.int sg b).maxValue) (hs : findScaleFactor (.int sg b) given xs ≠ 0) :
    (NumT.int sg b).minValue ≤ (convertIdeal sg (findScaleFactor (.int sg b) given xs) x : Rat) ∧
      (convertIdeal sg (findScaleFactor (.int sg b) given xs) x : Rat) ≤ (NumT.int sg b).maxValue := by
  rw [minValue_eq, maxValue_eq]
  have := no_overflow sg b given hg xs x hx hmax hs
  exact ⟨by exact_mod_cast this.1, by exact_mod_cast this.2⟩

/-- the hypotheses hold for `short` output of a mixed-sign array -/
example : 0 < (NumT.int true 16).maxValue ∧ findScaleFactor (.int true 16) 0 [9453 / 100, -137 / 10] ≠ 0 := by
  decide +kernel

/-- this is where the factor 1.01 is used: any positive scale factor `s'` with `s' ≥ computed/1.01` (the computed one
    rounded to `float`, or printed with 6 digits and read back) still cannot overflow. -/
theorem C10_no_overflow_robust (sg : Bool) (b : Nat) (xs : List Rat) (x : Rat) (hx : x ∈ xs)
    (hmax : 0 < (NumT.int sg b).maxValue) (s' : Rat) (hs' : 0 < s')
    (hclose : 100 * tmpScale (.int sg b) xs ≤ 101 * s') :
    (NumT.int sg b).minValue ≤ (convertIdeal sg s' x : Rat) ∧ (convertIdeal sg s' x : Rat) ≤ (NumT.int sg b).maxValue := by
  rw [minValue_eq, maxValue_eq]
  have := no_overflow_of_margin sg b hx hmax hs' (by linarith)
  exact ⟨by exact_mod_cast this.1, by exact_mod_cast this.2⟩

example : (0 : Rat) < 1 / 100 ∧ 100 * tmpScale (.int false 8) [2, 1] ≤ 101 * (1 / 100) := by
  decide +kernel

/-- the full statement "the conversion as coded (`stir::round`, which returns `int`, then a cast to the output type)
    stores the correctly rounded quotient, for every integer type" — false, see `C10_no_overflow_fails_wide_unsigned`. -/
def C10_conversion_as_coded_all_types : Prop :=
  ∀ (sg : Bool) (b : Nat) (given : Rat) (xs : List Rat) (x : Rat), 1 ≤ b → 0 ≤ given → x ∈ xs →
    0 < (NumT.int sg b).maxValue → findScaleFactor (.int sg b) given xs ≠ 0 →
    convertOne sg b (findScaleFactor (.int sg b) given xs) x =
      some (convertIdeal sg (findScaleFactor (.int sg b) given xs) x)

/-- … it holds for the types whose `maxValue` is below 2³¹ (signed/unsigned char, short, unsigned short, int); the
    missing hypothesis for the others is that every quotient stays inside `int`.  (For `int` itself the proof uses the
    factor 1.01 to keep the quotient away from -2³¹.) -/
theorem C10_conversion_as_coded_partial (sg : Bool) (b : Nat) (hb : 1 ≤ b) (given : Rat) (hg : 0 ≤ given)
    (xs : List Rat) (x : Rat) (hx : x ∈ xs) (hmax : 0 < (NumT.int sg b).maxValue)
    (hfit : (NumT.int sg b).maxValue < 2 ^ 31) (hs : findScaleFactor (.int sg b) given xs ≠ 0) :
    convertOne sg b (findScaleFactor (.int sg b) given xs) x =
      some (convertIdeal sg (findScaleFactor (.int sg b) given xs) x) :=
  convertOne_eq_ideal sg b hb hx hmax hfit hs (tmpScale_le_scale (by simp) hs)

example : (NumT.int true 32).maxValue < 2 ^ 31 ∧ (NumT.int false 16).maxValue < 2 ^ 31 := by
  norm_num [NumT.maxValue]

/-- **the code violates "never overflows" for every unsigned type of ≥ 32 bits** (`unsigned int`, `unsigned long`):
    with the automatic scale factor the largest voxel's quotient is `maxValue/1.01 ≥ 2³¹` and `stir::round`'s
    conversion to `int` is undefined (`none`). -/
theorem C10_no_overflow_fails_wide_unsigned (b : Nat) (hb : 32 ≤ b) (xs : List Rat) (hpos : 0 < dataMax xs)
    (hs : findScaleFactor (.int false b) 0 xs ≠ 0) :
    convertOne false b (findScaleFactor (.int false b) 0 xs) (dataMax xs) = none := by
  have hseq : findScaleFactor (.int false b) 0 xs = dataMax xs / (2 ^ b - 1) * (101 / 100) := by
    rw [findScaleFactor_auto (by simp)] at hs ⊢
    rw [castToFloat_of_ne hs]
    simp [tmpScale, NumT.isSigned, NumT.maxValue]
  have hpw : (2 : Rat) ^ 32 ≤ 2 ^ b := pow_le_pow_right₀ (by norm_num) hb
  -- the largest element's quotient is `maxValue / 1.01`
  have hq : dataMax xs / (dataMax xs / (2 ^ b - 1) * (101 / 100)) = (2 ^ b - 1) * (100 / 101) := by
    field_simp
  simp only [convertOne, hseq, not_lt.2 hpos.le, decide_false, Bool.and_false, Bool.false_eq_true, if_false, hq]
  rw [stirRound_none_of_ge, Option.map_none]
  linarith [show (2 : Rat) ^ 31 ≤ ((2 : Rat) ^ 32 - 1) * (100 / 101) by norm_num]

/-- concrete witness (replayed on the implementation by the harness: every `u32` case with automatic scale) -/
theorem C10_no_overflow_fails_uint32 :
    convertOne false 32 (findScaleFactor (.int false 32) 0 [1]) 1 = none := by
  have h := C10_no_overflow_fails_wide_unsigned 32 (le_refl _) [1] (by decide) scale_u32_one_ne
  simpa [dataMax] using h

/-- the full statement is refuted by `unsigned int` output of the array `[1]` with the automatic scale factor -/
theorem C10_conversion_as_coded_all_types_fails : ¬ C10_conversion_as_coded_all_types := by
  intro h
  have h1 := h false 32 0 [1] 1 (by norm_num) (le_refl _) (by simp) (by norm_num [NumT.maxValue]) scale_u32_one_ne
  rw [C10_no_overflow_fails_uint32] at h1
  cases h1

/-- "its value … within half a quantisation step for scaled integer output": decoding with the scale factor `s`
    that was used for rounding gives back `x` within `s/2`.  The statement is about the rounded quotient
    `roundHalfAway (x / s)`, for any `x`; what is stored is `convertIdeal`, which for unsigned types replaces a negative `x`
    by 0, and of that stored 0 the bound says nothing. -/
theorem C10_quantisation_bound (s : Rat) (hs : 0 < s) (x : Rat) :
    |x - decodeInt s (roundHalfAway (x / s))| ≤ s / 2 :=
  quantisation_bound s hs x

/-- what the reader really does: it multiplies by the scale factor `s'` *printed in the header*; the error is then at
    most half a step plus `|stored integer| · |s' - s|` (for 6 digits: `≤ s/2 + 5·10⁻⁶|x|`, more than half a step for
    16- and 32-bit output). -/
theorem C10_value_roundtrip_bound (s s' : Rat) (hs : 0 < s) (x : Rat) :
    |x - decodeInt s' (roundHalfAway (x / s))| ≤ s / 2 + |(roundHalfAway (x / s) : Rat)| * |s' - s| := by
  -- triangle inequality through the value decoded with `s` itself
  refine (abs_sub_le _ (decodeInt s (roundHalfAway (x / s))) _).trans (add_le_add (quantisation_bound s hs x) (le_of_eq ?_))
  rw [decodeInt, decodeInt, ← mul_sub, abs_mul, abs_sub_comm]

/-- `hs` for the scale factor of `short` output of data with maximum 3: `3 / 32767 · 1.01` -/
example : (0 : Rat) < 303 / 3276700 := by norm_num

/-- the all-zero case: scale factor 0 is written, all stored numbers are 0, and 0 · 0 = 0 is read back -/
theorem C10_all_zero_case (sg : Bool) (b : Nat) (xs : List Rat) (h : ∀ x ∈ xs, x = 0) :
    convertRangeInt sg b 0 xs = (0, xs.map fun _ => some 0) ∧ ∀ x ∈ xs, decodeInt 0 0 = x := by
  refine ⟨all_zero_case sg b xs h, ?_⟩
  intro x hx
  rw [h x hx]
  simp [decodeInt]

example : ∀ x ∈ [(0 : Rat), 0, 0], x = 0 := by simp

/-- "exactly for floating-point output": `float` output ignores the requested scale factor, stores the values
    themselves with scale factor 1, and decoding returns them. -/
theorem C10_float_exact (given : Rat) (rows : List (List Rat)) :
    writeData .float32 given rows = (1, .ok (rows.map fun r => r.map Stored.real)) ∧ ∀ v, decodeReal 1 v = v := by
  refine ⟨?_, fun v => mul_one v⟩
  have hrows : rows.mapM (writeRow .float32 1) = .ok (rows.map fun r => r.map Stored.real) :=
    List.mapM_pure (m := Except Unit) (f := fun r : List Rat => r.map Stored.real)
  simp only [writeData, findScaleFactor, if_true, hrows]

/-- `double` output with a requested scale factor `s ≠ 0` is exact in exact arithmetic (`x/s·s`) -/
theorem C10_double_exact_given_scale_partial (s : Rat) (hs : s ≠ 0) (x : Rat) : decodeReal s (x / s) = x :=
  div_mul_cancel₀ x hs

/-- **the code violates "exactly for floating-point output" for `double` output with the automatic scale factor**:
    for every array of `float`s `max/DBL_MAX·1.01` underflows `float`, the scale factor becomes 0 and zeros are
    written. -/
theorem C10_double_autoscale_fails (xs : List Rat) (hx : ∀ x ∈ xs, |x| ≤ FLT_MAX) :
    convertRangeReal .float64 0 xs = (0, xs.map fun _ => 0) := by
  simp only [convertRangeReal, reduceCtorEq, if_false, double_autoscale_zero xs hx, if_true]

example : ∀ x ∈ [(1 : Rat), -2], |x| ≤ FLT_MAX := by
  intro x hx
  simp at hx
  rcases hx with rfl | rfl <;> norm_num [FLT_MAX]

/-- the row-wise re-computation of the scale factor in `write_data_with_fixed_scale_factor` never rejects a row when
    the global scale factor is positive (missing for the full statement: the scale factor may be ≤ 0 for unsigned
    output, see `C10_write_fails_negative_scale`). -/
theorem C10_write_succeeds_partial (sg : Bool) (b : Nat) (hmax : 0 < (NumT.int sg b).maxValue) (given : Rat) (hg : 0 ≤ given)
    (rows : List (List Rat)) (hne : ∀ r ∈ rows, r ≠ [])
    (hpos : 0 < findScaleFactor (.int sg b) given rows.flatten) :
    ∃ out, (writeData (.int sg b) given rows).2 = .ok out := by
  have hle := tmpScale_le_scale (by simp) hpos.ne'
  apply mapM_ok_of_forall
  intro row hrow
  -- the row's own computed scale is at most the global one, so the global one is kept
  have hsub : ∀ x ∈ row, x ∈ rows.flatten := fun x hx => List.mem_flatten.mpr ⟨row, hrow, hx⟩
  have hrow := le_trans (tmpScale_row_le sg b hmax row _ hsub (hne row hrow)) hle
  exact writeRow_int_ok hpos (findScaleFactor_keep (by simp) hpos.ne' hrow)

example : 0 < findScaleFactor (.int false 8) 0 ([[1, 2], [3, -4]] : List (List Rat)).flatten := by
  decide +kernel

/-- **`write_data` fails whenever the scale factor is negative** (and `write_basic_interfile` ignores it) -/
theorem C10_write_fails_negative_scale (sg : Bool) (b : Nat) (given : Rat) (row : List Rat) (rows : List (List Rat))
    (hneg : findScaleFactor (.int sg b) given (row :: rows).flatten < 0) :
    (writeData (.int sg b) given (row :: rows)).2 = .error () := by
  simp only [writeData, List.mapM_cons, writeRow_int_error row hneg]
  rfl

/-- concrete witness: an all-negative image written as `unsigned char` with the automatic scale factor -/
theorem C10_write_fails_unsigned_all_negative : (writeData (.int false 8) 0 [[-1, -2]]).2 = .error () := by
  apply C10_write_fails_negative_scale
  decide +kernel

/-- "A data file shorter than its header announces is reported as an error rather than returned as an image":
    at the level of the model of `read_data` (stream semantics assumed).  One data set: a single image, also one
    written with several time frame definitions (`read_interfile_image` reads from the first offset only), and each
    member of a Multi image (`C10_truncated_multi_member_rejected`). -/
theorem C10_truncated_file_rejected (offset sizeAll bytes fileLen : Nat) (h : fileLen < offset + sizeAll * bytes) :
    readDataset offset sizeAll bytes fileLen = .error () := by
  rw [eq_error_iff_ne_ok, readDataset_eq_ok_iff]
  omega

/-- … and conversely a data file that holds what the header announces is read. -/
theorem C10_complete_file_accepted (offset sizeAll bytes fileLen : Nat) (h : offset + sizeAll * bytes ≤ fileLen) :
    readDataset offset sizeAll bytes fileLen = .ok () :=
  readDataset_eq_ok_iff.2 h

/-- … for a dynamic Interfile image of ANY modality and a parametric one of any modality but NM (`nsets` data sets of
    `sizeAll·bytes` bytes in one data file, at the offsets `write_basic_interfile` announces): a file shorter than the
    `nsets·sizeAll·bytes` bytes announced is rejected, at every length.  (Dynamic + NM: the offset keys are still not
    parsed, but since repo commit 0e66b8adc `read_interfile_dynamic_image` lets a frame without a parsed offset follow
    the previous one, which is where the writer put it.) -/
theorem C10_truncated_container_rejected (dyn nm : Bool) (hd : dyn = true ∨ nm = false) (nsets sizeAll bytes fileLen : Nat)
    (h : fileLen < nsets * (sizeAll * bytes)) :
    readDatasets dyn nm (datasetOffsets nsets sizeAll bytes) sizeAll bytes fileLen = .error () := by
  rw [readDatasets, usedOffsets_announced hd, eq_error_iff_ne_ok, readAll_datasetOffsets_ok_iff]
  omega

/-- … and conversely a data file of the announced `nsets·sizeAll·bytes` bytes is read. -/
theorem C10_complete_container_accepted (dyn nm : Bool) (hd : dyn = true ∨ nm = false) (nsets sizeAll bytes fileLen : Nat)
    (h : nsets * (sizeAll * bytes) ≤ fileLen) :
    readDatasets dyn nm (datasetOffsets nsets sizeAll bytes) sizeAll bytes fileLen = .ok () := by
  rw [readDatasets, usedOffsets_announced hd]
  exact readAll_datasetOffsets_ok_iff.2 h

example : datasetOffsets 3 6 2 = [0, 12, 24] ∧ (35 : Nat) < 3 * (6 * 2) := by decide

/-- the dynamic reader seeks to exactly the offsets the writer announced, also when the keys were not parsed (NM):
    every frame is read from its own place -/
theorem C10_dynamic_reader_uses_announced_offsets (nm : Bool) (nsets sizeAll bytes : Nat) :
    usedOffsets true nm (datasetOffsets nsets sizeAll bytes) sizeAll bytes = datasetOffsets nsets sizeAll bytes :=
  usedOffsets_announced (.inl rfl) nsets sizeAll bytes

/-- … parametric image, whatever offsets the header announces (not NM): a file that ends before the end of any
    announced data set -/
theorem C10_truncated_dataset_rejected (offsets : List Nat) (o : Nat) (ho : o ∈ offsets) (sizeAll bytes fileLen : Nat)
    (h : fileLen < o + sizeAll * bytes) : readDatasets false false offsets sizeAll bytes fileLen = .error () := by
  simp only [readDatasets, usedOffsets, parsedOffsets, Bool.false_eq_true, if_false, eq_error_iff_ne_ok,
    readAll_eq_ok_iff]
  intro hall
  have := hall o ho
  omega

/-- the full statement for Interfile images with several data sets, both readers, any modality — false for
    parametric + NM, see below -/
def C10_truncated_container_rejected_all_modalities : Prop :=
  ∀ (dyn nm : Bool) (nsets sizeAll bytes fileLen : Nat), fileLen < nsets * (sizeAll * bytes) →
    readDatasets dyn nm (datasetOffsets nsets sizeAll bytes) sizeAll bytes fileLen = .error ()

/-- **the code violates the clause for parametric images of modality NM** (known finding: `data offset in bytes` is not
    a registered key after `!type of data := Tomographic`, and `read_interfile_parametric_image` uses the parsed offsets
    as they are): every data set is read from offset 0, so a file that holds one data set is returned as an image
    although the header announces two. -/
theorem C10_truncated_parametric_NM_accepted (offsets : List Nat) (sizeAll bytes fileLen : Nat)
    (h : sizeAll * bytes ≤ fileLen) : readDatasets false true offsets sizeAll bytes fileLen = .ok () :=
  readAll_unparsed_ok h

/-- the full statement is refuted by a parametric NM image of two data sets of 24 bytes in a file of 24 bytes -/
theorem C10_truncated_container_rejected_all_modalities_fails : ¬ C10_truncated_container_rejected_all_modalities := by
  intro h
  have h1 := h false true 2 6 4 24 (by decide)
  rw [C10_truncated_parametric_NM_accepted _ 6 4 24 (by decide)] at h1
  cases h1

/-- regression witness: `read_interfile_dynamic_image` before repo commit 0e66b8adc (parsed offsets used as they were)
    accepted a dynamic NM file holding a single frame, whatever the header announced -/
theorem C10_old_dynamic_reader_accepted_truncated_NM :
    readDynamicOld true (datasetOffsets 2 6 4) 6 4 24 = .ok () ∧ (24 : Nat) < 2 * (6 * 4) :=
  ⟨readAll_unparsed_ok (by decide), by decide⟩

/-- … for a Multi image (every member a single image in a data file of its own): one short member file is enough -/
theorem C10_truncated_multi_member_rejected (sizeAll bytes : Nat) (lens : List Nat) (len : Nat) (hl : len ∈ lens)
    (h : len < sizeAll * bytes) : readMembers sizeAll bytes lens = .error () := by
  rw [eq_error_iff_ne_ok, readMembers_eq_ok_iff]
  intro hall
  have := hall len hl
  omega

/-- … and conversely a Multi image all of whose member files are long enough is read. -/
theorem C10_complete_multi_accepted (sizeAll bytes : Nat) (lens : List Nat) (h : ∀ len ∈ lens, sizeAll * bytes ≤ len) :
    readMembers sizeAll bytes lens = .ok () :=
  readMembers_eq_ok_iff.2 h

example : (23 : Nat) ∈ [24, 23, 24] ∧ 23 < 6 * 4 := by decide

/-- the full statement "every exam information survives" — false: time frames of duration ≤ 0 are not written,
    see `C10_exam_roundtrip_all_fails` -/
def C10_exam_roundtrip_all : Prop :=
  ∀ e : Exam, e.orientation ≤ 3 → e.rotation ≤ 5 → readExam (writeExam e) none = e.normalised

/-- "The exam information that the format stores (modality, patient position, time frames, radionuclide, energy window,
    calibration factor) survives the round trip" — for every exam information whose time frames have positive duration
    (`Storable`; the enum values must be valid); radionuclide not in the data base (a data-base hit returns the
    data-base record instead). -/
theorem C10_exam_roundtrip_partial (e : Exam) (h : e.Storable) : readExam (writeExam e) none = e.normalised :=
  exam_roundtrip e h

example : Exam.Storable ⟨1, 1, 3, 5 / 2, 0, 650, [(41 / 2, 45), (50, 373 / 4)], "Verif-7", 2469 / 2, 1 / 2⟩ := by
  constructor <;> simp
  norm_num

/-- every patient rotation — including the decubitus positions `right`/`left` — is read back unchanged
    (was violated before repo commit 697526ee8: `C10_exam_old_code_lost_rotation_and_window`) -/
theorem C10_exam_rotation_survives (e : Exam) (h : e.rotation ≤ 5) (db : Option (Rat × Rat)) :
    (readExam (writeExam e) db).rotation = e.rotation :=
  readWrite_rotation e db h

/-- an energy window `[0, high]` is written and read back (was violated before repo commit ccc9f5cdc:
    `C10_exam_old_code_lost_rotation_and_window`) -/
theorem C10_exam_window_zero_survives (e : Exam) (hh : e.highThres > 0) (hl : e.lowThres = 0) (db : Option (Rat × Rat)) :
    (writeExam e).window = some (0, e.highThres) ∧
      (readExam (writeExam e) db).lowThres = 0 ∧ (readExam (writeExam e) db).highThres = e.highThres := by
  have hc : e.highThres > 0 ∧ e.lowThres ≥ 0 := ⟨hh, hl.ge⟩
  have hw := readWrite_window e db
  rw [if_pos hc, if_pos hc, hl] at hw
  exact ⟨by simp [writeExam, hh, hl], hw⟩

/-- regression witnesses for the two repaired defects (the old code, kept as separate definitions) -/
theorem C10_exam_old_code_lost_rotation_and_window :
    (writeRotationOld 2 = some 4 ∧ writeRotationOld 3 = some 4) ∧ ∀ hi : Rat, windowAcceptedOld 0 hi = false :=
  ⟨by decide, fun hi => by simp [windowAcceptedOld]⟩

/-- a time frame of zero duration does not survive: it is not written, and read back as the default frame (0, 0) -/
theorem C10_exam_roundtrip_all_fails : ¬ C10_exam_roundtrip_all := by
  intro h
  have h1 := congrArg Exam.frames (h ⟨1, 0, 0, -1, -1, -1, [(5, 5)], "", -1, -1⟩ (by norm_num) (by norm_num))
  simp [readExam, writeExam, enumFrom1, lookupFrame, List.range_succ, Exam.normalised] at h1

/-- "… survives the round trip" for a single image with at most one time frame: `read_interfile_image` returns what
    the header reader reconstructed (`C10_exam_roundtrip_partial`). -/
theorem C10_exam_single_roundtrip_partial (e : Exam) (h : e.Storable) (h1 : e.frames.length ≤ 1) :
    singleExam (readExam (writeExam e) none) = e.normalised := by
  rw [exam_roundtrip e h]
  have : ¬(e.normalised.frames.length > 1) := by
    simp only [Exam.normalised]
    split
    · simp
    · omega
  simp only [singleExam, this, if_false]

/-- the full statement for single images — false: of several time frames attached to a single image only the first
    is read back (`read_interfile_image`: "Only the first will be kept"; every other field survives) -/
def C10_exam_single_roundtrip_all_frames : Prop :=
  ∀ e : Exam, e.Storable → singleExam (readExam (writeExam e) none) = e.normalised

/-- of several time frames attached to a single image the first is read back, every other field as in
    `C10_exam_roundtrip_partial` -/
theorem C10_exam_single_keeps_first_frame (e : Exam) (h : e.Storable) (p q : Rat × Rat) (r : List (Rat × Rat))
    (hfr : e.frames = p :: q :: r) :
    singleExam (readExam (writeExam e) none) = { e.normalised with frames := [p] } := by
  rw [exam_roundtrip e h]
  simp [singleExam, Exam.normalised, hfr]

/-- the full statement is refuted by an exam information with the two frames (0, 10), (10, 30) -/
theorem C10_exam_single_roundtrip_all_frames_fails : ¬ C10_exam_single_roundtrip_all_frames := by
  intro h
  have hs : Exam.Storable ⟨1, 0, 0, -1, -1, -1, [(0, 10), (10, 30)], "", -1, -1⟩ := by
    constructor <;> simp
    norm_num
  have h1 := h _ hs
  rw [C10_exam_single_keeps_first_frame _ hs (0, 10) (10, 30) [] rfl] at h1
  simp [Exam.normalised] at h1

/-- "time frames … survive": member `f` of a dynamic Interfile image is read back with every stored field of the
    exam information that was written and with exactly its own time frame. -/
theorem C10_exam_member_roundtrip_partial (e : Exam) (h : e.Storable) (f : Nat) (hf1 : 1 ≤ f) (hf : f ≤ e.frames.length) :
    memberExam (readExam (writeExam e) none) f =
      some { e.normalised with frames := [e.frames[f - 1]'(by omega)] } := by
  rw [exam_roundtrip e h]
  have hne : e.frames ≠ [] := fun h0 => by
    rw [h0, List.length_nil] at hf
    omega
  have hf0 : f ≠ 0 := by omega
  have hidx : f - 1 < e.frames.length := by omega
  simp only [memberExam, frameOf, hf0, if_false, Exam.normalised, hne]
  simp [List.getElem?_eq_getElem hidx]

example : Exam.Storable ⟨2, 0, 2, -1, 0, 650, [(0, 10), (10, 30), (31, 40)], "Verif-3", 100, 1 / 2⟩ ∧ 1 ≤ 3 ∧
    3 ≤ ([(0, 10), (10, 30), (31, 40)] : List (Rat × Rat)).length := by
  refine ⟨?_, by decide, by decide⟩
  constructor <;> simp
  norm_num

/-- a Multi dynamic image is assembled from its members: all fields of the first member, frame `i` := the time frame
    of member `i` (each member being a single image with one frame, `C10_exam_single_roundtrip_partial`) -/
theorem C10_exam_multi_dynamic (first : Exam) (rest : List Exam) (h : ∀ m ∈ first :: rest, m.frames.length = 1) :
    multiDynExam (first :: rest) = some { first with frames := (first :: rest).map fun m => m.frames.headD (0, 0) } := by
  have : (first :: rest).all (fun m => m.frames.length == 1) = true :=
    List.all_eq_true.2 fun m hm => by simpa using h m hm
  simp only [multiDynExam, this, if_true]

end StirVerif.C10
