import StirVerif.C10.ProofsValues

namespace StirVerif.C10

theorem float_convert_exact (given : Rat) (xs : List Rat) : convertRangeReal .float32 given xs = (1, xs) :=
  if_pos rfl

theorem FLT_MAX_pos : 0 < FLT_MAX := by
  unfold FLT_MAX
  norm_num

theorem DBL_MAX_pos : 0 < DBL_MAX := by
  unfold DBL_MAX
  norm_num

theorem flt_over_dbl : FLT_MAX / DBL_MAX * (101 / 100) ≤ 1 / 2 ^ 150 := by
  decide +kernel

/-- every array of `float`s gets the automatic scale factor 0 for `double` output: both quotients are within
    `±FLT_MAX/DBL_MAX`, and 1.01 times that underflows `float` -/
theorem double_autoscale_zero (xs : List Rat) (hx : ∀ x ∈ xs, |x| ≤ FLT_MAX) :
    findScaleFactor .float64 0 xs = 0 := by
  rw [findScaleFactor_auto (by simp)]
  apply castToFloat_eq_zero
  have hD := DBL_MAX_pos
  have hq : ∀ y, |y| ≤ FLT_MAX → |y| / DBL_MAX ≤ FLT_MAX / DBL_MAX := fun y hy =>
    div_le_div_of_nonneg_right hy hD.le
  have h1 : |dataMax xs / DBL_MAX| ≤ FLT_MAX / DBL_MAX := by
    rw [abs_div, abs_of_pos hD]
    exact hq _ (dataMax_of_forall (by simpa using FLT_MAX_pos.le) hx)
  have h2 : |dataMin xs / -DBL_MAX| ≤ FLT_MAX / DBL_MAX := by
    rw [abs_div, abs_neg, abs_of_pos hD]
    exact hq _ (dataMin_of_forall (by simpa using FLT_MAX_pos.le) hx)
  refine le_trans ?_ flt_over_dbl
  simp only [tmpScale, NumT.isSigned, NumT.maxValue, NumT.minValue, if_true]
  rw [abs_mul, abs_of_pos (by norm_num : (0 : Rat) < 101 / 100)]
  exact mul_le_mul_of_nonneg_right (le_trans abs_max_le_max_abs_abs (max_le h1 h2)) (by norm_num)

theorem all_zero_case (sg : Bool) (b : Nat) (xs : List Rat) (h : ∀ x ∈ xs, x = 0) :
    convertRangeInt sg b 0 xs = (0, xs.map fun _ => some 0) := by
  have hmax : dataMax xs = 0 := dataMax_of_forall (P := (· = 0)) rfl h
  have hmin : dataMin xs = 0 := dataMin_of_forall (P := (· = 0)) rfl h
  have ht : tmpScale (.int sg b) xs = 0 := by
    cases sg <;> simp [tmpScale, NumT.isSigned, hmax, hmin]
  have hs : findScaleFactor (.int sg b) 0 xs = 0 := by
    rw [findScaleFactor_auto (by simp), ht]
    exact castToFloat_eq_zero (by norm_num)
  simp only [convertRangeInt, hs, if_true]

theorem mapM_ok_of_forall {α β : Type} (f : α → Except Unit β) (l : List α)
    (h : ∀ a ∈ l, ∃ b, f a = .ok b) : ∃ bs, l.mapM f = .ok bs := by
  induction l with
  | nil => exact ⟨[], rfl⟩
  | cons a r ih =>
    obtain ⟨b, hb⟩ := h a List.mem_cons_self
    obtain ⟨bs, hbs⟩ := ih (fun x hx => h x (List.mem_cons_of_mem _ hx))
    refine ⟨b :: bs, ?_⟩
    rw [List.mapM_cons, hb, hbs]
    rfl

theorem tmpScale_row_le (sg : Bool) (b : Nat) (hmax : 0 < (NumT.int sg b).maxValue) (row all : List Rat)
    (hsub : ∀ x ∈ row, x ∈ all) (hne : row ≠ []) :
    tmpScale (.int sg b) row ≤ tmpScale (.int sg b) all := by
  have h1 : dataMax row ≤ dataMax all := le_dataMax (hsub _ (dataMax_mem hne))
  have h2 : dataMin all ≤ dataMin row := dataMin_le (hsub _ (dataMin_mem hne))
  have ha := div_le_div_of_nonneg_right h1 hmax.le
  unfold tmpScale
  apply mul_le_mul_of_nonneg_right _ (by norm_num)
  cases sg with
  | false => exact ha
  | true => exact max_le_max ha (div_le_div_of_nonpos_of_le (minValue_neg b).le h2)

/-- a row whose own scale factor is the positive global one passes the check `|new - scale| > scale * 0.001` -/
theorem writeRow_int_ok {sg : Bool} {b : Nat} {s : Rat} {row : List Rat} (hs : 0 < s)
    (hk : findScaleFactor (.int sg b) s row = s) : ∃ out, writeRow (.int sg b) s row = .ok out := by
  have h : ¬s * (1 / 1000) < 0 := not_lt.2 (by positivity)
  simp only [writeRow, convertRangeInt, hk, if_neg hs.ne', sub_self, lt_irrefl, if_false, gt_iff_lt, h]
  exact ⟨_, rfl⟩

theorem writeRow_int_error {sg : Bool} {b : Nat} {s : Rat} (row : List Rat) (hs : s < 0) :
    writeRow (.int sg b) s row = .error () := by
  -- the tolerance `s/1000` is negative, the difference it is compared with is an absolute value
  simp only [writeRow]
  rw [if_pos]
  split
  · linarith
  · linarith

end StirVerif.C10
