/-
C10 — "Image files round-trip voxel positions, values and exam information".

Executable model (core Lean only, exact arithmetic in `Rat`) of the arithmetic / decision core of STIR's
Interfile image writer and reader:

* header geometry      `write_basic_interfile_image_header`   src/IO/interfile.cxx:541-650
                       `create_image_and_header_from`         src/IO/interfile.cxx:102-135
* value conversion     `find_scale_factor`, `convert_range`   src/include/stir/convert_range.inl:91-185
                       `stir::round(float)`                   src/include/stir/round.inl:55-62
                       `write_data_with_fixed_scale_factor_help` (1D), `write_data`  src/include/stir/IO/write_data.inl:62-116
                       `read_interfile_image` (scaling)       src/IO/interfile.cxx:153-162
* file length          `read_data_1d`                         src/include/stir/IO/read_data_1d.inl:31-58
                       data sets of a dynamic / parametric image: offsets written by `write_basic_interfile`
                       (interfile.cxx:857-943), offsets parsed (`InterfileHeader::set_type_of_data`, InterfileHeader.cxx:429-463),
                       the reading loops of `read_interfile_dynamic_image` / `read_interfile_parametric_image`
                       (interfile.cxx:181-292) and of the Multi input formats (Multi*InputFileFormat.h)
* exam information     `write_interfile_*` helpers            src/IO/interfile.cxx:395-522, 579-609
                       `InterfileHeader::post_processing`     src/IO/InterfileHeader.cxx:253-407
                       single images (`read_interfile_image`, interfile.cxx:165-173), members of dynamic images
                       (interfile.cxx:200-220), Multi dynamic images (MultiDynamicDiscretisedDensityInputFileFormat.h:73-96)

What is modelled exactly: every formula on indices, sizes, offsets, scale factors and rounded integers, as
rational arithmetic.  What is *not* modelled: binary32/binary64 rounding of the individual operations (the
correspondence run uses a derived tolerance for it), except the one place where it changes the control flow
(`castToFloat`: a double that underflows binary32 becomes 0); decimal text formatting of header numbers (an
abstract rounding `fmt : Rat → Rat`, identity in the driver: the harness sends the printed strings); the file
system; the radionuclide data base (its answer is an input).
-/
namespace StirVerif.C10

/-! ## 1. Geometry -/

/-- a STIR `BasicCoordinate<3,_>`: order (z, y, x).  The Interfile header lists x as `[1]`, y as `[2]`, z as `[3]`. -/
structure V3 (α : Type) where
  z : α
  y : α
  x : α
  deriving Repr, DecidableEq

def V3.map {α β : Type} (f : α → β) (v : V3 α) : V3 β := ⟨f v.z, f v.y, f v.x⟩
def V3.zip {α β γ : Type} (f : α → β → γ) (a : V3 α) (b : V3 β) : V3 γ := ⟨f a.z b.z, f a.y b.y, f a.x b.x⟩

/-- what `VoxelsOnCartesianGrid<float>` knows about positions: regular index range, grid spacing, origin -/
structure Geom where
  minI : V3 Int
  maxI : V3 Int
  voxel : V3 Rat
  origin : V3 Rat
  deriving Repr, DecidableEq

/-- the geometry keys of an Interfile image header (stored here in STIR order z,y,x):
    `!matrix size [k]`, `scaling factor (mm/pixel) [k]`, `first pixel offset (mm) [k]` (absent = `none`) -/
structure Header where
  size : V3 Int
  pixel : V3 Rat
  fpo : Option (V3 Rat)
  deriving Repr, DecidableEq

/-- `DiscretisedDensity::get_physical_coordinates_for_indices` for `VoxelsOnCartesianGrid`
    (DiscretisedDensity.inl:175, VoxelsOnCartesianGrid: relative coordinate = grid_spacing * index):
    one axis. -/
def physPos1 (voxel origin : Rat) (i : Int) : Rat := voxel * i + origin

def physPos (g : Geom) (i : V3 Int) : V3 Rat :=
  ⟨physPos1 g.voxel.z g.origin.z i.z, physPos1 g.voxel.y g.origin.y i.y, physPos1 g.voxel.x g.origin.x i.x⟩

/-- physical position of the voxel that is `k` steps (per axis) after the first voxel of the index range -/
def posOfOffset (g : Geom) (k : V3 Int) : V3 Rat :=
  physPos g ⟨g.minI.z + k.z, g.minI.y + k.y, g.minI.x + k.x⟩

/-- interfile.cxx:560 `dimensions = max_indices - min_indices + 1` -/
def dimension (minI maxI : Int) : Int := maxI - minI + 1

/-- interfile.cxx:646 `first_pixel_offsets = voxel_size * min_indices + origin` (one axis) -/
def firstPixelOffset (voxel : Rat) (minI : Int) (origin : Rat) : Rat := voxel * minI + origin

/-- `write_basic_interfile_image_header` (interfile.cxx:541), geometry keys only.  `fmt` is the decimal
    formatting of `operator<<(float)` followed by the reader's decimal→double→float conversion.
    (The guard `origin.z() != InterfileHeader::double_value_not_set` at l.644 compares a `float` with the
    `double` -12345.60789, which no `float` equals: the first pixel offsets are always written.) -/
def writeHeader (fmt : Rat → Rat) (g : Geom) : Header :=
  { size := V3.zip dimension g.minI g.maxI
    pixel := g.voxel.map fmt
    fpo := some ⟨fmt (firstPixelOffset g.voxel.z g.minI.z g.origin.z),
                 fmt (firstPixelOffset g.voxel.y g.minI.y g.origin.y),
                 fmt (firstPixelOffset g.voxel.x g.minI.x g.origin.x)⟩ }

/-- interfile.cxx:121 `min_indices = make_coordinate(0, -y_size / 2, -x_size / 2)` (C integer division) -/
def readMin (size : V3 Int) : V3 Int := ⟨0, (-size.y).tdiv 2, (-size.x).tdiv 2⟩

/-- the image geometry built from a header when the index range is made to start at `m`:
    interfile.cxx:122 `max_indices = min_indices + size - 1`, l.124-132 `origin = first_pixel_offsets - voxel_size * min_indices`
    (origin 0 if the header has no first pixel offset), l.134 -/
def geomWithMin (h : Header) (m : V3 Int) : Geom :=
  { minI := m
    maxI := V3.zip (fun a s => a + s - 1) m h.size
    voxel := h.pixel
    origin := match h.fpo with
      | none => ⟨0, 0, 0⟩
      | some f => ⟨f.z - h.pixel.z * m.z, f.y - h.pixel.y * m.y, f.x - h.pixel.x * m.x⟩ }

/-- `create_image_and_header_from` (interfile.cxx:102) -/
def readGeom (h : Header) : Geom := geomWithMin h (readMin h.size)

/-! ## 2. Numeric types and scale factors -/

/-- the `NumericType`s that `write_data` / `read_data` handle (write_data.inl:140-150) -/
inductive NumT where
  | int (signed : Bool) (bits : Nat)
  | float32
  | float64
  deriving Repr, DecidableEq

def FLT_MAX : Rat := (2 ^ 24 - 1) * 2 ^ 104
def DBL_MAX : Rat := (2 ^ 53 - 1) * 2 ^ 971

/-- `NumericInfo<T>::max_value()` -/
def NumT.maxValue : NumT → Rat
  | .int true b => 2 ^ (b - 1) - 1
  | .int false b => 2 ^ b - 1
  | .float32 => FLT_MAX
  | .float64 => DBL_MAX

/-- `NumericInfo<T>::min_value()` -/
def NumT.minValue : NumT → Rat
  | .int true b => -(2 ^ (b - 1))
  | .int false _ => 0
  | .float32 => -FLT_MAX
  | .float64 => -DBL_MAX

def NumT.isSigned : NumT → Bool
  | .int s _ => s
  | _ => true

def NumT.bytes : NumT → Nat
  | .int _ b => b / 8
  | .float32 => 4
  | .float64 => 8

/-- `*std::max_element(begin, end)`; the empty range (undefined in C++) is given 0 -/
def dataMax : List Rat → Rat
  | [] => 0
  | x :: r => r.foldl max x

/-- `*std::min_element(begin, end)` -/
def dataMin : List Rat → Rat
  | [] => 0
  | x :: r => r.foldl min x

/-- `scaleT(tmp_scale)` with `scaleT = float`, `tmp_scale` a double (convert_range.inl:124): the only effect of
    the narrowing that is modelled is underflow: magnitudes up to 2⁻¹⁵⁰ (half the smallest subnormal) become 0. -/
def castToFloat (r : Rat) : Rat :=
  if -(1 / 2 ^ 150) ≤ r ∧ r ≤ 1 / 2 ^ 150 then 0 else r

/-- the double `tmp_scale` of `find_scale_factor` (convert_range.inl:109-119), input element type `float` -/
def tmpScale (t : NumT) (xs : List Rat) : Rat :=
  let a := dataMax xs / t.maxValue
  let b := if t.isSigned then max a (dataMin xs / t.minValue) else a
  b * (101 / 100)

/-- `find_scale_factor(scale_factor, begin, end, NumericInfo<T2>())` (convert_range.inl:91) with input type `float`;
    `given` is the value of `scale_factor` on entry, the result its value on exit. -/
def findScaleFactor (t : NumT) (given : Rat) (xs : List Rat) : Rat :=
  if t = .float32 then 1
  else if given = 0 ∨ tmpScale t xs > given then castToFloat (tmpScale t xs) else given

/-- round half away from zero: the value `stir::round` computes when nothing overflows -/
def roundHalfAway (q : Rat) : Int :=
  if 0 ≤ q then (q + 1 / 2).floor else -((-q + 1 / 2).floor)

/-- `int stir::round(const float x)` (round.inl:55): `static_cast<int>(x + 0.5F)` resp. `-static_cast<int>(-x + 0.5F)`;
    the float→int conversion is undefined (`none`) when the truncated value is not an `int` (32 bit). -/
def stirRound (q : Rat) : Option Int :=
  let r := roundHalfAway q
  if -(2 ^ 31) < r ∧ r < 2 ^ 31 then some r else none

/-- `static_cast<OutType>(int)`: modular for the integer types -/
def wrap (signed : Bool) (bits : Nat) (r : Int) : Int :=
  if signed then (r + 2 ^ (bits - 1)) % 2 ^ bits - 2 ^ (bits - 1) else r % 2 ^ bits

/-- one element of the integer branch of `convert_range` (convert_range.inl:160-176) -/
def convertOne (signed : Bool) (bits : Nat) (s : Rat) (x : Rat) : Option Int :=
  if !signed && decide (x < 0) then some 0 else (stirRound (x / s)).map (wrap signed bits)

/-- what the element should be: the correctly rounded quotient (negative → 0 for unsigned) -/
def convertIdeal (signed : Bool) (s : Rat) (x : Rat) : Int :=
  if !signed && decide (x < 0) then 0 else roundHalfAway (x / s)

/-- `convert_range` to an integer type (convert_range.inl:130): returns the scale factor used and the elements
    (`none` = undefined behaviour in `stir::round`) -/
def convertRangeInt (signed : Bool) (bits : Nat) (given : Rat) (xs : List Rat) : Rat × List (Option Int) :=
  let s := findScaleFactor (.int signed bits) given xs
  if s = 0 then (s, xs.map fun _ => some 0) else (s, xs.map (convertOne signed bits s))

/-- `convert_range` to `float` (specialisation for equal iterator types, convert_range.inl:181: scale 1, copy)
    or `double` (l.152: `*in / scale_factor`) -/
def convertRangeReal (t : NumT) (given : Rat) (xs : List Rat) : Rat × List Rat :=
  if t = .float32 then (1, xs)
  else
    let s := findScaleFactor t given xs
    if s = 0 then (s, xs.map fun _ => 0) else (s, xs.map (· / s))

/-- elements as stored in the data file -/
inductive Stored where
  | int (v : Option Int)
  | real (v : Rat)
  deriving Repr, DecidableEq

/-- `write_data_with_fixed_scale_factor_help(is_1d, …)` (write_data.inl:52-72) for one row (innermost dimension):
    the row is converted with `new_scale_factor` initialised to the global one; if the conversion changed it by
    more than 0.1 % the function returns `Succeeded::no`. -/
def writeRow (t : NumT) (s : Rat) (row : List Rat) : Except Unit (List Stored) :=
  match t with
  | .float32 => .ok (row.map .real)      -- typeid equal and scale 1: raw write
  | .int sg b =>
    let (s', out) := convertRangeInt sg b s row
    if (if s' - s < 0 then s - s' else s' - s) > s * (1 / 1000) then .error () else .ok (out.map .int)
  | .float64 =>
    let (s', out) := convertRangeReal .float64 s row
    if (if s' - s < 0 then s - s' else s' - s) > s * (1 / 1000) then .error () else .ok (out.map .real)

/-- `write_data(s, data, NumericType, scale, byte_order)` (write_data.inl:119) on an array given as its rows:
    global `find_scale_factor`, then row by row.  (`write_basic_interfile` ignores the returned `Succeeded`:
    interfile.cxx:790, 876, 923.) -/
def writeData (t : NumT) (given : Rat) (rows : List (List Rat)) : Rat × Except Unit (List (List Stored)) :=
  let s := findScaleFactor t given rows.flatten
  (s, rows.mapM (writeRow t s))

/-- the reader: `read_data` converts the stored number to `float` with scale 1, `read_interfile_image`
    multiplies by the header's `image scaling factor` (interfile.cxx:160-162) -/
def decodeInt (sHdr : Rat) (q : Int) : Rat := q * sHdr
def decodeReal (sHdr : Rat) (v : Rat) : Rat := v * sHdr

/-! ## 3. Data-file length -/

/-- `seekg(offset)` + `read_data` of an array of `sizeAll` elements of `bytes` bytes from a file of `fileLen` bytes
    (read_data_1d.inl:44-50: `s.read(ptr, num_to_read); if (!s) return Succeeded::no`).
    Assumed stream semantics: `read` sets failbit iff fewer than `num_to_read` bytes remain. -/
def readDataset (offset sizeAll bytes fileLen : Nat) : Except Unit Unit :=
  if fileLen < offset + sizeAll * bytes then .error () else .ok ()

/-! ## 4. Exam information -/

/-- the part of `ExamInfo` that the Interfile image header stores.
    modality: 0 Unknown, 1 PT, 2 NM, 3 MR, 4 CT, 5 US, 6 Optical (`ImagingModality::ImagingModalityValue`);
    orientation: 0 head_in, 1 feet_in, 2 other, 3 unknown; rotation: 0 supine, 1 prone, 2 right, 3 left, 4 other, 5 unknown
    (`PatientPosition`); time frames as (start, end). -/
structure Exam where
  modality : Nat
  orientation : Nat
  rotation : Nat
  calibration : Rat
  lowThres : Rat
  highThres : Rat
  frames : List (Rat × Rat)
  rnName : String
  rnHalfLife : Rat
  rnBranching : Rat
  deriving Repr, DecidableEq

/-- the exam-information keys of the header; `none` = key not written -/
structure ExamHeader where
  modality : Option Nat
  orientation : Option Nat          -- index in `patient_orientation_values`
  rotation : Option Nat             -- index in `patient_rotation_values`
  calibration : Option Rat
  window : Option (Rat × Rat)
  numFrames : Nat
  frames : List (Nat × Rat × Rat)   -- (frame number, duration, relative start time)
  rnName : Option String
  rnHalfLife : Option Rat
  rnBranching : Option Rat
  deriving Repr, DecidableEq

def enumFrom1 {α : Type} : Nat → List α → List (Nat × α)
  | _, [] => []
  | n, a :: r => (n, a) :: enumFrom1 (n + 1) r

/-- `write_interfile_modality`, `write_interfile_patient_position` (interfile.cxx:395-439: supine, prone, right, left,
    other are written under their own names, unknown is not written), calibration factor, `write_interfile_radionuclide_info` (l.505),
    `write_interfile_time_frame_definitions` (l.442: frames with duration ≤ 0 are skipped),
    `write_interfile_energy_windows` (l.468) -/
def writeExam (e : Exam) : ExamHeader :=
  { modality := if e.modality = 0 then none else some e.modality
    orientation := if e.orientation < 3 then some e.orientation else none
    rotation := if e.rotation < 5 then some e.rotation else none
    calibration := if e.calibration > 0 then some e.calibration else none
    window := if e.highThres > 0 ∧ e.lowThres ≥ 0 then some (e.lowThres, e.highThres) else none
    numFrames := if e.frames.length > 0 then e.frames.length else 1
    frames := ((enumFrom1 1 e.frames).filter fun p => p.2.2 - p.2.1 > 0).map fun p => (p.1, p.2.2 - p.2.1, p.2.1)
    rnName := if e.rnName ≠ "" ∧ e.rnName ≠ "Unknown" then some e.rnName else none
    rnHalfLife := if e.rnHalfLife > 0 then some e.rnHalfLife else none
    rnBranching := if e.rnBranching > 0 then some e.rnBranching else none }

def lookupFrame (l : List (Nat × Rat × Rat)) (k : Nat) : Rat × Rat :=
  match l.find? (fun p => p.1 = k) with
  | some p => (p.2.2, p.2.2 + p.2.1)   -- (start, start + duration)
  | none => (0, 0)                     -- `read_frames_info` default: start 0, duration 0

/-- `InterfileHeader::post_processing` (InterfileHeader.cxx:253), exam-information part.
    `db` is the answer of `RadionuclideDB::get_radionuclide(modality, name)` for the name looked up
    (`none` = not in the data base); defaults as set by the `InterfileHeader` constructor (l.139-174). -/
def readExam (h : ExamHeader) (db : Option (Rat × Rat)) : Exam :=
  let modality := h.modality.getD 0
  let name := h.rnName.getD ""
  let (rn, hl, br) : String × Rat × Rat :=
    match db with
    | some (dhl, dbr) =>
        -- found: the data-base record (its name is the looked-up name; default nuclide for an empty name)
        ((if name = "" then (if modality = 1 then "^18^Fluorine" else "^99m^Technetium") else name), dhl, dbr)
    | none => ((if name = "" then "Unknown" else name), h.rnHalfLife.getD (-1), h.rnBranching.getD (-1))
  let win : Rat × Rat :=
    match h.window with
    | some (lo, hi) => if hi > 0 ∧ lo ≥ 0 then (lo, hi) else (-1, -1)   -- l.397: `upper > 0 && lower >= 0`
    | none => (-1, -1)
  { modality := modality
    orientation := h.orientation.getD 3
    rotation := h.rotation.getD 5
    calibration := h.calibration.getD (-1)
    lowThres := win.1
    highThres := win.2
    frames := (List.range h.numFrames).map fun k => lookupFrame h.frames (k + 1)
    rnName := rn
    rnHalfLife := hl
    rnBranching := br }

/-- `read_interfile_image` (interfile.cxx:165-173): a single image keeps only the first time frame of the header
    (`set_num_time_frames(1)`, with a warning); 0 or 1 frames are left alone. -/
def singleExam (e : Exam) : Exam :=
  if e.frames.length > 1 then { e with frames := e.frames.take 1 } else e

/-- `TimeFrameDefinitions(org_frame_defs, frame_num)` (TimeFrameDefinitions.cxx:250): the one frame `frame_num`
    (1-based); `get_start_time` throws for a frame number beyond the list (`none`). -/
def frameOf (frames : List (Rat × Rat)) (f : Nat) : Option (List (Rat × Rat)) :=
  if f = 0 then none else (frames[f - 1]?).map fun p => [p]

/-- `read_interfile_dynamic_image` (interfile.cxx:200, 219-220): the exam information of member `f` of a dynamic image
    is the header's exam information with the time frame definitions replaced by frame `f` alone. -/
def memberExam (e : Exam) (f : Nat) : Option Exam :=
  (frameOf e.frames f).map fun fr => { e with frames := fr }

/-- `MultiDynamicDiscretisedDensityInputFileFormat::read_from_file` (MultiDynamicDiscretisedDensityInputFileFormat.h:73-96):
    every member is read as a single image and must have exactly one time frame (`error` otherwise = `none`); the
    container's exam information is the first member's, with time frame `i` := the frame of member `i`. -/
def multiDynExam (members : List Exam) : Option Exam :=
  match members with
  | [] => none                      -- (a `DynamicDiscretisedDensity` without exam information from any file)
  | first :: _ =>
    if members.all (fun m => m.frames.length == 1) then
      some { first with frames := members.map fun m => m.frames.headD (0, 0) }
    else none

/-! ## 5. Files with several data sets (dynamic / parametric images) -/

/-- `write_basic_interfile(…, DynamicDiscretisedDensity | ParametricVoxelsOnCartesianGrid, …)` (interfile.cxx:857-943):
    `file_offsets[i-1] = output_data.tellp()` before each `write_data`; when every `write_data` writes its
    `sizeAll·bytes` bytes, data set `i` (0-based) starts at `i·sizeAll·bytes`. -/
def datasetOffsets (nsets sizeAll bytes : Nat) : List Nat :=
  (List.range nsets).map fun i => i * (sizeAll * bytes)

/-- the offsets the reader uses.  `data offset in bytes` is a registered (vectorised) key only after
    `!type of data := PET` (`InterfileHeader::set_type_of_data`, InterfileHeader.cxx:438-448; in the `Tomographic`
    branch the key is inside `#if 0`, l.458-461), and the writer announces `Tomographic` for modality NM
    (interfile.cxx:603): for NM the lines `data offset in bytes[i] := …` are not recognised and every entry keeps the
    default 0 of `read_frames_info` (l.475). -/
def parsedOffsets (nm : Bool) (offsets : List Nat) : List Nat :=
  if nm then offsets.map fun _ => 0 else offsets

/-- the loop over the data sets in `read_interfile_dynamic_image` / `read_interfile_parametric_image`
    (interfile.cxx:201-224, 255-289): `seekg(offset[i])`, `read_data`; the first failure makes the function return 0. -/
def readAll (sizeAll bytes fileLen : Nat) : List Nat → Except Unit Unit
  | [] => .ok ()
  | o :: r =>
    match readDataset o sizeAll bytes fileLen with
    | .error e => .error e
    | .ok _ => readAll sizeAll bytes fileLen r

/-- `read_interfile_dynamic_image` (interfile.cxx:200-214, since repo commit 0e66b8adc): a frame after the first one
    whose parsed offset is 0 (the default: no `data offset in bytes[frame]` was given, or the key was not recognised)
    follows the previous frame in the file, `offset = previous_offset + frame_size_in_bytes`; `prev` is the offset used
    for the previous frame. -/
def followAux (frameBytes prev : Nat) : List Nat → List Nat
  | [] => []
  | o :: r =>
    let o' := if o = 0 then prev + frameBytes else o
    o' :: followAux frameBytes o' r

/-- the offsets `read_interfile_dynamic_image` seeks to, from the parsed ones (the first frame's is used as parsed) -/
def dynamicOffsets (frameBytes : Nat) : List Nat → List Nat
  | [] => []
  | o :: r => o :: followAux frameBytes o r

/-- the offsets the reading loop seeks to: `read_interfile_dynamic_image` (`dyn = true`) lets frames follow each
    other; `read_interfile_parametric_image` (interfile.cxx:268-272) uses the parsed offsets as they are. -/
def usedOffsets (dyn nm : Bool) (offsets : List Nat) (sizeAll bytes : Nat) : List Nat :=
  if dyn then dynamicOffsets (sizeAll * bytes) (parsedOffsets nm offsets) else parsedOffsets nm offsets

/-- reading an Interfile dynamic (`dyn = true`) / parametric (`dyn = false`) image whose header announces the data
    sets at `offsets` -/
def readDatasets (dyn nm : Bool) (offsets : List Nat) (sizeAll bytes fileLen : Nat) : Except Unit Unit :=
  readAll sizeAll bytes fileLen (usedOffsets dyn nm offsets sizeAll bytes)

/-- reading a Multi image (`Multi…InputFileFormat::read_from_file`): every member is a single image in a data file of
    its own (length `lens[i]`), read from offset 0; `read_from_file` of a member that cannot be read throws. -/
def readMembers (sizeAll bytes : Nat) : List Nat → Except Unit Unit
  | [] => .ok ()
  | len :: r =>
    match readDataset 0 sizeAll bytes len with
    | .error e => .error e
    | .ok _ => readMembers sizeAll bytes r

end StirVerif.C10
