/-
C19 — proofs: the loops of the direct-convolution filters compute the convolution sums they claim.
Every loop is a sum over an interval whose bounds are `min`/`max` expressions; `sum_Icc_eq_sum_ite` rewrites it as a sum
over the whole kernel range with a condition on `j`, after which loops sharing the running index are compared term by term.
`do_it` of the 3-D class is characterised in both of its branches (`arrayFilter3DAt_eq`); the 2-D class is the 3-D class on arrays
with a one-point last index range (`arrayFilter2DAt_eq_arrayFilter3DAt`).
-/
import StirVerif.C19.Model
import StirVerif.Common.ArrayFold
import Mathlib.Algebra.BigOperators.Intervals
import Mathlib.Algebra.BigOperators.Ring.Finset
import Mathlib.Data.Int.Interval
import Mathlib.Tactic.Ring
import Mathlib.Tactic.Linarith
import Mathlib.Tactic.SplitIfs

namespace StirVerif.C19
open Finset

/-- zero extension of an array with index range `lo..hi` -/
def ext {K : Type} [Zero K] (lo hi : Int) (x : Int → K) (m : Int) : K := if lo ≤ m ∧ m ≤ hi then x m else 0

/-- the index of `lo..hi` nearest to `m`: what the constant boundary condition reads instead of `m` -/
def clamp (lo hi m : Int) : Int := max lo (min hi m)

theorem clamp_of_le {lo hi m : Int} (h : m ≤ lo) : clamp lo hi m = lo := by
  unfold clamp
  omega

theorem clamp_of_ge {lo hi m : Int} (h : hi ≤ m) (hlh : lo ≤ hi) : clamp lo hi m = hi := by
  unfold clamp
  omega

theorem clamp_of_mem {lo hi m : Int} (h1 : lo ≤ m) (h2 : m ≤ hi) : clamp lo hi m = m := by
  unfold clamp
  omega

theorem R.mem_iff (r : R) (i : Int) : r.mem i = true ↔ r.lo ≤ i ∧ i ≤ r.hi := by
  unfold R.mem
  simp only [Bool.and_eq_true, decide_eq_true_eq]

section
variable {K : Type}

theorem foldl_range_add [AddCommMonoid K] (g : Nat → K) (n : Nat) (acc : K) :
    (List.range n).foldl (fun a t => a + g t) acc = acc + ∑ t ∈ range n, g t :=
  -- `∑ t ∈ range n, g t` unfolds to the sum of the list `(List.range n).map g`, which is what the lemma about lists states
  Common.foldl_add_eq_sum g (List.range n) acc

theorem sumFromTo_eq [AddCommMonoid K] (lo hi : Int) (g : Int → K) (acc : K) :
    sumFromTo lo hi g acc = acc + ∑ j ∈ Icc lo hi, g j := by
  unfold sumFromTo loopFromTo
  rw [foldl_range_add (fun t => g (lo + Int.ofNat t)), Int.Icc_eq_finset_map, Finset.sum_map]
  rfl

theorem loopFromTo_add [Add K] (lo hi : Int) (h : Int → K) (acc : K) :
    loopFromTo lo hi (fun j a => a + h j) acc = sumFromTo lo hi h acc :=
  rfl

/-- For bounds built with `min` / `max`, `simp only [max_le_iff, le_min_iff]` turns the side condition into linear
    arithmetic; `omega` alone splits on every `min` / `max`. -/
theorem sum_Icc_eq_sum_ite [AddCommMonoid K] {a b lo hi : Int} {P : Int → Prop} [DecidablePred P] (f : Int → K)
    (h : ∀ j, (lo ≤ j ∧ j ≤ hi) ↔ (a ≤ j ∧ j ≤ b) ∧ P j) :
    ∑ j ∈ Icc lo hi, f j = ∑ j ∈ Icc a b, if P j then f j else 0 := by
  rw [← Finset.sum_filter]
  congr 1
  ext j
  simp only [mem_Icc, mem_filter, h j]

theorem sumFromTo_eq_sum_ite [AddCommMonoid K] {a b lo hi : Int} {P : Int → Prop} [DecidablePred P] (g : Int → K) (acc : K)
    (h : ∀ j, (lo ≤ j ∧ j ≤ hi) ↔ (a ≤ j ∧ j ≤ b) ∧ P j) :
    sumFromTo lo hi g acc = acc + ∑ j ∈ Icc a b, if P j then g j else 0 := by
  rw [sumFromTo_eq, sum_Icc_eq_sum_ite g h]

theorem sum_Icc_clip [AddCommMonoid K] (a b lo hi y : Int) (f : Int → K) :
    ∑ j ∈ Icc (max a (y - hi)) (min b (y - lo)), f j = ∑ j ∈ Icc a b, if lo ≤ y - j ∧ y - j ≤ hi then f j else 0 :=
  sum_Icc_eq_sum_ite f fun j => by
    simp only [max_le_iff, le_min_iff]
    omega

theorem sum_Icc_neg [AddCommMonoid K] (a b : Int) (F : Int → K) : ∑ j ∈ Icc a b, F (-j) = ∑ j ∈ Icc (-b) (-a), F j :=
  Finset.sum_equiv (Equiv.neg Int) (fun j => by
    simp only [mem_Icc, Equiv.neg_apply]
    omega) fun _ _ => rfl

theorem sum_Icc_fold_neg [AddCommMonoid K] (n : Int) (hn : 0 ≤ n) (F : Int → K) :
    ∑ j ∈ Icc (-n) n, F j = F 0 + ∑ j ∈ Icc 1 n, (F j + F (-j)) := by
  have hpos : ∑ j ∈ Icc 1 n, F j = ∑ j ∈ Icc (-n) n, if 0 < j then F j else 0 :=
    sum_Icc_eq_sum_ite F (by
      intro j
      omega)
  have hneg : ∑ j ∈ Icc 1 n, F (-j) = ∑ j ∈ Icc (-n) n, if j < 0 then F j else 0 := by
    rw [sum_Icc_neg]
    exact sum_Icc_eq_sum_ite F (by
      intro j
      omega)
  have hzero : F 0 = ∑ j ∈ Icc (-n) n, if j = 0 then F j else 0 := by
    rw [Finset.sum_ite_eq', if_pos (mem_Icc.mpr ⟨by omega, hn⟩)]
  rw [Finset.sum_add_distrib, hpos, hneg, hzero, ← Finset.sum_add_distrib, ← Finset.sum_add_distrib]
  refine Finset.sum_congr rfl fun j _ => ?_
  rcases lt_trichotomy j 0 with h | h | h
  · rw [if_neg (by omega), if_neg (by omega), if_pos h, zero_add, zero_add]
  · rw [if_pos h, if_neg (by omega), if_neg (by omega), add_zero, add_zero]
  · rw [if_neg (by omega), if_pos h, if_neg (by omega), zero_add, add_zero]

end

section ring
variable {K : Type} [CommSemiring K]

theorem mul_ext_apply (c : K) (lo hi : Int) (x : Int → K) (m : Int) :
    c * ext lo hi x m = if lo ≤ m ∧ m ≤ hi then c * x m else 0 := by
  rw [ext, mul_ite, mul_zero]

theorem conv1dZeroAt_eq (jmin jmax : Int) (k : Int → K) (inMin inMax : Int) (x : Int → K) (i : Int) :
    conv1dZeroAt jmin jmax k inMin inMax x i = ∑ j ∈ Icc jmin jmax, k j * ext inMin inMax x (i - j) := by
  unfold conv1dZeroAt
  rw [sumFromTo_eq, zero_add, sum_Icc_clip]
  simp only [mul_ext_apply]

theorem conv1dConstAt_eq (jmin jmax : Int) (k : Int → K) (inMin inMax : Int) (x : Int → K) (i : Int)
    (hin : inMin ≤ inMax) :
    conv1dConstAt jmin jmax k inMin inMax x i = ∑ j ∈ Icc jmin jmax, k j * x (clamp inMin inMax (i - j)) := by
  simp only [conv1dConstAt]
  -- the three loops take the kernel indices left of, inside and right of `i - inMax .. i - inMin`
  rw [sumFromTo_eq_sum_ite (a := jmin) (b := jmax) (P := fun j => i - inMin < j) (h := ?right),
    sumFromTo_eq_sum_ite (a := jmin) (b := jmax) (P := fun j => i - inMax ≤ j ∧ j ≤ i - inMin) (h := ?inside),
    sumFromTo_eq_sum_ite (a := jmin) (b := jmax) (P := fun j => j < i - inMax) (h := ?left),
    zero_add, ← Finset.sum_add_distrib, ← Finset.sum_add_distrib]
  case left =>
    intro j
    simp only [Int.le_sub_one_iff, lt_min_iff]
    omega
  case inside =>
    intro j
    simp only [max_le_iff, le_min_iff, min_le_iff]
    omega
  case right =>
    intro j
    simp only [max_le_iff, min_le_iff, Int.add_one_le_iff, min_lt_iff]
    omega
  refine Finset.sum_congr rfl fun j _ => ?_
  by_cases h1 : j < i - inMax
  · rw [if_pos h1, if_neg (by omega), if_neg (by omega), add_zero, add_zero, clamp_of_ge (by omega) hin]
  · by_cases h2 : j ≤ i - inMin
    · rw [if_neg h1, if_pos (by omega), if_neg (by omega), add_zero, zero_add, clamp_of_mem (by omega) (by omega)]
    · rw [if_neg h1, if_neg (by omega), if_pos (by omega), zero_add, zero_add, clamp_of_le (by omega)]

theorem conv1dTrivialAt_zero (inMin inMax : Int) (x : Int → K) (i : Int) :
    conv1dTrivialAt .zero inMin inMax x i = ext inMin inMax x i := by
  simp only [conv1dTrivialAt, ext]
  by_cases h1 : i ≤ inMin - 1
  · rw [if_pos h1, if_neg (by omega)]
  · by_cases h2 : i ≤ inMax
    · rw [if_neg h1, if_pos h2, if_pos (by omega)]
    · rw [if_neg h1, if_neg h2, if_neg (by omega)]

theorem conv1dTrivialAt_constant (inMin inMax : Int) (x : Int → K) (i : Int) (hin : inMin ≤ inMax) :
    conv1dTrivialAt .constant inMin inMax x i = x (clamp inMin inMax i) := by
  simp only [conv1dTrivialAt]
  by_cases h1 : i ≤ inMin - 1
  · rw [if_pos h1, clamp_of_le (by omega)]
  · by_cases h2 : i ≤ inMax
    · rw [if_neg h1, if_pos h2, clamp_of_mem (by omega) h2]
    · rw [if_neg h1, if_neg h2, clamp_of_ge (by omega) hin]

theorem isTrivial1D_iff [DecidableEq K] (jmin jmax : Int) (k : Int → K) :
    isTrivial1D jmin jmax k = true ↔ jmax + 1 - jmin = 0 ∨ (jmax + 1 - jmin = 1 ∧ jmin = 0 ∧ k 0 = 1) := by
  unfold isTrivial1D
  simp only [Bool.or_eq_true, Bool.and_eq_true, beq_iff_eq, and_assoc]

/-- `is_trivial()` of the 2-D and 3-D classes is the 1-D test on the outer index range and the coefficient at the origin -/
theorem isTrivial2D_iff [DecidableEq K] (kr0 : R) (k : Int → Int → K) :
    isTrivial2D kr0 k = true ↔ kr0.hi + 1 - kr0.lo = 0 ∨ (kr0.hi + 1 - kr0.lo = 1 ∧ kr0.lo = 0 ∧ k 0 0 = 1) :=
  isTrivial1D_iff kr0.lo kr0.hi fun j => k j 0

theorem isTrivial3D_iff [DecidableEq K] (kr0 : R) (k : Int → Int → Int → K) :
    isTrivial3D kr0 k = true ↔ kr0.hi + 1 - kr0.lo = 0 ∨ (kr0.hi + 1 - kr0.lo = 1 ∧ kr0.lo = 0 ∧ k 0 0 0 = 1) :=
  isTrivial1D_iff kr0.lo kr0.hi fun j => k j 0 0

/-- where `is_trivial()` answers true although the kernel is not empty, the kernel is the unit impulse at index 0 and
    the convolution sum is its argument: the shortcut agrees with the sum -/
theorem isTrivial1D_shortcut [DecidableEq K] (jmin jmax : Int) (k : Int → K) (g : Int → K) (i : Int) :
    (if isTrivial1D jmin jmax k = true then g i else ∑ j ∈ Icc jmin jmax, k j * g (i - j)) =
      if jmax + 1 - jmin = 0 then g i else ∑ j ∈ Icc jmin jmax, k j * g (i - j) := by
  by_cases ht : isTrivial1D jmin jmax k = true
  · rw [if_pos ht]
    rcases (isTrivial1D_iff jmin jmax k).mp ht with h0 | ⟨h1, h2, h3⟩
    · rw [if_pos h0]
    · obtain rfl : jmax = 0 := by omega
      rw [if_neg (by omega), h2, Finset.Icc_self, Finset.sum_singleton, h3, one_mul, sub_zero]
  · rw [if_neg ht, if_neg fun h0 => ht ((isTrivial1D_iff jmin jmax k).mpr (Or.inl h0))]

def ext2 (r0 r1 : R) (x : Int → Int → K) (a b : Int) : K :=
  if (r0.lo ≤ a ∧ a ≤ r0.hi) ∧ (r1.lo ≤ b ∧ b ≤ r1.hi) then x a b else 0
def ext3 (r0 r1 r2 : R) (x : Int → Int → Int → K) (a b c : Int) : K :=
  if (r0.lo ≤ a ∧ a ≤ r0.hi) ∧ (r1.lo ≤ b ∧ b ≤ r1.hi) ∧ (r2.lo ≤ c ∧ c ≤ r2.hi) then x a b c else 0

theorem mul_ext2_apply (c : K) (r0 r1 : R) (x : Int → Int → K) (a b : Int) :
    c * ext2 r0 r1 x a b = if r0.lo ≤ a ∧ a ≤ r0.hi then if r1.lo ≤ b ∧ b ≤ r1.hi then c * x a b else 0 else 0 := by
  simp only [ext2, mul_ite, mul_zero, ite_and]

theorem mul_ext3_apply (c : K) (r0 r1 r2 : R) (x : Int → Int → Int → K) (a b d : Int) :
    c * ext3 r0 r1 r2 x a b d = if r0.lo ≤ a ∧ a ≤ r0.hi then if r1.lo ≤ b ∧ b ≤ r1.hi then
      if r2.lo ≤ d ∧ d ≤ r2.hi then c * x a b d else 0 else 0 else 0 := by
  simp only [ext3, mul_ite, mul_zero, ite_and]

theorem ext2_eq_zero {r0 r1 : R} {x : Int → Int → K} {a b : Int} (h : ¬ (r0.lo ≤ a ∧ a ≤ r0.hi)) :
    ext2 r0 r1 x a b = 0 :=
  if_neg fun h' => h h'.1

theorem ext3_eq_zero {r0 r1 r2 : R} {x : Int → Int → Int → K} {a b c : Int} (h : ¬ (r0.lo ≤ a ∧ a ≤ r0.hi)) :
    ext3 r0 r1 r2 x a b c = 0 :=
  if_neg fun h' => h h'.1

theorem ext2_congr {r0 r1 : R} {x x' : Int → Int → K} {a b : Int} (h : r0.lo ≤ a → a ≤ r0.hi → x a b = x' a b) :
    ext2 r0 r1 x a b = ext2 r0 r1 x' a b := by
  unfold ext2
  split_ifs with hm
  · exact h hm.1.1 hm.1.2
  · rfl

theorem ext3_congr {r0 r1 r2 : R} {x x' : Int → Int → Int → K} {a b c : Int}
    (h : r0.lo ≤ a → a ≤ r0.hi → x a b c = x' a b c) : ext3 r0 r1 r2 x a b c = ext3 r0 r1 r2 x' a b c := by
  unfold ext3
  split_ifs with hm
  · exact h hm.1.1 hm.1.2
  · rfl

theorem conv2dAt_eq (kr0 kr1 : R) (k : Int → Int → K) (ir0 ir1 : R) (x : Int → Int → K) (y xx : Int) :
    conv2dAt kr0 kr1 k ir0 ir1 x y xx =
      ∑ j ∈ Icc kr0.lo kr0.hi, ∑ i ∈ Icc kr1.lo kr1.hi, k j i * ext2 ir0 ir1 x (y - j) (xx - i) := by
  unfold conv2dAt
  -- each clipped bound becomes a condition; the condition on the outer index is constant in the inner sum
  simp only [loopFromTo_add, sumFromTo_eq, zero_add, sum_Icc_clip, mul_ext2_apply, Finset.sum_ite_irrel, Finset.sum_const_zero]

theorem conv3dAt_eq (kr0 kr1 kr2 : R) (k : Int → Int → Int → K) (ir0 ir1 ir2 : R) (x : Int → Int → Int → K) (z y xx : Int) :
    conv3dAt kr0 kr1 kr2 k ir0 ir1 ir2 x z y xx =
      ∑ kk ∈ Icc kr0.lo kr0.hi, ∑ j ∈ Icc kr1.lo kr1.hi, ∑ i ∈ Icc kr2.lo kr2.hi,
        k kk j i * ext3 ir0 ir1 ir2 x (z - kk) (y - j) (xx - i) := by
  unfold conv3dAt
  simp only [loopFromTo_add, sumFromTo_eq, zero_add, sum_Icc_clip, mul_ext3_apply, Finset.sum_ite_irrel, Finset.sum_const_zero]

theorem arrayFilter3DAt_eq [DecidableEq K] (kr0 kr1 kr2 : R) (k : Int → Int → Int → K) (ir0 ir1 ir2 : R)
    (x : Int → Int → Int → K) (z y xx : Int) :
    arrayFilter3DAt kr0 kr1 kr2 k ir0 ir1 ir2 x z y xx =
      if isTrivial3D kr0 k = true then ext3 ir0 ir1 ir2 x z y xx else
        ∑ kk ∈ Icc kr0.lo kr0.hi, ∑ j ∈ Icc kr1.lo kr1.hi, ∑ i ∈ Icc kr2.lo kr2.hi,
          k kk j i * ext3 ir0 ir1 ir2 x (z - kk) (y - j) (xx - i) := by
  simp only [arrayFilter3DAt, conv3dAt_eq, ext3, Bool.and_eq_true, R.mem_iff, and_assoc]

/-- the 2-D class is the 3-D class on arrays whose last index range is the single index 0 (the one-point inner loop
    evaluates, so the two sides are the same term) -/
theorem arrayFilter2DAt_eq_arrayFilter3DAt [DecidableEq K] (kr0 kr1 : R) (k : Int → Int → K) (ir0 ir1 : R) (x : Int → Int → K)
    (y xx : Int) :
    arrayFilter2DAt kr0 kr1 k ir0 ir1 x y xx =
      arrayFilter3DAt kr0 kr1 ⟨0, 0⟩ (fun a b _ => k a b) ir0 ir1 ⟨0, 0⟩ (fun a b _ => x a b) y xx 0 := by
  unfold arrayFilter3DAt
  rw [show (⟨0, 0⟩ : R).mem 0 = true from rfl, Bool.and_true]
  rfl

theorem ext3_last_singleton (r0 r1 : R) (x : Int → Int → K) (a b : Int) :
    ext3 r0 r1 ⟨0, 0⟩ (fun a b _ => x a b) a b 0 = ext2 r0 r1 x a b := by
  simp only [ext3, ext2, le_refl, and_self, and_true]


theorem conv_comm (jmin jmax : Int) (k : Int → K) (lo hi : Int) (x : Int → K) (i : Int) :
    ∑ j ∈ Icc jmin jmax, k j * ext lo hi x (i - j) = ∑ m ∈ Icc lo hi, ext jmin jmax k (i - m) * x m := by
  simp only [mul_ext_apply, mul_comm (ext _ _ _ _)]
  rw [← Finset.sum_filter, ← Finset.sum_filter]
  refine Finset.sum_equiv (Equiv.subLeft i) (fun j => ?_) fun j _ => ?_
  · simp only [mem_filter, mem_Icc, Equiv.subLeft_apply]
    omega
  · rw [Equiv.subLeft_apply, sub_sub_cancel, mul_comm]

end ring
end StirVerif.C19
