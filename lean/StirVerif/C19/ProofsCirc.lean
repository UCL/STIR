/-
C19 — proofs: the padded-DFT route.  Circular convolution of the wrapped kernel with the wrapped (zero-padded)
data equals direct convolution whenever no wrap-around can occur.  `transform_array_to_periodic_indices` overwrites: a wrapped
array holds at position `p` the LAST element whose index is congruent to `p`.  When the index range fits into one period there is at
most one such element, and the position is then written as the sum over the congruent indices (`wrapSum`, `toPeriodic1_getD` under
`hfit`), so the circular convolution is a double sum over kernel and data indices with congruence conditions, which collapses to
the linear one.
-/
import StirVerif.C19.ProofsConv
import StirVerif.C19.ProofsBitrev

namespace StirVerif.C19
open Finset

theorem emod_mem {L : Nat} (hL : 0 < L) (a : Int) : 0 ≤ a % (L : Int) ∧ a % (L : Int) < L :=
  have hb : (0 : Int) < L := by exact_mod_cast hL
  ⟨Int.emod_nonneg a (ne_of_gt hb), Int.emod_lt_of_pos a hb⟩

theorem modulo_eq_emod (a b : Int) : modulo a b = a % b := by
  unfold modulo
  simp only []  -- the `let` of the definition
  rcases eq_or_ne b 0 with rfl | hb
  · rw [Int.tmod_zero, Int.emod_zero, if_pos (le_refl (0 : Int)), add_zero, ite_self]
  · have h1 := Int.emod_nonneg a hb
    have h2 := Int.emod_lt a hb
    rw [Int.tmod_eq_emod]
    by_cases h : 0 ≤ a ∨ b ∣ a
    · rw [if_pos h, if_neg (by omega)]
      omega
    · rw [if_neg h, if_pos (by omega)]
      omega

theorem modulo_toNat_lt (a : Int) (L : Nat) (hL : 0 < L) : (modulo a L).toNat < L := by
  rw [modulo_eq_emod]
  obtain ⟨h1, h2⟩ := emod_mem hL a
  omega

theorem modulo_sub_toNat (L p q : Nat) (hq : q < L) : (modulo ((p : Int) - (q : Int)) L).toNat = (p + L - q) % L := by
  have h : ((p : Int) - q) % L = ((p + L - q : Nat) : Int) % L := by
    rw [← Int.add_emod_right]
    congr 1
    omega
  rw [modulo_eq_emod, h, ← Int.natCast_emod, Int.toNat_natCast]

theorem eq_of_emod_eq {a b L : Int} (h : a % L = b % L) (h1 : a - b < L) (h2 : b - a < L) : a = b :=
  sub_eq_zero.mp (Int.eq_zero_of_abs_lt_dvd (Int.dvd_of_emod_eq_zero (Int.emod_eq_emod_iff_emod_sub_eq_zero.mp h))
    (abs_sub_lt_iff.mpr ⟨h1, h2⟩))

section
variable {K : Type} [CommSemiring K]

/-- writes at pairwise different positions: no write is overwritten, so a position holds the value of its one writer, written as
    the sum over the writers to it -/
theorem foldl_setIfInBounds_getD (n : Nat) (pos : Nat → Nat) (val : Nat → K) (L : Nat)
    (hpos : ∀ t, t < n → pos t < L) (hinj : ∀ s t, s < n → t < n → pos s = pos t → s = t) (p : Nat) :
    (((List.range n).foldl (fun a t => a.setIfInBounds (pos t) (val t)) (Array.replicate L (0 : K))).getD p 0)
      = ∑ t ∈ range n, if pos t = p then val t else 0 := by
  generalize hr : List.foldl _ _ (List.range n) = r
  refine foldl_range_induction (fun t (a : Array K) =>
    a.size = L ∧ a.getD p 0 = ∑ s ∈ range t, if pos s = p then val s else 0) ?_ ?_ ?_ hr
  · exact ⟨Array.size_replicate, by by_cases hp : p < L <;> simp [Array.getD_eq_getD_getElem?, hp]⟩
  · intro t a ht ⟨hsz, hget⟩
    refine ⟨Array.size_setIfInBounds.trans hsz, ?_⟩
    rw [Finset.sum_range_succ, Array.getD_eq_getD_getElem?, Array.getElem?_setIfInBounds, hsz]
    by_cases h : pos t = p
    · rw [if_pos h, if_pos h, if_pos (hpos t ht)]
      have : ∑ s ∈ range t, (if pos s = p then val s else 0) = 0 := by
        refine Finset.sum_eq_zero fun s hs => ?_
        rw [mem_range] at hs
        rw [if_neg]
        intro hps
        have := hinj s t (by omega) ht (hps.trans h.symm)
        omega
      rw [this, zero_add]
      rfl
    · rw [if_neg h, if_neg h, add_zero, ← hget, Array.getD_eq_getD_getElem?]
  · exact fun a h => h.2

/-- the sum of the elements of an array with index range `lo..hi` whose index is congruent to `p` modulo `L`.  For a range that fits
    into one period (at most one such element) this is what the array wrapped to period `L` holds at position `p`
    (`toPeriodic1_getD`); for a longer range it is not: the wrap loop overwrites, it does not add. -/
def wrapSum (L : Nat) (lo hi : Int) (f : Int → K) (p : Nat) : K :=
  ∑ m ∈ Icc lo hi, if (m % (L : Int)).toNat = p then f m else 0

theorem toPeriodic1_getD (L : Nat) (lo hi : Int) (f : Int → K) (hfit : hi + 1 - lo ≤ L) (p : Nat) (hp : p < L) :
    (toPeriodic1 L lo hi f).getD p 0 = wrapSum L lo hi f p := by
  unfold toPeriodic1 loopFromTo wrapSum
  have hL : 0 < L := by omega
  rw [foldl_setIfInBounds_getD (hi + 1 - lo).toNat (fun t => (modulo (lo + Int.ofNat t) L).toNat) (fun t => f (lo + Int.ofNat t)) L
      (fun t _ => modulo_toNat_lt _ L hL) ?_ p]
  · rw [Int.Icc_eq_finset_map, Finset.sum_map]
    refine Finset.sum_congr rfl fun t _ => ?_
    rw [modulo_eq_emod]
    rfl
  · intro s t hs ht hst
    simp only [modulo_eq_emod, Int.ofNat_eq_natCast] at hst
    have h1 := (emod_mem hL (lo + s)).1
    have h2 := (emod_mem hL (lo + t)).1
    have := eq_of_emod_eq (a := lo + s) (b := lo + t) (L := L) (by omega) (by omega) (by omega)
    omega

theorem circConv1At_eq (L : Nat) (kp xp : Array K) (p : Nat) :
    circConv1At L kp xp p = ∑ q ∈ range L, kp.getD (modulo ((p : Int) - (q : Int)) L).toNat 0 * xp.getD q 0 := by
  unfold circConv1At
  rw [foldl_range_add (fun q => kp.getD (modulo (Int.ofNat p - Int.ofNat q) L).toNat 0 * xp.getD q 0), zero_add]
  rfl

theorem circConv1At_eq_sum_mod (L : Nat) (kp xp : Array K) (p : Nat) :
    circConv1At L kp xp p = ∑ m ∈ range L, kp.getD ((p + L - m) % L) 0 * xp.getD m 0 := by
  rw [circConv1At_eq]
  exact Finset.sum_congr rfl fun q hq => by rw [modulo_sub_toNat L p q (mem_range.mp hq)]

/-- the periodic extension of a kernel with index range `kmin..kmax` of length `L`: the sum over the kernel indices
    congruent to `t` has exactly one candidate term -/
theorem wrapSum_kernel (L : Nat) (hL : 0 < L) (kmin kmax : Int) (hk : kmax + 1 - kmin = L) (k : Int → K) (t : Int) :
    wrapSum L kmin kmax k (t % (L : Int)).toNat = k (kmin + (t - kmin) % (L : Int)) := by
  unfold wrapSum
  obtain ⟨h1, h2⟩ := emod_mem hL (t - kmin)
  rw [Finset.sum_eq_single (kmin + (t - kmin) % (L : Int))]
  · rw [if_pos]
    rw [Int.add_emod_emod, add_sub_cancel]
  · intro j hj hne
    rw [mem_Icc] at hj
    rw [if_neg]
    intro heq
    have e1 := (emod_mem hL j).1
    have e2 := (emod_mem hL t).1
    refine hne (eq_of_emod_eq (L := L) ?_ (by omega) (by omega))
    rw [Int.add_emod_emod, add_sub_cancel]
    omega
  · exact fun hnot => absurd (mem_Icc.mpr ⟨by omega, by omega⟩) hnot

/-- summing against a wrapped array is summing over the array itself, each element with the coefficient of its residue -/
theorem sum_mul_wrapSum (L : Nat) (hL : 0 < L) (A : Nat → K) (lo hi : Int) (f : Int → K) :
    ∑ q ∈ range L, A q * wrapSum L lo hi f q = ∑ m ∈ Icc lo hi, A (m % (L : Int)).toNat * f m := by
  simp only [wrapSum, Finset.mul_sum, mul_ite, mul_zero]
  rw [Finset.sum_comm]
  refine Finset.sum_congr rfl fun m _ => ?_
  rw [Finset.sum_ite_eq, if_pos]
  obtain ⟨e1, e2⟩ := emod_mem hL m
  rw [mem_range]
  omega

/-- the circular convolution of the wrapped kernel `kp` with the wrapped data `xp`, read back at `i`, is the direct one
    if nothing non-zero is reached by wrap-around: for a data index `m` with `i - m` outside the kernel range, the kernel
    coefficient at the index inside `kmin..kmax` congruent to `i - m` is zero (`hnowrap`) -/
theorem circConv1At_wrapped (L : Nat) (hL : 0 < L) (kmin kmax : Int) (hk : kmax + 1 - kmin = L) (k : Int → K)
    (inMin inMax : Int) (x : Int → K) (i : Int)
    (hnowrap : ∀ m, inMin ≤ m → m ≤ inMax → ¬ (kmin ≤ i - m ∧ i - m ≤ kmax) → k (kmin + (i - m - kmin) % (L : Int)) = 0)
    (kp xp : Array K) (hkp : ∀ r, r < L → kp.getD r 0 = wrapSum L kmin kmax k r)
    (hxp : ∀ q, q < L → xp.getD q 0 = wrapSum L inMin inMax x q) :
    circConv1At L kp xp (i % (L : Int)).toNat = ∑ j ∈ Icc kmin kmax, k j * ext inMin inMax x (i - j) := by
  have hterm : ∀ q ∈ range L, kp.getD (modulo (((i % (L : Int)).toNat : Int) - (q : Int)) L).toNat 0 * xp.getD q 0 =
      wrapSum L kmin kmax k (modulo (((i % (L : Int)).toNat : Int) - (q : Int)) L).toNat * wrapSum L inMin inMax x q :=
    fun q hq => by rw [hkp _ (modulo_toNat_lt _ L hL), hxp q (mem_range.mp hq)]
  rw [circConv1At_eq, Finset.sum_congr rfl hterm,
    sum_mul_wrapSum L hL fun q => wrapSum L kmin kmax k (modulo (((i % (L : Int)).toNat : Int) - (q : Int)) L).toNat,
    conv_comm]
  -- the data index `m` meets the one kernel index congruent to `i - m`
  refine Finset.sum_congr rfl fun m hm => ?_
  rw [mem_Icc] at hm
  congr 1
  have e1 := (emod_mem hL m).1
  have e2 := (emod_mem hL i).1
  have hmod : modulo (((i % (L : Int)).toNat : Int) - ((m % (L : Int)).toNat : Int)) L = (i - m) % (L : Int) := by
    rw [modulo_eq_emod, Int.toNat_of_nonneg e1, Int.toNat_of_nonneg e2, ← Int.sub_emod]
  rw [hmod, wrapSum_kernel L hL kmin kmax hk k (i - m), ext]
  by_cases hin : kmin ≤ i - m ∧ i - m ≤ kmax
  · rw [if_pos hin]
    congr 1
    have : (i - m - kmin) % (L : Int) = i - m - kmin := Int.emod_eq_of_lt (by omega) (by omega)
    omega
  · rw [if_neg hin, hnowrap m hm.1 hm.2 hin]


/-- a 0-based array used directly as the padded array: `wrapSum_kernel` for the range `0 .. L-1` -/
theorem ofFn_getD_wrapSum (L : Nat) (x : Int → K) (q : Nat) (hq : q < L) :
    (Array.ofFn (n := L) fun t => x (Int.ofNat t.val)).getD q 0 = wrapSum L 0 ((L : Int) - 1) x q := by
  have h := wrapSum_kernel L (by omega) 0 (L - 1) (by omega) x q
  rw [sub_zero, zero_add, Int.emod_eq_of_lt (by omega) (by omega), Int.toNat_natCast] at h
  rw [h, Array.getD_eq_getD_getElem?, Array.getElem?_ofFn, dif_pos hq]
  rfl

end
end StirVerif.C19
