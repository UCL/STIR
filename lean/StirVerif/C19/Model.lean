/-
C19 — executable model of the Fourier transforms and convolution filters of STIR.  Core Lean only.

Everything that is index arithmetic is written once, generically over the element type `K`
(`Int` for the exact correspondence runs, `Cplx` = pairs of `Float` for the transforms, an arbitrary
commutative ring in the proofs), and is a transcription of the loops that exist in the C++:

* `loopFromTo`, `sumFromTo`                 — `for (j = lo; j <= hi; ++j) acc += …`
* `conv1dZeroAt`, `conv1dConstAt`, `conv1dTrivialAt`, `isTrivial1D`, `arrayFilter1DAt`
      — `ArrayFilter1DUsingConvolution::{do_it,is_trivial}` (src/buildblock/ArrayFilter1DUsingConvolution.cxx:83, :51)
* `convSymAt`, `arrayFilterSymAt`           — `ArrayFilter1DUsingConvolutionSymmetricKernel::do_it` (…SymmetricKernel.cxx:50)
* `conv2dAt`, `isTrivial2D`, `arrayFilter2DAt` — `ArrayFilter2DUsingConvolution::{do_it,is_trivial}` (ArrayFilter2DUsingConvolution.cxx:76, :44)
* `conv3dAt`, `isTrivial3D`, `arrayFilter3DAt` — `ArrayFilter3DUsingConvolution::{do_it,is_trivial}` (ArrayFilter3DUsingConvolution.cxx:89, :55)
* `modulo`, `toPeriodic1`, `fromPeriodic1At`, `circConv1At`, `dftFilter1`, and the n-dimensional `…ND` versions
      — `modulo` (include/stir/modulo.h:87), `transform_array_to/from_periodic_indices` (include/stir/ArrayFunction.inl:314, :334),
        `ArrayFilterUsingRealDFTWithPadding::{set_padding_range,set_kernel,do_it}` (ArrayFilterUsingRealDFTWithPadding.cxx:54, :75, :119).
        The product of the two real-data DFTs followed by the inverse DFT is modelled by what it computes exactly,
        the circular convolution `circConv…`; that link is the convolution theorem (proved for the 1-D complex DFT by its
        definition: `C19_convolution_theorem` in Props.lean; the real-data packing and the n-D recursion are not) and is
        checked by the correspondence run within the rounding bound.
* `sepAxis0/1/2`, `separable3`              — `SeparableArrayFunctionObject::do_it` → `in_place_apply_array_functions_on_each_index`
        (SeparableArrayFunctionObject.cxx:43, include/stir/ArrayFunction.inl:197)
* `sciKernelMin`                            — index placement in `SeparableConvolutionImageFilter::post_processing` (…ImageFilter.cxx:62)
* `brInner`, `brNext`, `bitReversal`, `butterfly`, `stage`, `fourier1d`, `fourierND`, `inverseFourierND`
      — `bitreversal`, `fourier_1d`, `fourier`, `inverse_fourier` (src/numerics_buildblock/fourier.cxx:26, :65, :143; fourier.h:52)
* `dftSpec1`, `dftSpecND`                   — the *definition* r_k = Σ_j c_j e^{sign 2πi jk/n} quoted in fourier.h
* `posFreqToAll1`, `posFreqToAllND`         — `pos_frequencies_to_all` (fourier.cxx:352)
* `Cplx`, `expArray`, `fourierRealData1`, `invFourierRealData1`, `fourierRealDataND`, `invFourierRealDataND`
      — `get_exparray`, `fourier_1d_for_real_data`, `inverse_fourier_1d_for_real_data_corrupting_input` and the
        recursion over dimensions (fourier.cxx:48, :156, :206, :260), at `Float` precision
* `influencingRange`, `influencedRange`     — `get_influencing_indices` / `get_influenced_indices` of `ArrayFilter1DUsingConvolution`
        (ArrayFilter1DUsingConvolution.cxx:59, :71) and, for the OUTER index, of `ArrayFilter2DUsingConvolution` (:52, :64) and
        `ArrayFilter3DUsingConvolution` (:64, :76); `isTrivialSym`, `isTrivialDFT` — `is_trivial()` of the symmetric-kernel
        and the padded-DFT class (the other classes keep the default `Succeeded::no` of ArrayFunctionObject.h:67, :80)
* `mapLast`, `freqBox`, `setPaddingRange`, `dftFilterFreqND`, `dftFilterSpectrumND`
      — index range of `fourier_for_real_data`'s result, `ArrayFilterUsingRealDFTWithPadding::set_padding_range`
        (ArrayFilterUsingRealDFTWithPadding.cxx:54: every index range must start at 0, last padded length = 2·(last maximum)),
        the constructor taking the kernel in frequency space / `set_kernel_in_frequency_space` (:45, :102) followed by `do_it`
* `gaussCoefficients`                       — `SeparableGaussianArrayFilter::calculate_coefficients` (SeparableGaussianArrayFilter.cxx:106)
* `metzKernel`                              — `build_gauss` / `build_metz` (SeparableMetzArrayFilter.cxx:85, :114), at `Float` precision

`guardAsCoded` (default `true`) selects the guard `n % 2 != 0` of the inverse real-data transform as it is in the code
(`n` = half the real length, so a last dimension of length 2 is rejected); `false` is only used by the driver to print,
next to the answer of the code as it is, the answer of a library in which that guard is repaired.

Not modelled: 32-bit overflow; `float` rounding of the transforms (the model runs at binary64 and is compared within a
derived bound); irregular arrays.  Proved about this model (Props.lean): loops = convolution sums for all index ranges,
circular = linear convolution without wrap-around, separability in any axis order, bit reversal, `fourier1d` = DFT for
every power of two, inverse ∘ forward = id, Hermitian index map, convolution theorem (1-D, DFT by its definition);
NOT proved: real-data packing trick, n-dimensional recursion (correspondence only).
-/
namespace StirVerif.C19

/-! ## loops -/

/-- `for (j = lo; j <= hi; ++j) acc = body j acc` -/
def loopFromTo {K : Type} (lo hi : Int) (body : Int → K → K) (acc : K) : K :=
  (List.range (hi + 1 - lo).toNat).foldl (fun a (t : Nat) => body (lo + Int.ofNat t) a) acc

/-- `for (j = lo; j <= hi; ++j) acc += g j` -/
def sumFromTo {K : Type} [Add K] (lo hi : Int) (g : Int → K) (acc : K) : K :=
  loopFromTo lo hi (fun j a => a + g j) acc

/-! ## ArrayFilter1DUsingConvolution -/

inductive BC | zero | constant | periodic
  deriving DecidableEq, Repr

section conv
variable {K : Type} [Add K] [Mul K] [Zero K]

/-- non-trivial kernel, `BoundaryConditions::zero`:
    `j = max(j_min, i-in_max); for (; j <= min(j_max, i-in_min); ++j) out[i] += k[j]*in[i-j];` -/
def conv1dZeroAt (jmin jmax : Int) (k : Int → K) (inMin inMax : Int) (x : Int → K) (i : Int) : K :=
  sumFromTo (max jmin (i - inMax)) (min jmax (i - inMin)) (fun j => k j * x (i - j)) 0

/-- non-trivial kernel, `BoundaryConditions::constant`: right edge loop, unaffected region, left edge loop,
    sharing the running index `j` -/
def conv1dConstAt (jmin jmax : Int) (k : Int → K) (inMin inMax : Int) (x : Int → K) (i : Int) : K :=
  -- for (; j < min(j_max + 1, i - in_max); ++j) out[i] += k[j] * in[in_max];
  let e1 := min (jmax + 1) (i - inMax)
  let acc := sumFromTo jmin (e1 - 1) (fun j => k j * x inMax) 0
  let j1 := max jmin e1
  -- for (; j <= min(j_max, i - in_min); ++j) out[i] += k[j] * in[i - j];
  let e2 := min jmax (i - inMin)
  let acc := sumFromTo j1 e2 (fun j => k j * x (i - j)) acc
  let j2 := max j1 (e2 + 1)
  -- for (; j <= j_max; ++j) out[i] += k[j] * in[in_min];
  sumFromTo j2 jmax (fun j => k j * x inMin) acc

/-- the `is_trivial()` branch of `do_it`: three consecutive loops over the output index -/
def conv1dTrivialAt (bc : BC) (inMin inMax : Int) (x : Int → K) (i : Int) : K :=
  if i ≤ inMin - 1 then (match bc with | .zero => 0 | _ => x inMin)
  else if i ≤ inMax then x i
  else (match bc with | .zero => 0 | _ => x inMax)

/-- `is_trivial()`: length 0, or length 1 at index 0 with coefficient 1 -/
def isTrivial1D [BEq K] [OfNat K 1] (jmin jmax : Int) (k : Int → K) : Bool :=
  (jmax + 1 - jmin == 0) || (jmax + 1 - jmin == 1 && jmin == 0 && k 0 == 1)

/-- `do_it` for one output index; `none` = `error("… boundary condition …")` -/
def arrayFilter1DAt [BEq K] [OfNat K 1] (bc : BC) (jmin jmax : Int) (k : Int → K) (inMin inMax : Int) (x : Int → K)
    (i : Int) : Option K :=
  if isTrivial1D jmin jmax k then
    match bc with
    | .periodic => none
    | _ => some (conv1dTrivialAt bc inMin inMax x i)
  else
    match bc with
    | .zero => some (conv1dZeroAt jmin jmax k inMin inMax x i)
    | .constant => some (conv1dConstAt jmin jmax k inMin inMax x i)
    | .periodic => none

/-! ## ArrayFilter1DUsingConvolutionSymmetricKernel -/

/-- non-trivial branch: `out[i] = k[0]*in[i]`, then the loop where both `i-j` and `i+j` are valid, then the rest of
    `i+j`, then the rest of `i-j`, sharing `j` -/
def convSymAt (jmax : Int) (k : Int → K) (inMin inMax : Int) (x : Int → K) (i : Int) : K :=
  let acc := k 0 * x i
  let e1 := min jmax (min (inMax - i) (i - inMin))
  let acc := sumFromTo 1 e1 (fun j => k j * (x (i - j) + x (i + j))) acc
  let j1 := max 1 (e1 + 1)
  let e2 := min jmax (inMax - i)
  let acc := sumFromTo j1 e2 (fun j => k j * x (i + j)) acc
  let j2 := max j1 (e2 + 1)
  let e3 := min jmax (i - inMin)
  sumFromTo j2 e3 (fun j => k j * x (i - j)) acc

/-- `do_it` (kernel index range `0..jmax`; output range = input range) -/
def arrayFilterSymAt [BEq K] [OfNat K 1] (jmax : Int) (k : Int → K) (inMin inMax : Int) (x : Int → K) (i : Int) : K :=
  if jmax + 1 == 0 || (jmax + 1 == 1 && k 0 == 1) then x i else convSymAt jmax k inMin inMax x i

/-! ## ArrayFilter2DUsingConvolution / ArrayFilter3DUsingConvolution -/

/-- index range of one dimension -/
structure R where
  lo : Int
  hi : Int
  deriving Repr, DecidableEq, Inhabited

def R.len (r : R) : Int := r.hi + 1 - r.lo
def R.mem (r : R) (i : Int) : Bool := decide (r.lo ≤ i) && decide (i ≤ r.hi)

/-- `for j in [max(j_min, y-in_max_y) .. min(j_max, y-in_min_y)] for i in […] out += k[j][i]*in[y-j][x-i]` -/
def conv2dAt (kr0 kr1 : R) (k : Int → Int → K) (ir0 ir1 : R) (x : Int → Int → K) (y xx : Int) : K :=
  loopFromTo (max kr0.lo (y - ir0.hi)) (min kr0.hi (y - ir0.lo)) (fun j acc =>
    sumFromTo (max kr1.lo (xx - ir1.hi)) (min kr1.hi (xx - ir1.lo)) (fun i => k j i * x (y - j) (xx - i)) acc) 0

/-- `is_trivial()` of the 2-D class: looks at the OUTER extent and at `filter_coefficients[0][0]` only -/
def isTrivial2D [BEq K] [OfNat K 1] (kr0 : R) (k : Int → Int → K) : Bool :=
  (kr0.len == 0) || (kr0.len == 1 && kr0.lo == 0 && k 0 0 == 1)

def arrayFilter2DAt [BEq K] [OfNat K 1] (kr0 kr1 : R) (k : Int → Int → K) (ir0 ir1 : R) (x : Int → Int → K) (y xx : Int) : K :=
  if isTrivial2D kr0 k then (if ir0.mem y && ir1.mem xx then x y xx else 0)
  else conv2dAt kr0 kr1 k ir0 ir1 x y xx

def conv3dAt (kr0 kr1 kr2 : R) (k : Int → Int → Int → K) (ir0 ir1 ir2 : R) (x : Int → Int → Int → K) (z y xx : Int) : K :=
  loopFromTo (max kr0.lo (z - ir0.hi)) (min kr0.hi (z - ir0.lo)) (fun kk acc =>
    loopFromTo (max kr1.lo (y - ir1.hi)) (min kr1.hi (y - ir1.lo)) (fun j acc =>
      sumFromTo (max kr2.lo (xx - ir2.hi)) (min kr2.hi (xx - ir2.lo)) (fun i => k kk j i * x (z - kk) (y - j) (xx - i)) acc) acc) 0

def isTrivial3D [BEq K] [OfNat K 1] (kr0 : R) (k : Int → Int → Int → K) : Bool :=
  (kr0.len == 0) || (kr0.len == 1 && kr0.lo == 0 && k 0 0 0 == 1)

def arrayFilter3DAt [BEq K] [OfNat K 1] (kr0 kr1 kr2 : R) (k : Int → Int → Int → K) (ir0 ir1 ir2 : R)
    (x : Int → Int → Int → K) (z y xx : Int) : K :=
  if isTrivial3D kr0 k then (if ir0.mem z && ir1.mem y && ir2.mem xx then x z y xx else 0)
  else conv3dAt kr0 kr1 kr2 k ir0 ir1 ir2 x z y xx

/-! ## separable filters: one 1-D filter per axis, applied in place axis after axis -/

/-- a 1-D in-place filter, as a map from a line (given by its index range and values) to the new value at `i` -/
abbrev Line1 (K : Type) := (lo hi : Int) → (Int → K) → Int → K

/-- first index: `in_place_apply_array_function_on_1st_index` -/
def sepAxis0 (f : Line1 K) (r0 : R) (x : Int → Int → Int → K) : Int → Int → Int → K :=
  fun a b c => f r0.lo r0.hi (fun a' => x a' b c) a
def sepAxis1 (f : Line1 K) (r1 : R) (x : Int → Int → Int → K) : Int → Int → Int → K :=
  fun a b c => f r1.lo r1.hi (fun b' => x a b' c) b
def sepAxis2 (f : Line1 K) (r2 : R) (x : Int → Int → Int → K) : Int → Int → Int → K :=
  fun a b c => f r2.lo r2.hi (fun c' => x a b c') c

/-- `SeparableArrayFunctionObject<3>::do_it`: first index, then (inside every slice) second, then third -/
def separable3 (f0 f1 f2 : Line1 K) (r0 r1 r2 : R) (x : Int → Int → Int → K) : Int → Int → Int → K :=
  sepAxis2 f2 r2 (sepAxis1 f1 r1 (sepAxis0 f0 r0 x))

/-- `SeparableConvolutionImageFilter::post_processing`: a list of `size` coefficients gets `min_index = -(size/2)` -/
def sciKernelMin (size : Nat) : Int := -((size / 2 : Nat) : Int)

end conv

/-! ## index-range queries of the filter classes -/

/-- `get_influencing_indices(influencing, output_range)`: kernel of length 0 ? the given range :
    `[out_min - j_max, out_max - j_min]` (1-D class: the kernel's range; 2-D / 3-D classes: the kernel's OUTER range) -/
def influencingRange (kr out : R) : R := if kr.len == 0 then out else ⟨out.lo - kr.hi, out.hi - kr.lo⟩

/-- `get_influenced_indices(influenced, input_range)`: kernel of length 0 ? the given range :
    `[in_min + j_min, in_max + j_max]` -/
def influencedRange (kr inp : R) : R := if kr.len == 0 then inp else ⟨inp.lo + kr.lo, inp.hi + kr.hi⟩

/-- `ArrayFilter1DUsingConvolutionSymmetricKernel::is_trivial()` (kernel index range `0..jmax`) -/
def isTrivialSym {K : Type} [BEq K] [OfNat K 1] (jmax : Int) (k : Int → K) : Bool :=
  jmax + 1 == 0 || (jmax + 1 == 1 && k 0 == 1)

/-- `ArrayFilterUsingRealDFTWithPadding::is_trivial()`: no kernel, or a single frequency-space coefficient equal to `(1,0)` -/
def isTrivialDFT (sizeAll : Nat) (firstIsOne : Bool) : Bool := sizeAll == 0 || (sizeAll == 1 && firstIsOne)

/-! ## padded-DFT route -/

/-- `modulo(int a, int b)`: `a % b` (C, truncating) made non-negative -/
def modulo (a b : Int) : Int :=
  let res := Int.tmod a b
  if res < 0 then res + (if b ≥ 0 then b else -b) else res

section periodic
variable {K : Type} [Add K] [Mul K] [Zero K]

/-- `transform_array_to_periodic_indices` (1-D): `out` is a zero-initialised 0-based array of length `L`;
    `for i in [lo..hi]: out[modulo(i, L)] = in[i]` (later writes overwrite earlier ones) -/
def toPeriodic1 (L : Nat) (lo hi : Int) (f : Int → K) : Array K :=
  loopFromTo lo hi (fun i a => a.setIfInBounds (modulo i L).toNat (f i)) (Array.replicate L 0)

/-- `transform_array_from_periodic_indices` (1-D): `out[i] = in[modulo(i, L)]` -/
def fromPeriodic1At (L : Nat) (a : Array K) (i : Int) : K := a.getD (modulo i L).toNat 0

/-- what `inverse_fourier_for_real_data(fourier_for_real_data(x) * fourier_for_real_data(k))` computes, exactly:
    the circular convolution of period `L` -/
def circConv1At (L : Nat) (kp xp : Array K) (p : Nat) : K :=
  (List.range L).foldl (fun acc (q : Nat) => acc + kp.getD (modulo (Int.ofNat p - Int.ofNat q) L).toNat 0 * xp.getD q 0) 0

/-- power of two test used for the `error()` branches of `fourier_1d` -/
def isPow2 (n : Nat) : Bool := n != 0 && 2 ^ (Nat.log2 n) == n

/-- can `fourier_for_real_data` / `inverse_fourier_for_real_data` handle a last dimension of this length?
    forward: even, and half of it a power of two; inverse: additionally half of it even (!) -/
def realLenOkForward (L : Nat) : Bool := L % 2 == 0 && (L == 0 || isPow2 (L / 2))
def realLenOkInverse (L : Nat) : Bool := realLenOkForward L && (L / 2) % 2 == 0

/-- `ArrayFilterUsingRealDFTWithPadding<1>`: constructor (`set_kernel`: wrap-around placement, padded length = kernel
    length) followed by `do_it`; the result maps an output index `i` to its value.  `none` = `error()`. -/
def dftFilter1 (kmin kmax : Int) (k : Int → K) (inMin inMax : Int) (x : Int → K) (outMin outMax : Int)
    (guardAsCoded : Bool := true) : Option (Int → K) :=
  let L := (kmax + 1 - kmin).toNat
  if !realLenOkForward L then none else
  -- set_kernel: `norm(min_indices) < .01` ? kernel itself : wrapped copy — both are `toPeriodic1`
  let kp := toPeriodic1 L kmin kmax k
  -- do_it (`guardAsCoded = false`: the inverse real-data transform with the guard its error message describes)
  if guardAsCoded && !realLenOkInverse L then none else
  if inMin == 0 && inMax == (L : Int) - 1 && outMin == 0 && outMax == (L : Int) - 1 then
    let xp := Array.ofFn (n := L) fun q => x (Int.ofNat q.val)
    some fun i => circConv1At L kp xp i.toNat
  else
    let xp := toPeriodic1 L inMin inMax x
    let yp := Array.ofFn (n := L) fun p => circConv1At L kp xp p.val
    some fun i => fromPeriodic1At L yp i

/-! n-dimensional versions (row-major flat arrays, multi-indices as lists) -/

/-- the 0-based box with the given sizes -/
def zeroBox (sizes : List Nat) : List R := sizes.map fun (n : Nat) => ⟨0, Int.ofNat n - 1⟩

def sizesOf (box : List R) : List Nat := box.map fun r => r.len.toNat
def prodNat (l : List Nat) : Nat := l.foldl (· * ·) 1

/-- row-major position of a 0-based multi-index -/
def flatIdx (sizes : List Nat) (idx : List Nat) : Nat :=
  (sizes.zip idx).foldl (fun f (p : Nat × Nat) => f * p.1 + p.2) 0

/-- all multi-indices of a box in row-major (`next(index, array)`) order -/
def allIdx : List R → List (List Int)
  | [] => [[]]
  | r :: rest => (List.range r.len.toNat).flatMap fun (t : Nat) => (allIdx rest).map fun tl => (r.lo + Int.ofNat t) :: tl

def moduloIdx (idx : List Int) (sizes : List Nat) : List Nat :=
  (idx.zip sizes).map fun (p : Int × Nat) => (modulo p.1 p.2).toNat

def toPeriodicND (sizes : List Nat) (box : List R) (f : List Int → K) : Array K :=
  (allIdx box).foldl (fun a idx => a.setIfInBounds (flatIdx sizes (moduloIdx idx sizes)) (f idx))
    (Array.replicate (prodNat sizes) 0)

def fromPeriodicNDAt (sizes : List Nat) (a : Array K) (idx : List Int) : K :=
  a.getD (flatIdx sizes (moduloIdx idx sizes)) 0

def circConvNDAt (sizes : List Nat) (kp xp : Array K) (p : List Nat) : K :=
  (allIdx (zeroBox sizes)).foldl (fun acc q =>
    let d := (p.zip q).map fun (pq : Nat × Int) => Int.ofNat pq.1 - pq.2
    acc + kp.getD (flatIdx sizes (moduloIdx d sizes)) 0 * xp.getD (flatIdx sizes (q.map Int.toNat)) 0) 0

/-- `ArrayFilterUsingRealDFTWithPadding<n>`; the result maps an output multi-index to its value -/
def dftFilterND (kbox : List R) (k : List Int → K) (ibox : List R) (x : List Int → K) (obox : List R)
    (guardAsCoded : Bool := true) : Option (List Int → K) :=
  let sizes := sizesOf kbox
  let last := sizes.getLastD 0
  let outer := sizes.dropLast
  if !(realLenOkForward last && outer.all isPow2) then none else
  let kp := toPeriodicND sizes kbox k
  if guardAsCoded && !realLenOkInverse last then none else
  -- do_it: input range == output range == padding range ? use directly : wrap-around copy — both are `toPeriodicND`
  let _ := obox
  let xp := toPeriodicND sizes ibox x
  some fun idx => circConvNDAt sizes kp xp (moduloIdx idx sizes)

end periodic


/-! ### kernel given in frequency space -/

/-- apply `f` to the last element of a list -/
def mapLast {α : Type} (f : α → α) : List α → List α
  | [] => []
  | [r] => [f r]
  | r :: r' :: rest => r :: mapLast f (r' :: rest)

/-- index range of `fourier_for_real_data(a)` for a 0-based `a` with index box `box`: last dimension `0..len/2` -/
def freqBox (box : List R) : List R := mapLast (fun r => ⟨0, Int.tdiv r.len 2⟩) box

/-- `set_padding_range()`: `none` = `Succeeded::no` (irregular range, or some minimum index not 0); otherwise the
    padding range: `max_indices[last] = 2 * max_indices[last] - 1` -/
def setPaddingRange (regular : Bool) (fbox : List R) : Option (List R) :=
  if regular && fbox.all (fun r => r.lo == 0) then some (mapLast (fun r => ⟨r.lo, 2 * r.hi - 1⟩) fbox) else none

section periodic
variable {K : Type} [Add K] [Mul K] [Zero K]

/-- `ArrayFilterUsingRealDFTWithPadding(kernel_in_frequency_space)` / `set_kernel_in_frequency_space` followed by `do_it`,
    for a frequency-space kernel with index box `fbox` that is the real-data transform of the 0-based real array `kp0`:
    padding range from `set_padding_range`, then exactly what the object built from a spatial kernel does -/
def dftFilterFreqND (regular : Bool) (fbox : List R) (kp0 : List Int → K) (ibox : List R) (x : List Int → K) (obox : List R)
    (guardAsCoded : Bool := true) : Option (List Int → K) :=
  match setPaddingRange regular fbox with
  | none => none
  | some pr => dftFilterND pr kp0 ibox x obox guardAsCoded

end periodic

/-! ## Fourier transforms -/

/-- inner `while (m >= 2 && j > m) { j -= m; m >>= 1; }` of `bitreversal` -/
def brInner (j m : Nat) : Nat × Nat :=
  if h : m ≥ 2 ∧ j > m then brInner (j - m) (m / 2) else (j, m)
termination_by m
decreasing_by omega

/-- `int m = n; while (…) {…}; j += m;` -/
def brNext (n j : Nat) : Nat := (brInner j n).1 + (brInner j n).2

/-- `bitreversal(data)`: `j = 1; for i: if (j/2 > i) swap(data[j/2], data[i]); j = brNext n j` -/
def bitReversal {K : Type} (a : Array K) : Array K :=
  ((List.range a.size).foldl (fun (st : Nat × Array K) i =>
      (brNext a.size st.1, if st.1 / 2 > i then st.2.swapIfInBounds (st.1 / 2) i else st.2)) (1, a)).2

section fft
variable {K : Type} [Add K] [Mul K] [Neg K] [Inhabited K]

/-- loop body of `fourier_1d`: `t1 = c1; c2 *= w; c1 += c2; c2 *= -1; c2 += t1;` with `c1 = c[p]`, `c2 = c[q]` -/
def butterfly (w : K) (c : Array K) (p q : Nat) : Array K :=
  let t1 := c[p]!
  let c2 := c[q]! * w
  let c := c.setIfInBounds p (t1 + c2)
  c.setIfInBounds q (-c2 + t1)

/-- one value of `k`: `for (j = 0; j < n; j += 2*pow2k) for (i = 0; i < pow2k; ++i) butterfly(exparray[i], i+j, i+j+pow2k)` -/
def stage (pow2k : Nat) (w : Nat → K) (c : Array K) : Array K :=
  (List.range (c.size / (2 * pow2k))).foldl (fun c jb =>
    (List.range pow2k).foldl (fun c i => butterfly (w i) c (i + jb * (2 * pow2k)) (i + jb * (2 * pow2k) + pow2k)) c) c

/-- `fourier_1d`; `w pow2k i` = `get_exparray(pow2k, sign)[i]`; `none` = `error("… not 2^…")` -/
def fourier1d (w : Nat → Nat → K) (c : Array K) : Option (Array K) :=
  if c.size = 0 then some c else
  let c := bitReversal c
  let nn := Nat.log2 c.size
  if 2 ^ nn ≠ c.size then none else
  some ((List.range nn).foldl (fun c k => stage (2 ^ k) (w (2 ^ k)) c) c)

/-- apply a 1-D transform to every line along the outer index of a row-major array with `stride` elements per
    outer index (`fourier_1d` on an `Array<n>` operates on whole sub-arrays element-wise) -/
def onOuter (n stride : Nat) (t : Array K → Option (Array K)) (a : Array K) : Option (Array K) :=
  (List.range stride).foldlM (fun a r => do
    let line ← t (Array.ofFn (n := n) fun i => a[i.val * stride + r]!)
    pure ((List.range n).foldl (fun a i => a.setIfInBounds (i * stride + r) line[i]!) a)) a

/-- apply `t` to every contiguous block of `blk` elements -/
def onBlocks (n blk : Nat) (t : Array K → Option (Array K)) (a : Array K) : Option (Array K) :=
  (List.range n).foldlM (fun a i => do
    let b ← t (a.extract (i * blk) ((i + 1) * blk))
    pure ((List.range blk).foldl (fun a r => a.setIfInBounds (i * blk + r) b[r]!) a)) a

/-- `fourier` (`fourier_auxiliary::do_fourier`): `fourier_1d` on the outer index, then `fourier` of every sub-array -/
def fourierND (w : Nat → Nat → K) : List Nat → Array K → Option (Array K)
  | [], a => some a
  | [_], a => fourier1d w a
  | n :: rest, a => do
    let stride := prodNat rest
    let a ← onOuter n stride (fourier1d w) a
    onBlocks n stride (fourierND w rest) a

/-- `inverse_fourier`: `fourier(c, -sign); c /= c.size_all();` (`wInv` is the table for `-sign`) -/
def inverseFourierND [Div K] [NatCast K] (wInv : Nat → Nat → K) (dims : List Nat) (a : Array K) : Option (Array K) := do
  let a ← fourierND wInv dims a
  pure (a.map fun v => v / ((prodNat dims : Nat) : K))

/-- the definition quoted in fourier.h: `r_k = Σ_j c_j e^{sign 2πi jk/n}`; `wpow m` = `e^{sign 2πi m/n}` -/
def dftSpec1 [Zero K] (wpow : Nat → K) (n : Nat) (x : Nat → K) (k : Nat) : K :=
  (List.range n).foldl (fun acc j => acc + x j * wpow (j * k % n)) 0

end fft

/-- `pos_frequencies_to_all` (1-D): input indices `0..n`, output `0..2n-1`;
    `result[i] = c[i]; if (i > 0) result[modulo(2n - i, 2n)] = conj(c[i])` in increasing `i` -/
def posFreqToAll1 {K : Type} [Inhabited K] (conj : K → K) (c : Array K) : Array K :=
  let n := c.size - 1
  (List.range c.size).foldl (fun res i =>
    let res := res.setIfInBounds i c[i]!
    if i > 0 then res.setIfInBounds (modulo (Int.ofNat (2 * n) - Int.ofNat i) (Int.ofNat (2 * n))).toNat (conj c[i]!) else res)
    (Array.replicate (2 * n) default)

/-- `pos_frequencies_to_all` (n-D): `dims` are the sizes of `c` (last = n+1) -/
def posFreqToAllND {K : Type} [Inhabited K] (conj : K → K) (dims : List Nat) (c : Array K) : Array K :=
  let sizes := dims.dropLast ++ [2 * (dims.getLastD 1 - 1)]
  (allIdx (zeroBox dims)).foldl (fun res idx =>
    let v := c[flatIdx dims (idx.map Int.toNat)]!
    let res := res.setIfInBounds (flatIdx sizes (idx.map Int.toNat)) v
    if idx.getLastD 0 > 0 then
      let rel := moduloIdx ((sizes.zip idx).map fun (p : Nat × Int) => Int.ofNat p.1 - p.2) sizes
      res.setIfInBounds (flatIdx sizes rel) (conj v)
    else res)
    (Array.replicate (prodNat sizes) default)

/-! ### complex numbers over `Float` for execution -/

structure Cplx where
  re : Float
  im : Float
  deriving Inhabited

namespace Cplx
instance : Add Cplx := ⟨fun a b => ⟨a.re + b.re, a.im + b.im⟩⟩
instance : Sub Cplx := ⟨fun a b => ⟨a.re - b.re, a.im - b.im⟩⟩
instance : Neg Cplx := ⟨fun a => ⟨-a.re, -a.im⟩⟩
instance : Mul Cplx := ⟨fun a b => ⟨a.re * b.re - a.im * b.im, a.re * b.im + a.im * b.re⟩⟩
instance : Zero Cplx := ⟨⟨0, 0⟩⟩
instance : NatCast Cplx := ⟨fun n => ⟨n.toFloat, 0⟩⟩
/-- only division by a real is needed (`c /= c.size_all()`) -/
instance : Div Cplx := ⟨fun a b => ⟨a.re / b.re, a.im / b.re⟩⟩
def conj (a : Cplx) : Cplx := ⟨a.re, -a.im⟩
def scale (s : Float) (a : Cplx) : Cplx := ⟨s * a.re, s * a.im⟩
def expi (theta : Float) : Cplx := ⟨Float.cos theta, Float.sin theta⟩
end Cplx

def pi : Float := 3.14159265358979323846

/-- `get_exparray(pow2k, sign)[i] = exp(i * float(sign*i*π/pow2k))` -/
def expArray (sign : Int) (pow2k i : Nat) : Cplx :=
  Cplx.expi (((Float.ofInt (sign * i) * pi) / pow2k.toFloat).toFloat32.toFloat)

/-- `e^{sign 2πi m/n}` for the definition of the DFT -/
def wPow (sign : Int) (n m : Nat) : Cplx := Cplx.expi (Float.ofInt sign * 2 * pi * m.toFloat / n.toFloat)

/-- n-dimensional DFT by its definition, at one frequency multi-index `k`:
    `Σ_{j1} w1^{j1 k1} Σ_{j2} w2^{j2 k2} … x[j1,j2,…]` (`tabs` = the per-dimension tables `w_d^{j k_d}`) -/
def dftSpecGo (x : Array Cplx) : List Nat → List (Array Cplx) → Nat → Cplx
  | [], _, off => x[off]!
  | _ :: _, [], _ => 0
  | n :: rest, t :: ts, off =>
    let stride := prodNat rest
    (List.range n).foldl (fun acc j => acc + t[j]! * dftSpecGo x rest ts (off + j * stride)) 0

def dftSpecND (sign : Int) (dims : List Nat) (x : Array Cplx) (k : List Nat) : Cplx :=
  let tabs := (dims.zip k).map fun (p : Nat × Nat) => Array.ofFn (n := p.1) fun j => wPow sign p.1 (j.val * p.2 % p.1)
  dftSpecGo x dims tabs 0

/-- `fourier_1d_for_real_data`: `none` = `error()` -/
def fourierRealData1 (sign : Int) (v : Array Float) : Option (Array Cplx) :=
  if v.size = 0 then some #[] else
  if v.size % 2 ≠ 0 then none else do
  let n := v.size / 2
  let c : Array Cplx := Array.ofFn (n := n) fun i => ⟨v[2 * i.val]! / 2, v[2 * i.val + 1]! / 2⟩
  let c ← fourier1d (expArray sign) c
  let c := c.push ⟨0, 0⟩
  let c := (List.range (n / 2)).foldl (fun (c : Array Cplx) i0 =>
    let i := i0 + 1
    let t1 := c[i]! + (c[n - i]!).conj
    let t2 := Cplx.expi (((Float.ofInt sign * (i.toFloat * pi) / n.toFloat - pi / 2)).toFloat32.toFloat) * (c[i]! - (c[n - i]!).conj)
    let c := c.setIfInBounds i (t1 + t2)
    c.setIfInBounds (n - i) (t1 - t2).conj) c
  let c0 := c[0]!
  let c := c.setIfInBounds 0 ⟨(c0.re + c0.im) * 2, 0⟩
  pure (c.setIfInBounds n ⟨(c0.re - c0.im) * 2, 0⟩)

/-- `inverse_fourier_1d_for_real_data_corrupting_input` -/
def invFourierRealData1 (sign : Int) (c : Array Cplx) (guardAsCoded : Bool := true) : Option (Array Float) :=
  if c.size = 0 then some #[] else
  let n := c.size - 1
  -- `if (n % 2 != 0) error("… can only handle arrays of even length")` — `n` is HALF the length of the real array;
  -- `guardAsCoded = false` drops this test (the real length `2n` is always even)
  if guardAsCoded && n % 2 ≠ 0 then none else do
  let c := (List.range (n / 2)).foldl (fun (c : Array Cplx) i0 =>
    let i := i0 + 1
    let t1 := c[i]! + (c[n - i]!).conj
    let t2 := Cplx.expi (((Float.ofInt (-sign) * (i.toFloat * pi) / n.toFloat + pi / 2)).toFloat32.toFloat) * (c[i]! - (c[n - i]!).conj)
    let c := c.setIfInBounds i (t1 + t2)
    c.setIfInBounds (n - i) (t1 - t2).conj) c
  let c := c.setIfInBounds 0 ⟨c[0]!.re + c[n]!.re, c[0]!.re - c[n]!.re⟩
  let c := c.extract 0 n
  let c ← inverseFourierND (expArray (-sign)) [n] c
  pure (Array.ofFn (n := 2 * n) fun i => if i.val % 2 = 0 then c[i.val / 2]!.re / 2 else c[i.val / 2]!.im / 2)

/-- `fourier_for_real_data` (n-D): real-data transform of every innermost line, then `fourier_1d` along each outer index,
    innermost first (`fourier_for_real_data_auxiliary::do_fourier_for_real_data`) -/
def fourierRealDataND (sign : Int) : List Nat → Array Float → Option (Array Cplx)
  | [], _ => some #[]
  | [_], v => fourierRealData1 sign v
  | n :: rest, v => do
    let blk := prodNat rest
    let parts ← (List.range n).mapM fun i => fourierRealDataND sign rest (v.extract (i * blk) ((i + 1) * blk))
    let a : Array Cplx := parts.foldl (· ++ ·) #[]
    let stride := a.size / n
    onOuter n stride (fourier1d (expArray sign)) a

/-- `inverse_fourier_for_real_data_corrupting_input` (n-D); `dims` are the sizes of the complex input (last = n+1) -/
def invFourierRealDataND (sign : Int) (guardAsCoded : Bool := true) : List Nat → Array Cplx → Option (Array Float)
  | [], _ => some #[]
  | [_], c => invFourierRealData1 sign c guardAsCoded
  | n :: rest, c => do
    let stride := prodNat rest
    -- inverse_fourier_1d(c, sign): fourier_1d(c, -sign); c /= c.size()
    let c ← onOuter n stride (fourier1d (expArray (-sign))) c
    let c := c.map fun v => v / (n : Cplx)
    let parts ← (List.range n).mapM fun i => invFourierRealDataND sign guardAsCoded rest (c.extract (i * stride) ((i + 1) * stride))
    pure (parts.foldl (· ++ ·) #[])


/-- sizes of the complex array holding the non-negative frequencies of a real array with these sizes -/
def halfSizes (dims : List Nat) : List Nat := dims.dropLast ++ [dims.getLastD 0 / 2 + 1]

/-- `ArrayFilterUsingRealDFTWithPadding` with an ARBITRARY kernel `h` in frequency space (index box `fbox`, row-major
    values), `do_it` as coded: wrap-around copy of the input into the padding range, `fourier_for_real_data`, element-wise
    product with `h`, `inverse_fourier_for_real_data_corrupting_input`, wrap-around copy to the output — at `Float` precision -/
def dftFilterSpectrumND (regular : Bool) (fbox : List R) (h : Array Cplx) (ibox : List R) (x : List Int → Float)
    (guardAsCoded : Bool := true) : Option (List Int → Float) := do
  let pr ← setPaddingRange regular fbox
  let sizes := sizesOf pr
  let xp : Array Cplx := toPeriodicND sizes ibox fun idx => (⟨x idx, 0⟩ : Cplx)
  let xf ← fourierRealDataND 1 sizes (xp.map (·.re))
  let y ← invFourierRealDataND 1 guardAsCoded (halfSizes sizes) (Array.ofFn (n := xf.size) fun i => xf[i.val]! * h[i.val]!)
  pure fun idx => y.getD (flatIdx sizes (moduloIdx idx sizes)) 0

/-! ## Gaussian kernel (SeparableGaussianArrayFilter::calculate_coefficients), `Float`/`Float32` -/

/-- returns `none` for `error()` (max_kernel_size == 0), otherwise `(kernel_length, coefficients for -kl..kl)`;
    an empty coefficient array = trivial filter (standard deviation 0) -/
def gaussCoefficients (maxKernelSize : Int) (fwhm : Float32) (normalise : Bool) : Option (Nat × Array Float32) :=
  if maxKernelSize == 0 then none else
  let sd : Float := Float.sqrt ((fwhm * fwhm).toFloat / (8 * Float.log 2))
  if sd == 0 then some (0, #[]) else
  let kl : Nat :=
    if maxKernelSize < 0 then
      let normalMaxX := Float.sqrt (-2 * Float.log 0.000001)
      (Float.ceil (normalMaxX * sd)).toUInt64.toNat
    else (Int.tdiv maxKernelSize 2).toNat
  let coef (i : Nat) : Float32 :=
    if i = 0 then (1 / Float.sqrt (2 * pi) / sd).toFloat32
    else (Float.exp (-(i * i).toFloat / (2 * (sd * sd))) / Float.sqrt (2 * (sd * sd) * pi)).toFloat32
  let ks : Array Float32 := Array.ofFn (n := 2 * kl + 1) fun t => coef (if t.val ≥ kl then t.val - kl else kl - t.val)
  if normalise then
    let sum : Float := ks.foldl (fun s v => s + v.toFloat) 0
    some (kl, ks.map fun v => (v.toFloat / sum).toFloat32)
  else some (kl, ks)

/-! ## Metz kernel (SeparableMetzArrayFilter.cxx: build_gauss / build_metz), `Float` with the scalar parameters rounded to
`float` where the C++ stores them in `float` -/

/-- `build_gauss(kernel, res, s2, sampling_interval)` (values kept at binary64) -/
def metzBuildGauss (res : Nat) (s2 si : Float32) : Array Float :=
  let hres := res / 2
  let k0 : Float := (1 / Float.sqrt (s2.toFloat * 6.28318530717958647692)).toFloat32.toFloat
  -- for (j = 1; j < hres && !cutoff; j++)
  let st := (List.range (hres - 1)).foldl (fun (st : Array Float × Float × Bool) j0 =>
    let (ker, sum, cutoff) := st
    if cutoff then st else
    let j := j0 + 1
    let js : Float32 := j.toFloat32 * si
    let v : Float := (k0 * Float.exp (-0.5 * (js * js).toFloat / s2.toFloat)).toFloat32.toFloat
    let ker := (ker.setIfInBounds (hres - j - 1) v).setIfInBounds (hres + j - 1) v
    (ker, sum + 2 * v, v < k0 * 0.000001)) ((Array.replicate res (0 : Float)).setIfInBounds (hres - 1) k0, k0, false)
  st.1.map fun v => v / st.2.1

/-- `build_metz(kernel, N, fwhm, MmPerVox, max_kernel_size)`: the coefficients `kernel[0..kernel_length-1]` -/
def metzKernel (power fwhm mmPerVox : Float32) (maxKernelSize : Int) : Array Float :=
  if !(fwhm > 0) then #[1] else
  let s2 : Float32 := ((fwhm * fwhm).toFloat / (8 * Float.log 2)).toFloat32
  let n : Float := 7
  let spv : Nat := (mmPerVox.toFloat * 2 * Float.sqrt (2 * Float.log 10 * n / s2.toFloat) / 6.28318530717958647692 + 1).toUInt64.toNat
  let si : Float32 := mmPerVox / spv.toFloat32
  let stretch : Float := if spv > 1 then 10000 else 0
  let resE : Nat := (Float.log ((Float.sqrt (8 * n * Float.log 10 * s2.toFloat) + stretch) / si.toFloat) / Float.log 2 + 1).toUInt64.toNat
  let res : Nat := 2 ^ resE
  let filter := metzBuildGauss res s2 si
  -- Build the fft array
  let fftdata : Array Cplx := Array.ofFn (n := res) fun i =>
    if i.val ≤ res - res / 2 then ⟨filter[res / 2 - 1 + i.val]!, 0⟩ else ⟨filter[i.val - (res - res / 2) - 1]!, 0⟩
  match fourierND (expArray 1) [res] fftdata with
  | none => #[]
  | some fd =>
  let nn : Float := power.toFloat + 1
  let cutoff : Nat := ((si * res.toFloat32) / (2 * mmPerVox)).toUInt64.toNat
  let fd := (Array.ofFn (n := res) fun i =>
    let xr := fd[i.val]!.re
    let xi := fd[i.val]!.im
    let z := xr * xr + xi * xi
    let z := if stretch > 0 && i.val > cutoff && res - i.val > cutoff then 0 else z
    let z := if z > 1 then 1 - 0.000001 else z
    if z > 0 then (⟨(1 - Float.pow (1 - z) nn) * (xr / z), (1 - Float.pow (1 - z) nn) * (-xi / z)⟩ : Cplx) else ⟨0, 0⟩)
  match inverseFourierND (expArray (-1)) [res] fd with
  | none => #[]
  | some g =>
  -- collect the results
  let cnt := (res / 2) / spv + 1
  let flt : Array Float := Array.ofFn (n := res) fun j =>
    if j.val < cnt then (g[j.val * spv]!.re * mmPerVox.toFloat) / si.toFloat else 0
  -- undo zero padding: drop trailing coefficients below 1e-4 of the first
  let kl := (List.range res).foldl (fun (st : Nat × Bool) t =>
    if st.2 then st else
    let i := res - 1 - t
    if Float.abs flt[i]! ≥ 0.0001 * flt[0]! then (st.1, true) else (st.1 - 1, false)) (res, false)
  let kl := if maxKernelSize > 0 && (kl.1 : Int) > Int.tdiv maxKernelSize 2 then (Int.tdiv maxKernelSize 2).toNat else kl.1
  flt.extract 0 kl

end StirVerif.C19
