/-
C19 — proofs: the iterative radix-2 butterfly loop `fourier_1d` computes the DFT of the definition.
One pass (`stage`) is a family of butterflies on pairwise disjoint pairs of positions, so it can be described pair by
pair (`foldl_butterfly`, `stage_get`); the passes together are the decimation-in-time recursion read bottom-up
(`fft_stages`).
-/
import StirVerif.C19.ProofsBitrev
import StirVerif.C19.ProofsDFT

namespace StirVerif.C19
open Finset

section stage
variable {K : Type} [CommRing K] [Inhabited K]

/-- the twiddle table the C++ builds for stage `pow2k`: `exparray[i] = ω^{i·N/(2·pow2k)}` -/
def twiddle (nn : Nat) (ω : K) (pow2k i : Nat) : K := ω ^ (i * (2 ^ nn / (2 * pow2k)))

omit [Inhabited K] in
theorem twiddle_eq {nn d m : Nat} (h : 2 ^ nn = d * (2 * m)) (ω : K) (i : Nat) :
    twiddle nn ω m i = ω ^ (i * d) := by
  rw [twiddle, h, Nat.mul_div_cancel _ (Nat.pos_of_mul_pos_left (h ▸ Nat.two_pow_pos nn))]

omit [CommRing K] in
theorem getElem!_setIfInBounds (a : Array K) (p : Nat) (v : K) (q : Nat) (hq : q < a.size) :
    (a.setIfInBounds p v)[q]! = if p = q then v else a[q]! := by
  rw [getElem!_pos _ q (by simpa using hq), Array.getElem_setIfInBounds (by simpa using hq), getElem!_pos a q hq]

theorem butterfly_get (w : K) (c : Array K) (p q s : Nat) (hs : s < c.size) :
    (butterfly w c p q)[s]! = if q = s then -(c[q]! * w) + c[p]! else if p = s then c[p]! + c[q]! * w else c[s]! := by
  unfold butterfly
  rw [getElem!_setIfInBounds _ _ _ _ (by simpa using hs), getElem!_setIfInBounds _ _ _ _ hs]

/-- Butterflies on pairwise disjoint pairs of positions do not interfere: after the loop every pair holds the butterfly
    of its initial values.  (The third part, that all other positions are unchanged, is what the induction needs.) -/
theorem foldl_butterfly {ι : Type} (P Q : ι → Nat) (w : ι → K) (l : List ι) (c : Array K)
    (hb : ∀ t ∈ l, P t < c.size ∧ Q t < c.size)
    (hd : l.Pairwise fun t t' => (P t' ≠ P t ∧ Q t' ≠ P t) ∧ (P t' ≠ Q t ∧ Q t' ≠ Q t)) :
    (l.foldl (fun a t => butterfly (w t) a (P t) (Q t)) c).size = c.size ∧
    (∀ t ∈ l, P t ≠ Q t →
      (l.foldl (fun a t => butterfly (w t) a (P t) (Q t)) c)[P t]! = c[P t]! + c[Q t]! * w t ∧
      (l.foldl (fun a t => butterfly (w t) a (P t) (Q t)) c)[Q t]! = -(c[Q t]! * w t) + c[P t]!) ∧
    ∀ s, s < c.size → (∀ t ∈ l, P t ≠ s ∧ Q t ≠ s) →
      (l.foldl (fun a t => butterfly (w t) a (P t) (Q t)) c)[s]! = c[s]! := by
  induction l generalizing c with
  | nil => exact ⟨rfl, fun _ h => absurd h List.not_mem_nil, fun _ _ _ => rfl⟩
  | cons t l ih =>
    obtain ⟨hdt, hdl⟩ := List.pairwise_cons.mp hd
    obtain ⟨hp, hq⟩ := hb t List.mem_cons_self
    have hsz : (butterfly (w t) c (P t) (Q t)).size = c.size := by simp [butterfly]
    obtain ⟨ihs, ihv, ihf⟩ := ih (butterfly (w t) c (P t) (Q t))
      (fun t' ht' => by
        rw [hsz]
        exact hb t' (List.mem_cons_of_mem _ ht')) hdl
    rw [List.foldl_cons]
    refine ⟨ihs.trans hsz, fun t' ht' hne => ?_, fun s hs hall => ?_⟩
    · rcases List.mem_cons.mp ht' with rfl | ht'
      · -- the pair of the first butterfly is not touched by the later ones
        rw [ihf _ (hsz ▸ hp) fun t'' h'' => (hdt t'' h'').1, ihf _ (hsz ▸ hq) fun t'' h'' => (hdt t'' h'').2,
          butterfly_get _ _ _ _ _ hp, butterfly_get _ _ _ _ _ hq, if_neg (Ne.symm hne), if_pos rfl, if_pos rfl]
        exact ⟨rfl, rfl⟩
      · -- a later pair is not touched by the first butterfly
        obtain ⟨⟨h1, h2⟩, h3, h4⟩ := hdt t' ht'
        obtain ⟨hp', hq'⟩ := hb t' (List.mem_cons_of_mem _ ht')
        rw [(ihv t' ht' hne).1, (ihv t' ht' hne).2, butterfly_get _ _ _ _ _ hp', butterfly_get _ _ _ _ _ hq',
          if_neg h3.symm, if_neg h1.symm, if_neg h4.symm, if_neg h2.symm]
        exact ⟨rfl, rfl⟩
    · obtain ⟨h1, h2⟩ := hall t List.mem_cons_self
      rw [ihf s (hsz ▸ hs) fun t' ht' => hall t' (List.mem_cons_of_mem _ ht'),
        butterfly_get _ _ _ _ _ hs, if_neg h2, if_neg h1]

omit [CommRing K] [Inhabited K] in
theorem block_succ_le {B jb jb' : Nat} (h : jb < jb') : jb * B + B ≤ jb' * B := by
  rw [← Nat.succ_mul]
  exact Nat.mul_le_mul_right B h

omit [CommRing K] [Inhabited K] in
theorem block_pairs_ne {M u u' i i' : Nat} (hi : i < M) (hi' : i' < M) (hu : u + 2 * M ≤ u' ∨ u' + 2 * M ≤ u) :
    (i' + u' ≠ i + u ∧ i' + u' + M ≠ i + u) ∧ (i' + u' ≠ i + u + M ∧ i' + u' + M ≠ i + u + M) := by
  omega

/-- One pass of the two inner loops of `fourier_1d` over `nb` blocks of length `2 * M`: in every block the `i`-th
    elements of the two halves are replaced by their butterfly. -/
theorem stage_get (M : Nat) (w : Nat → K) (c : Array K) (nb : Nat) (hc : c.size = nb * (2 * M)) :
    (stage M w c).size = c.size ∧ ∀ jb i, jb < nb → i < M →
      (stage M w c)[i + jb * (2 * M)]! = c[i + jb * (2 * M)]! + c[i + jb * (2 * M) + M]! * w i ∧
      (stage M w c)[i + jb * (2 * M) + M]! = -(c[i + jb * (2 * M) + M]! * w i) + c[i + jb * (2 * M)]! := by
  rcases Nat.eq_zero_or_pos M with rfl | hM
  · exact ⟨by simp [stage], fun _ i _ hi => absurd hi (Nat.not_lt_zero i)⟩
  -- the two nested loops are one loop over the pairs (block, offset)
  have hflat : stage M w c = (List.range nb ×ˢ List.range M).foldl
      (fun a t => butterfly (w t.2) a (t.2 + t.1 * (2 * M)) (t.2 + t.1 * (2 * M) + M)) c := by
    unfold stage
    rw [hc, Nat.mul_div_cancel _ (by omega),
      show List.range nb ×ˢ List.range M = (List.range nb).flatMap fun jb => (List.range M).map (Prod.mk jb) from rfl,
      List.foldl_flatMap]
    simp only [List.foldl_map]
  have hmem : ∀ t ∈ List.range nb ×ˢ List.range M, t.1 < nb ∧ t.2 < M := fun ⟨jb, i⟩ ht => by
    simpa only [List.mem_product, List.mem_range] using ht
  have hbound : ∀ t ∈ List.range nb ×ˢ List.range M,
      t.2 + t.1 * (2 * M) < c.size ∧ t.2 + t.1 * (2 * M) + M < c.size := fun t ht => by
    have := block_succ_le (B := 2 * M) (hmem t ht).1
    have := (hmem t ht).2
    omega
  have hdisj : (List.range nb ×ˢ List.range M).Pairwise fun t t' =>
      (t'.2 + t'.1 * (2 * M) ≠ t.2 + t.1 * (2 * M) ∧ t'.2 + t'.1 * (2 * M) + M ≠ t.2 + t.1 * (2 * M)) ∧
      (t'.2 + t'.1 * (2 * M) ≠ t.2 + t.1 * (2 * M) + M ∧ t'.2 + t'.1 * (2 * M) + M ≠ t.2 + t.1 * (2 * M) + M) := by
    refine (List.nodup_range.product List.nodup_range).pairwise_of_forall_ne fun t ht t' ht' hne => ?_
    have h2 := (hmem t ht).2
    have h2' := (hmem t' ht').2
    rcases Nat.lt_trichotomy t.1 t'.1 with h | h | h
    · exact block_pairs_ne h2 h2' (Or.inl (block_succ_le h))
    · have : t.2 ≠ t'.2 := fun h' => hne (Prod.ext h h')
      rw [h]
      omega
    · exact block_pairs_ne h2 h2' (Or.inr (block_succ_le h))
  obtain ⟨hsz, hval, -⟩ := foldl_butterfly _ _ (fun t => w t.2) _ c hbound hdisj
  rw [hflat]
  refine ⟨hsz, fun jb i hjb hi => hval (jb, i) (List.mem_product.mpr ⟨List.mem_range.mpr hjb, List.mem_range.mpr hi⟩) ?_⟩
  show i + jb * (2 * M) ≠ i + jb * (2 * M) + M
  omega

end stage

section dit
variable {K : Type} [CommRing K]

theorem sum_range_even_odd (f : Nat → K) (M : Nat) :
    ∑ u ∈ range (2 * M), f u = ∑ t ∈ range M, (f (2 * t) + f (2 * t + 1)) := by
  induction M with
  | zero => simp
  | succ M ih =>
    rw [show 2 * (M + 1) = 2 * M + 1 + 1 by ring, Finset.sum_range_succ, Finset.sum_range_succ, ih, Finset.sum_range_succ]
    ring

/-- decimation in time: a `2M`-point transform of the samples `f(u·D)` from the `M`-point transforms of its even and odd
    samples (any `ω`, any frequency index `i`) -/
theorem dit_split (f : Nat → K) (ω : K) (M D i : Nat) :
    ∑ u ∈ range (2 * M), f (u * D) * ω ^ (u * D * i)
      = (∑ t ∈ range M, f (t * (2 * D)) * ω ^ (t * (2 * D) * i)) + (∑ t ∈ range M, f (D + t * (2 * D)) * ω ^ (t * (2 * D) * i)) * ω ^ (i * D) := by
  rw [sum_range_even_odd, Finset.sum_add_distrib, Finset.sum_mul]
  congr 1
  · refine Finset.sum_congr rfl fun t _ => ?_
    rw [show 2 * t * D = t * (2 * D) by ring]
  · refine Finset.sum_congr rfl fun t _ => ?_
    rw [show (2 * t + 1) * D = D + t * (2 * D) by ring, show (D + t * (2 * D)) * i = t * (2 * D) * i + i * D by ring, pow_add]
    ring

theorem dit_step (f : Nat → K) (ω : K) (M D : Nat) (hhalf : ω ^ (D * M) = -1) (i : Nat) :
    ∑ u ∈ range (2 * M), f (u * D) * ω ^ (u * D * (i + M))
      = -((∑ t ∈ range M, f (D + t * (2 * D)) * ω ^ (t * (2 * D) * i)) * ω ^ (i * D)) + (∑ t ∈ range M, f (t * (2 * D)) * ω ^ (t * (2 * D) * i)) := by
  have hN : ω ^ (2 * D * M) = 1 := by rw [mul_assoc, pow_mul', hhalf, neg_one_sq]
  have hper : ∀ t, ω ^ (t * (2 * D) * (i + M)) = ω ^ (t * (2 * D) * i) := fun t => by
    rw [show t * (2 * D) * (i + M) = t * (2 * D) * i + 2 * D * M * t by ring, pow_add, pow_mul ω (2 * D * M), hN, one_pow, mul_one]
  rw [dit_split, show (i + M) * D = i * D + D * M by ring, pow_add, hhalf]
  simp only [hper]
  ring

end dit

section main
variable {K : Type} [CommRing K] [IsDomain K] [Inhabited K]

/-- **loop invariant of `fourier_1d`**: after `k` of the `nn = k + b` passes every block `jb` of `2^k` consecutive
    elements holds the `2^k`-point transform of the decimated subsequence `x[rev(jb) + t·2^b]` -/
theorem fft_stages (nn : Nat) (ω : K) (hω : IsPrimitiveRoot ω (2 ^ nn)) (x : Array K) (hx : x.size = 2 ^ nn) (k b : Nat)
    (hkb : nn = k + b) :
    ((List.range k).foldl (fun c s => stage (2 ^ s) (twiddle nn ω (2 ^ s)) c) (bitReversal x)).size = 2 ^ nn ∧
    ∀ jb i, jb < 2 ^ b → i < 2 ^ k →
      ((List.range k).foldl (fun c s => stage (2 ^ s) (twiddle nn ω (2 ^ s)) c) (bitReversal x))[i + jb * 2 ^ k]! =
        ∑ t ∈ range (2 ^ k), x[rev b jb + t * 2 ^ b]! * ω ^ (t * 2 ^ b * i) := by
  induction k generalizing b with
  | zero =>
    rw [Nat.zero_add] at hkb
    subst hkb
    refine ⟨bitReversal_size nn x hx, fun jb i hjb hi => ?_⟩
    obtain rfl : i = 0 := by omega
    simp only [List.range_zero, List.foldl_nil, pow_zero, mul_one, zero_add, Finset.range_one,
      Finset.sum_singleton, zero_mul, mul_zero, add_zero]
    rw [getElem!_def, getElem!_def, bitReversal_getElem? nn x hx jb hjb]
  | succ k ih =>
    obtain ⟨hsz, hget⟩ := ih (b + 1) (by omega)
    rw [List.range_succ, List.foldl_append]
    simp only [List.foldl_cons, List.foldl_nil]
    generalize List.foldl _ _ (List.range k) = ck at hsz hget ⊢
    have hNeq : 2 ^ nn = 2 ^ b * (2 * 2 ^ k) := by
      rw [hkb, pow_add, pow_succ]
      ring
    obtain ⟨hsz', hget'⟩ := stage_get (2 ^ k) (twiddle nn ω (2 ^ k)) ck (2 ^ b) (hsz.trans hNeq)
    refine ⟨hsz'.trans hsz, fun jb i hjb hi => ?_⟩
    -- the one place in the chain to `C19_fft_eq_dft` that needs `IsDomain`: a primitive square root of 1 is `-1`
    have hhalf : ω ^ (2 ^ b * 2 ^ k) = -1 :=
      IsPrimitiveRoot.eq_neg_one_of_two_right (hω.pow (by positivity) (by rw [hNeq]; ring))
    have htw := twiddle_eq hNeq ω
    -- the two halves of the new block `jb` are the old blocks `2 jb` and `2 jb + 1`
    have hE : ∀ i', i' < 2 ^ k → ck[i' + jb * (2 * 2 ^ k)]! =
        ∑ t ∈ range (2 ^ k), x[rev b jb + t * (2 * 2 ^ b)]! * ω ^ (t * (2 * 2 ^ b) * i') := fun i' hi' => by
      rw [show i' + jb * (2 * 2 ^ k) = i' + (2 * jb) * 2 ^ k by ring, hget (2 * jb) i' (by rw [pow_succ]; omega) hi',
        pow_succ, mul_comm (2 ^ b) 2, rev_two_mul]
    have hO : ∀ i', i' < 2 ^ k → ck[i' + jb * (2 * 2 ^ k) + 2 ^ k]! =
        ∑ t ∈ range (2 ^ k), x[rev b jb + (2 ^ b + t * (2 * 2 ^ b))]! * ω ^ (t * (2 * 2 ^ b) * i') := fun i' hi' => by
      rw [show i' + jb * (2 * 2 ^ k) + 2 ^ k = i' + (2 * jb + 1) * 2 ^ k by ring,
        hget (2 * jb + 1) i' (by rw [pow_succ]; omega) hi', pow_succ, mul_comm (2 ^ b) 2, rev_two_mul_add_one]
      exact Finset.sum_congr rfl fun t _ => by rw [Nat.add_comm (2 ^ b) (rev b jb), Nat.add_assoc]
    rw [pow_succ, Nat.mul_comm (2 ^ k) 2] at hi ⊢
    by_cases hlt : i < 2 ^ k
    · rw [(hget' jb i hjb hlt).1, hE i hlt, hO i hlt, htw, dit_split (fun o => x[rev b jb + o]!)]
    · obtain ⟨i', rfl⟩ : ∃ i', i = i' + 2 ^ k := ⟨i - 2 ^ k, by omega⟩
      have hi' : i' < 2 ^ k := by omega
      rw [Nat.add_right_comm, (hget' jb i' hjb hi').2, hE i' hi', hO i' hi', htw,
        dit_step (fun o => x[rev b jb + o]!) ω (2 ^ k) (2 ^ b) hhalf]

end main
end StirVerif.C19
