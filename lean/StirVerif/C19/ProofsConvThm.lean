/-
C19 — proofs: the discrete convolution theorem for the DFT *as defined* (`dftSpec1`) and the circular
convolution, written out here as `Σ_m k_{(p+L-m) % L} · x_m` (it is `circConv1At` by `circConv1At_eq_sum_mod`, ProofsCirc), by which the
model of `ArrayFilterUsingRealDFTWithPadding` replaces "inverse transform of the product of the two transforms":

    F_{ω⁻¹} (F_ω k · F_ω x) = L · (k ⊛ x)        (every length L, every primitive L-th root of unity ω)

over any integral domain (so also over ℂ with ω = e^{±2πi/L}); `inverse_fourier` divides by `L`, so over a field in
which `L ≠ 0` the inverse transform of the product IS the circular convolution.
-/
import StirVerif.C19.ProofsCirc
import StirVerif.C19.ProofsDFT

namespace StirVerif.C19
open Finset

/-- which kernel index pairs with data index `m` at output index `p`: `j ↦ (j + m) % L` and `p ↦ (p + L - m) % L` are
    inverse to each other on `0 .. L-1` -/
theorem add_mod_eq_iff (L j m p : Nat) (hj : j < L) (hm : m < L) (hp : p < L) :
    (j + m) % L = p ↔ j = (p + L - m) % L := by
  constructor
  · rintro rfl
    rcases Nat.lt_or_ge (j + m) L with h | h
    · rw [Nat.mod_eq_of_lt h, show j + m + L - m = j + L by omega, Nat.add_mod_right, Nat.mod_eq_of_lt hj]
    · rw [Nat.mod_eq_sub_mod h, Nat.mod_eq_of_lt (a := j + m - L) (by omega), show j + m - L + L - m = j by omega,
        Nat.mod_eq_of_lt hj]
  · rintro rfl
    rw [Nat.mod_add_mod, Nat.sub_add_cancel (by omega), Nat.add_mod_right, Nat.mod_eq_of_lt hp]

section
variable {K : Type} [CommRing K] [IsDomain K]

theorem dft_convolution (ω ωi : K) (L : Nat) (hω : IsPrimitiveRoot ω L) (hinv : ω * ωi = 1) (k x : Nat → K)
    (p : Nat) (hp : p < L) :
    dftSpec1 (fun m => ωi ^ m) L (fun q => dftSpec1 (fun m => ω ^ m) L k q * dftSpec1 (fun m => ω ^ m) L x q) p
      = (L : K) * ∑ m ∈ range L, k ((p + L - m) % L) * x m := by
  have hωn : ω ^ L = 1 := hω.pow_eq_one
  have hL : 0 < L := by omega
  rw [dftSpec1_eq_sum ωi L (pow_eq_one_of_mul_eq_one hinv hωn)]
  simp_rw [dftSpec1_eq_sum ω L hωn, Finset.sum_mul_sum, Finset.sum_mul]
  -- Σ_q Σ_j Σ_m  →  Σ_m Σ_j Σ_q
  rw [Finset.sum_comm]
  rw [Finset.sum_congr rfl (fun j _ => Finset.sum_comm)]
  rw [Finset.sum_comm, Finset.mul_sum]
  refine Finset.sum_congr rfl fun m hm => ?_
  rw [mem_range] at hm
  have hinner : ∀ j ∈ range L, ∑ q ∈ range L, k j * ω ^ (j * q) * (x m * ω ^ (m * q)) * ωi ^ (q * p)
      = if j = (p + L - m) % L then (L : K) * (k j * x m) else 0 := by
    intro j hj
    rw [mem_range] at hj
    have hterm : ∀ q ∈ range L, k j * ω ^ (j * q) * (x m * ω ^ (m * q)) * ωi ^ (q * p)
        = (k j * x m) * (ω ^ ((j + m) * q) * ωi ^ (q * p)) := fun q _ => by ring
    rw [Finset.sum_congr rfl hterm, ← Finset.mul_sum, char_orthogonality ω ωi L hω hinv (j + m) p hp]
    simp only [add_mod_eq_iff L j m p hj hm hp]
    split_ifs <;> ring
  rw [Finset.sum_congr rfl hinner, Finset.sum_ite_eq' (range L) ((p + L - m) % L),
    if_pos (mem_range.mpr (Nat.mod_lt _ hL))]

end

end StirVerif.C19
