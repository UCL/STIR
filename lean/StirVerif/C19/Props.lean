/-
C19 — "Fourier transforms invert and filters are the convolutions they claim to be".
Property theorems over the model of `Model.lean`.  No statement bounds the array length, the index ranges or the
magnitude of the elements; what each one does assume (a power-of-two length and a primitive root for the butterfly
transforms, a non-empty input for the constant boundary condition, …) is among its hypotheses.  That a product of DFTs,
transformed back, is `L` times the circular convolution by which the model replaces it is a theorem
(`C19_convolution_theorem_domain`, every length and primitive root).  What is NOT a theorem
here: the real-data packing trick (`fourierRealData1` / `invFourierRealData1` = the complex transforms), the n-dimensional
recursion and every `float` rounding — those links are covered by the correspondence run against the implementation only.
-/
import StirVerif.C19.ProofsInfl
import StirVerif.C19.ProofsSep
import StirVerif.C19.ProofsCirc
import StirVerif.C19.ProofsConvThm
import StirVerif.C19.ProofsFFT
import Mathlib.RingTheory.RootsOfUnity.Complex

namespace StirVerif.C19
open Finset


/-- "filters are the convolutions they claim to be" — `ArrayFilter1DUsingConvolution::do_it`, zero boundary condition,
    arbitrary kernel / input / output index ranges: `out_i = Σ_j k_j·in_{i-j}` with zero extension (an empty kernel is the
    identity filter; the `is_trivial()` shortcut for the kernel `[1]` at index 0 agrees with the sum). -/
theorem C19_conv_index_ranges {K : Type} [CommSemiring K] [DecidableEq K]
    (jmin jmax : Int) (k : Int → K) (inMin inMax : Int) (x : Int → K) (i : Int) :
    arrayFilter1DAt .zero jmin jmax k inMin inMax x i =
      some (if jmax + 1 - jmin = 0 then ext inMin inMax x i else ∑ j ∈ Icc jmin jmax, k j * ext inMin inMax x (i - j)) := by
  -- backwards: the test `jmax + 1 - jmin = 0` of the statement becomes `is_trivial()`, the test `do_it` makes
  rw [← isTrivial1D_shortcut jmin jmax k (ext inMin inMax x)]
  unfold arrayFilter1DAt
  split
  · simp only [conv1dTrivialAt_zero]
  · simp only [conv1dZeroAt_eq]

/-- "all boundary condition settings": constant boundary condition = convolution with the nearest-element extension
    (the three loops sharing the running index `j`); the periodic setting is rejected with `error()`. -/
theorem C19_conv_index_ranges_constant {K : Type} [CommSemiring K] [DecidableEq K]
    (jmin jmax : Int) (k : Int → K) (inMin inMax : Int) (x : Int → K) (i : Int) (hin : inMin ≤ inMax) :
    arrayFilter1DAt .constant jmin jmax k inMin inMax x i =
        some (if jmax + 1 - jmin = 0 then x (clamp inMin inMax i) else ∑ j ∈ Icc jmin jmax, k j * x (clamp inMin inMax (i - j)))
      ∧ arrayFilter1DAt .periodic jmin jmax k inMin inMax x i = none := by
  -- backwards, as in `C19_conv_index_ranges`
  rw [← isTrivial1D_shortcut jmin jmax k (fun m => x (clamp inMin inMax m))]
  unfold arrayFilter1DAt
  constructor
  · split
    · simp only [conv1dTrivialAt_constant _ _ _ _ hin]
    · simp only [conv1dConstAt_eq _ _ _ _ _ _ _ hin]
  · split <;> rfl

/-- the loops never read outside the index ranges of kernel and input -/
theorem C19_conv_reads_in_bounds {K : Type} [CommSemiring K]
    (jmin jmax : Int) (k k' : Int → K) (inMin inMax : Int) (x x' : Int → K) (i : Int)
    (hk : ∀ j, jmin ≤ j → j ≤ jmax → k j = k' j) (hx : ∀ m, inMin ≤ m → m ≤ inMax → x m = x' m) :
    conv1dZeroAt jmin jmax k inMin inMax x i = conv1dZeroAt jmin jmax k' inMin inMax x' i := by
  rw [conv1dZeroAt_eq, conv1dZeroAt_eq]
  refine Finset.sum_congr rfl fun j hj => ?_
  rw [mem_Icc] at hj
  rw [hk j hj.1 hj.2, mul_ext_apply, mul_ext_apply]
  split_ifs with h
  · rw [hx _ h.1 h.2]
  · rfl

/-- `ArrayFilter1DUsingConvolutionSymmetricKernel::do_it`, the branch taken when `is_trivial()` answers false (`convSymAt`; the
    shortcut of `arrayFilterSymAt` is not covered), for an output index inside the input range (the class asserts output range =
    input range): the convolution with the symmetrised kernel `k_{|j|}` -/
theorem C19_conv_symmetric {K : Type} [CommSemiring K]
    (jmax : Int) (k : Int → K) (inMin inMax : Int) (x : Int → K) (i : Int) (hj : 0 ≤ jmax) (hi : inMin ≤ i ∧ i ≤ inMax) :
    convSymAt jmax k inMin inMax x i = ∑ j ∈ Icc (-jmax) jmax, k |j| * ext inMin inMax x (i - j) := by
  simp only [convSymAt]
  -- the loops take the `j` in `1..jmax` for which both, only `i + j`, only `i - j` are valid input indices
  rw [sumFromTo_eq_sum_ite (a := 1) (b := jmax) (P := fun j => ¬ j ≤ inMax - i ∧ j ≤ i - inMin) (h := ?minus),
    sumFromTo_eq_sum_ite (a := 1) (b := jmax) (P := fun j => ¬ j ≤ i - inMin ∧ j ≤ inMax - i) (h := ?plus),
    sumFromTo_eq_sum_ite (a := 1) (b := jmax) (P := fun j => j ≤ inMax - i ∧ j ≤ i - inMin) (h := ?both),
    sum_Icc_fold_neg jmax hj, add_assoc, add_assoc, ← Finset.sum_add_distrib, ← Finset.sum_add_distrib, abs_zero, sub_zero,
    ext, if_pos hi]
  case both =>
    intro j
    simp only [le_min_iff]
    omega
  case plus =>
    intro j
    simp only [max_le_iff, le_min_iff, Int.add_one_le_iff, min_lt_iff]
    omega
  case minus =>
    intro j
    simp only [max_le_iff, le_min_iff, Int.add_one_le_iff, min_lt_iff]
    omega
  congr 1
  refine Finset.sum_congr rfl fun j hjm => ?_
  rw [mem_Icc] at hjm
  -- for `j ≥ 1` and `i` inside the input range only one bound of each of `i - j`, `i + j` can fail
  have hm : (inMin ≤ i - j ∧ i - j ≤ inMax) ↔ j ≤ i - inMin := by omega
  have hp : (inMin ≤ i + j ∧ i + j ≤ inMax) ↔ j ≤ inMax - i := by omega
  rw [abs_neg, abs_of_nonneg (by omega), sub_neg_eq_add, mul_ext_apply, mul_ext_apply]
  simp only [hm, hp]
  by_cases ha : j ≤ inMax - i
  · by_cases hb : j ≤ i - inMin
    · -- both `i - j` and `i + j` are valid: the first loop
      rw [if_pos ⟨ha, hb⟩, if_neg fun h => h.1 hb, if_neg fun h => h.1 ha, if_pos hb, if_pos ha, add_zero, add_zero, mul_add]
    · -- only `i + j`: the second loop
      rw [if_neg fun h => hb h.2, if_pos ⟨hb, ha⟩, if_neg fun h => hb h.2, if_neg hb, if_pos ha, zero_add, add_zero, zero_add]
  · by_cases hb : j ≤ i - inMin
    · -- only `i - j`: the third loop
      rw [if_neg fun h => ha h.1, if_neg fun h => ha h.2, if_pos ⟨ha, hb⟩, if_pos hb, if_neg ha, zero_add, zero_add, add_zero]
    · -- neither: no loop
      rw [if_neg fun h => ha h.1, if_neg fun h => ha h.2, if_neg fun h => hb h.2, if_neg hb, if_neg ha, add_zero, add_zero]

/-- `ArrayFilter3DUsingConvolution::do_it` is the 3-D convolution — PARTIAL: only when `is_trivial()` answers false
    (see `C19_conv3d_is_trivial_fails`: `is_trivial()` looks at the outer extent and at the coefficient at the origin only).
    The correspondence run also drives the in-place `operator()(Array&)` (copy, then `do_it` onto the input's own index
    range: ops `conv2ip` / `conv3ip`) and the default-constructed object, so this theorem and `C19_conv2d_partial` speak
    about those calls too (output box = input box). -/
theorem C19_conv3d_partial {K : Type} [CommSemiring K] [DecidableEq K]
    (kr0 kr1 kr2 : R) (k : Int → Int → Int → K) (ir0 ir1 ir2 : R) (x : Int → Int → Int → K) (z y xx : Int)
    (h : isTrivial3D kr0 k = false) :
    arrayFilter3DAt kr0 kr1 kr2 k ir0 ir1 ir2 x z y xx =
      ∑ kk ∈ Icc kr0.lo kr0.hi, ∑ j ∈ Icc kr1.lo kr1.hi, ∑ i ∈ Icc kr2.lo kr2.hi,
        k kk j i * ext3 ir0 ir1 ir2 x (z - kk) (y - j) (xx - i) := by
  rw [arrayFilter3DAt_eq, h, if_neg Bool.false_ne_true]

/-- the same for `ArrayFilter2DUsingConvolution::do_it`, the 3-D filter on arrays with a one-point last index range —
    PARTIAL for the same reason (`C19_conv2d_is_trivial_fails`) -/
theorem C19_conv2d_partial {K : Type} [CommSemiring K] [DecidableEq K]
    (kr0 kr1 : R) (k : Int → Int → K) (ir0 ir1 : R) (x : Int → Int → K) (y xx : Int) (h : isTrivial2D kr0 k = false) :
    arrayFilter2DAt kr0 kr1 k ir0 ir1 x y xx =
      ∑ j ∈ Icc kr0.lo kr0.hi, ∑ i ∈ Icc kr1.lo kr1.hi, k j i * ext2 ir0 ir1 x (y - j) (xx - i) := by
  rw [arrayFilter2DAt_eq_arrayFilter3DAt, C19_conv3d_partial (k := fun a b _ => k a b) (h := h)]
  simp only [Finset.Icc_self, Finset.sum_singleton, sub_zero, ext3_last_singleton]

/-- witness kernel `[[2, 1, 3]]` (outer range `0..0`, inner range `-1..1`) and input row `[1, 2, 3, 4]` -/
def witnessK2 : Int → Int → Int := fun _ i => if i == -1 then 2 else if i == 0 then 1 else 3
def witnessX2 : Int → Int → Int := fun _ b => b + 1

/-- NEGATIVE WITNESS (replayed on the implementation by the harness: known-finding key
    `conv2d3d:is_trivial-looks-only-at-outer-extent-and-coefficient-at-origin`): the 2-D filter returns the input (1)
    where the convolution it claims to be is 2·2 + 1·1 + 3·0 = 5. -/
theorem C19_conv2d_is_trivial_fails :
    arrayFilter2DAt ⟨0, 0⟩ ⟨-1, 1⟩ witnessK2 ⟨0, 0⟩ ⟨0, 3⟩ witnessX2 0 0 = 1 ∧
      conv2dAt ⟨0, 0⟩ ⟨-1, 1⟩ witnessK2 ⟨0, 0⟩ ⟨0, 3⟩ witnessX2 0 0 = 5 := by decide

/-- the 3-D class has the same defect -/
theorem C19_conv3d_is_trivial_fails :
    arrayFilter3DAt ⟨0, 0⟩ ⟨0, 0⟩ ⟨-1, 1⟩ (fun _ => witnessK2) ⟨0, 0⟩ ⟨0, 0⟩ ⟨0, 3⟩ (fun _ => witnessX2) 0 0 0 = 1 ∧
      conv3dAt ⟨0, 0⟩ ⟨0, 0⟩ ⟨-1, 1⟩ (fun _ => witnessK2) ⟨0, 0⟩ ⟨0, 0⟩ ⟨0, 3⟩ (fun _ => witnessX2) 0 0 0 = 5 := by decide


/-- "index-range arithmetic" of `ArrayFilter1DUsingConvolution` — `get_influenced_indices` is SOUND for the filter it belongs
    to: an output element outside the range it reports for the input's index range is what the boundary condition makes of
    data that are not there: 0 (zero boundary condition), resp. (kernel sum)·(edge element of that side) (constant boundary
    condition; an empty kernel is the identity filter, "sum" 1).  Every kernel, every index range. -/
theorem C19_influenced_indices_sound {K : Type} [CommSemiring K] [DecidableEq K]
    (jmin jmax : Int) (k : Int → K) (inMin inMax : Int) (x : Int → K) (i : Int)
    (h : ¬ ((influencedRange ⟨jmin, jmax⟩ ⟨inMin, inMax⟩).lo ≤ i ∧ i ≤ (influencedRange ⟨jmin, jmax⟩ ⟨inMin, inMax⟩).hi)) :
    arrayFilter1DAt .zero jmin jmax k inMin inMax x i = some 0 ∧
    (inMin ≤ inMax → arrayFilter1DAt .constant jmin jmax k inMin inMax x i =
      some ((if jmax + 1 - jmin = 0 then 1 else ∑ j ∈ Icc jmin jmax, k j) *
        x (if i < (influencedRange ⟨jmin, jmax⟩ ⟨inMin, inMax⟩).lo then inMin else inMax))) := by
  rw [influencedRange_eq] at h ⊢
  refine ⟨?_, fun hin => ?_⟩
  · rw [C19_conv_index_ranges]
    by_cases hl : jmax + 1 - jmin = 0
    · simp only [hl, if_true] at h ⊢
      rw [ext, if_neg h]
    · simp only [hl, if_false] at h ⊢
      refine congrArg some (Finset.sum_eq_zero fun j hj => ?_)
      rw [mem_Icc] at hj
      rw [ext, if_neg (by omega), mul_zero]
  · rw [(C19_conv_index_ranges_constant jmin jmax k inMin inMax x i hin).1]
    by_cases hl : jmax + 1 - jmin = 0
    · simp only [hl, if_true] at h ⊢
      rw [one_mul]
      split_ifs with hlt
      · rw [clamp_of_le (by omega)]
      · rw [clamp_of_ge (by omega) hin]
    · simp only [hl, if_false] at h ⊢
      rw [Finset.sum_mul]
      refine congrArg some (Finset.sum_congr rfl fun j hj => ?_)
      rw [mem_Icc] at hj
      split_ifs with hlt
      · rw [clamp_of_le (by omega)]
      · rw [clamp_of_ge (by omega) hin]

/-- `get_influencing_indices` is SOUND: the outputs on `outMin..outMax` depend on the input only through its elements inside
    the range reported for `outMin..outMax` (zero boundary condition), resp. through the values of the edge-extended input
    on that range (constant boundary condition: an edge element stands for all indices beyond it). -/
theorem C19_influencing_indices_sound {K : Type} [CommSemiring K] [DecidableEq K]
    (jmin jmax : Int) (k : Int → K) (inMin inMax : Int) (x x' : Int → K) (outMin outMax i : Int) (hi : outMin ≤ i ∧ i ≤ outMax) :
    ((∀ m, (influencingRange ⟨jmin, jmax⟩ ⟨outMin, outMax⟩).lo ≤ m → m ≤ (influencingRange ⟨jmin, jmax⟩ ⟨outMin, outMax⟩).hi →
        inMin ≤ m → m ≤ inMax → x m = x' m) →
      arrayFilter1DAt .zero jmin jmax k inMin inMax x i = arrayFilter1DAt .zero jmin jmax k inMin inMax x' i) ∧
    (inMin ≤ inMax →
      (∀ m, (influencingRange ⟨jmin, jmax⟩ ⟨outMin, outMax⟩).lo ≤ m → m ≤ (influencingRange ⟨jmin, jmax⟩ ⟨outMin, outMax⟩).hi →
        x (clamp inMin inMax m) = x' (clamp inMin inMax m)) →
      arrayFilter1DAt .constant jmin jmax k inMin inMax x i = arrayFilter1DAt .constant jmin jmax k inMin inMax x' i) := by
  rw [influencingRange_eq]
  refine ⟨fun hx => ?_, fun hin hx => ?_⟩
  · rw [C19_conv_index_ranges, C19_conv_index_ranges]
    by_cases hl : jmax + 1 - jmin = 0
    · simp only [hl, if_true] at hx ⊢
      rw [ext, ext]
      split_ifs with hm
      · rw [hx i hi.1 hi.2 hm.1 hm.2]
      · rfl
    · simp only [hl, if_false] at hx ⊢
      refine congrArg some (Finset.sum_congr rfl fun j hj => ?_)
      rw [mem_Icc] at hj
      rw [ext, ext]
      split_ifs with hm
      · rw [hx (i - j) (by omega) (by omega) hm.1 hm.2]
      · rfl
  · rw [(C19_conv_index_ranges_constant jmin jmax k inMin inMax x i hin).1,
      (C19_conv_index_ranges_constant jmin jmax k inMin inMax x' i hin).1]
    by_cases hl : jmax + 1 - jmin = 0
    · simp only [hl, if_true] at hx ⊢
      rw [hx i hi.1 hi.2]
    · simp only [hl, if_false] at hx ⊢
      refine congrArg some (Finset.sum_congr rfl fun j hj => ?_)
      rw [mem_Icc] at hj
      rw [hx (i - j) (by omega) (by omega)]

/-- … and the influenced range is not larger than necessary ("the union of the supports of the PSF", ArrayFunctionObject.h):
    the response to a unit impulse at `p` holds the first and the last kernel coefficient at its two ends. -/
theorem C19_influenced_indices_attained {K : Type} [CommSemiring K] (jmin jmax : Int) (k : Int → K) (p : Int) (hk : jmin ≤ jmax) :
    conv1dZeroAt jmin jmax k p p (fun m => if m = p then 1 else 0) ((influencedRange ⟨jmin, jmax⟩ ⟨p, p⟩).lo) = k jmin ∧
    conv1dZeroAt jmin jmax k p p (fun m => if m = p then 1 else 0) ((influencedRange ⟨jmin, jmax⟩ ⟨p, p⟩).hi) = k jmax := by
  rw [influencedRange_eq, if_neg (by simp only; omega)]
  -- the response to the impulse is the kernel shifted to `p`: convolution commutes, and the data have the one index `p`
  simp only [conv1dZeroAt_eq, conv_comm, Finset.Icc_self, Finset.sum_singleton, if_true, mul_one, add_sub_cancel_left]
  exact ⟨if_pos ⟨le_rfl, hk⟩, if_pos ⟨hk, le_rfl⟩⟩

/-- the same two soundness statements for `ArrayFilter3DUsingConvolution` (whose queries concern the OUTER index `z`),
    for the filter as coded including its `is_trivial()` shortcut — at full strength (the shortcut, although it misjudges
    kernels, does not read outside the reported ranges). -/
theorem C19_influence_ranges_sound_3d {K : Type} [CommSemiring K] [DecidableEq K]
    (kr0 kr1 kr2 : R) (k : Int → Int → Int → K) (ir0 ir1 ir2 : R) (x x' : Int → Int → Int → K) (or0 : R) (z y xx : Int) :
    (¬ ((influencedRange kr0 ir0).lo ≤ z ∧ z ≤ (influencedRange kr0 ir0).hi) →
      arrayFilter3DAt kr0 kr1 kr2 k ir0 ir1 ir2 x z y xx = 0) ∧
    (or0.lo ≤ z ∧ z ≤ or0.hi →
      (∀ a b c, (influencingRange kr0 or0).lo ≤ a → a ≤ (influencingRange kr0 or0).hi → ir0.lo ≤ a → a ≤ ir0.hi →
        x a b c = x' a b c) →
      arrayFilter3DAt kr0 kr1 kr2 k ir0 ir1 ir2 x z y xx = arrayFilter3DAt kr0 kr1 kr2 k ir0 ir1 ir2 x' z y xx) := by
  rw [arrayFilter3DAt_eq, arrayFilter3DAt_eq]
  by_cases ht : isTrivial3D kr0 k = true
  · -- the shortcut copies the zero-extended input, and both queries return the range they are given
    have htr := (isTrivial3D_iff kr0 k).mp ht
    rw [(ranges_of_trivial htr ir0).1, (ranges_of_trivial htr or0).2, if_pos ht, if_pos ht]
    exact ⟨ext3_eq_zero, fun hz hx => ext3_congr (hx z y xx hz.1 hz.2)⟩
  · have hl : ¬ (kr0.hi + 1 - kr0.lo = 0) := fun h0 => ht ((isTrivial3D_iff kr0 k).mpr (Or.inl h0))
    simp only [influencedRange_eq, influencingRange_eq, if_neg ht, if_neg hl]
    refine ⟨fun h => ?_, fun hz hx => ?_⟩
    · refine Finset.sum_eq_zero fun kk hk => Finset.sum_eq_zero fun j _ => Finset.sum_eq_zero fun i _ => ?_
      rw [mem_Icc] at hk
      rw [ext3_eq_zero (by omega), mul_zero]
    · refine Finset.sum_congr rfl fun kk hk => Finset.sum_congr rfl fun j _ => Finset.sum_congr rfl fun i _ => ?_
      rw [mem_Icc] at hk
      rw [ext3_congr fun h1 h2 => hx (z - kk) (y - j) (xx - i) (by omega) (by omega) h1 h2]

/-- … and for `ArrayFilter2DUsingConvolution` (outer index `y`) -/
theorem C19_influence_ranges_sound_2d {K : Type} [CommSemiring K] [DecidableEq K]
    (kr0 kr1 : R) (k : Int → Int → K) (ir0 ir1 : R) (x x' : Int → Int → K) (or0 : R) (y xx : Int) :
    (¬ ((influencedRange kr0 ir0).lo ≤ y ∧ y ≤ (influencedRange kr0 ir0).hi) → arrayFilter2DAt kr0 kr1 k ir0 ir1 x y xx = 0) ∧
    (or0.lo ≤ y ∧ y ≤ or0.hi →
      (∀ a b, (influencingRange kr0 or0).lo ≤ a → a ≤ (influencingRange kr0 or0).hi → ir0.lo ≤ a → a ≤ ir0.hi → x a b = x' a b) →
      arrayFilter2DAt kr0 kr1 k ir0 ir1 x y xx = arrayFilter2DAt kr0 kr1 k ir0 ir1 x' y xx) := by
  simp only [arrayFilter2DAt_eq_arrayFilter3DAt]
  have h := C19_influence_ranges_sound_3d kr0 kr1 ⟨0, 0⟩ (fun a b _ => k a b) ir0 ir1 ⟨0, 0⟩ (fun a b _ => x a b)
    (fun a b _ => x' a b) or0 y xx 0
  exact ⟨h.1, fun hy hx => h.2 hy fun a b _ => hx a b⟩


/-- "Filtering through the padded-DFT route equals direct convolution with the same kernel whenever … no wrap-around can
    occur": for the model of `ArrayFilterUsingRealDFTWithPadding<1>` (wrap-around placement of the kernel, padded length
    = kernel length, data copied with `index mod padded length`, circular convolution, copied back): if the data fit into
    the padded length and every kernel coefficient that wrap-around could reach from output index `i` is zero (`hnowrap`: for a data
    index `m` with `i - m` outside `kmin..kmax`, the kernel index inside `kmin..kmax` congruent to `i - m`), the
    result at `i` is `Σ_j k_j·in_{i-j}`.  (`hinv` implies `hf`: `realLenOkInverse` is `realLenOkForward` and one more test.)
    The same model function also answers the in-place call (correspondence op `dftfip`) and — via
    `C19_frequency_kernel_same_filter` — the objects built from a kernel in frequency space (ops `dftfq`). -/
theorem C19_circular_eq_linear {K : Type} [CommSemiring K]
    (kmin kmax : Int) (k : Int → K) (inMin inMax : Int) (x : Int → K) (outMin outMax i : Int)
    (hf : realLenOkForward (kmax + 1 - kmin).toNat = true) (hinv : realLenOkInverse (kmax + 1 - kmin).toNat = true)
    (hpos : kmin ≤ kmax) (hfit : inMax + 1 - inMin ≤ kmax + 1 - kmin) (hi : outMin ≤ i ∧ i ≤ outMax)
    (hnowrap : ∀ m, inMin ≤ m → m ≤ inMax → ¬ (kmin ≤ i - m ∧ i - m ≤ kmax) →
      k (kmin + (i - m - kmin) % (kmax + 1 - kmin)) = 0) :
    ∃ f, dftFilter1 kmin kmax k inMin inMax x outMin outMax = some f ∧
      f i = ∑ j ∈ Icc kmin kmax, k j * ext inMin inMax x (i - j) := by
  unfold dftFilter1
  generalize hLdef : (kmax + 1 - kmin).toNat = L at hf hinv ⊢
  have hL : 0 < L := by omega
  have hk : kmax + 1 - kmin = (L : Int) := by omega
  rw [hk] at hnowrap
  have hkp : ∀ r, r < L → (toPeriodic1 L kmin kmax k).getD r 0 = wrapSum L kmin kmax k r :=
    toPeriodic1_getD L kmin kmax k (by omega)
  simp only [hf, hinv, Bool.not_true, Bool.and_false, Bool.false_eq_true, if_false]
  split
  · -- input and output ranges are the padding range: no copy
    rename_i hsame
    simp only [Bool.and_eq_true, beq_iff_eq] at hsame
    obtain ⟨⟨⟨h1, h2⟩, h3⟩, h4⟩ := hsame
    refine ⟨_, rfl, ?_⟩
    have hiL : i % (L : Int) = i := Int.emod_eq_of_lt (by omega) (by omega)
    rw [show i.toNat = (i % (L : Int)).toNat by rw [hiL]]
    exact circConv1At_wrapped L hL kmin kmax hk k inMin inMax x i hnowrap _ _ hkp fun q hq => by
      rw [ofFn_getD_wrapSum L x q hq, h1, h2]
  · refine ⟨_, rfl, ?_⟩
    unfold fromPeriodic1At
    rw [Array.getD_eq_getD_getElem?, Array.getElem?_ofFn, dif_pos (modulo_toNat_lt _ L hL)]
    simp only [Option.getD_some]
    rw [modulo_eq_emod]
    exact circConv1At_wrapped L hL kmin kmax hk k inMin inMax x i hnowrap _ _ hkp
      (toPeriodic1_getD L inMin inMax x (by omega))

/-- the classical sufficient condition `L > (extent of the differences i-m) + (extent of the kernel support)`: kernel
    zero outside `smin..smax`, all differences strictly between `smax - L` and `smin + L` -/
theorem C19_circular_eq_linear_of_support {K : Type} [CommSemiring K]
    (kmin kmax : Int) (k : Int → K) (inMin inMax : Int) (x : Int → K) (outMin outMax i smin smax : Int)
    (hf : realLenOkForward (kmax + 1 - kmin).toNat = true) (hinv : realLenOkInverse (kmax + 1 - kmin).toNat = true)
    (hpos : kmin ≤ kmax) (hfit : inMax + 1 - inMin ≤ kmax + 1 - kmin) (hi : outMin ≤ i ∧ i ≤ outMax)
    (hsupp : ∀ j, kmin ≤ j → j ≤ kmax → ¬ (smin ≤ j ∧ j ≤ smax) → k j = 0)
    (hlo : smax - (kmax + 1 - kmin) < i - inMax) (hhi : i - inMin < smin + (kmax + 1 - kmin)) :
    ∃ f, dftFilter1 kmin kmax k inMin inMax x outMin outMax = some f ∧
      f i = ∑ j ∈ Icc kmin kmax, k j * ext inMin inMax x (i - j) := by
  refine C19_circular_eq_linear kmin kmax k inMin inMax x outMin outMax i hf hinv hpos hfit hi ?_
  intro m hm1 hm2 hout
  have hb : (0 : Int) < kmax + 1 - kmin := by omega
  have h1 := Int.emod_nonneg (i - m - kmin) (ne_of_gt hb)
  have h2 := Int.emod_lt_of_pos (i - m - kmin) hb
  apply hsupp _ (by omega) (by omega)
  intro hin
  -- `i - m` and `kmin + (i-m-kmin) % L` are congruent and less than a period apart
  have heq : i - m = kmin + (i - m - kmin) % (kmax + 1 - kmin) := by
    refine eq_of_emod_eq (L := kmax + 1 - kmin) ?_ (by omega) (by omega)
    rw [Int.add_emod_emod, add_sub_cancel]
  exact hout ⟨by omega, by omega⟩

/-- "… whenever the padded length is at least twice the data length": kernel index range centred (`-(L/2) .. L/2-1`,
    as the class documentation assumes), input and output inside a common range of `n` indices, `2n ≤ L`. -/
theorem C19_dft_route_eq_direct_of_twice {K : Type} [CommSemiring K]
    (kmin kmax : Int) (k : Int → K) (inMin inMax : Int) (x : Int → K) (outMin outMax i a n : Int)
    (hf : realLenOkForward (kmax + 1 - kmin).toNat = true) (hinv : realLenOkInverse (kmax + 1 - kmin).toNat = true)
    (hcentre : kmin = -((kmax + 1 - kmin) / 2)) (htwice : 2 * n ≤ kmax + 1 - kmin) (hn : 0 < n)
    (hin : a ≤ inMin ∧ inMax < a + n) (hout : a ≤ outMin ∧ outMax < a + n) (hi : outMin ≤ i ∧ i ≤ outMax) :
    ∃ f, dftFilter1 kmin kmax k inMin inMax x outMin outMax = some f ∧
      f i = ∑ j ∈ Icc kmin kmax, k j * ext inMin inMax x (i - j) := by
  refine C19_circular_eq_linear kmin kmax k inMin inMax x outMin outMax i hf hinv (by omega) (by omega) hi ?_
  -- every difference `i - m` lies in `-(n-1) .. n-1`, inside the centred kernel range: nothing wraps around
  intro m hm1 hm2 hout'
  exact absurd ⟨by omega, by omega⟩ hout'

/-- the kernel given in FREQUENCY space (`ArrayFilterUsingRealDFTWithPadding(kernel_in_frequency_space)`,
    `set_kernel_in_frequency_space`): `set_padding_range` recovers, from the index range of
    `fourier_for_real_data(kernel)`, exactly the kernel's 0-based index range (every even last length ≥ 2, arbitrary outer
    lengths, any number of dimensions), so the model of the object built from the transformed kernel IS the model of the
    object built from the kernel — `C19_circular_eq_linear`, `C19_circular_eq_linear_of_support`, `C19_dft_route_eq_direct_of_twice` therefore speak about both
    constructors (the implementation side of this identity is the correspondence op `dftfq` and its oracle).
    An index range not starting at 0, or an irregular one, is rejected (`Succeeded::no`, `error()` in the constructor). -/
theorem C19_frequency_kernel_same_filter {K : Type} [Add K] [Mul K] [Zero K] (init : List Nat) (l : Nat) (hl : l % 2 = 0) (hpos : 0 < l)
    (kp0 : List Int → K) (ibox : List R) (x : List Int → K) (obox : List R) (g : Bool) :
    setPaddingRange true (freqBox (zeroBox (init ++ [l]))) = some (zeroBox (init ++ [l])) ∧
    dftFilterFreqND true (freqBox (zeroBox (init ++ [l]))) kp0 ibox x obox g =
      dftFilterND (zeroBox (init ++ [l])) kp0 ibox x obox g := by
  -- (`hpos` is not used: for `l = 0` both sides are the empty range `0..-1`)
  have hpad : setPaddingRange true (freqBox (zeroBox (init ++ [l]))) = some (zeroBox (init ++ [l])) := by
    -- all index ranges start at 0; of the arithmetic only `2 * (l / 2) = l` remains
    simp [setPaddingRange, freqBox, zeroBox_append, mapLast_append_singleton, zeroBox_all_lo, R.len]
    omega
  refine ⟨hpad, ?_⟩
  unfold dftFilterFreqND
  rw [hpad]

/-- NEGATIVE WITNESS: "padded length ≥ 2 × data length" alone is not sufficient when the kernel's index range is not
    centred: kernel `[1,1,1,1]` on `0..3`, data `[1,1]` on `0..1`; the padded-DFT route gives 2 at output index 0
    (the coefficient at index 3 is reached by wrap-around from the difference -1), direct convolution gives 1. -/
theorem C19_twice_alone_insufficient :
    (dftFilter1 0 3 (fun _ => (1 : Int)) 0 1 (fun _ => 1) 0 1).map (fun f => f 0) = some 2 ∧
      conv1dZeroAt 0 3 (fun _ => (1 : Int)) 0 1 (fun _ => 1) 0 = 1 := by decide

/-- NEGATIVE WITNESS (replayed on the implementation: known-finding key
    `real-inverse:last-dimension-of-length-2-rejected`): a last dimension of length 2 is accepted by the forward
    real-data transform and rejected by the inverse one, so the padded-DFT filter with a kernel of length 2 is an error. -/
theorem C19_real_inverse_length2_fails :
    realLenOkForward 2 = true ∧ realLenOkInverse 2 = false ∧
      (dftFilter1 0 1 (fun _ => (1 : Int)) 0 0 (fun _ => 1) 0 0).isNone = true := by decide


/-- "separable filters equal the successive one-dimensional filters in any axis order" (finite Fubini): for 1-D filters
    that act linearly on lines (`IsKernelOp`), all six orders of applying them along the three axes give the same
    array, namely `Σ A0·A1·A2·x`; `separable3` (the order used by `SeparableArrayFunctionObject`) is the first. -/
theorem C19_separable_any_order {K : Type} [CommSemiring K] {f0 f1 f2 : Line1 K} {r0 r1 r2 : R} {A0 A1 A2 : Int → Int → K}
    (h0 : IsKernelOp f0 r0.lo r0.hi A0) (h1 : IsKernelOp f1 r1.lo r1.hi A1) (h2 : IsKernelOp f2 r2.lo r2.hi A2)
    (x : Int → Int → Int → K) (a b c : Int) (ha : r0.lo ≤ a ∧ a ≤ r0.hi) (hb : r1.lo ≤ b ∧ b ≤ r1.hi) (hc : r2.lo ≤ c ∧ c ≤ r2.hi) :
    separable3 f0 f1 f2 r0 r1 r2 x a b c = sepClosed A0 A1 A2 r0 r1 r2 x a b c ∧
    sepAxis1 f1 r1 (sepAxis2 f2 r2 (sepAxis0 f0 r0 x)) a b c = sepClosed A0 A1 A2 r0 r1 r2 x a b c ∧
    sepAxis2 f2 r2 (sepAxis0 f0 r0 (sepAxis1 f1 r1 x)) a b c = sepClosed A0 A1 A2 r0 r1 r2 x a b c ∧
    sepAxis0 f0 r0 (sepAxis2 f2 r2 (sepAxis1 f1 r1 x)) a b c = sepClosed A0 A1 A2 r0 r1 r2 x a b c ∧
    sepAxis1 f1 r1 (sepAxis0 f0 r0 (sepAxis2 f2 r2 x)) a b c = sepClosed A0 A1 A2 r0 r1 r2 x a b c ∧
    sepAxis0 f0 r0 (sepAxis1 f1 r1 (sepAxis2 f2 r2 x)) a b c = sepClosed A0 A1 A2 r0 r1 r2 x a b c := by
  -- Each filter is only ever evaluated at the output index of its own axis (`a`, `b`, `c`), which lies in its line: replace the
  -- filters by their matrices and distribute.  What remains is the triple sum in the nesting of the order of application (last
  -- applied outermost), brought to the nesting `a' b' c'` by exchanging the two outer sums (`sum_comm`) or rotating all three
  -- (`sum_comm_cycle`: innermost to the front); the outermost range is named, or unification of the summand does not terminate.
  simp only [separable3, sepAxis0, sepAxis1, sepAxis2, sepClosed, h0 _ _ ha.1 ha.2, h1 _ _ hb.1 hb.2, h2 _ _ hc.1 hc.2,
    Finset.mul_sum]
  refine ⟨?_, ?_, ?_, ?_, ?_, ?_⟩
  · -- c' b' a'
    rw [Finset.sum_comm (s := Icc r2.lo r2.hi), Finset.sum_comm_cycle (s := Icc r1.lo r1.hi)]
    exact sum3_congr _ _ _ fun _ _ _ => by ring
  · -- b' c' a'
    rw [Finset.sum_comm_cycle (s := Icc r1.lo r1.hi)]
    exact sum3_congr _ _ _ fun _ _ _ => by ring
  · -- c' a' b'
    rw [Finset.sum_comm_cycle (s := Icc r2.lo r2.hi), Finset.sum_comm_cycle (s := Icc r1.lo r1.hi)]
    exact sum3_congr _ _ _ fun _ _ _ => by ring
  · -- a' c' b'
    refine (Finset.sum_congr rfl fun _ _ => Finset.sum_comm).trans ?_
    exact sum3_congr _ _ _ fun _ _ _ => by ring
  · -- b' a' c'
    rw [Finset.sum_comm (s := Icc r1.lo r1.hi)]
    exact sum3_congr _ _ _ fun _ _ _ => by ring
  · exact sum3_congr _ _ _ fun _ _ _ => by ring

/-- the three 1-D filter classes of the library satisfy the hypothesis of `C19_separable_any_order` -/
theorem C19_filters_are_kernel_ops {K : Type} [CommSemiring K] (jmin jmax : Int) (k : Int → K) (lo hi : Int) :
    IsKernelOp (fun lo hi x i => conv1dZeroAt jmin jmax k lo hi x i) lo hi (fun i m => ext jmin jmax k (i - m)) ∧
    (lo ≤ hi → IsKernelOp (fun lo hi x i => conv1dConstAt jmin jmax k lo hi x i) lo hi
      (fun i m => ∑ j ∈ Icc jmin jmax, if clamp lo hi (i - j) = m then k j else 0)) ∧
    (0 ≤ jmax → IsKernelOp (fun lo hi x i => convSymAt jmax k lo hi x i) lo hi (fun i m => ext (-jmax) jmax (fun j => k |j|) (i - m))) := by
  refine ⟨fun x i _ _ => ?_, fun h x i _ _ => ?_, fun hj x i h1 h2 => ?_⟩
  · -- matrix `A i m = k_{i-m}`, zero outside the kernel range
    show conv1dZeroAt jmin jmax k lo hi x i = _
    rw [conv1dZeroAt_eq, conv_comm]
  · -- matrix `A i m = Σ_{j : clamp(i-j) = m} k_j`
    show conv1dConstAt jmin jmax k lo hi x i = _
    rw [conv1dConstAt_eq _ _ _ _ _ _ _ h]
    simp_rw [Finset.sum_mul]
    rw [Finset.sum_comm]
    refine Finset.sum_congr rfl fun j _ => ?_
    have hm : clamp lo hi (i - j) ∈ Icc lo hi := by
      rw [mem_Icc]
      unfold clamp
      omega
    simp_rw [ite_mul, zero_mul]
    rw [Finset.sum_ite_eq, if_pos hm]
  · -- matrix `A i m = k_{|i-m|}` for `|i-m| ≤ jmax`
    show convSymAt jmax k lo hi x i = _
    rw [C19_conv_symmetric _ _ _ _ _ _ hj ⟨h1, h2⟩]
    exact conv_comm (-jmax) jmax (fun j => k |j|) lo hi x i


/-- "filters whose kernel sums to one … preserve the mean of data that is constant over the kernel support": where the
    data equal `c` on the kernel support around `i` (inside the input range), the output is `(Σ_j k_j)·c`, i.e. `c` for
    a unit-sum kernel. -/
theorem C19_unit_sum_preserves_mean {K : Type} [CommSemiring K]
    (jmin jmax : Int) (k : Int → K) (inMin inMax : Int) (x : Int → K) (i : Int) (c : K)
    (hc : ∀ j, jmin ≤ j → j ≤ jmax → (inMin ≤ i - j ∧ i - j ≤ inMax) ∧ x (i - j) = c) :
    conv1dZeroAt jmin jmax k inMin inMax x i = (∑ j ∈ Icc jmin jmax, k j) * c ∧
      (∑ j ∈ Icc jmin jmax, k j = 1 → conv1dZeroAt jmin jmax k inMin inMax x i = c) := by
  have h : conv1dZeroAt jmin jmax k inMin inMax x i = (∑ j ∈ Icc jmin jmax, k j) * c := by
    rw [conv1dZeroAt_eq, Finset.sum_mul]
    refine Finset.sum_congr rfl fun j hj => ?_
    rw [mem_Icc] at hj
    rw [ext, if_pos (hc j hj.1 hj.2).1, (hc j hj.1 hj.2).2]
  exact ⟨h, fun hs => by rw [h, hs, one_mul]⟩


/-- `bitreversal` (the `j`-counter loop) applied to an array of length `2^b` moves `data[rev p]` to position `p`, for
    every `b` — it is the bit-reversal permutation … -/
theorem C19_bitReversal_perm {K : Type} (b : Nat) (a : Array K) (ha : a.size = 2 ^ b) (p : Nat) (hp : p < 2 ^ b) :
    (bitReversal a).size = 2 ^ b ∧ (bitReversal a)[p]? = a[rev b p]? ∧ rev b p < 2 ^ b :=
  ⟨bitReversal_size b a ha, bitReversal_getElem? b a ha p hp, rev_lt b p⟩

/-- … which is an involution: applying `bitreversal` twice restores the array -/
theorem C19_bitReversal_involutive {K : Type} (b : Nat) (a : Array K) (ha : a.size = 2 ^ b) (p : Nat) (hp : p < 2 ^ b) :
    rev b (rev b p) = p ∧ (bitReversal (bitReversal a))[p]? = a[p]? := by
  refine ⟨rev_rev b p hp, ?_⟩
  rw [bitReversal_getElem? b (bitReversal a) (bitReversal_size b a ha) p hp,
    bitReversal_getElem? b a ha (rev b p) (rev_lt b p), rev_rev b p hp]

/-- "the real-data and complex-data transforms agree" — index part: `pos_frequencies_to_all` (1-D) rebuilds every
    Hermitian-symmetric spectrum `F` (`F_{2n-i} = conj F_i`) from its non-negative frequencies `0..n`. -/
theorem C19_posFreqToAll_hermitian {K : Type} [Inhabited K] (conj : K → K) (n : Nat) (hn : 0 < n) (c : Array K)
    (hc : c.size = n + 1) (F : Nat → K) (hF : ∀ i, i ≤ n → c[i]? = some (F i))
    (hherm : ∀ i, 0 < i → i ≤ n → F (2 * n - i) = conj (F i)) :
    (posFreqToAll1 conj c).size = 2 * n ∧ ∀ p, p < 2 * n → (posFreqToAll1 conj c)[p]? = some (F p) := by
  unfold posFreqToAll1
  have hn1 : c.size - 1 = n := by rw [hc, Nat.add_sub_cancel]
  simp only [hn1]
  generalize hr : List.foldl _ _ (List.range c.size) = r
  -- invariant of the loop over `i`: the positions `0 .. t-1` and `2n-t+1 .. 2n-1` are final
  refine foldl_range_induction (fun t (res : Array K) =>
    res.size = 2 * n ∧ ∀ p, p < 2 * n → (p < t ∨ 2 * n - t < p) → res[p]? = some (F p)) ?_ ?_ ?_ hr
  · exact ⟨Array.size_replicate, fun p hp h => by omega⟩
  · intro t res htc ⟨hsz, hget⟩
    have htn : t ≤ n := by omega
    have hct : c[t]! = F t := by rw [getElem!_def, hF t htn]
    rw [hct]
    by_cases ht0 : t > 0
    · -- the index map `i ↦ modulo(2n - i, 2n)` is `i ↦ 2n - i`
      have hmod : (modulo (Int.ofNat (2 * n) - Int.ofNat t) (Int.ofNat (2 * n))).toNat = 2 * n - t := by
        rw [Int.ofNat_eq_natCast, Int.ofNat_eq_natCast, modulo_eq_emod, Int.emod_eq_of_lt (by omega) (by omega)]
        omega
      rw [if_pos ht0, hmod]
      refine ⟨by rw [Array.size_setIfInBounds, Array.size_setIfInBounds, hsz], fun p hp h => ?_⟩
      rw [Array.getElem?_setIfInBounds, Array.getElem?_setIfInBounds, Array.size_setIfInBounds, hsz]
      by_cases h1 : 2 * n - t = p
      · subst h1
        rw [if_pos rfl, if_pos hp, hherm t ht0 htn]
      · rw [if_neg h1]
        by_cases h2 : t = p
        · subst h2
          rw [if_pos rfl, if_pos hp]
        · rw [if_neg h2]
          exact hget p hp (by omega)
    · rw [if_neg ht0]
      refine ⟨by rw [Array.size_setIfInBounds, hsz], fun p hp h => ?_⟩
      rw [Array.getElem?_setIfInBounds, hsz]
      by_cases h2 : t = p
      · subst h2
        rw [if_pos rfl, if_pos hp]
      · rw [if_neg h2]
        exact hget p hp (by omega)
  · intro res ⟨hsz, hget⟩
    exact ⟨hsz, fun p hp => hget p hp (by omega)⟩

/-- "the inverse discrete Fourier transform of the forward transform returns the input" — at the level of the
    definition `r_k = Σ_j c_j ω^{jk}` (fourier.h), for every length `n` and every primitive `n`-th root of unity in an
    integral domain: transforming with `ω⁻¹` after `ω` gives `n·x` (`inverse_fourier` divides by `n`). -/
theorem C19_dft_inverse {K : Type} [CommRing K] [IsDomain K] (ω ωi : K) (n : Nat) (hω : IsPrimitiveRoot ω n) (hinv : ω * ωi = 1)
    (x : Nat → K) (j : Nat) (hj : j < n) :
    dftSpec1 (fun m => ωi ^ m) n (fun k => dftSpec1 (fun m => ω ^ m) n x k) j = (n : K) * x j :=
  dft_inverse ω ωi n hω hinv x j hj

/-- Plancherel in bilinear form, over any integral domain -/
theorem C19_dft_plancherel {K : Type} [CommRing K] [IsDomain K] (ω ωi : K) (n : Nat) (hω : IsPrimitiveRoot ω n) (hinv : ω * ωi = 1)
    (x y : Nat → K) :
    ∑ k ∈ range n, dftSpec1 (fun m => ω ^ m) n x k * dftSpec1 (fun m => ωi ^ m) n y k = (n : K) * ∑ j ∈ range n, x j * y j := by
  have hωin : ωi ^ n = 1 := pow_eq_one_of_mul_eq_one hinv hω.pow_eq_one
  -- `Σ_k X_k Σ_m y_m ωi^{mk} = Σ_m y_m (F_ωi X)_m`, and `F_ωi X = n x`
  simp_rw [dftSpec1_eq_sum ωi n hωin y, Finset.mul_sum]
  rw [Finset.sum_comm]
  refine Finset.sum_congr rfl fun m hm => ?_
  have h := dft_inverse ω ωi n hω hinv x m (mem_range.mp hm)
  rw [dftSpec1_eq_sum ωi n hωin] at h
  calc ∑ k ∈ range n, dftSpec1 (fun m => ω ^ m) n x k * (y m * ωi ^ (m * k))
      = y m * ∑ k ∈ range n, dftSpec1 (fun m => ω ^ m) n x k * ωi ^ (k * m) := by
        rw [Finset.mul_sum]
        exact Finset.sum_congr rfl fun k _ => by
          rw [mul_comm m k]
          ring
    _ = (n : K) * (x m * y m) := by
      rw [h]
      ring

/-- "Parseval's identity holds": over ℂ, any length, any primitive root (`e^{±2πi/n}`) -/
theorem C19_dft_parseval (ω : ℂ) (n : Nat) (hω : IsPrimitiveRoot ω n) (hn : n ≠ 0) (x : Nat → ℂ) :
    ∑ k ∈ range n, ‖dftSpec1 (fun m => ω ^ m) n x k‖ ^ 2 = (n : ℝ) * ∑ j ∈ range n, ‖x j‖ ^ 2 := by
  have hωn : ω ^ n = 1 := hω.pow_eq_one
  have hnorm : ‖ω‖ = 1 := Complex.norm_eq_one_of_pow_eq_one hωn hn
  have hinv : ω * (starRingEnd ℂ) ω = 1 := by
    rw [← Complex.inv_eq_conj hnorm]
    exact mul_inv_cancel₀ (hω.ne_zero hn)
  -- the transform with `conj ω` of the conjugated data is the conjugate of the transform: Plancherel with `y = conj x`
  have hconj : ∀ k, (starRingEnd ℂ) (dftSpec1 (fun m => ω ^ m) n x k)
      = dftSpec1 (fun m => ((starRingEnd ℂ) ω) ^ m) n (fun j => (starRingEnd ℂ) (x j)) k := by
    intro k
    have hcn : ((starRingEnd ℂ) ω) ^ n = 1 := by rw [← map_pow, hωn, map_one]
    rw [dftSpec1_eq_sum ω n hωn, dftSpec1_eq_sum _ n hcn, map_sum]
    exact Finset.sum_congr rfl fun j _ => by rw [map_mul, map_pow]
  have key := C19_dft_plancherel ω ((starRingEnd ℂ) ω) n hω hinv x (fun j => (starRingEnd ℂ) (x j))
  simp_rw [← hconj, Complex.mul_conj, Complex.normSq_eq_norm_sq] at key
  have : ((∑ k ∈ range n, ‖dftSpec1 (fun m => ω ^ m) n x k‖ ^ 2 : ℝ) : ℂ) = (((n : ℝ) * ∑ j ∈ range n, ‖x j‖ ^ 2 : ℝ) : ℂ) := by
    push_cast at key ⊢
    exact key
  exact_mod_cast this

/-- "the transform of a unit impulse is constant": an impulse at `p` transforms to the phase ramp `ω^{pk}` (modulus 1),
    an impulse at the origin to the constant 1 -/
theorem C19_dft_impulse_const {K : Type} [CommRing K] (w : K) (n : Nat) (hw : w ^ n = 1) (p : Nat) (hp : p < n) (k : Nat) :
    dftSpec1 (fun m => w ^ m) n (fun j => if j = p then 1 else 0) k = w ^ (p * k) ∧
      dftSpec1 (fun m => w ^ m) n (fun j => if j = 0 then 1 else 0) k = 1 := by
  have h : ∀ q, q < n → dftSpec1 (fun m => w ^ m) n (fun j => if j = q then 1 else 0) k = w ^ (q * k) := fun q hq => by
    simp only [dftSpec1_eq_sum w n hw, ite_mul, one_mul, zero_mul]
    rw [Finset.sum_ite_eq', if_pos (mem_range.mpr hq)]
  refine ⟨h p hp, ?_⟩
  rw [h 0 (by omega), zero_mul, pow_zero]

/-- the iterative radix-2 butterfly loop of `fourier_1d` (bit reversal, then for every `k` the two inner
    loops with the table `exparray[i] = ω^{i·N/(2·2^k)}`) computes the DFT of the definition, `r_k = Σ_j c_j ω^{jk}`, for
    EVERY `nn` (length `N = 2^nn`) and every primitive `N`-th root of unity `ω` of an integral domain. -/
theorem C19_fft_eq_dft {K : Type} [CommRing K] [IsDomain K] [Inhabited K] (nn : Nat) (ω : K) (hω : IsPrimitiveRoot ω (2 ^ nn))
    (c : Array K) (hc : c.size = 2 ^ nn) :
    ∃ r, fourier1d (twiddle nn ω) c = some r ∧ r.size = 2 ^ nn ∧
      ∀ k, k < 2 ^ nn → r[k]? = some (dftSpec1 (fun m => ω ^ m) (2 ^ nn) (fun j => c[j]!) k) := by
  have hbs := bitReversal_size nn c hc
  unfold fourier1d
  rw [if_neg (by rw [hc]; positivity)]
  -- `log2 (2 ^ nn) = nn`, so the `error()` branch is not taken
  simp only [hbs, Nat.log2_two_pow, ne_eq, not_true_eq_false, if_false]
  -- after all `nn` passes there is one block, holding the transform of the whole array
  obtain ⟨hsz, hget⟩ := fft_stages nn ω hω c hc nn 0 rfl
  refine ⟨_, rfl, hsz, fun k hk => ?_⟩
  have h0 := hget 0 k (by simp) hk
  rw [Nat.zero_mul, Nat.add_zero] at h0
  rw [Array.getElem?_eq_getElem (by rw [hsz]; exact hk), ← getElem!_pos _ k (by rw [hsz]; exact hk), h0,
    dftSpec1_eq_sum ω (2 ^ nn) hω.pow_eq_one]
  simp only [rev, pow_zero, mul_one, Nat.zero_add]

/-- "the inverse discrete Fourier transform of the forward transform returns the input" — for the MODEL of the code:
    `fourier_1d` with the tables of `ω`, followed by `inverse_fourier` (`fourier_1d` with the tables of `ω⁻¹`, i.e. `-sign`,
    then division by the number of points), returns the input array, for every power-of-two length, over any field. -/
theorem C19_inverse_fourier_inverts {K : Type} [Field K] [Inhabited K] (nn : Nat) (ω ωi : K) (hω : IsPrimitiveRoot ω (2 ^ nn))
    (hinv : ω * ωi = 1) (c : Array K) (hc : c.size = 2 ^ nn) :
    ∃ r, fourier1d (twiddle nn ω) c = some r ∧
      ∃ r', inverseFourierND (twiddle nn ωi) [2 ^ nn] r = some r' ∧ r'.size = 2 ^ nn ∧ ∀ k, k < 2 ^ nn → r'[k]? = c[k]? := by
  have hωi : IsPrimitiveRoot ωi (2 ^ nn) := by
    rw [eq_inv_of_mul_eq_one_right hinv]
    exact hω.inv
  obtain ⟨r, hr, hrs, hrget⟩ := C19_fft_eq_dft nn ω hω c hc
  obtain ⟨r', hr', hrs', hrget'⟩ := C19_fft_eq_dft nn ωi hωi r hrs
  refine ⟨r, hr, ?_⟩
  unfold inverseFourierND fourierND
  rw [hr']
  refine ⟨_, rfl, by simp [hrs'], fun k hk => ?_⟩
  have hx : ∀ j, j < 2 ^ nn → r[j]! = dftSpec1 (fun m => ω ^ m) (2 ^ nn) (fun j => c[j]!) j := fun j hj => by
    rw [getElem!_def, hrget j hj]
  -- the number of points is invertible in a field that has a primitive root of that order
  have hne : ((2 ^ nn : Nat) : K) ≠ 0 := hω.neZero'.ne
  rw [Array.getElem?_map, hrget' k hk, Option.map_some, Array.getElem?_eq_getElem (by omega),
    dftSpec1_congr _ _ _ _ hx k, dft_inverse ω ωi (2 ^ nn) hω hinv _ k hk, getElem!_pos c k (by omega),
    show prodNat [2 ^ nn] = 2 ^ nn by simp [prodNat], mul_div_cancel_left₀ _ hne]

/-- The discrete convolution theorem, the link between "inverse transform of the product of the two transforms" (what
    `ArrayFilterUsingRealDFTWithPadding::do_it` executes) and the circular convolution `circConv1At` by which the model
    replaces it: at the level of the definition `r_k = Σ_j c_j ω^{jk}` (fourier.h), for every length `L`, over any
    integral domain with a primitive `L`-th root of unity `ω` and `ω·ωi = 1` (ℂ with `e^{±2πi/L}`, or a finite field:
    number-theoretic transform), the transform with `ωi` of the pointwise product of the transforms with `ω` of the
    wrapped kernel `kp` and the wrapped data `xp` is `L · (kp ⊛ xp)`; `inverse_fourier` divides by `L`
    (`C19_convolution_theorem_inverse`).  The array sizes are immaterial (positions beyond the size read as 0 on both
    sides).  (`C19_fft_eq_dft` says that the butterfly transforms compute this `dftSpec1` for every power-of-two length; no theorem
    composes the two.) -/
theorem C19_convolution_theorem_domain {K : Type} [CommRing K] [IsDomain K] (ω ωi : K) (L : Nat) (hω : IsPrimitiveRoot ω L)
    (hinv : ω * ωi = 1) (kp xp : Array K) (p : Nat) (hp : p < L) :
    dftSpec1 (fun m => ωi ^ m) L (fun q => dftSpec1 (fun m => ω ^ m) L (fun j => kp.getD j 0) q *
      dftSpec1 (fun m => ω ^ m) L (fun j => xp.getD j 0) q) p = (L : K) * circConv1At L kp xp p := by
  rw [dft_convolution ω ωi L hω hinv _ _ p hp, circConv1At_eq_sum_mod]

/-- the case `K = ℂ`, `ωi = ω⁻¹`, for arrays of the padded length -/
theorem C19_convolution_theorem :
  ∀ (L : Nat) (ω : ℂ), IsPrimitiveRoot ω L → ∀ (kp xp : Array ℂ), kp.size = L → xp.size = L → ∀ p, p < L →
    dftSpec1 (fun m => ω⁻¹ ^ m) L (fun q => dftSpec1 (fun m => ω ^ m) L (fun j => kp.getD j 0) q *
      dftSpec1 (fun m => ω ^ m) L (fun j => xp.getD j 0) q) p = (L : ℂ) * circConv1At L kp xp p :=
  fun L ω hω kp xp _ _ p hp =>
    C19_convolution_theorem_domain ω ω⁻¹ L hω (mul_inv_cancel₀ (hω.ne_zero (by omega))) kp xp p hp

/-- … and with the division by the number of points that `inverse_fourier` performs, over any field in which `L ≠ 0`:
    the inverse transform of the product of the transforms IS the circular convolution -/
theorem C19_convolution_theorem_inverse {K : Type} [Field K] (ω : K) (L : Nat) (hω : IsPrimitiveRoot ω L) (hL : (L : K) ≠ 0)
    (kp xp : Array K) (p : Nat) (hp : p < L) :
    dftSpec1 (fun m => ω⁻¹ ^ m) L (fun q => dftSpec1 (fun m => ω ^ m) L (fun j => kp.getD j 0) q *
      dftSpec1 (fun m => ω ^ m) L (fun j => xp.getD j 0) q) p / (L : K) = circConv1At L kp xp p := by
  rw [C19_convolution_theorem_domain ω ω⁻¹ L hω (mul_inv_cancel₀ (hω.ne_zero (by omega))) kp xp p hp,
    mul_div_cancel_left₀ _ hL]


example : influencedRange ⟨-1, 2⟩ ⟨0, 9⟩ = ⟨-1, 11⟩ ∧ influencingRange ⟨-1, 2⟩ ⟨3, 5⟩ = ⟨1, 6⟩ ∧
    influencedRange ⟨0, -1⟩ ⟨0, 9⟩ = ⟨0, 9⟩ := by decide
example : arrayFilter1DAt .zero (-1) 2 (fun j => j + 2) 0 9 (fun m => m) 12 = some 0 ∧
    arrayFilter1DAt .constant (-1) 2 (fun j => j + 2) 0 9 (fun m => m) 12 = some ((∑ j ∈ Icc (-1 : Int) 2, (j + 2)) * 9) := by
  have h := C19_influenced_indices_sound (-1) 2 (fun j : Int => j + 2) 0 9 (fun m => m) 12 (by decide)
  refine ⟨h.1, ?_⟩
  have h2 := h.2 (by decide)
  rw [h2]
  decide
example : arrayFilter1DAt .zero (-1) 2 (fun j => j + 2) 0 9 (fun m => m) 4 =
    arrayFilter1DAt .zero (-1) 2 (fun j => j + 2) 0 9 (fun m => if m = 0 then 100 else m) 4 :=
  (C19_influencing_indices_sound (-1) 2 (fun j : Int => j + 2) 0 9 (fun m => m) (fun m => if m = 0 then 100 else m) 3 5 4 (by decide)).1
    (by
      intro m h1 h2 _ _
      have : (1 : Int) ≤ m := h1
      rw [if_neg (by omega)])
example : freqBox (zeroBox [4, 8]) = [⟨0, 3⟩, ⟨0, 4⟩] ∧ setPaddingRange true [⟨0, 3⟩, ⟨0, 4⟩] = some [⟨0, 3⟩, ⟨0, 7⟩] ∧
    setPaddingRange true [⟨1, 4⟩, ⟨0, 4⟩] = none ∧ setPaddingRange false [⟨0, 3⟩, ⟨0, 4⟩] = none := by decide
example : setPaddingRange true (freqBox (zeroBox ([4] ++ [8]))) = some (zeroBox ([4] ++ [8])) :=
  (C19_frequency_kernel_same_filter (K := Int) [4] 8 (by decide) (by decide) (fun _ => 0) [] (fun _ => 0) [] true).1

example : ∃ f, dftFilter1 (-4) 3 (fun j => j + 5) 2 5 (fun m => m * m) 2 5 = some f ∧
    f 3 = ∑ j ∈ Icc (-4 : Int) 3, (j + 5) * ext 2 5 (fun m => m * m) (3 - j) :=
  C19_dft_route_eq_direct_of_twice (-4) 3 _ 2 5 _ 2 5 3 2 4 (by decide) (by decide) (by decide) (by decide) (by decide)
    (by decide) (by decide) (by decide)

example : ∃ f, dftFilter1 0 7 (fun j => if j ≤ 2 then j + 1 else 0) 0 3 (fun m => m + 7) 0 5 = some f ∧
    f 1 = ∑ j ∈ Icc (0 : Int) 7, (if j ≤ 2 then j + 1 else 0) * ext 0 3 (fun m => m + 7) (1 - j) :=
  C19_circular_eq_linear_of_support 0 7 _ 0 3 _ 0 5 1 0 2 (by decide) (by decide) (by decide) (by decide) (by decide)
    (by
      intro j h1 h2 h3
      rw [if_neg (by omega)])
    (by decide) (by decide)

/-- `-1` is a primitive 2nd root of unity in `ℤ`: the DFT theorems are not vacuous -/
example : IsPrimitiveRoot (-1 : ℤ) 2 ∧ (-1 : ℤ) * (-1) = 1 :=
  ⟨IsPrimitiveRoot.neg_one 0 (by decide), by decide⟩

example : ∃ r, fourier1d (twiddle 1 (-1 : ℤ)) #[3, 5] = some r ∧ r.size = 2 ^ 1 ∧
    ∀ k, k < 2 ^ 1 → r[k]? = some (dftSpec1 (fun m => (-1 : ℤ) ^ m) (2 ^ 1) (fun j => (#[3, 5] : Array ℤ)[j]!) k) :=
  C19_fft_eq_dft 1 (-1 : ℤ)
    (IsPrimitiveRoot.neg_one 0 (by decide)) #[3, 5] rfl
example : dftSpec1 (fun m => (-1 : ℤ) ^ m) 2 (fun j => (#[3, 5] : Array ℤ)[j]!) 0 = 8 ∧
    dftSpec1 (fun m => (-1 : ℤ) ^ m) 2 (fun j => (#[3, 5] : Array ℤ)[j]!) 1 = -2 := by decide

example : dftSpec1 (fun m => Complex.I⁻¹ ^ m) 4 (fun q =>
      dftSpec1 (fun m => Complex.I ^ m) 4 (fun j => (#[1, 2, 0, -1] : Array ℂ).getD j 0) q *
      dftSpec1 (fun m => Complex.I ^ m) 4 (fun j => (#[3, 0, Complex.I, 5] : Array ℂ).getD j 0) q) 2
    = ((4 : Nat) : ℂ) * circConv1At 4 #[1, 2, 0, -1] #[3, 0, Complex.I, 5] 2 :=
  C19_convolution_theorem 4 Complex.I Complex.isPrimitiveRoot_I #[1, 2, 0, -1] #[3, 0, Complex.I, 5] rfl rfl 2 (by decide)

/-- over `ℤ` with `ω = ωi = -1`, `L = 2` both sides of the convolution theorem can also be evaluated -/
example : dftSpec1 (fun m => (-1 : ℤ) ^ m) 2 (fun q => dftSpec1 (fun m => (-1 : ℤ) ^ m) 2 (fun j => (#[3, 5] : Array ℤ).getD j 0) q *
      dftSpec1 (fun m => (-1 : ℤ) ^ m) 2 (fun j => (#[2, 7] : Array ℤ).getD j 0) q) 1 = ((2 : Nat) : ℤ) * circConv1At 2 #[3, 5] #[2, 7] 1 :=
  C19_convolution_theorem_domain (-1 : ℤ) (-1) 2
    (IsPrimitiveRoot.neg_one 0 (by decide)) (by decide) #[3, 5] #[2, 7] 1 (by decide)
example : (List.range 2).map (circConv1At 2 (#[3, 5] : Array ℤ) #[2, 7]) = [41, 31] ∧
    (List.range 2).map (dftSpec1 (fun m => (-1 : ℤ) ^ m) 2 (fun q => dftSpec1 (fun m => (-1 : ℤ) ^ m) 2 (fun j => (#[3, 5] : Array ℤ).getD j 0) q *
      dftSpec1 (fun m => (-1 : ℤ) ^ m) 2 (fun j => (#[2, 7] : Array ℤ).getD j 0) q)) = [82, 62] := by decide

/-- every power-of-two length has a primitive root over ℂ (`e^{2πi/N}`): the theorems cover the lengths 2 … 1024 and beyond -/
example (nn : Nat) : IsPrimitiveRoot (Complex.exp (2 * Real.pi * Complex.I / ((2 ^ nn : Nat) : ℂ))) (2 ^ nn) :=
  Complex.isPrimitiveRoot_exp (2 ^ nn) (by positivity)

example : conv1dZeroAt (-1) 1 (fun j => if j = 0 then (2 : Int) else -1 + 1) 0 9 (fun m => if 2 ≤ m ∧ m ≤ 4 then 7 else m) 3 =
    (∑ j ∈ Icc (-1 : Int) 1, (if j = 0 then (2 : Int) else -1 + 1)) * 7 :=
  (C19_unit_sum_preserves_mean (-1) 1 _ 0 9 _ 3 7 (by
    intro j h1 h2
    constructor
    · omega
    · rw [if_pos (by omega)])).1

example : (List.range 8).map (rev 3) = [0, 4, 2, 6, 1, 5, 3, 7] := by decide
example : (bitReversal #[10, 11, 12, 13])[1]? = some 12 := by
  have h := (C19_bitReversal_perm 2 #[10, 11, 12, 13] rfl 1 (by decide)).2.1
  rw [h]
  rfl

example : IsKernelOp (fun lo hi x i => conv1dZeroAt 0 1 (fun j => j + 1) lo hi x i) 0 3 (fun i m => ext 0 1 (fun j => j + 1) (i - m)) :=
  (C19_filters_are_kernel_ops 0 1 (fun j : Int => j + 1) 0 3).1

end StirVerif.C19
