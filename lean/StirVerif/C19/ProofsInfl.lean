/-
C19 — proofs: what the index-range queries of the filter classes (`get_influencing_indices`, `get_influenced_indices`)
say in terms of inequalities, and the list facts about index boxes (`zeroBox`, `mapLast` on a box with its last range named) that
`C19_frequency_kernel_same_filter` uses.
-/
import StirVerif.C19.ProofsConv

namespace StirVerif.C19

theorem influencedRange_eq (kr inp : R) :
    influencedRange kr inp = if kr.hi + 1 - kr.lo = 0 then inp else ⟨inp.lo + kr.lo, inp.hi + kr.hi⟩ := by
  simp only [influencedRange, R.len, beq_iff_eq]

theorem influencingRange_eq (kr out : R) :
    influencingRange kr out = if kr.hi + 1 - kr.lo = 0 then out else ⟨out.lo - kr.hi, out.hi - kr.lo⟩ := by
  simp only [influencingRange, R.len, beq_iff_eq]

/-- a kernel range that `is_trivial()` accepts (empty, or the single index 0) makes both queries the identity.
    (`P` stands for the test of the coefficient at the origin, so that the right-hand sides of `isTrivial1D_iff`, `isTrivial3D_iff` fit as they are.) -/
theorem ranges_of_trivial {kr : R} {P : Prop} (h : kr.hi + 1 - kr.lo = 0 ∨ (kr.hi + 1 - kr.lo = 1 ∧ kr.lo = 0 ∧ P)) (r : R) :
    influencedRange kr r = r ∧ influencingRange kr r = r := by
  rw [influencedRange_eq, influencingRange_eq]
  rcases h with h0 | ⟨h1, h2, -⟩
  · rw [if_pos h0, if_pos h0]
    exact ⟨rfl, rfl⟩
  · obtain hhi : kr.hi = 0 := by omega
    rw [if_neg (by omega), if_neg (by omega), h2, hhi, add_zero, add_zero, sub_zero, sub_zero]
    exact ⟨rfl, rfl⟩

theorem mapLast_append_singleton {α : Type} (f : α → α) (init : List α) (a : α) :
    mapLast f (init ++ [a]) = init ++ [f a] := by
  induction init with
  | nil => rfl
  | cons b rest ih =>
    cases rest with
    | nil => rfl
    | cons c rest' =>
      show b :: mapLast f ((c :: rest') ++ [a]) = _
      rw [ih]
      rfl

theorem zeroBox_append (init : List Nat) (l : Nat) :
    zeroBox (init ++ [l]) = zeroBox init ++ [⟨0, Int.ofNat l - 1⟩] := by
  unfold zeroBox
  rw [List.map_append]
  rfl

theorem zeroBox_all_lo (sizes : List Nat) : (zeroBox sizes).all (fun r => r.lo == 0) = true := by
  unfold zeroBox
  rw [List.all_map]
  exact List.all_eq_true.mpr fun _ _ => rfl

end StirVerif.C19
