/-
C19 — separable filters: what it means that a one-dimensional filter acts linearly on lines (`IsKernelOp`), and the closed form
(`sepClosed`) that successive filters along the three axes reach in every axis order (`C19_separable_any_order`, finite Fubini).
-/
import StirVerif.C19.ProofsConv

namespace StirVerif.C19
open Finset

section
variable {K : Type} [CommSemiring K]

/-- a 1-D in-place filter that acts on lines with index range `lo..hi` as the linear map with matrix `A`
    (`out_i = Σ_m A i m · in_m` for the output indices `i` of the line) -/
def IsKernelOp (f : Line1 K) (lo hi : Int) (A : Int → Int → K) : Prop :=
  ∀ (x : Int → K) (i : Int), lo ≤ i → i ≤ hi → f lo hi x i = ∑ m ∈ Icc lo hi, A i m * x m

theorem sum3_congr {α β γ : Type} (s : Finset α) (t : Finset β) (u : Finset γ) {F G : α → β → γ → K}
    (h : ∀ a b c, F a b c = G a b c) : ∑ a ∈ s, ∑ b ∈ t, ∑ c ∈ u, F a b c = ∑ a ∈ s, ∑ b ∈ t, ∑ c ∈ u, G a b c :=
  Finset.sum_congr rfl fun a _ => Finset.sum_congr rfl fun b _ => Finset.sum_congr rfl fun c _ => h a b c

def sepClosed (A0 A1 A2 : Int → Int → K) (r0 r1 r2 : R) (x : Int → Int → Int → K) (a b c : Int) : K :=
  ∑ a' ∈ Icc r0.lo r0.hi, ∑ b' ∈ Icc r1.lo r1.hi, ∑ c' ∈ Icc r2.lo r2.hi, A0 a a' * A1 b b' * A2 c c' * x a' b' c'

end
end StirVerif.C19
