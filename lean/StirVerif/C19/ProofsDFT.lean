/-
C19 — proofs: the discrete Fourier transform *as defined* (`dftSpec1`, the formula quoted in fourier.h and evaluated by
the correspondence run against the implementation): orthogonality of the characters and inversion.
-/
import StirVerif.C19.ProofsConv
import Mathlib.RingTheory.RootsOfUnity.PrimitiveRoots
import Mathlib.Algebra.Ring.GeomSum

namespace StirVerif.C19
open Finset

section
variable {K : Type} [CommRing K]

theorem dftSpec1_eq_sum (w : K) (n : Nat) (hw : w ^ n = 1) (x : Nat → K) (k : Nat) :
    dftSpec1 (fun m => w ^ m) n x k = ∑ j ∈ range n, x j * w ^ (j * k) := by
  unfold dftSpec1
  rw [foldl_range_add (fun j => x j * w ^ (j * k % n)), zero_add]
  refine Finset.sum_congr rfl fun j _ => ?_
  rw [← pow_eq_pow_mod _ hw]

theorem dftSpec1_congr (w : Nat → K) (n : Nat) (x y : Nat → K) (h : ∀ j, j < n → x j = y j) (k : Nat) :
    dftSpec1 w n x k = dftSpec1 w n y k := by
  unfold dftSpec1
  rw [foldl_range_add (fun j => x j * w (j * k % n)), foldl_range_add (fun j => y j * w (j * k % n))]
  exact congrArg _ (Finset.sum_congr rfl fun j hj => by rw [h j (mem_range.mp hj)])

theorem pow_eq_one_of_mul_eq_one {ω ωi : K} (hinv : ω * ωi = 1) {n : Nat} (h : ω ^ n = 1) : ωi ^ n = 1 := by
  have : (ω * ωi) ^ n = 1 := by rw [hinv, one_pow]
  rwa [mul_pow, h, one_mul] at this

variable [IsDomain K]

theorem char_orthogonality (ω ωi : K) (n : Nat) (hω : IsPrimitiveRoot ω n) (hinv : ω * ωi = 1) (l j : Nat) (hj : j < n) :
    ∑ k ∈ range n, ω ^ (l * k) * ωi ^ (k * j) = if l % n = j then (n : K) else 0 := by
  have hterm : ∀ k, ω ^ (l * k) * ωi ^ (k * j) = (ω ^ l * ωi ^ j) ^ k := by
    intro k
    rw [mul_pow, ← pow_mul, ← pow_mul']
  simp_rw [hterm]
  have hωn : ω ^ n = 1 := hω.pow_eq_one
  have hωin : ωi ^ n = 1 := pow_eq_one_of_mul_eq_one hinv hωn
  by_cases h : l % n = j
  · rw [if_pos h, pow_eq_pow_mod l hωn, h, ← mul_pow, hinv, one_pow]
    simp
  · rw [if_neg h]
    have hne : ω ^ l * ωi ^ j ≠ 1 := by
      intro h1
      apply h
      apply hω.pow_inj (Nat.mod_lt l (by omega)) hj
      have : ω ^ l * (ωi ^ j * ω ^ j) = ω ^ j := by rw [← mul_assoc, h1, one_mul]
      rwa [← mul_pow, mul_comm ωi ω, hinv, one_pow, mul_one, pow_eq_pow_mod l hωn] at this
    have hz : (ω ^ l * ωi ^ j) ^ n = 1 := by
      rw [mul_pow, pow_right_comm ω, pow_right_comm ωi, hωn, hωin, one_pow, one_pow, one_mul]
    have := geom_sum_mul (ω ^ l * ωi ^ j) n
    rw [hz, sub_self] at this
    rcases mul_eq_zero.mp this with h0 | h0
    · exact h0
    · exact absurd (sub_eq_zero.mp h0) hne

/-- Transforming with `ω⁻¹` after transforming with `ω` returns `n` times the input — so
    `inverse_fourier` (which divides by the number of points) inverts `fourier` at the level of the definition -/
theorem dft_inverse (ω ωi : K) (n : Nat) (hω : IsPrimitiveRoot ω n) (hinv : ω * ωi = 1) (x : Nat → K) (j : Nat) (hj : j < n) :
    dftSpec1 (fun m => ωi ^ m) n (fun k => dftSpec1 (fun m => ω ^ m) n x k) j = (n : K) * x j := by
  have hωn : ω ^ n = 1 := hω.pow_eq_one
  rw [dftSpec1_eq_sum ωi n (pow_eq_one_of_mul_eq_one hinv hωn)]
  simp_rw [dftSpec1_eq_sum ω n hωn, Finset.sum_mul]
  rw [Finset.sum_comm]
  have : ∀ l ∈ range n, ∑ k ∈ range n, x l * ω ^ (l * k) * ωi ^ (k * j) = x l * (if l = j then (n : K) else 0) := by
    intro l hl
    have h := char_orthogonality ω ωi n hω hinv l j hj
    rw [Nat.mod_eq_of_lt (mem_range.mp hl)] at h
    rw [← h, Finset.mul_sum]
    refine Finset.sum_congr rfl fun k _ => ?_
    rw [mul_assoc]
  rw [Finset.sum_congr rfl this]
  simp only [mul_ite, mul_zero]
  rw [Finset.sum_ite_eq' (range n) j, if_pos (mem_range.mpr hj), mul_comm]

end

end StirVerif.C19
