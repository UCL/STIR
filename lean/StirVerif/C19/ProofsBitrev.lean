/-
C19 — proofs: `bitreversal` (the `j`-counter loop of fourier.cxx) permutes the data by the bit-reversal
permutation of `0 … 2^b - 1`, which is an involution.
-/
import StirVerif.C19.Model
import Mathlib.Data.Nat.Basic
import Mathlib.Tactic.Ring
import Mathlib.Tactic.Linarith

namespace StirVerif.C19

/-- induction along a loop `for t in 0..n-1`: `P t s` for the state `s` before iteration `t`.  The result of the loop is named by an
    equation (`generalize hr : List.foldl _ _ (List.range n) = r` in the goal, then `refine foldl_range_induction P ?_ ?_ ?_ hr`), so
    that `P` can be given without writing the fold out. -/
@[elab_as_elim]
theorem foldl_range_induction {σ : Type} {n : Nat} {step : σ → Nat → σ} {init : σ} (P : Nat → σ → Prop) {Q : σ → Prop}
    (h0 : P 0 init) (hs : ∀ t s, t < n → P t s → P (t + 1) (step s t)) (hQ : ∀ s, P n s → Q s)
    {r : σ} (hr : (List.range n).foldl step init = r) : Q r := by
  subst hr
  refine hQ _ ?_
  clear hQ
  induction n with
  | zero => exact h0
  | succ n ih =>
    rw [List.range_succ, List.foldl_append]
    exact hs n _ (Nat.lt_succ_self n) (ih fun t s ht => hs t s (Nat.lt_succ_of_lt ht))

/-- the bit reversal of the `b`-bit number `i` (lowest bit of `i` becomes the highest) -/
def rev : Nat → Nat → Nat
  | 0, _ => 0
  | b + 1, i => (i % 2) * 2 ^ b + rev b (i / 2)

theorem rev_two_mul (b i : Nat) : rev (b + 1) (2 * i) = rev b i := by
  rw [rev, Nat.mul_mod_right, Nat.zero_mul, Nat.zero_add, Nat.mul_div_cancel_left i (by decide)]

theorem rev_two_mul_add_one (b i : Nat) : rev (b + 1) (2 * i + 1) = 2 ^ b + rev b i := by
  rw [rev, Nat.mul_add_mod, Nat.one_mod, Nat.one_mul, Nat.mul_add_div (by decide), Nat.add_zero]

theorem rev_zero : ∀ b, rev b 0 = 0
  | 0 => rfl
  | b + 1 => (rev_two_mul b 0).trans (rev_zero b)

theorem rev_lt (b i : Nat) : rev b i < 2 ^ b := by
  induction b generalizing i with
  | zero => exact Nat.zero_lt_one
  | succ b ih =>
    have h := ih (i / 2)
    rw [rev, pow_succ]
    rcases Nat.mod_two_eq_zero_or_one i with h0 | h1
    · rw [h0]
      omega
    · rw [h1]
      omega

theorem testBit_rev (b i j : Nat) : (rev b i).testBit j = (decide (j < b) && i.testBit (b - 1 - j)) := by
  induction b generalizing i j with
  | zero => rw [rev, Nat.zero_testBit, decide_eq_false (Nat.not_lt_zero j), Bool.false_and]
  | succ b ih =>
    rw [rev, Nat.mul_comm, Nat.testBit_two_pow_mul_add _ (rev_lt b (i / 2)), ih]
    rcases Nat.lt_trichotomy j b with h | rfl | h
    · rw [if_pos h, Nat.testBit_div_two, show b - 1 - j + 1 = b + 1 - 1 - j by omega, decide_eq_true h,
        decide_eq_true (Nat.lt_succ_of_lt h)]
    · rw [if_neg (Nat.lt_irrefl j), Nat.sub_self, Nat.add_sub_cancel, Nat.sub_self, Nat.testBit_zero, Nat.testBit_zero,
        Nat.mod_mod, decide_eq_true (Nat.lt_succ_self j), Bool.true_and]
    · -- `i % 2 < 2 ≤ 2 ^ (j - b)` has no bit `j - b`
      rw [if_neg (Nat.lt_asymm h), decide_eq_false (by omega), Bool.false_and]
      exact Nat.testBit_lt_two_pow (Nat.lt_of_lt_of_le (Nat.mod_lt i Nat.two_pos)
        (Nat.pow_le_pow_right Nat.two_pos (show 1 ≤ j - b by omega)))

theorem rev_rev (b i : Nat) (hi : i < 2 ^ b) : rev b (rev b i) = i := by
  refine Nat.eq_of_testBit_eq fun j => ?_
  rw [testBit_rev, testBit_rev]
  by_cases hj : j < b
  · rw [show b - 1 - (b - 1 - j) = j by omega, decide_eq_true hj, decide_eq_true (show b - 1 - j < b by omega),
      Bool.true_and, Bool.true_and]
  · -- `i < 2 ^ b ≤ 2 ^ j` has no bit `j`
    rw [Nat.testBit_lt_two_pow (Nat.lt_of_lt_of_le hi (Nat.pow_le_pow_right Nat.two_pos (Nat.le_of_not_lt hj))),
      decide_eq_false hj, Bool.false_and]

/-- The `while` loop of `bitreversal` performs the reversed-carry increment.  The C++ counter `j` is the
    Numerical-Recipes index into interleaved (re, im) data: it is odd, `j / 2` is the bit-reversed position, and `n` is
    the number of complex points, `2^b`, which `j` is compared with in these doubled units. -/
theorem brNext_rev (b i : Nat) (hi : i + 1 < 2 ^ b) : brNext (2 ^ b) (2 * rev b i + 1) = 2 * rev b (i + 1) + 1 := by
  unfold brNext
  induction b generalizing i with
  | zero => simp at hi
  | succ b ih =>
    rw [pow_succ] at hi
    rcases Nat.even_or_odd' i with ⟨h, rfl | rfl⟩
    · -- `i` even: no carry, the loop is not entered
      have hr := rev_lt b h
      rw [rev_two_mul, rev_two_mul_add_one, brInner, dif_neg (by rw [pow_succ]; omega), pow_succ]
      omega
    · -- `i` odd: the top bit is cleared and the loop continues one level down
      have hsub : 2 * (2 ^ b + rev b h) + 1 - 2 ^ (b + 1) = 2 * rev b h + 1 := by omega
      have hhalf : 2 ^ (b + 1) / 2 = 2 ^ b := by omega
      rw [show 2 * h + 1 + 1 = 2 * (h + 1) by ring, rev_two_mul_add_one, rev_two_mul, brInner, dif_pos (by omega),
        hsub, hhalf, ih h (by omega)]

/-- For a power-of-two length the loop moves `data[rev p]` to position `p`.
    Invariant after `t` iterations: the counter is `2 * rev b t + 1` (see `brNext_rev`), so iteration `t` looks at the pair
    `(t, rev b t)` and exchanges it when `rev b t > t`, i.e. when the pair is met for the first time.  Hence a position
    `p` holds its final value `a[rev b p]` as soon as `p` or its partner `rev b p` has been visited
    (`p < t ∨ rev b p < t`), and its initial value before. -/
theorem bitReversal_spec {K : Type} (b : Nat) (a : Array K) (ha : a.size = 2 ^ b) :
    (bitReversal a).size = 2 ^ b ∧ ∀ p, p < 2 ^ b → (bitReversal a)[p]? = a[rev b p]? := by
  unfold bitReversal
  generalize hr : List.foldl _ _ (List.range a.size) = r
  refine foldl_range_induction (fun t (st : Nat × Array K) => (t < 2 ^ b → st.1 = 2 * rev b t + 1) ∧ st.2.size = 2 ^ b ∧
    ∀ p, p < 2 ^ b → st.2[p]? = if p < t ∨ rev b p < t then a[rev b p]? else a[p]?) ?_ ?_ ?_ hr
  · exact ⟨fun _ => by simp [rev_zero], ha, fun p _ => by simp⟩
  · intro t st ht ⟨hj, hsz, hget⟩
    have htl : t < 2 ^ b := ha ▸ ht
    have hj' := hj htl
    have hq : st.1 / 2 = rev b t := by omega
    have hrl := rev_lt b t
    refine ⟨fun h => ?_, ?_, ?_⟩
    · show brNext a.size st.1 = _
      rw [ha, hj', brNext_rev b t h]
    · show (if st.1 / 2 > t then st.2.swapIfInBounds (st.1 / 2) t else st.2).size = _
      split
      · rw [Array.size_swapIfInBounds, hsz]
      · exact hsz
    · intro p hp
      show (if st.1 / 2 > t then st.2.swapIfInBounds (st.1 / 2) t else st.2)[p]? = _
      rw [hq]
      by_cases hgt : rev b t > t
      · rw [if_pos hgt, Array.swapIfInBounds, dif_pos (hsz ▸ hrl), dif_pos (hsz ▸ htl), Array.getElem?_swap,
          ← Array.getElem?_eq_getElem, ← Array.getElem?_eq_getElem]
        have hrr : rev b (rev b t) = t := rev_rev b t htl
        by_cases h2 : t = p
        · -- position t receives the old element of position rev t, which is still data[rev t]
          subst h2
          rw [if_pos rfl, hget _ hrl, if_neg (by rw [hrr]; omega), if_pos (by omega)]
        · by_cases h1 : rev b t = p
          · -- position rev t receives the old element of position t, which is data[t] = data[rev (rev t)]
            subst h1
            rw [if_neg h2, if_pos rfl, hget t htl, if_neg (by omega), hrr, if_pos (by omega)]
          · rw [if_neg h2, if_neg h1, hget p hp]
            have hne : rev b p ≠ t := fun h => h1 (by rw [← h, rev_rev b p hp])
            by_cases h3 : p < t ∨ rev b p < t
            · rw [if_pos h3, if_pos (by omega)]
            · rw [if_neg h3, if_neg (by omega)]
      · rw [if_neg hgt, hget p hp]
        by_cases h3 : p < t ∨ rev b p < t
        · rw [if_pos h3, if_pos (by omega)]
        · rw [if_neg h3]
          by_cases h4 : p = t
          · subst h4
            have : rev b p = p := by omega
            rw [if_pos (by omega), this]
          · have hne : rev b p ≠ t := by
              intro h
              have := rev_rev b p hp
              rw [h] at this
              omega
            rw [if_neg (by omega)]
  · intro st ⟨_, hsz, hget⟩
    exact ⟨hsz, fun p hp => by rw [hget p hp, if_pos (Or.inl (ha ▸ hp))]⟩

theorem bitReversal_size {K : Type} (b : Nat) (a : Array K) (ha : a.size = 2 ^ b) : (bitReversal a).size = 2 ^ b :=
  (bitReversal_spec b a ha).1

theorem bitReversal_getElem? {K : Type} (b : Nat) (a : Array K) (ha : a.size = 2 ^ b) (p : Nat) (hp : p < 2 ^ b) :
    (bitReversal a)[p]? = a[rev b p]? :=
  (bitReversal_spec b a ha).2 p hp

end StirVerif.C19
