/-
C08 — the concrete objective function `Problem`: the quadratic prior's surrogate curvature, and the objective function restricted
to fewer segments / TOF bins than the data have (`Problem.processed`, `Problem.restrict`).
-/
import StirVerif.C08.Model

namespace StirVerif.C08

/-- a `term` that ignores its third argument (the difference `x_j - x_k`, the only way the image enters) makes the neighbourhood
    sum the same for every image -/
theorem Prior.neighbourSum_const (pr : Prior) (nz ny nx : Nat) (x x' : Array Rat) (t : Rat → Rat → Rat) :
    pr.neighbourSum nz ny nx x (fun w kk _ => t w kk) = pr.neighbourSum nz ny nx x' (fun w kk _ => t w kk) := rfl

theorem Prior.curvature_indep (pr : Prior) (hd : pr.depends = false) (nz ny nx : Nat) (x x' : Array Rat) :
    pr.curvature nz ny nx x = pr.curvature nz ny nx x' := by
  simp only [Prior.curvature, hd, Bool.false_eq_true, if_false]
  rw [pr.neighbourSum_const nz ny nx x x']

theorem restrict_processed (q : Problem) (r : Row) : q.restrict.processed r = true := by
  simp [Problem.restrict, Problem.processed, inSymRange]

theorem restrict_tofRestricted (q : Problem) : q.restrict.tofRestricted = false := by
  simp [Problem.restrict, Problem.tofRestricted]

theorem restrict_rangeOk (q : Problem) : q.restrict.rangeOk = true := by
  simp [Problem.restrict, Problem.rangeOk]

theorem rangeOk_eq_false_iff (q : Problem) :
    q.rangeOk = false ↔
      (∃ m, q.maxSegToProcess = some m ∧ q.dataMaxSeg < m) ∨ (∃ m, q.maxTofToProcess = some m ∧ q.dataMaxTof < m) := by
  unfold Problem.rangeOk
  cases q.maxSegToProcess <;> cases q.maxTofToProcess <;> simp [Decidable.imp_iff_not_or]

/-- every quantity of the objective function has this shape: a fold over rows that skips the bins outside the range
    (and possibly others) -/
theorem foldl_restrict {β : Type} (q : Problem) (xs : Array Row) (c : Row → Bool) (f : β → Row → β) (init : β) :
    (xs.filter q.processed).foldl (fun acc r => if c r || !q.restrict.processed r then acc else f acc r) init
      = xs.foldl (fun acc r => if c r || !q.processed r then acc else f acc r) init := by
  -- core: folding over a filtered array is folding with the test inside; the two guards agree as Booleans
  rw [Array.foldl_filter]
  congr 1
  funext acc r
  rw [restrict_processed]
  cases q.processed r <;> cases c r <;> rfl

theorem viewgramMax_restrict (q : Problem) (f : Row → Rat) : viewgramMax q.restrict f = viewgramMax q f := by
  unfold viewgramMax
  exact foldl_restrict q q.rows (fun _ => false) _ _

theorem nvox_restrict (q : Problem) : q.restrict.nvox = q.nvox := rfl

theorem gradLik_restrict (q : Problem) (S : Int) (x : Array Rat) : q.restrict.gradLik S x = q.gradLik S x := by
  unfold Problem.gradLik
  simp only [viewgramMax_restrict, nvox_restrict]
  exact foldl_restrict q q.rows (fun r => r.subset != S) _ _

theorem hessOnes_restrict (q : Problem) : q.restrict.hessOnes = q.hessOnes := by
  unfold Problem.hessOnes
  simp only [viewgramMax_restrict, nvox_restrict]
  exact foldl_restrict q q.rows (fun r => decide (r.subset < 0) || decide (r.subset ≥ q.numSubsets)) _ _

theorem sensRows_restrict (q : Problem) :
    q.restrict.sensRows.getD q.restrict.rows
      = (if q.tofRestricted then q.rows else q.sensRows.getD q.rows).filter q.processed := by
  unfold Problem.restrict
  cases q.tofRestricted <;> cases q.sensRows <;> rfl

theorem sensitivity_restrict (q : Problem) : q.restrict.sensitivity = q.sensitivity := by
  unfold Problem.sensitivity
  simp only [restrict_tofRestricted, nvox_restrict, Bool.false_eq_true, if_false, sensRows_restrict]
  exact foldl_restrict q _ (fun r => decide (r.subset < 0) || decide (r.subset ≥ q.numSubsets)) _ _

theorem viewgramsPerSubset_restrict (q : Problem) : q.restrict.viewgramsPerSubset = q.viewgramsPerSubset := by
  unfold Problem.viewgramsPerSubset
  exact congrArg (fun m => Array.foldl _ _ m) (foldl_restrict q q.rows (fun _ => false) _ _)

theorem balanced_restrict (q : Problem) : q.restrict.balanced = q.balanced := by
  unfold Problem.balanced
  rw [viewgramsPerSubset_restrict]

end StirVerif.C08
