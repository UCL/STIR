/-
C08 — what happens around `update_estimate`: the image processors applied after the clamp, `precomputed denominator := <file>`,
one object set up and run several times.
-/
import StirVerif.C08.ProofsRun
import Mathlib.Tactic.Ring

namespace StirVerif.C08

def Filters.Preserve (f : Filters) (ub : Rat) : Prop :=
  (∀ g, f.inter = some g → ∀ img, InBox ub img → InBox ub (g img)) ∧
  (∀ g, f.post = some g → ∀ img, InBox ub img → InBox ub (g img))

theorem endOfIteration_inBox (f : Filters) (K k : Int) (img : Img) (ub : Rat) (hf : f.Preserve ub) (h : InBox ub img) :
    InBox ub (endOfIteration f K k img) := by
  have h1 : InBox ub (applyInterFilter f k img) := by
    unfold applyInterFilter
    cases hi : f.inter with
    | none => exact h
    | some g =>
      simp only
      split_ifs
      · exact hf.1 g hi img h
      · exact h
  unfold endOfIteration applyPostFilter
  cases hp : f.post with
  | none => exact h1
  | some g =>
    simp only
    split_ifs
    · exact hf.2 g hp _ h1
    · exact h1

theorem endOfIteration_noFilters (K k : Int) (img : Img) : endOfIteration {} K k img = img := rfl

theorem loopF_succ (f : Filters) (p : Params) (obj : Objective) (start : Int) (n : Nat) (s : State) :
    loopF f p obj start (n + 1) s = stepF f p obj start (loopF f p obj start n s) := by
  induction n generalizing s with
  | zero => rfl
  | succ n ih => exact ih (stepF f p obj start s)

theorem getD_inBox (ub : Rat) (x : Img) (hub : 0 ≤ ub) (hx : InBox ub x) (j : Nat) : 0 ≤ x.getD j 0 ∧ x.getD j 0 ≤ ub := by
  rw [List.getD_eq_getElem?_getD]
  cases h : x[j]? with
  | none => exact ⟨le_refl 0, hub⟩
  | some a => exact hx a (List.mem_of_getElem? h)

theorem tap3_inBox {cm c0 cp ub a b c : Rat} (hcm : 0 ≤ cm) (hc0 : 0 ≤ c0) (hcp : 0 ≤ cp) (hsum : cm + c0 + cp ≤ 1)
    (ha : 0 ≤ a ∧ a ≤ ub) (hb : 0 ≤ b ∧ b ≤ ub) (hc : 0 ≤ c ∧ c ≤ ub) :
    0 ≤ cp * a + c0 * b + cm * c ∧ cp * a + c0 * b + cm * c ≤ ub := by
  constructor
  · exact add_nonneg (add_nonneg (mul_nonneg hcp ha.1) (mul_nonneg hc0 hb.1)) (mul_nonneg hcm hc.1)
  · calc cp * a + c0 * b + cm * c
        ≤ cp * ub + c0 * ub + cm * ub :=
          add_le_add (add_le_add (mul_le_mul_of_nonneg_left ha.2 hcp) (mul_le_mul_of_nonneg_left hb.2 hc0))
            (mul_le_mul_of_nonneg_left hc.2 hcm)
      _ = (cm + c0 + cp) * ub := by ring
      _ ≤ 1 * ub := mul_le_mul_of_nonneg_right hsum (ha.1.trans ha.2)
      _ = ub := one_mul ub

/-- outside the line the zero boundary condition supplies 0, which lies in `[0, ub]` as well -/
theorem conv3Axis_inBox (len stride : Nat) (cm c0 cp ub : Rat) (hcm : 0 ≤ cm) (hc0 : 0 ≤ c0) (hcp : 0 ≤ cp)
    (hsum : cm + c0 + cp ≤ 1) (hub : 0 ≤ ub) (x : Img) (hx : InBox ub x) : InBox ub (conv3Axis len stride cm c0 cp x) := by
  refine List.forall_mem_map.mpr fun j _ => ?_
  have hzero : (0 : Rat) ≤ 0 ∧ (0 : Rat) ≤ ub := ⟨le_refl _, hub⟩
  refine tap3_inBox hcm hc0 hcp hsum ?_ (getD_inBox ub x hub hx j) ?_
  · split_ifs
    · exact getD_inBox ub x hub hx _
    · exact hzero
  · split_ifs
    · exact getD_inBox ub x hub hx _
    · exact hzero

theorem setUpFile_unreadable (p : Params) (obj : Objective) (start : Int) (tc : Chars) (target : Img) :
    setUpFile p obj start tc .unreadable target = none := by
  unfold setUpFile
  cases setUp p obj start target <;> rfl

theorem setUpFile_image (p : Params) (obj : Objective) (start : Int) (tc fc : Chars) (v target : Img) :
    setUpFile p obj start tc (.image fc v) target
      = if sameCharacteristics fc tc then (setUp p obj start target).map (fun r => (r.1, v)) else none := by
  unfold setUpFile
  cases setUp p obj start target with
  | none => simp
  | some r => rfl

theorem setUpObject_old (p : Params) (obj : Objective) (start : Int) (file : Option (Chars × DenomFile)) (old old' : Option Img)
    (target : Img) : setUpObject p obj start file old target = setUpObject p obj start file old' target := rfl

theorem runObject_old (old : Option Img) (r : RunSpec) : runObject old r = runObject none r := rfl

theorem runObject_computed (old : Option Img) (p : Params) (obj : Objective) (start : Int) (target : Img) :
    runObject old { p := p, obj := obj, start := start, target := target } = run p obj start target := rfl

theorem mapM_option_spec {α β : Type} (f : α → Option β) (l : List α) :
    (∀ bs, l.mapM f = some bs → bs.length = l.length ∧ ∀ (i : Nat) (a : α), l[i]? = some a → bs[i]? = f a) ∧
    (l.mapM f = none → ∃ a ∈ l, f a = none) := by
  induction l with
  | nil =>
    refine ⟨fun bs h => ?_, fun h => nomatch h⟩
    cases h
    exact ⟨rfl, fun i a ha => nomatch ha⟩
  | cons a l ih =>
    -- the three outcomes of `(a :: l).mapM f`: `f a` fails, the rest fails, both succeed
    rw [List.mapM_cons]
    cases h0 : f a with
    | none => exact ⟨fun bs h => (nomatch h), fun _ => ⟨a, List.mem_cons_self, h0⟩⟩
    | some b =>
      cases h1 : l.mapM f with
      | none =>
        obtain ⟨a', ha, hn⟩ := ih.2 h1
        exact ⟨fun bs h => (nomatch h), fun _ => ⟨a', List.mem_cons_of_mem _ ha, hn⟩⟩
      | some bs1 =>
        refine ⟨fun bs h => ?_, fun h => nomatch h⟩
        cases h
        obtain ⟨hl, hg⟩ := ih.1 bs1 h1
        refine ⟨congrArg (· + 1) hl, fun i a' ha => ?_⟩
        cases i with
        | zero =>
          cases ha
          exact h0.symm
        | succ i => exact hg i a' ha

/-- `set_up` replaces the stored denominator whatever it was (`setUpObject` does not look at `old`: `runObject_old`), so the runs
    of a history are, one by one, the runs of fresh objects -/
theorem runHistory_eq_mapM (old : Option Img) (rs : List RunSpec) : runHistory old rs = rs.mapM (runObject none) := by
  induction rs generalizing old with
  | nil => rfl
  | cons r rs ih =>
    rw [List.mapM_cons, runHistory, runObject_old]
    cases runObject none r with
    | none => rfl
    | some s =>
      simp only [ih]
      cases List.mapM (runObject none) rs <;> rfl

end StirVerif.C08
