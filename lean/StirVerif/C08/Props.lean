/-
C08 — "OSSPS sub-iterations follow the preconditioned relaxed update within bounds".
Property theorems over the model of `Model.lean` (exact rational arithmetic).  Every statement is for all image sizes,
all objective functions (`Objective` is arbitrary: any gradient, any curvature, any Hessian-on-ones, any set of
non-identifiable voxels), all parameters and all sub-iteration numbers unless a hypothesis says otherwise.
Images are lists; `l[j]?` is voxel `j`.

Because `Objective` is arbitrary, every theorem about `updateEstimate` / `loop` / `setUp` applies in particular to
`Problem.toObjective q` for the `Problem` of `Model.lean` in every configuration it has (normalisation, TOF bins,
`zero_seg0_end_planes`, subset sensitivities or not, non-TOF sensitivity, restricted segment / TOF range, quadratic or opaque
prior); the harness exercises exactly these configurations against the real code.  By `C08_reuse_eq_fresh` they also apply to
each run of a history of runs on ONE `OSSPSReconstruction` object, with the objective function and parameters current at that
run (harness ops `recfg` / `resetup`).
-/
import StirVerif.C08.ProofsMask
import StirVerif.C08.ProofsExt
import StirVerif.C08.ProofsProblem
import StirVerif.Common.IntDiv
import Mathlib.Algebra.Order.Field.Basic
import Mathlib.Tactic.NormNum

namespace StirVerif.C08

/-- "One OSSPS sub-iteration on subset S maps lambda to clamp(lambda + zeta N grad_S Phi(lambda) / D, 0, upper bound)":
    voxel `j` of the image after `update_estimate`, in terms of voxel `j` of the current image (non-identifiable voxels
    zeroed at the start of every sub-iteration), of the penalised sub-gradient of the scheduled subset at that image, and of
    the denominator in use (`C08_denominator_used`).  The order of operations is the code's: `((g·N)/D)·ζ`. -/
theorem C08_ossps_formula (p : Params) (obj : Objective) (start : Int) (s : State) (j : Nat) (xj gj dj : Rat)
    (hx : (currentImage obj s.image)[j]? = some xj)
    (hg : (obj.grad (subsetNum s.k p.startSubset p.numSubsets) (currentImage obj s.image))[j]? = some gj)
    (hd : (denomUsed obj (s.k == start) (currentImage obj s.image) s.denom)[j]? = some dj) :
    (updateEstimate p obj start s).image[j]? =
      some (thresholdUpperLower 0 p.upperBound
              (xj + gj * (p.numSubsets : Rat) / dj * relaxation p.alpha p.gamma s.k p.numSubsets)) := by
  rw [updateEstimate_getElem?, hx, hg, hd]
  rfl

/-- "D the strictly positive precomputed curvature (minus the approximate log-likelihood Hessian applied to a uniform
    image, plus twice the prior's surrogate curvature)": which image the numerator is divided by, every branch.
    * first sub-iteration of a run, or curvature declared image dependent (and a prior present): thresholded
      `2·curvature(current image) + stored denominator` (just the thresholded stored denominator when `prior_is_zero()`);
    * otherwise the stored denominator;
    and what is stored afterwards: the freshly computed image at the first sub-iteration unless the penalty term is
    recomputed every time, otherwise unchanged. -/
theorem C08_denominator_used (obj : Objective) (x d : Img) :
    denomUsed obj true x d
        = thresholdMinToSmallPositiveValue
            (if obj.priorIsZero then d else List.zipWith (fun c d => c * 2 + d) (obj.curv x) d) smallNumber ∧
    denomUsed obj false x d = (if !obj.priorIsZero && obj.curvDepends then denomUsed obj true x d else d) ∧
    denomStored obj true x d = (if !obj.priorIsZero && obj.curvDepends then d else denomUsed obj true x d) ∧
    denomStored obj false x d = d := by
  refine ⟨?_, ?_, ?_, denomStored_not_first obj x d⟩
  · rw [denomUsed_first]
    unfold workDenominator
    cases obj.priorIsZero <;> rfl
  · rw [denomUsed_not_first, denomUsed_first]
    rfl
  · rw [denomStored_first, denomUsed_first]
    rfl

/-- after set_up (denominator not given by the user) the stored denominator is minus the approximate Hessian (without
    penalty) applied to the uniform image.  (For `Problem.toObjective` that is `Problem.hessOnes`: with normalisation the
    data enter as `y·n²`, every TOF bin is a row, and the end planes of segment 0 are left out when `zero_seg0_end_planes`
    removes them from gradient and sensitivity: `C08_denominator_excludes_zeroed_end_planes`.) -/
theorem C08_denominator_after_setup (p : Params) (obj : Objective) (start : Int) (target img d : Img)
    (h : setUp p obj start target = some (img, d)) (hd : p.denominatorOnes = false) : d = obj.hessOnes.map (fun a => -a) := by
  obtain ⟨_, _, rfl⟩ := (setUp_eq_some_iff p obj start target img d).mp h
  rw [hd]
  rfl

/-- "Iterates therefore always lie within [0, upper bound]": for every objective function, gradient, denominator (even a
    zero or negative one: in exact arithmetic `x/0 = 0`; in floats this clause additionally needs `C08_D_positive_in_run`
    to exclude NaN) — provided the upper bound is not negative. -/
theorem C08_in_bounds (p : Params) (obj : Objective) (start : Int) (s : State) (hub : 0 ≤ p.upperBound) :
    ∀ v ∈ (updateEstimate p obj start s).image, 0 ≤ v ∧ v ≤ p.upperBound :=
  updateEstimate_inBox p obj start s hub

/-- … and so does every iterate of a run: the image after `n + 1` sub-iterations from any state -/
theorem C08_in_bounds_run (p : Params) (obj : Objective) (start : Int) (s : State) (n : Nat) (hub : 0 ≤ p.upperBound) :
    ∀ v ∈ (loop p obj start (n + 1) s).image, 0 ≤ v ∧ v ≤ p.upperBound := by
  rw [loop_succ]
  exact updateEstimate_inBox p obj start _ hub

/-- the hypothesis is needed: `threshold_upper_lower` tests the upper bound first, so with a negative upper bound every
    voxel ends up negative (the parser accepts any `upper bound`) -/
theorem C08_in_bounds_fails_negative_upper_bound :
    thresholdUpperLower 0 (-1) 5 = -1 ∧ thresholdUpperLower 0 (-1) (-3) = 0 ∧ ¬ (0 ≤ thresholdUpperLower 0 (-1) 5) := by
  decide +kernel

/-- "the strictly positive precomputed curvature": `threshold_min_to_small_positive_value` makes every element strictly
    positive, whatever the input (negative, zero, all non-positive) -/
theorem C08_D_positive (l : Img) : ∀ v ∈ thresholdMinToSmallPositiveValue l smallNumber, 0 < v :=
  thresholdMin_pos l smallNumber smallNumber_pos

/-- the floor is `10.E-6F` times the smallest strictly positive element (or `10.E-6F` itself when nothing is positive);
    strictly positive elements are not changed at all -/
theorem C08_D_lower_bound (l : Img) :
    (∀ v ∈ thresholdMinToSmallPositiveValue l smallNumber,
        (match minPositive l with | some m => m * smallNumber | none => smallNumber) ≤ v) ∧
    ((∀ x ∈ l, 0 < x) → thresholdMinToSmallPositiveValue l smallNumber = l) :=
  ⟨thresholdMin_lower_bound l smallNumber, thresholdMin_of_all_pos l smallNumber smallNumber_le_one⟩

/-- so the threshold is NOT an absolute `10⁻⁵`: a voxel with zero data curvature next to voxels with
    small curvature gets a denominator far below `10⁻⁵` -/
theorem C08_D_ge_small_fails :
    thresholdMinToSmallPositiveValue [1 / 1000, 0] smallNumber = [1 / 1000, 1 / 1000 * smallNumber] ∧
      1 / 1000 * smallNumber < smallNumber := by
  decide +kernel

/-- in every sub-iteration of every run — after `set_up`, for any start image, denominator, parameters, objective — the
    image the numerator is divided by is strictly positive (first sub-iteration: freshly thresholded; later: recomputed and
    thresholded, or the stored thresholded one).  `obj` is arbitrary: with or WITHOUT a prior (`workDenominator` thresholds after
    the penalty curvature was added, so a prior whose curvature vanishes in voxels the data do not see — kappa image 0 outside the
    FOV, all weights 0 — is covered: `C08_D_zero_before_thresholding_with_prior`; the harness drives exactly such problems,
    quadratic and log-cosh, through the real code), any segment / TOF range of the objective function. -/
theorem C08_D_positive_in_run (p : Params) (obj : Objective) (start : Int) (img d : Img) (n : Nat) :
    let s := loop p obj start n ⟨img, d, start⟩
    ∀ v ∈ denomUsed obj (s.k == start) (currentImage obj s.image) s.denom, 0 < v := by
  intro s
  rw [loop_denomUsed]
  exact workDenominator_pos obj _ _

-- `hN` follows from `hr` and `hrN`
set_option linter.unusedVariables false in
/-- The clause of the property: "zeta_n = alpha / (1 + gamma n) the relaxation for full iteration n", i.e. for every
    sub-iteration `k = n·N + r`, `1 ≤ r ≤ N`, of full iteration `n` (0-based) — all of them, the last one (`r = N`) included.
    (Before the repair `fix: OSSPS relaxation uses the 0-based full iteration number` the code divided the 1-based
    `subiteration_num` itself and the last sub-iteration of every full iteration used `alpha/(1+gamma (n+1))`.) -/
theorem C08_relaxation_schedule (alpha gamma : Rat) (N n r : Int) (hN : 1 ≤ N) (hn : 0 ≤ n) (hr : 1 ≤ r) (hrN : r ≤ N) :
    relaxation alpha gamma (n * N + r) N = alpha / (1 + gamma * (n : Rat)) := by
  unfold relaxation
  -- sub-iteration `n·N + r` belongs to full iteration `n`
  rw [Int.add_sub_assoc, (Common.tdiv_tmod_of_form hn (by omega) (by omega)).1]

/-- "zeta_n = alpha / (1 + gamma n)" for `n = 0`: every sub-iteration of the first full iteration uses `alpha` itself -/
theorem C08_relaxation_first_iteration (alpha gamma : Rat) (N r : Int) (hN : 1 ≤ N) (hr : 1 ≤ r) (hrN : r ≤ N) :
    relaxation alpha gamma r N = alpha := by
  have := C08_relaxation_schedule alpha gamma N 0 r hN (le_refl _) hr hrN
  simpa using this

/-- the relaxation is positive, never grows with the sub-iteration number and never exceeds `alpha` (`alpha > 0`, `gamma ≥ 0`) -/
theorem C08_relaxation_pos_antitone (alpha gamma : Rat) (N k k' : Int) (ha : 0 < alpha) (hg : 0 ≤ gamma) (hN : 1 ≤ N)
    (hk : 1 ≤ k) (hkk : k ≤ k') :
    0 < relaxation alpha gamma k' N ∧ relaxation alpha gamma k' N ≤ relaxation alpha gamma k N ∧
      relaxation alpha gamma k N ≤ alpha :=
  -- the full-iteration numbers `0 ≤ (k - 1) / N ≤ (k' - 1) / N`
  div_one_add_mul_antitone ha hg (Rat.intCast_nonneg.mpr (Int.tdiv_nonneg (by omega) (by omega)))
    (Rat.intCast_le_intCast.mpr (Int.tdiv_le_tdiv (by omega) (by omega)))

/-- "With no prior or a quadratic prior, resuming from a saved iterate reproduces the uninterrupted run."
    `⟨img0, d0, 1⟩` is the state after `set_up` of the uninterrupted run, `sk` the state after `k ≥ 1` sub-iterations.
    A fresh object with `start_subiteration_num = k+1`, set up on the saved image `sk.image`, succeeds in `set_up`, leaves the
    image alone, recomputes the same `d0`, and from its first sub-iteration on is in EXACTLY the state (image, stored
    denominator, counter) of the uninterrupted run.  Side conditions:
    * `hcurv`: if a prior is present and its curvature is declared image independent, it is image independent
      (quadratic prior: `C08_quadratic_curvature_independent`; no prior: vacuous);
    * `hpos`: `enforce_initial_positivity` is off (the OSSPS default) or the saved image has no zero
      (needed: `C08_restart_fails_enforce_initial_positivity`);
    * `hden`: the denominator is computed, not `precomputed denominator := 1` (whose size follows the image it is given).
    No condition on the non-identifiable voxels: the repaired code (`fix: OSSPS zeroes the non-identifiable voxels at every
    sub-iteration`) zeroes them at the start of every sub-iteration of every run, so the re-zeroing done by the resumed run's
    first sub-iteration is also done by the uninterrupted run (`C08_restart_nonidentifiable_with_prior`: a run in which a penalty
    moves such a voxel).  The uninterrupted run here starts at sub-iteration 1; for one started at any sub-iteration `a` the same
    is `restart_loop`. -/
theorem C08_restart_eq (p : Params) (obj : Objective) (target img0 d0 : Img) (k : Nat) (hk : 1 ≤ k)
    (hset : setUp p obj 1 target = some (img0, d0)) (hden : p.denominatorOnes = false)
    (hcurv : obj.priorIsZero = false → obj.curvDepends = false → ∀ a b, obj.curv a = obj.curv b)
    (hpos : p.enforceInitialPositivity = false ∨ ∀ v ∈ (loop p obj 1 k ⟨img0, d0, 1⟩).image, 0 < v) :
    setUp p obj ((k : Int) + 1) (loop p obj 1 k ⟨img0, d0, 1⟩).image = some ((loop p obj 1 k ⟨img0, d0, 1⟩).image, d0) ∧
    ∀ m : Nat, 1 ≤ m →
      loop p obj ((k : Int) + 1) m ⟨(loop p obj 1 k ⟨img0, d0, 1⟩).image, d0, (k : Int) + 1⟩
        = loop p obj 1 m (loop p obj 1 k ⟨img0, d0, 1⟩) := by
  constructor
  · -- set_up succeeds again: its checks look neither at the image nor at the (valid) start sub-iteration, and the computed
    -- denominator does not depend on the image
    obtain ⟨hacc, _, hd⟩ := (setUp_eq_some_iff p obj 1 target img0 d0).mp hset
    refine (setUp_eq_some_iff p obj _ _ _ d0).mpr ⟨{ hacc with start := by omega }, ?_, ?_⟩
    · cases he : p.enforceInitialPositivity with
      | false => rfl
      | true =>
        have h := hpos.resolve_left (by simp [he])
        exact (thresholdMin_of_all_pos _ _ smallNumber_le_one h).symm
    · rw [hd, hden]
      rfl
  · exact restart_loop p obj 1 img0 d0 k hcurv

/-- "resuming from a saved iterate reproduces the uninterrupted run" on `run` (`set_up` + `reconstruct`): the run resumed at
    sub-iteration `k + 1 ≤ num_subiterations` from the image saved after `k` ends in the state the uninterrupted run ends in -/
theorem C08_restart_eq_run (p : Params) (obj : Objective) (target img0 d0 : Img) (k : Nat) (hk : 1 ≤ k)
    (hK : (k : Int) < p.numSubiterations)
    (hset : setUp p obj 1 target = some (img0, d0)) (hden : p.denominatorOnes = false)
    (hcurv : obj.priorIsZero = false → obj.curvDepends = false → ∀ a b, obj.curv a = obj.curv b)
    (hpos : p.enforceInitialPositivity = false ∨ ∀ v ∈ (loop p obj 1 k ⟨img0, d0, 1⟩).image, 0 < v) :
    run p obj ((k : Int) + 1) (loop p obj 1 k ⟨img0, d0, 1⟩).image = run p obj 1 target := by
  obtain ⟨h1, h2⟩ := C08_restart_eq p obj target img0 d0 k hk hset hden hcurv hpos
  -- the uninterrupted run makes the `k` sub-iterations before the saved image and then as many as the resumed run
  have e : (p.numSubiterations - 1 + 1).toNat = k + (p.numSubiterations - ((k : Int) + 1) + 1).toNat := by omega
  simp only [run, reconstruct, h1, hset]
  rw [e, loop_add, h2 _ (by omega)]

/-- the non-identifiable voxels are exactly 0 in every iterate of every run when the penalised gradient vanishes on them (no
    prior: the back projection does not reach them) — and the iterates never get longer than the start image -/
theorem C08_nonidentifiable_stay_zero (p : Params) (obj : Objective) (start : Int) (mask : List Bool) (img d : Img) (n : Nat)
    (hub : 0 ≤ p.upperBound) (hfill : obj.fillNonIdent = fillMask mask)
    (hg : ∀ S y, ZeroOn mask (obj.grad S y)) :
    ZeroOn mask (loop p obj start (n + 1) ⟨img, d, start⟩).image ∧
      (loop p obj start (n + 1) ⟨img, d, start⟩).image.length ≤ img.length := by
  constructor
  · rw [loop_succ]
    exact updateEstimate_zeroOn p obj start _ mask hub hfill hg
  · exact loop_length_le p obj start mask hfill (n + 1) _

/-- the surrogate curvature of the (real) quadratic prior does not depend on the image: `hcurv` of `C08_restart_eq` holds for
    every `Problem` whose prior is the quadratic prior -/
theorem C08_quadratic_curvature_independent (q : Problem) (pr : Prior) (hq : q.prior = some pr) (hd : pr.depends = false) :
    ∀ a b : Img, q.toObjective.curv a = q.toObjective.curv b := by
  intro a b
  show (q.curv a.toArray).toList = (q.curv b.toArray).toList
  unfold Problem.curv
  rw [hq]
  exact congrArg Array.toList (pr.curvature_indep hd _ _ _ _ _)

/-- two voxels, voxel 0 has zero sensitivity; a "quadratic prior" couples them (gradient `x₁ - x₀` on voxel 0) -/
def witObjPrior : Objective where
  grad := fun _ x => match x with | [a, b] => [b - a, a - b - 1] | _ => []
  hessOnes := [0, -1]
  priorIsZero := false
  priorParabolic := true
  curv := fun _ => [1, 1]
  curvDepends := false
  fillNonIdent := fillMask [true, false]

def witParams : Params :=
  { numSubsets := 1, startSubset := 0, numSubiterations := 2, alpha := 1, gamma := 0, upperBound := 10,
    enforceInitialPositivity := false }

/-- with a prior, the penalty gradient moves the zero-sensitivity voxel away from 0 (`1/2` after the first sub-iteration).  The
    code (repaired: `fix: OSSPS zeroes the non-identifiable voxels at every sub-iteration`) zeroes it again at the start of the
    second sub-iteration in the uninterrupted run too, so the resumed run (last line) reproduces it exactly. -/
theorem C08_restart_nonidentifiable_with_prior :
    setUp witParams witObjPrior 1 [5, 1] = some ([5, 1], [0, 1]) ∧
    loop witParams witObjPrior 1 1 ⟨[5, 1], [0, 1], 1⟩ = ⟨[1 / 2, 1 / 3], [2, 3], 2⟩ ∧
    (loop witParams witObjPrior 1 2 ⟨[5, 1], [0, 1], 1⟩).image = [1 / 6, 0] ∧
    (loop witParams witObjPrior 2 1 ⟨[1 / 2, 1 / 3], [0, 1], 2⟩).image = [1 / 6, 0] := by
  decide +kernel

/-- no prior, no non-identifiable voxel; the gradient drives voxel 0 to the lower bound in the first sub-iteration -/
def witObjZero : Objective where
  grad := fun _ x => match x with | [a, _] => [if a == 1 then -5 else a, 0] | _ => []
  hessOnes := [-1, -1]
  priorIsZero := true
  priorParabolic := true
  curv := fun _ => []
  curvDepends := true
  fillNonIdent := fun x => x

/-- negative witness for `hpos`: the clamp produces an exact 0; a resumed run with `enforce_initial_positivity` on lifts it
    to `10.E-6F ·` (smallest positive voxel) in `set_up` and then moves on from there, the uninterrupted run stays at 0. -/
theorem C08_restart_fails_enforce_initial_positivity :
    (loop witParams witObjZero 1 1 ⟨[1, 1], [1, 1], 1⟩).image = [0, 1] ∧
    (loop witParams witObjZero 1 2 ⟨[1, 1], [1, 1], 1⟩).image = [0, 1] ∧
    setUp { witParams with enforceInitialPositivity := true } witObjZero 2 [0, 1] = some ([smallNumber, 1], [1, 1]) ∧
    (loop { witParams with enforceInitialPositivity := true } witObjZero 2 1 ⟨[smallNumber, 1], [1, 1], 2⟩).image
      = [2 * smallNumber, 1] := by
  decide +kernel

/-- "This modifies *precomputed_denominator_ptr. So, you have to call set_up() before running a new reconstruction"
    (doc of `update_estimate`): a second `reconstruct()` on the same object without `set_up` adds the penalty curvature to the
    stored denominator a second time (3 → 5 here) and produces a different image than a run that was set up. -/
theorem C08_restart_needs_setup :
    let first := reconstruct witParams witObjPrior 1 [5, 1] [0, 1]
    first.denom = [2, 3] ∧
    (reconstruct witParams witObjPrior 1 [5, 1] first.denom).denom = [4, 5] ∧
    (reconstruct witParams witObjPrior 1 [5, 1] first.denom).image ≠ first.image := by
  decide +kernel

/-- `C08_ossps_formula`: voxel 1 of the first sub-iteration of the witness problem (x = 1, g = -2, N = 1, D = 3, ζ = 1) -/
example : (updateEstimate witParams witObjPrior 1 ⟨[5, 1], [0, 1], 1⟩).image[1]?
    = some (thresholdUpperLower 0 10 (1 + (-2) * 1 / 3 * relaxation 1 0 1 1)) :=
  C08_ossps_formula witParams witObjPrior 1 ⟨[5, 1], [0, 1], 1⟩ (j := 1) (xj := 1) (gj := -2) (dj := 3)
    (hx := by decide +kernel) (hg := by decide +kernel) (hd := by decide +kernel)

example : (0 : Rat) ≤ witParams.upperBound := by decide +kernel

example : relaxation 1 (1 / 10) (2 * 4 + 4) 4 = 1 / (1 + 1 / 10 * ((2 : Int) : Rat)) :=
  C08_relaxation_schedule 1 (1 / 10) 4 2 4 (by norm_num) (by norm_num) (by norm_num) (by norm_num)

example : 0 < relaxation 1 (1 / 10) 7 3 ∧ relaxation 1 (1 / 10) 7 3 ≤ relaxation 1 (1 / 10) 2 3 ∧ relaxation 1 (1 / 10) 2 3 ≤ 1 :=
  C08_relaxation_pos_antitone 1 (1 / 10) 3 2 7 (by norm_num) (by norm_num) (by norm_num) (by norm_num) (by norm_num)

/-- a problem without prior in which the gradient vanishes on the non-identifiable voxel 0 -/
def witObjNoPrior : Objective where
  grad := fun _ x => match x with | [_, b] => [0, 1 - b] | _ => []
  hessOnes := [0, -2]
  priorIsZero := true
  priorParabolic := true
  curv := fun _ => []
  curvDepends := true
  fillNonIdent := fillMask [true, false]

example : ZeroOn [true, false] (loop witParams witObjNoPrior 1 (3 + 1) ⟨[5, 3], [0, 2], 1⟩).image ∧
    (loop witParams witObjNoPrior 1 (3 + 1) ⟨[5, 3], [0, 2], 1⟩).image.length ≤ [(5 : Rat), 3].length := by
  apply C08_nonidentifiable_stay_zero witParams witObjNoPrior 1 [true, false] [5, 3] [0, 2] 3
  · decide +kernel
  · rfl
  · intro S y
    -- where it is not empty the gradient is an image with voxel 0 filled
    simp only [witObjNoPrior]
    split
    · exact zeroOn_fillMask [true, false] [0, _]
    · exact fun j _ v hv => nomatch hv

example : ∀ m : Nat, 1 ≤ m →
    loop witParams witObjPrior ((1 : Nat) + 1 : Int) m ⟨(loop witParams witObjPrior 1 1 ⟨[5, 1], [0, 1], 1⟩).image, [0, 1], ((1 : Nat) : Int) + 1⟩
      = loop witParams witObjPrior 1 m (loop witParams witObjPrior 1 1 ⟨[5, 1], [0, 1], 1⟩) :=
  (C08_restart_eq witParams witObjPrior (target := [5, 1]) (img0 := [5, 1]) (d0 := [0, 1]) (k := 1) (hk := le_refl _)
    (hset := by decide +kernel) (hden := rfl) (hcurv := fun _ _ _ _ => rfl) (hpos := Or.inl rfl)).2

/-- "Iterates therefore always lie within [0, upper bound]" for the iterates `reconstruct` hands out and saves, i.e. AFTER
    `end_of_iteration_processing` has applied the inter-iteration filter (every `inter_iteration_filter_interval`
    sub-iterations) and the post filter (after the last sub-iteration): true for every run when both image processors map
    `[0, ub]ⁿ` into itself (`Filters.Preserve`) — OSSPS does not clamp again after filtering. -/
theorem C08_in_bounds_after_filters (f : Filters) (p : Params) (obj : Objective) (start : Int) (s : State) (n : Nat)
    (hub : 0 ≤ p.upperBound) (hf : f.Preserve p.upperBound) :
    ∀ v ∈ (loopF f p obj start (n + 1) s).image, 0 ≤ v ∧ v ≤ p.upperBound := by
  rw [loopF_succ]
  exact endOfIteration_inBox f _ _ _ _ hf (updateEstimate_inBox p obj start _ hub)

/-- the real `SeparableConvolutionImageFilter` with three non-negative taps of sum ≤ 1 in y and x (zero boundary) is such a
    processor, for every image size and every upper bound ≥ 0 -/
theorem C08_smoothing_filter_preserves_bounds (ny nx : Nat) (cm c0 cp ub : Rat) (hcm : 0 ≤ cm) (hc0 : 0 ≤ c0) (hcp : 0 ≤ cp)
    (hsum : cm + c0 + cp ≤ 1) (hub : 0 ≤ ub) (x : Img) (hx : ∀ v ∈ x, 0 ≤ v ∧ v ≤ ub) :
    ∀ v ∈ sepConvYX ny nx cm c0 cp x, 0 ≤ v ∧ v ≤ ub := by
  have hy : InBox ub (conv3Axis ny nx cm c0 cp x) := conv3Axis_inBox ny nx cm c0 cp ub hcm hc0 hcp hsum hub x hx
  exact conv3Axis_inBox nx 1 cm c0 cp ub hcm hc0 hcp hsum hub _ hy

/-- without filters the loop with `end_of_iteration_processing` is the plain loop: every theorem above about `loop` is about
    `loopF {}` -/
theorem C08_no_filters (p : Params) (obj : Objective) (start : Int) (n : Nat) (s : State) :
    loopF {} p obj start n s = loop p obj start n s := by
  induction n generalizing s with
  | zero => rfl
  | succ n ih => exact ih (step p obj start s)

/-- the hypothesis `Filters.Preserve` is needed: a sharpening kernel (negative side lobes: -1/8, 5/4, -1/8) applied after the
    clamp takes the in-bounds image `[1, 0, 1]` (upper bound 1) to `[25/16, -5/16, 25/16]` — below 0 and above the upper bound —
    and `end_of_iteration_processing` hands that out as the iterate (the harness sees the real code do this: known finding
    `bounds:sharpening-filter-applied-after-clamp`) -/
theorem C08_in_bounds_fails_after_sharpening_filter :
    endOfIteration { interInterval := 1, inter := some (sepConvYX 1 3 (-1 / 8) (5 / 4) (-1 / 8)) } 5 2 [1, 0, 1]
      = [25 / 16, -5 / 16, 25 / 16] := by
  decide +kernel

/-- "resuming from a saved iterate reproduces the uninterrupted run", resume variant `precomputed denominator := <file>` with the
    file `<prefix>_precomputed_denominator` that the uninterrupted run's `set_up` wrote (`d0`, read back with the characteristics
    of the image): `set_up` of the resumed run accepts the file, leaves the saved image alone, and from its first sub-iteration
    on the resumed run is in exactly the state of the uninterrupted run.  Same side conditions as `C08_restart_eq`. -/
theorem C08_restart_eq_saved_denominator (p : Params) (obj : Objective) (target img0 d0 : Img) (k : Nat) (hk : 1 ≤ k)
    (hset : setUp p obj 1 target = some (img0, d0)) (hden : p.denominatorOnes = false)
    (hcurv : obj.priorIsZero = false → obj.curvDepends = false → ∀ a b, obj.curv a = obj.curv b)
    (hpos : p.enforceInitialPositivity = false ∨ ∀ v ∈ (loop p obj 1 k ⟨img0, d0, 1⟩).image, 0 < v)
    (tc fc : Chars) (hsame : sameCharacteristics fc tc = true) :
    setUpFile p obj ((k : Int) + 1) tc (.image fc d0) (loop p obj 1 k ⟨img0, d0, 1⟩).image
        = some ((loop p obj 1 k ⟨img0, d0, 1⟩).image, d0) ∧
    ∀ m : Nat, 1 ≤ m →
      loop p obj ((k : Int) + 1) m ⟨(loop p obj 1 k ⟨img0, d0, 1⟩).image, d0, (k : Int) + 1⟩
        = loop p obj 1 m (loop p obj 1 k ⟨img0, d0, 1⟩) := by
  obtain ⟨h1, h2⟩ := C08_restart_eq p obj target img0 d0 k hk hset hden hcurv hpos
  refine ⟨?_, h2⟩
  rw [setUpFile_image, hsame, if_pos rfl, h1]
  rfl

/-- a denominator file is used only if it can be read and has the characteristics of the image (origin within 0.01 mm, same
    index range, grid spacing within 10⁻⁴ relative): otherwise `set_up` refuses — whatever the other parameters;
    and when `set_up` succeeds the denominator is the file's content, nothing is computed -/
theorem C08_denominator_file (p : Params) (obj : Objective) (start : Int) (tc fc : Chars) (target v : Img) :
    (sameCharacteristics fc tc = false → setUpFile p obj start tc (.image fc v) target = none) ∧
    setUpFile p obj start tc .unreadable target = none ∧
    (∀ img d, setUpFile p obj start tc (.image fc v) target = some (img, d) →
        d = v ∧ sameCharacteristics fc tc = true ∧ ∃ d', setUp p obj start target = some (img, d')) := by
  refine ⟨fun hc => ?_, setUpFile_unreadable p obj start tc target, fun img d h => ?_⟩
  · rw [setUpFile_image, hc]
    rfl
  · rw [setUpFile_image, Option.ite_none_right_eq_some, Option.map_eq_some_iff] at h
    obtain ⟨hc, ⟨img', d'⟩, hs, he⟩ := h
    cases he
    exact ⟨rfl, hc, d', hs⟩

/-- characteristics of the 5×5×3 image of 40 mm voxels of the harness' fixed case, and of files that differ from it -/
def witChars : Chars := { origin := [0, 0, 0], range := [0, 2, -2, 2, -2, 2], spacing := [2, 40, 40] }

/-- `has_same_characteristics` as the code has it: identical → yes; origin 1/256 mm off → yes (inside the 0.01 mm tolerance);
    origin 0.5 mm off → no; one voxel more → no; voxels 1.5 times as large → no; voxel size 2⁻¹⁶ relative off → yes -/
theorem C08_same_characteristics_examples :
    sameCharacteristics witChars witChars = true ∧
    sameCharacteristics { witChars with origin := [0, 0, 1 / 256] } witChars = true ∧
    sameCharacteristics { witChars with origin := [0, 1 / 2, 0] } witChars = false ∧
    sameCharacteristics { witChars with range := [0, 2, -2, 3, -2, 3] } witChars = false ∧
    sameCharacteristics { witChars with spacing := [2, 60, 60] } witChars = false ∧
    sameCharacteristics { witChars with spacing := [2, 40 + 40 / 65536, 40 + 40 / 65536] } witChars = true := by
  decide +kernel

/-- one voxel, two bins of one subset seeing it with weight 1, both with 2 counts; the second bin lies in an end plane of
    segment 0 and `zero_seg0_end_planes` is set -/
def witZeroed : Problem :=
  { nz := 1, ny := 1, nx := 1, numSubsets := 1, numViewgrams := 2, prior := none, priorNotParabolic := false,
    rows := #[{ vg := 0, subset := 0, y := 2, add := 0, elems := [(0, 1)] },
              { vg := 1, subset := 0, y := 2, add := 0, elems := [(0, 1)], zeroed := true }] }

/-- the clause "D = minus the approximate log-likelihood Hessian applied to a uniform image" with `zero_seg0_end_planes`
    (repaired code, `fix: approximate and exact log-likelihood Hessian honour zero_seg0_end_planes`; before it the zeroed bin was counted in the
    denominator): gradient, sensitivity AND denominator leave the zeroed bin out
    (gradient at x = 1: 2/1 - 1 = 1, sensitivity 1, denominator 1/2: the Hessian of the one-bin objective on the uniform image,
    the same as for the problem without the zeroed bin) -/
theorem C08_denominator_excludes_zeroed_end_planes :
    witZeroed.gradLik 0 #[1] = #[1] ∧ witZeroed.sensitivity = #[1] ∧ witZeroed.hessOnes = #[-1 / 2] ∧
      ({ witZeroed with rows := witZeroed.rows.pop } : Problem).hessOnes = #[-1 / 2] := by
  decide +kernel

/-- non-vacuity of `C08_in_bounds_after_filters` + `C08_smoothing_filter_preserves_bounds`: the harness' smoothing filter
    (1/4, 1/2, 1/4) as inter-iteration filter (every sub-iteration) and post filter satisfies `Filters.Preserve` -/
example (ny nx : Nat) (ub : Rat) (hub : 0 ≤ ub) :
    Filters.Preserve { interInterval := 1, inter := some (sepConvYX ny nx (1 / 4) (1 / 2) (1 / 4)),
                       post := some (sepConvYX ny nx (1 / 4) (1 / 2) (1 / 4)) } ub := by
  have h : ∀ img, InBox ub img → InBox ub (sepConvYX ny nx (1 / 4) (1 / 2) (1 / 4) img) := fun img himg =>
    C08_smoothing_filter_preserves_bounds ny nx _ _ _ ub (by norm_num) (by norm_num) (by norm_num) (by norm_num) hub img himg
  constructor
  · intro g hg
    cases hg
    exact h
  · intro g hg
    cases hg
    exact h

example : setUpFile witParams witObjPrior ((1 : Nat) + 1 : Int) witChars (.image witChars [0, 1])
      (loop witParams witObjPrior 1 1 ⟨[5, 1], [0, 1], 1⟩).image
    = some ((loop witParams witObjPrior 1 1 ⟨[5, 1], [0, 1], 1⟩).image, [0, 1]) :=
  (C08_restart_eq_saved_denominator witParams witObjPrior (target := [5, 1]) (img0 := [5, 1]) (d0 := [0, 1]) (k := 1)
    (hk := le_refl _) (hset := by decide +kernel) (hden := rfl) (hcurv := fun _ _ _ _ => rfl) (hpos := Or.inl rfl)
    (tc := witChars) (fc := witChars) (hsame := C08_same_characteristics_examples.1)).1

/-- "D the strictly positive precomputed curvature (minus the approximate log-likelihood Hessian applied to a uniform image,
    plus twice the prior's surrogate curvature)" — for an object that has been set up and run before: `set_up` succeeds or
    refuses, and returns the image and the stored denominator, exactly as on a fresh object (`old = none`), whatever denominator
    `old` the earlier run left (after a run with a prior: data part + 2·curvature; possibly for other data).  With `precomputed
    denominator` not given the stored denominator is minus the approximate Hessian of the CURRENT objective function on the
    uniform image, and the first sub-iteration of the new run divides by that plus twice the prior's curvature — once, not once
    per earlier run. -/
theorem C08_setup_again_resets_denominator (p : Params) (obj : Objective) (start : Int) (file : Option (Chars × DenomFile))
    (old : Option Img) (target : Img) :
    setUpObject p obj start file old target = setUpObject p obj start file none target ∧
    (∀ img d, file = none → p.denominatorOnes = false → setUpObject p obj start file old target = some (img, d) →
      d = obj.hessOnes.map (fun a => -a) ∧
      ∀ x, denomUsed obj true x d
        = thresholdMinToSmallPositiveValue
            (if obj.priorIsZero then obj.hessOnes.map (fun a => -a)
             else List.zipWith (fun c d => c * 2 + d) (obj.curv x) (obj.hessOnes.map (fun a => -a))) smallNumber) := by
  refine ⟨rfl, ?_⟩
  intro img d hf hd h
  subst hf
  have hd0 : d = obj.hessOnes.map (fun a => -a) := C08_denominator_after_setup p obj start target img d h hd
  refine ⟨hd0, fun x => ?_⟩
  rw [(C08_denominator_used obj x d).1, hd0]

/-- Histories on one object: `set_up(target)` → `reconstruct(target)` → (the user changes input data, additive term,
    normalisation, number of subsets, relaxation parameters, prior, start sub-iteration, initial image, `precomputed
    denominator`) → `set_up` again → `reconstruct` …, any number of runs, starting from any object state `old`.
    Every run of the history ends in exactly the state (image, stored denominator, counter) that a FRESH object configured
    identically reaches; the history as a whole fails iff one of the `set_up`s would refuse on a fresh object. -/
theorem C08_reuse_eq_fresh (old : Option Img) (rs : List RunSpec) :
    (∀ ss, runHistory old rs = some ss →
        ss.length = rs.length ∧ ∀ (i : Nat) (r : RunSpec), rs[i]? = some r → ss[i]? = runObject none r) ∧
    (runHistory old rs = none → ∃ r ∈ rs, runObject none r = none) := by
  rw [runHistory_eq_mapM]
  exact mapM_option_spec (runObject none) rs

/-- "With no prior or a quadratic prior, resuming from a saved iterate reproduces the uninterrupted run" when the resumed run is
    made by RE-USING the object of the interrupted run (whatever stored denominator `old` it was left with — the interrupted
    run's `D` includes the prior's curvature already): `set_start_subiteration_num(k+1)`, `set_up(saved image)`,
    `reconstruct(saved image)` ends in the final state of the uninterrupted run.  Hypotheses as in `C08_restart_eq_run`. -/
theorem C08_restart_eq_reused_object (p : Params) (obj : Objective) (target img0 d0 : Img) (k : Nat) (hk : 1 ≤ k)
    (hK : (k : Int) < p.numSubiterations)
    (hset : setUp p obj 1 target = some (img0, d0)) (hden : p.denominatorOnes = false)
    (hcurv : obj.priorIsZero = false → obj.curvDepends = false → ∀ a b, obj.curv a = obj.curv b)
    (hpos : p.enforceInitialPositivity = false ∨ ∀ v ∈ (loop p obj 1 k ⟨img0, d0, 1⟩).image, 0 < v) (old : Option Img) :
    runObject old { p := p, obj := obj, start := (k : Int) + 1, target := (loop p obj 1 k ⟨img0, d0, 1⟩).image }
      = run p obj 1 target := by
  rw [runObject_computed]
  exact C08_restart_eq_run p obj target img0 d0 k hk hK hset hden hcurv hpos

def witRun : RunSpec := { p := witParams, obj := witObjPrior, start := 1, target := [5, 1] }

/-- the same problem with other data: the approximate Hessian on the uniform image is `[0, -3]` instead of `[0, -1]` -/
def witRunOtherData : RunSpec := { witRun with obj := { witObjPrior with hessOnes := [0, -3] } }

/-- non-vacuity of `C08_reuse_eq_fresh`, and the contrast with `C08_restart_needs_setup`: three consecutive runs on one object,
    each after `set_up` — the second repeats the first exactly (stored denominator `[2, 3]` again, not `[4, 5]` as without
    `set_up`), the third, after the data were changed, uses the denominator of the new data (`[0, 3] + 2·[1, 1]`), not the stale
    one -/
theorem C08_reuse_history_example :
    runHistory none [witRun, witRun, witRunOtherData]
      = some [⟨[1 / 6, 0], [2, 3], 3⟩, ⟨[1 / 6, 0], [2, 3], 3⟩, ⟨[3 / 10, 7 / 25], [2, 5], 3⟩] := by
  decide +kernel

example : runObject (some [2, 3])
      { p := witParams, obj := witObjPrior, start := ((1 : Nat) : Int) + 1,
        target := (loop witParams witObjPrior 1 1 ⟨[5, 1], [0, 1], 1⟩).image }
    = run witParams witObjPrior 1 [5, 1] :=
  C08_restart_eq_reused_object witParams witObjPrior (target := [5, 1]) (img0 := [5, 1]) (d0 := [0, 1]) (k := 1)
    (hk := le_refl _) (hK := by decide) (hset := by decide +kernel) (hden := rfl) (hcurv := fun _ _ _ _ => rfl)
    (hpos := Or.inl rfl) (old := some [2, 3])

/-- "Phi the penalised objective … D … minus the approximate log-likelihood Hessian applied to a uniform image": when the
    objective function is restricted to fewer segments / TOF bins than the data have (`maximum absolute segment number to
    process`, `set_max_timing_pos_num_to_process`), the sub-gradient of every subset, the sensitivity (hence the non-identifiable
    voxels), the balancing of the subsets AND the approximate Hessian on the uniform image (hence D) are those of one and the same
    problem: `q.restrict`, whose data consist of exactly the bins inside the range (and which has no restriction left).  So D
    belongs to the same Phi as the gradient — for every problem, every range, every image. -/
theorem C08_restricted_range_is_one_matrix (q : Problem) :
    (∀ S x, q.gradLik S x = q.restrict.gradLik S x) ∧ q.hessOnes = q.restrict.hessOnes ∧
    q.sensitivity = q.restrict.sensitivity ∧ q.nonIdent = q.restrict.nonIdent ∧ q.balanced = q.restrict.balanced ∧
    (∀ r ∈ q.restrict.rows, r ∈ q.rows ∧ q.processed r = true) ∧
    (∀ r ∈ q.rows, q.processed r = true → r ∈ q.restrict.rows) := by
  refine ⟨?_, (hessOnes_restrict q).symm, (sensitivity_restrict q).symm, ?_, (balanced_restrict q).symm, ?_, ?_⟩
  · intro S x
    exact (gradLik_restrict q S x).symm
  · unfold Problem.nonIdent
    rw [sensitivity_restrict]
  · intro r hr
    exact Array.mem_filter.mp hr
  · intro r hr hp
    exact Array.mem_filter.mpr ⟨hr, hp⟩

/-- `set_up` refuses (`error("max_segment_num_to_process (%d) is too large")`, same for the TOF bins) a range that exceeds the
    data's: no OSSPS run, whatever the other parameters -/
theorem C08_range_larger_than_data_refused (p : Params) (q : Problem) (start : Int) (target : Img)
    (h : (∃ m, q.maxSegToProcess = some m ∧ q.dataMaxSeg < m) ∨ (∃ m, q.maxTofToProcess = some m ∧ q.dataMaxTof < m)) :
    run p q.toObjective start target = none := by
  have hno : ¬ SetUpAccepts p q.toObjective start := fun ha => by
    have hok : (q.rangeOk && (q.balanced || q.useSubsetSens)) = true := ha.objective
    rw [(rangeOk_eq_false_iff q).mpr h] at hok
    exact nomatch hok
  unfold run
  rw [(setUp_eq_none_iff p q.toObjective start target).mpr hno]

/-- one voxel, one subset, two bins seeing it with weight 1 and 2 counts each: one in segment 0, one in segment 1; the
    objective function is restricted to segment 0 -/
def witSegs : Problem :=
  { nz := 1, ny := 1, nx := 1, numSubsets := 1, numViewgrams := 2, prior := none, priorNotParabolic := false,
    maxSegToProcess := some 0, dataMaxSeg := 1,
    rows := #[{ vg := 0, subset := 0, y := 2, add := 0, elems := [(0, 1)], seg := 0 },
              { vg := 1, subset := 0, y := 2, add := 0, elems := [(0, 1)], seg := 1 }] }

/-- non-vacuity of `C08_restricted_range_is_one_matrix`, and what goes wrong when ONE of the quantities takes the data's own
    segment range instead (the trial change `seeded/C08-c1` to the approximate Hessian): gradient (at x = 1:
    2/1 - 1 = 1), sensitivity (1) and D (1/2) of the restricted problem are those of the one-bin problem; with all segments D
    would be 1 — twice as large, every OSSPS step half as long — while gradient and sensitivity stay those of one bin. -/
theorem C08_restricted_range_example :
    witSegs.gradLik 0 #[1] = #[1] ∧ witSegs.sensitivity = #[1] ∧ witSegs.hessOnes = #[-1 / 2] ∧
    witSegs.restrict.rows.size = 1 ∧ witSegs.setUpOk = true ∧
    ({ witSegs with maxSegToProcess := none } : Problem).hessOnes = #[-1] ∧
    ({ witSegs with maxSegToProcess := some 2 } : Problem).setUpOk = false := by
  decide +kernel

/-- the model side of the oracle clause "a voxel whose gradient component is 0 keeps its (clamped) value": with the strictly
    positive — in particular finite, non-zero — denominator the update `ζ·N·0/D` is 0.  (In float arithmetic a denominator that
    is exactly 0 would give 0/0 = NaN here; `C08_D_positive_in_run` is what excludes it.) -/
theorem C08_zero_gradient_voxel_keeps_value (p : Params) (obj : Objective) (start : Int) (s : State) (j : Nat) (xj dj : Rat)
    (hx : (currentImage obj s.image)[j]? = some xj)
    (hg : (obj.grad (subsetNum s.k p.startSubset p.numSubsets) (currentImage obj s.image))[j]? = some 0)
    (hd : (denomUsed obj (s.k == start) (currentImage obj s.image) s.denom)[j]? = some dj) :
    (updateEstimate p obj start s).image[j]? = some (thresholdUpperLower 0 p.upperBound xj) := by
  rw [C08_ossps_formula p obj start s j xj 0 dj hx hg hd, zero_gradient_step]

/-- three voxels in a row; voxel 0 is seen by no bin and has kappa 0 (a kappa image as it looks outside the FOV), voxels 1 and
    2 are seen by one bin each (2 counts) and have kappa 1; quadratic prior, weights 1 for the two in-line neighbours, factor 1 -/
def witKappaZero : Problem :=
  { nz := 1, ny := 1, nx := 3, numSubsets := 1, numViewgrams := 1, priorNotParabolic := false,
    prior := some { beta := 1, wMinZ := 0, wMaxZ := 0, wMinY := 0, wMaxY := 0, wMinX := -1, wMaxX := 1, weights := #[1, 0, 1],
                    kappa := some #[0, 1, 1], depends := false },
    rows := #[{ vg := 0, subset := 0, y := 2, add := 0, elems := [(1, 1)] },
              { vg := 0, subset := 0, y := 2, add := 0, elems := [(2, 1)] }] }

/-- "D the strictly positive precomputed curvature (… plus twice the prior's surrogate curvature)" with a prior PRESENT whose
    curvature vanishes where the data see nothing: data part `[0, 1/2, 1/2]`, penalty curvature `[0, 1, 1]`, so before the
    thresholding D is EXACTLY 0 in voxel 0 — the penalty does not make the denominator positive — and
    `threshold_min_to_small_positive_value` (applied after the penalty term was added, prior or no prior) lifts it to `10.E-6F`
    times the smallest positive element.  The voxel has gradient 0 (neither data nor penalty see it) and keeps its value 0. -/
theorem C08_D_zero_before_thresholding_with_prior :
    witKappaZero.toObjective.priorIsZero = false ∧
    precomputeDenominator witKappaZero.toObjective = [0, 1 / 2, 1 / 2] ∧
    witKappaZero.toObjective.curv [0, 1, 3] = [0, 1, 1] ∧
    denomUsed witKappaZero.toObjective true [0, 1, 3] [0, 1 / 2, 1 / 2] = [5 / 2 * smallNumber, 5 / 2, 5 / 2] ∧
    witKappaZero.toObjective.grad 0 [0, 1, 3] = [0, 3, -7 / 3] ∧
    (updateEstimate { witParams with numSubiterations := 1 } witKappaZero.toObjective 1 ⟨[0, 1, 3], [0, 1 / 2, 1 / 2], 1⟩).image
      = [0, 11 / 5, 31 / 15] := by
  decide +kernel

example : (updateEstimate { witParams with numSubiterations := 1 } witKappaZero.toObjective 1
      ⟨[0, 1, 3], [0, 1 / 2, 1 / 2], 1⟩).image[0]? = some (thresholdUpperLower 0 10 0) :=
  C08_zero_gradient_voxel_keeps_value { witParams with numSubiterations := 1 } witKappaZero.toObjective 1
    ⟨[0, 1, 3], [0, 1 / 2, 1 / 2], 1⟩ (j := 0) (xj := 0) (dj := 5 / 2 * smallNumber)
    (hx := by decide +kernel) (hg := by decide +kernel) (hd := by decide +kernel)

example : run witParams ({ witSegs with maxSegToProcess := some 2 } : Problem).toObjective 1 [1] = none :=
  C08_range_larger_than_data_refused witParams _ 1 [1] (Or.inl ⟨2, rfl, by decide⟩)

end StirVerif.C08
