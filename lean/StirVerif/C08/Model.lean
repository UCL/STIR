/-
C08 — executable model of `stir::OSSPSReconstruction` (relaxed ordered-subsets separable paraboloidal surrogates).

Sources (pinned tree), transcribed line by line:
* `threshold_upper_lower`, `threshold_lower`, `threshold_min_to_small_positive_value`
  — src/include/stir/thresholding.h:44, :73, :100;  `min_positive_element` — src/include/stir/min_positive_element.h:43;
* `OSSPSReconstruction::precompute_denominator_of_conditioner_without_penalty` — src/iterative/OSSPS/OSSPSReconstruction.cxx:182;
  `OSSPSReconstruction::set_up` — :226;  `OSSPSReconstruction::update_estimate` — :282-404;
* `IterativeReconstruction::set_up` (range checks) — src/recon_buildblock/IterativeReconstruction.cxx:421,
  `::reconstruct(target)` (the loop) — :397, `::get_subset_num` (non-randomised branch) — :630;
* `GeneralisedObjectiveFunction::compute_sub_gradient` (likelihood sub-gradient minus prior gradient / num_subsets),
  `::prior_is_zero`, `::add_multiplication_with_approximate_Hessian_without_penalty` (sum over subsets)
  — src/recon_buildblock/GeneralisedObjectiveFunction.cxx:128, :104, :315;
* `PoissonLogLikelihoodWithLinearModelForMeanAndProjData::actual_add_multiplication_with_approximate_sub_Hessian_without_penalty`
  — src/recon_buildblock/PoissonLogLikelihoodWithLinearModelForMeanAndProjData.cxx:947;
  `RPC_process_related_viewgrams_gradient<false>` — same file :1402;
  `divide_and_truncate(Viewgram, Viewgram, 0, …)` — src/buildblock/recon_array_functions.cxx:172;
  `PoissonLogLikelihoodWithLinearModelForMean::fill_nonidentifiable_target_parameters` — PoissonLogLikelihoodWithLinearModelForMean.cxx:439;
* `QuadraticPrior::compute_gradient`, `::parabolic_surrogate_curvature` — src/recon_buildblock/QuadraticPrior.cxx:283, :458.

Numbers: every quantity is an exact rational (`Rat`); the float rounding of the implementation is not modelled (the
correspondence run compares with a derived forward error bound).  Images are `List Rat` in `begin_all()` order (z, y, x).
The objective function enters `OSSPSReconstruction` only through a handful of things (`Objective`); `Problem.toObjective` builds
them from an explicit system matrix (one row per bin, TOF bins included), the normalisation factor of every bin
(`BinNormalisationFromProjData::apply/undo` = multiply / divide by the factor), the `zero_seg0_end_planes` flag of every bin,
`use_subset_sensitivities` and, for TOF data without `use time-of-flight sensitivities`, the rows of the non-TOF matrix the
sensitivity is back projected with.  Further sources transcribed:
* `distributable.cxx: get_viewgrams` (:166: mult viewgrams = `undo(ones)`, `zero_end_sinograms` of data, additive term, mult),
  `RPC_process_related_viewgrams_gradient` (`- mult` instead of `- 1`), `RPC_process_related_viewgrams_sensitivity_computation`;
* `PoissonLogLikelihoodWithLinearModelForMeanAndProjData::actual_subsets_are_approximately_balanced` (:494) and the refusal of
  unbalanced subsets without subset sensitivities in `PoissonLogLikelihoodWithLinearModelForMean::set_up` (:275);
* `OSSPSReconstruction::set_up`, branch `precomputed denominator := <file>` (:261-272) with
  `DiscretisedDensity::actual_has_same_characteristics` (DiscretisedDensity.inl:71) and
  `DiscretisedDensityOnCartesianGrid::actual_has_same_characteristics` (DiscretisedDensityOnCartesianGrid.inl:73);
* `IterativeReconstruction::end_of_iteration_processing` (IterativeReconstruction.cxx:538: inter-iteration filter every
  `inter_iteration_filter_interval` sub-iterations, post filter after the last one — both AFTER the clamp of `update_estimate`);
  `ArrayFilter1DUsingConvolution::do_it` (zero boundary) for the 3-tap separable filters the harness uses.
* object re-use: `setUpObject` / `runObject` / `runHistory` — `OSSPSReconstruction::set_up` called again on an object that was
  run before (l.251-272: every branch replaces `precomputed_denominator_ptr`), followed by `reconstruct(target)`;
* `OSSPSReconstruction::set_defaults` (`Params.default`) is also what a parameter file that does not mention the OSSPS keys
  leaves (`initialise` = `set_defaults` + `parse`).
* segment / TOF range of the objective function: `max_segment_num_to_process`, `max_timing_pos_num_to_process`
  (`Problem.maxSegToProcess`, `.maxTofToProcess`; `none` = -1 = all of the data) as
  `PoissonLogLikelihoodWithLinearModelForMeanAndProjData::set_up_before_sensitivity` (:600-623: a range larger than the data's is
  an `error()`; :676-682: TOF data, no TOF sensitivities, restricted TOF range → TOF sensitivities after all) and every loop over
  `-max…to_process … +max…to_process` have it: `actual_subsets_are_approximately_balanced` (:513), `add_subset_sensitivity` (:922-930),
  `actual_compute_subset_gradient_without_penalty` (:761-769), `actual_add_multiplication_with_approximate_sub_Hessian_without_penalty`
  (:1025-1028) — `Problem.processed`;
* a `PriorWithParabolicSurrogate` other than the quadratic one (`LogcoshPrior`): only what `OSSPSReconstruction` asks of it
  (`prior_is_zero`, `parabolic_surrogate_curvature_depends_on_argument`); its gradient and curvature are data (`Problem.opaquePrior`).
Not modelled: the random permutation of `randomise_subset_order` (the subset used is data; that every full iteration uses a
permutation is C06's and the harness oracle's), `write_update_image`, 32-bit overflow.
Core Lean only.
-/
namespace StirVerif.C08

/-- an image (or any `TargetT`) flattened in `begin_all()` order -/
abbrev Img := List Rat

/-! ## thresholding.h -/

/-- `threshold_upper_lower(begin,end,new_min,new_max)`, one element (thresholding.h:44):
    `if (*iter > new_max) *iter = new_max; else if (new_min > *iter) *iter = new_min;` -/
def thresholdUpperLower (newMin newMax x : Rat) : Rat :=
  if x > newMax then newMax else if newMin > x then newMin else x

/-- `threshold_lower`, one element (thresholding.h:73) -/
def thresholdLower (newMin x : Rat) : Rat := if newMin > x then newMin else x

/-- one step of the scan of `min_positive_element` (min_positive_element.h:43): skip values `<= 0`, keep the first
    positive one, replace it by a later one only if that is positive and strictly smaller -/
def minPosStep (acc : Option Rat) (x : Rat) : Option Rat :=
  if x ≤ 0 then acc
  else match acc with
    | none => some x
    | some m => if x < m then some x else some m

/-- the value `*min_positive_element(begin,end)`, `none` when it returns `end` -/
def minPositive (l : Img) : Option Rat := l.foldl minPosStep none

/-- `threshold_min_to_small_positive_value(begin,end,small_number)` (thresholding.h:100) -/
def thresholdMinToSmallPositiveValue (l : Img) (small : Rat) : Img :=
  match minPositive l with
  | some m => l.map (thresholdLower (m * small))
  | none => l.map (fun _ => small)

/-- the literal `10.E-6F` used twice in OSSPSReconstruction.cxx (l.249, l.343): the float nearest to 10⁻⁵ -/
def smallNumber : Rat := 2748779 / 274877906944

/-! ## relaxation and subset schedule -/

/-- OSSPSReconstruction.cxx:370-371
    `relaxation_parameter / (1 + relaxation_gamma * ((subiteration_num - 1) / num_subsets))` — `int / int` of the 1-based
    `subiteration_num` minus one: the 0-based number of the full iteration the sub-iteration belongs to
    (repaired code, /repo commit da65a2ea9; before the fix the code divided `subiteration_num` itself). -/
def relaxation (alpha gamma : Rat) (k numSubsets : Int) : Rat :=
  alpha / (1 + gamma * (((k - 1).tdiv numSubsets : Int) : Rat))

/-- `IterativeReconstruction::get_subset_num`, `randomise_subset_order == false` (IterativeReconstruction.cxx:638) -/
def subsetNum (k startSubset numSubsets : Int) : Int := (k + startSubset - 1).tmod numSubsets

/-! ## the reconstruction object -/

/-- the parameters of `OSSPSReconstruction` / `IterativeReconstruction` that matter -/
structure Params where
  numSubsets : Int
  startSubset : Int
  numSubiterations : Int
  alpha : Rat            -- relaxation_parameter
  gamma : Rat            -- relaxation_gamma
  upperBound : Rat       -- static_cast<float>(upper_bound)
  enforceInitialPositivity : Bool
  /-- `precomputed denominator := 1` (the file name "1": denominator of ones instead of the Hessian on ones) -/
  denominatorOnes : Bool := false
  deriving Repr, Inhabited

/-- `OSSPSReconstruction::set_defaults` (l.60-75) on top of `IterativeReconstruction::set_defaults`:
    one subset, start subset 0, one sub-iteration, relaxation 1, gamma `0.1F`, upper bound `FLT_MAX`,
    `enforce_initial_positivity = 0`, denominator computed -/
def Params.default : Params :=
  { numSubsets := 1, startSubset := 0, numSubiterations := 1, alpha := 1,
    gamma := 13421773 / 134217728,                                  -- 0.1F
    upperBound := 340282346638528859811704183484516925440,          -- NumericInfo<float>().max_value()
    enforceInitialPositivity := false, denominatorOnes := false }

/-- what `OSSPSReconstruction` uses of its objective function -/
structure Objective where
  /-- `compute_sub_gradient(·, current_estimate, subset_num)`: penalised -/
  grad : Int → Img → Img
  /-- `add_multiplication_with_approximate_Hessian_without_penalty(0, ones)` -/
  hessOnes : Img
  /-- `prior_is_zero()` -/
  priorIsZero : Bool
  /-- the prior is a `PriorWithParabolicSurrogate` (or there is none) -/
  priorParabolic : Bool
  /-- `parabolic_surrogate_curvature(·, current_estimate)` -/
  curv : Img → Img
  /-- `parabolic_surrogate_curvature_depends_on_argument()` -/
  curvDepends : Bool
  /-- `fill_nonidentifiable_target_parameters(·, 0)` -/
  fillNonIdent : Img → Img
  /-- `objective_function_sptr->set_up(target)` succeeds (IterativeReconstruction.cxx:485); for the Poisson log-likelihood:
      the subsets are balanced or subset sensitivities are used -/
  setUpOk : Bool := true

/-- the mutable state: the image estimate, `*precomputed_denominator_ptr`, `subiteration_num` -/
structure State where
  image : Img
  denom : Img
  k : Int
  deriving Repr, Inhabited, DecidableEq

/-- `precompute_denominator_of_conditioner_without_penalty` (l.182): Hessian applied to ones, sign flipped -/
def precomputeDenominator (obj : Objective) : Img := obj.hessOnes.map (fun a => -a)

/-- `OSSPSReconstruction::set_up` on top of `IterativeReconstruction::set_up` (`precomputed denominator` not given):
    `none` = `Succeeded::no` / `error()`.  Returns the (possibly modified) target image and the denominator. -/
def setUp (p : Params) (obj : Objective) (start : Int) (target : Img) : Option (Img × Img) :=
  if p.numSubsets < 1 then none
  else if p.numSubiterations < 1 then none
  else if p.startSubset < 0 || p.startSubset ≥ p.numSubsets then none
  else if start < 1 then none
  else if !obj.setUpOk then none
  else if p.alpha ≤ 0 then none
  else if p.gamma < 0 then none
  else if !obj.priorParabolic then none
  else
    let target' := if p.enforceInitialPositivity then thresholdMinToSmallPositiveValue target smallNumber else target
    -- l.251-260
    some (target', if p.denominatorOnes then target.map (fun _ => 1) else precomputeDenominator obj)

/-- `recompute_penalty_term_in_denominator` (l.292) -/
def recomputePenalty (obj : Objective) : Bool := !obj.priorIsZero && obj.curvDepends

/-- the denominator image `work_image` of l.323-343 -/
def workDenominator (obj : Objective) (x denom : Img) : Img :=
  let work := if !obj.priorIsZero then List.zipWith (fun c d => c * 2 + d) (obj.curv x) denom else denom
  thresholdMinToSmallPositiveValue work smallNumber

/-- l.285-289: at the start of EVERY sub-iteration the non-identifiable voxels are set to 0
    (repaired code, /repo commit 9aadb0801; before the fix only at the first sub-iteration of a run) -/
def currentImage (obj : Objective) (image : Img) : Img := obj.fillNonIdent image

/-- the image the numerator is divided by (l.321-367): freshly computed when the penalty term has to be recomputed or at
    the first sub-iteration of a run, otherwise `*precomputed_denominator_ptr` -/
def denomUsed (obj : Objective) (first : Bool) (x denom : Img) : Img :=
  if recomputePenalty obj || first then workDenominator obj x denom else denom

/-- `*precomputed_denominator_ptr` after the sub-iteration: l.348-352 "store for future use" -/
def denomStored (obj : Objective) (first : Bool) (x denom : Img) : Img :=
  if recomputePenalty obj || first then
    (if !recomputePenalty obj then workDenominator obj x denom else denom)
  else denom

/-- the additive update image (`*numerator_ptr` at l.392):
    l.310 sub-gradient of the scheduled subset, l.312 `* num_subsets`, l.355/362 `/ denominator`,
    l.370-378 `* relaxation_parameter * alpha` with `alpha = 1.F` -/
def additiveUpdate (p : Params) (obj : Objective) (k : Int) (x D : Img) : Img :=
  let subset := subsetNum k p.startSubset p.numSubsets
  let numerator := (obj.grad subset x).map (fun g => g * (p.numSubsets : Rat))
  let numerator := List.zipWith (fun n d => n / d) numerator D
  let zeta := relaxation p.alpha p.gamma k p.numSubsets
  numerator.map (fun v => v * zeta * 1)

/-- `OSSPSReconstruction::update_estimate` (l.282-404); `start` is `start_subiteration_num`.  `k` is left unchanged.
    l.392 `current_image_estimate += *numerator_ptr`, l.403 `threshold_upper_lower(…, 0.F, static_cast<float>(upper_bound))`. -/
def updateEstimate (p : Params) (obj : Objective) (start : Int) (s : State) : State :=
  let first := s.k == start
  let x := currentImage obj s.image
  let D := denomUsed obj first x s.denom
  { image := (List.zipWith (fun a b => a + b) x (additiveUpdate p obj s.k x D)).map (thresholdUpperLower 0 p.upperBound),
    denom := denomStored obj first x s.denom,
    k := s.k }

/-- one turn of the loop of `IterativeReconstruction::reconstruct(target)` (no filters): update, `subiteration_num++` -/
def step (p : Params) (obj : Objective) (start : Int) (s : State) : State :=
  let s' := updateEstimate p obj start s
  { s' with k := s'.k + 1 }

/-- `n` turns of the loop -/
def loop (p : Params) (obj : Objective) (start : Int) : Nat → State → State
  | 0, s => s
  | n + 1, s => loop p obj start n (step p obj start s)

/-- `IterativeReconstruction::reconstruct(target)`:
    `for (subiteration_num = start; subiteration_num <= num_subiterations; ++subiteration_num)` -/
def reconstruct (p : Params) (obj : Objective) (start : Int) (image denom : Img) : State :=
  loop p obj start (p.numSubiterations - start + 1).toNat ⟨image, denom, start⟩

/-- set_up followed by reconstruct(target): what a (re)started run does -/
def run (p : Params) (obj : Objective) (start : Int) (target : Img) : Option State :=
  match setUp p obj start target with
  | none => none
  | some (img, d) => some (reconstruct p obj start img d)

/-! ## `precomputed denominator := <file>` -/

/-- what `has_same_characteristics` looks at: origin (z,y,x), the regular index range (min, max per dimension), grid spacing -/
structure Chars where
  origin : List Rat
  range : List Int
  spacing : List Rat
  deriving Repr, Inhabited, DecidableEq

/-- `norm(a - b)²` of two coordinates -/
def normSq (a b : List Rat) : Rat := (List.zipWith (fun x y => (x - y) * (x - y)) a b).foldl (· + ·) 0

/-- the double `1.E-2` (DiscretisedDensity.inl:80) and the float `1.E-4F` (DiscretisedDensityOnCartesianGrid.inl:85) -/
def originTolerance : Rat := 5764607523034235 / 576460752303423488
def spacingTolerance : Rat := 13743895 / 137438953472

/-- `this->has_same_characteristics(other)` for two `VoxelsOnCartesianGrid<float>` (same type):
    `norm(other.origin - this.origin) > 1.E-2` → no; index ranges differ → no;
    `norm(other.spacing - this.spacing) > 1.E-4F * norm(this.spacing)` → no.  (Norms compared through their squares.) -/
def sameCharacteristics (this other : Chars) : Bool :=
  if normSq other.origin this.origin > originTolerance * originTolerance then false
  else if other.range != this.range then false
  else if normSq other.spacing this.spacing
            > spacingTolerance * spacingTolerance * normSq this.spacing (this.spacing.map fun _ => 0) then false
  else true

/-- the file named by `precomputed denominator`: `read_from_file` throws, or an image -/
inductive DenomFile where
  | unreadable
  | image (chars : Chars) (values : Img)
  deriving Repr, Inhabited

/-- `OSSPSReconstruction::set_up` with `precomputed denominator := <file>` (l.261-272): all the checks of `setUp`, then the file
    is read and must have the characteristics of the target image; nothing is computed, the file's values are the denominator. -/
def setUpFile (p : Params) (obj : Objective) (start : Int) (targetChars : Chars) (file : DenomFile) (target : Img) :
    Option (Img × Img) :=
  match setUp p obj start target with
  | none => none
  | some (target', _) =>
    match file with
    | .unreadable => none
    | .image ch values => if sameCharacteristics ch targetChars then some (target', values) else none

/-! ## one reconstruction object, several runs -/

/-- `OSSPSReconstruction::set_up` (l.226-274) as a method of an OBJECT that may have been set up and run before:
    `old` is `*precomputed_denominator_ptr` as the previous run left it (`none`: null pointer, a fresh object) — after a run
    with a prior that is the data part PLUS twice the prior's surrogate curvature (`denomStored`).
    `file = none`: `precomputed denominator` is "" or "1" (`Params.denominatorOnes`); `some (characteristics of the target, file)`:
    a file name.  Every branch of l.251-272 REPLACES the pointer (`reset(target->get_empty_copy())` + recomputation / fill with 1 /
    `read_from_file`): nothing of `old` survives a successful `set_up`, whatever the data, the prior or the parameters of the
    earlier run were.  (When `set_up` refuses, the object must not be run; in the file branch the pointer then already points to
    the mismatching image that was read.) -/
def setUpObject (p : Params) (obj : Objective) (start : Int) (file : Option (Chars × DenomFile)) (_old : Option Img)
    (target : Img) : Option (Img × Img) :=
  match file with
  | none => setUp p obj start target
  | some (targetChars, f) => setUpFile p obj start targetChars f target

/-- what the user configures before one `set_up(target)` + `reconstruct(target)` on the object: the parameters (number of
    subsets, relaxation, upper bound, …), the objective function (input data, additive term, normalisation, prior — they may all
    have been changed since the previous run), `start_subiteration_num`, `precomputed denominator`, the initial image -/
structure RunSpec where
  p : Params
  obj : Objective
  start : Int
  file : Option (Chars × DenomFile) := none
  target : Img

/-- `set_up(target)` followed by `reconstruct(target)` on an object whose stored denominator is `old` -/
def runObject (old : Option Img) (r : RunSpec) : Option State :=
  match setUpObject r.p r.obj r.start r.file old r.target with
  | none => none
  | some (img, d) => some (reconstruct r.p r.obj r.start img d)

/-- consecutive runs on ONE object: every run starts from the stored denominator the previous run left
    (`none` when one of the `set_up`s refuses) -/
def runHistory (old : Option Img) : List RunSpec → Option (List State)
  | [] => some []
  | r :: rs =>
    match runObject old r with
    | none => none
    | some s =>
      match runHistory (some s.denom) rs with
      | none => none
      | some ss => some (s :: ss)

/-! ## inter-iteration and post filter -/

/-- the image processors of `IterativeReconstruction` / `Reconstruction`: `inter_iteration_filter_ptr` with its interval,
    `post_filter_sptr` -/
structure Filters where
  interInterval : Int := 0
  inter : Option (Img → Img) := none
  post : Option (Img → Img) := none

/-- `if (inter_iteration_filter_interval > 0 && !is_null_ptr(inter_iteration_filter_ptr)
        && subiteration_num % inter_iteration_filter_interval == 0) inter_iteration_filter_ptr->apply(current_estimate)` -/
def applyInterFilter (f : Filters) (k : Int) (img : Img) : Img :=
  match f.inter with
  | some g => if f.interInterval > 0 && k.tmod f.interInterval == 0 then g img else img
  | none => img

/-- `if (subiteration_num == num_subiterations && !is_null_ptr(post_filter_sptr)) post_filter_sptr->apply(current_estimate)` -/
def applyPostFilter (f : Filters) (numSubiterations k : Int) (img : Img) : Img :=
  match f.post with
  | some g => if k == numSubiterations then g img else img
  | none => img

/-- `IterativeReconstruction::end_of_iteration_processing` (:538), the part that changes the image: inter-iteration filter,
    then post filter.  Nothing is clamped afterwards. -/
def endOfIteration (f : Filters) (numSubiterations k : Int) (img : Img) : Img :=
  applyPostFilter f numSubiterations k (applyInterFilter f k img)

/-- one turn of the loop of `reconstruct(target)` with filters: `update_estimate`, `end_of_iteration_processing`, `++` -/
def stepF (f : Filters) (p : Params) (obj : Objective) (start : Int) (s : State) : State :=
  let s' := updateEstimate p obj start s
  { s' with image := endOfIteration f p.numSubiterations s'.k s'.image, k := s'.k + 1 }

def loopF (f : Filters) (p : Params) (obj : Objective) (start : Int) : Nat → State → State
  | 0, s => s
  | n + 1, s => loopF f p obj start n (stepF f p obj start s)

/-- one pass of `ArrayFilter1DUsingConvolution::do_it` (zero boundary condition, ArrayFilter1DUsingConvolution.cxx:137) with
    the three taps `c[-1], c[0], c[1]` along an axis of `len` entries and stride `stride` of an image flattened in z,y,x order:
    `out[i] = Σ_j c[j]·in[i-j]` over the `i-j` inside the line -/
def conv3Axis (len stride : Nat) (cm c0 cp : Rat) (x : Img) : Img :=
  (List.range x.length).map fun j =>
    let pos := (j / stride) % len
    let prev := if 1 ≤ pos then x.getD (j - stride) 0 else 0
    let next := if pos + 1 < len then x.getD (j + stride) 0 else 0
    cp * prev + c0 * x.getD j 0 + cm * next

/-- `SeparableConvolutionImageFilter` with the same three taps in y and in x and the trivial kernel `{1}` in z, on an
    `nz × ny × nx` image -/
def sepConvYX (ny nx : Nat) (cm c0 cp : Rat) (x : Img) : Img :=
  conv3Axis nx 1 cm c0 cp (conv3Axis ny nx cm c0 cp x)

/-! ## a concrete objective function: Poisson log-likelihood with explicit system matrix + quadratic prior -/

/-- one bin: its viewgram (for the per-viewgram threshold of `divide_and_truncate`), its subset, measured counts, additive
    term, and its row of the system matrix as (voxel index, value) -/
structure Row where
  vg : Nat
  subset : Int
  y : Rat
  add : Rat
  elems : List (Nat × Rat)
  /-- the normalisation factor of the bin (`BinNormalisationFromProjData`: the value of the normalisation data; 1 = trivial) -/
  norm : Rat := 1
  /-- first or last axial position of segment 0 and `zero_seg0_end_planes` is set -/
  zeroed : Bool := false
  /-- segment number and TOF bin (`timing_pos_num`) of the bin -/
  seg : Int := 0
  tof : Int := 0
  deriving Repr, Inhabited

/-- the bin's value in the `mult_viewgrams` of `distributable.cxx: get_viewgrams`: ones, `normalisation->undo` (divide by the
    factor), end planes of segment 0 zeroed.  (Trivial normalisation and no zeroing: no mult viewgrams, `- 1`.) -/
def Row.mult (r : Row) : Rat := if r.zeroed then 0 else 1 / r.norm

/-- `QuadraticPrior` (+ the test double of the harness that makes the curvature image dependent) -/
structure Prior where
  beta : Rat                           -- penalisation_factor
  /-- index range of `weights` and the weights in `begin_all()` order -/
  wMinZ : Int
  wMaxZ : Int
  wMinY : Int
  wMaxY : Int
  wMinX : Int
  wMaxX : Int
  weights : Array Rat
  kappa : Option (Array Rat)
  /-- `parabolic_surrogate_curvature_depends_on_argument()`; when true the harness' subclass multiplies the
      curvature of voxel j by `1 + x_j²` -/
  depends : Bool
  deriving Repr, Inhabited

structure Problem where
  nz : Nat
  ny : Nat
  nx : Nat
  numSubsets : Int
  rows : Array Row
  numViewgrams : Nat
  prior : Option Prior
  /-- a prior object that is not a `PriorWithParabolicSurrogate` -/
  priorNotParabolic : Bool
  /-- `use_subset_sensitivities` -/
  useSubsetSens : Bool := true
  /-- TOF data without `use time-of-flight sensitivities`: the rows (subset, normalisation factor, zeroed, elements) of the
      non-TOF matrix of the cloned back projector the sensitivity is computed with; `none`: the data's own rows -/
  sensRows : Option (Array Row) := none
  /-- `max_segment_num_to_process` (setter / keyword `maximum absolute segment number to process`); `none`: -1, which `set_up`
      replaces by the data's maximum segment number: all rows -/
  maxSegToProcess : Option Int := none
  /-- `max_timing_pos_num_to_process` (setter only); `none`: -1 = all TOF bins of the data -/
  maxTofToProcess : Option Int := none
  /-- `proj_data_sptr->get_max_segment_num()`, `->get_max_tof_pos_num()` -/
  dataMaxSeg : Int := 0
  dataMaxTof : Int := 0
  /-- a prior object that is a `PriorWithParabolicSurrogate` but not the quadratic one (`LogcoshPrior`), with non-zero
      penalisation factor; the value is what its `parabolic_surrogate_curvature_depends_on_argument()` returns (`LogcoshPrior`:
      `false`).  Its gradient and curvature are not modelled: `Problem.grad` / `.curv` then give the likelihood part / zero and
      are not to be used; `OSSPSReconstruction` (`updateEstimate`) is modelled for it with the prior's answers as data. -/
  opaquePrior : Option Bool := none
  deriving Repr, Inhabited

/-- `-m <= a <= m`: the loops `for (segment_num = -max_segment_num_to_process; segment_num <= max_segment_num_to_process; …)` -/
def inSymRange (m : Option Int) (a : Int) : Bool :=
  match m with
  | none => true
  | some m => decide (-m ≤ a) && decide (a ≤ m)

/-- the bin belongs to the segment range AND the TOF range the objective function processes: every quantity of the objective
    function (sensitivity, sub-gradient, approximate Hessian, balancing of the subsets) runs over exactly these bins -/
def Problem.processed (q : Problem) (r : Row) : Bool :=
  inSymRange q.maxSegToProcess r.seg && inSymRange q.maxTofToProcess r.tof

/-- `set_up_before_sensitivity` (:606, :619): `error("max_segment_num_to_process (%d) is too large")`, same for TOF -/
def Problem.rangeOk (q : Problem) : Bool :=
  (match q.maxSegToProcess with | none => true | some m => decide (m ≤ q.dataMaxSeg)) &&
  (match q.maxTofToProcess with | none => true | some m => decide (m ≤ q.dataMaxTof))

/-- `max_timing_pos_num_to_process < proj_data_info_sptr->get_max_tof_pos_num()` (:677): then `use_tofsens` is switched on
    ("the non-TOF sensitivity is the sum over all TOF bins") -/
def Problem.tofRestricted (q : Problem) : Bool :=
  match q.maxTofToProcess with
  | none => false
  | some m => decide (m < q.dataMaxTof)

def Problem.nvox (q : Problem) : Nat := q.nz * q.ny * q.nx

/-- `SMALL_NUM` of recon_array_functions.cxx:44 (`0.000001F`): the float nearest to 10⁻⁶ -/
def SMALL_NUM : Rat := 8796093 / 8796093022208

/-- `divide_and_truncate` for one bin with `rim_truncation_sino = 0` (recon_array_functions.cxx:213-246):
    `small_value = max(numerator_viewgram.find_max() * SMALL_NUM, 0)` is passed in. -/
def divideAndTruncate (smallValue num den : Rat) : Rat :=
  if num ≤ smallValue then 0
  else if num > 10000 * den then 10000
  else num / den

def maxR (a b : Rat) : Rat := if a < b then b else a

/-- `ProjMatrixElemsForOneBin::forward_project`: Σ_j P_bj x_j -/
def Row.forward (r : Row) (x : Array Rat) : Rat :=
  r.elems.foldl (fun acc e => acc + e.2 * x.getD e.1 0) 0

/-- back projection of one bin value: out_j += P_bj v -/
def Row.backInto (r : Row) (v : Rat) (out : Array Rat) : Array Rat :=
  r.elems.foldl (fun o e => o.modify e.1 (· + e.2 * v)) out

/-- per-viewgram maxima of a per-bin quantity (`Viewgram::find_max`; every viewgram has at least one bin) -/
def viewgramMax (q : Problem) (f : Row → Rat) : Array (Option Rat) :=
  q.rows.foldl (fun m r =>
    -- (only viewgrams of the segment / TOF range to process are ever read)
    if !q.processed r then m else
    let v := f r
    m.modify r.vg (fun o => match o with | none => some v | some w => some (maxR w v))) (Array.replicate q.numViewgrams none)

def smallValueOf (m : Array (Option Rat)) (vg : Nat) (sn : Rat) : Rat :=
  match m.getD vg none with
  | some w => maxR (w * sn) 0
  | none => 0

/-- `actual_compute_subset_gradient_without_penalty(…, add_sensitivity = false)` via
    `RPC_process_related_viewgrams_gradient<false>`: for every bin of the subset (every TOF bin)
    `back_project( divide_and_truncate(y, forward_project(x) + additive) - mult )`, where `get_viewgrams` has set data,
    additive term and mult of a zeroed end plane to 0 (so the per-viewgram maximum is taken over the other bins) -/
def Problem.gradLik (q : Problem) (subset : Int) (x : Array Rat) : Array Rat :=
  let ymax := viewgramMax q (fun r => if r.zeroed then 0 else r.y)
  q.rows.foldl (fun out r =>
    if r.subset != subset || !q.processed r then out
    else
      let y := if r.zeroed then 0 else r.y
      let add := if r.zeroed then 0 else r.add
      let den := r.forward x + add
      let quot := divideAndTruncate (smallValueOf ymax r.vg SMALL_NUM) y den
      r.backInto (quot - r.mult) out) (Array.replicate q.nvox 0)

/-- `add_multiplication_with_approximate_Hessian_without_penalty(output = 0, input = ones)`: for every subset and every
    bin of it (every TOF bin) `output -= back_project( divide_and_truncate(forward_project(ones), y·n·n) )` — the data with the
    normalisation applied twice (l.1010, l.1014); with `zero_seg0_end_planes` the forward projection of the end planes of
    segment 0 is set to 0 before the division (repaired code, /repo commit edcd88182: before the fix the viewgrams were used as read and the
    end planes took part). -/
def Problem.hessOnes (q : Problem) : Array Rat :=
  let ones : Array Rat := Array.replicate q.nvox 1
  let fwd (r : Row) : Rat := if r.zeroed then 0 else r.forward ones
  let fmax := viewgramMax q fwd
  q.rows.foldl (fun out r =>
    if r.subset < 0 || r.subset ≥ q.numSubsets || !q.processed r then out
    else
      let quot := divideAndTruncate (smallValueOf fmax r.vg SMALL_NUM) (fwd r) (r.y * r.norm * r.norm)
      r.backInto (-quot) out) (Array.replicate q.nvox 0)

/-- the sensitivity image (`add_subset_sensitivity` for every subset, `RPC_process_related_viewgrams_sensitivity_computation`:
    back projection of the mult viewgrams): Σ_b P_bj mult_b over all bins of all subsets — of the data's own matrix, or of the
    non-TOF matrix when the data are TOF and `use time-of-flight sensitivities` is off.  With `use_subset_sensitivities` off
    the subset sensitivities are accumulated into one image right away: the same sum. -/
def Problem.sensitivity (q : Problem) : Array Rat :=
  -- a restricted TOF range switches `use_tofsens` on: the data's own (TOF) rows
  (if q.tofRestricted then q.rows else q.sensRows.getD q.rows).foldl
    (fun out r => if r.subset < 0 || r.subset ≥ q.numSubsets || !q.processed r then out else r.backInto r.mult out)
    (Array.replicate q.nvox 0)

/-- number of viewgrams (view, segment[, TOF bin]) in every subset.  (`actual_subsets_are_approximately_balanced` counts, per
    subset, the view/segments related to the basic ones of the subset; that these are the view/segments whose bins carry the
    subset's number is C06's subject.  With TOF every view/segment counts once per TOF bin in every subset alike.) -/
def Problem.viewgramsPerSubset (q : Problem) : Array Nat :=
  let vgSubset : Array (Option Int) :=
    q.rows.foldl (fun m r => if !q.processed r then m else m.modify r.vg (fun _ => some r.subset))
      (Array.replicate q.numViewgrams none)
  vgSubset.foldl (fun c o =>
    match o with
    | some s => if 0 ≤ s && s < q.numSubsets then c.modify s.toNat (· + 1) else c
    | none => c) (Array.replicate q.numSubsets.toNat 0)

/-- `actual_subsets_are_approximately_balanced` (PoissonLogLikelihoodWithLinearModelForMeanAndProjData.cxx:494):
    every subset has as many view/segments as subset 0 -/
def Problem.balanced (q : Problem) : Bool :=
  let c := q.viewgramsPerSubset
  c.all (fun n => n == c.getD 0 0)

/-- `PoissonLogLikelihoodWithLinearModelForMean::set_up` (:275): unbalanced subsets are refused unless
    `use_subset_sensitivities` is on; `set_up_before_sensitivity`: a segment / TOF range larger than the data's is an error -/
def Problem.setUpOk (q : Problem) : Bool := q.rangeOk && (q.balanced || q.useSubsetSens)

/-- the problem whose DATA consist of the processed bins only, with no restriction left: by `C08_restricted_range_is_one_matrix`
    every quantity of `q` is that quantity of `q.restrict` — gradient, sensitivity and approximate Hessian (hence D) belong to one
    and the same system matrix -/
def Problem.restrict (q : Problem) : Problem :=
  { q with rows := q.rows.filter q.processed,
           sensRows := if q.tofRestricted then none else q.sensRows.map (fun a => a.filter q.processed),
           maxSegToProcess := none, maxTofToProcess := none }

/-- sensitivity == 0 (`PoissonLogLikelihoodWithLinearModelForMean::fill_nonidentifiable_target_parameters` tests
    `*sens_iter == 0`); matrix rows may contain elements whose value is 0 -/
def Problem.nonIdent (q : Problem) : Array Bool := q.sensitivity.map (fun v => v == 0)

/-- the neighbourhood sum shared by `QuadraticPrior::compute_gradient` and `::parabolic_surrogate_curvature`:
    Σ over (dz,dy,dx) in the weights' index range intersected with the image of `term w κ_j κ_k x_j x_k` -/
def Prior.neighbourSum (pr : Prior) (nz ny nx : Nat) (x : Array Rat) (term : Rat → Rat → Rat → Rat) : Array Rat :=
  let sy : Int := pr.wMaxY - pr.wMinY + 1
  let sx : Int := pr.wMaxX - pr.wMinX + 1
  let rng (lo hi : Int) : List Int := (List.range (hi - lo + 1).toNat).map (fun (i : Nat) => lo + Int.ofNat i)
  (Array.range (nz * ny * nx)).map fun j =>
    let z : Int := (j / (ny * nx) : Nat)
    let y : Int := ((j / nx) % ny : Nat)
    let xx : Int := (j % nx : Nat)
    let kj := match pr.kappa with | some k => k.getD j 1 | none => 1
    let xj := x.getD j 0
    (rng (max pr.wMinZ (0 - z)) (min pr.wMaxZ ((nz : Int) - 1 - z))).foldl (fun acc dz =>
      (rng (max pr.wMinY (0 - y)) (min pr.wMaxY ((ny : Int) - 1 - y))).foldl (fun acc dy =>
        (rng (max pr.wMinX (0 - xx)) (min pr.wMaxX ((nx : Int) - 1 - xx))).foldl (fun acc dx =>
          let w := pr.weights.getD (((dz - pr.wMinZ) * sy + (dy - pr.wMinY)) * sx + (dx - pr.wMinX)).toNat 0
          let k : Nat := (((z + dz) * (ny : Int) + (y + dy)) * (nx : Int) + (xx + dx)).toNat
          let kk := match pr.kappa with | some kp => kj * kp.getD k 1 | none => 1
          acc + term w kk (xj - x.getD k 0)) acc) acc) 0

/-- `QuadraticPrior::compute_gradient`: β Σ_d w_d (x_j − x_{j+d}) κ_j κ_{j+d} -/
def Prior.gradient (pr : Prior) (nz ny nx : Nat) (x : Array Rat) : Array Rat :=
  (pr.neighbourSum nz ny nx x (fun w kk diff => w * diff * kk)).map (· * pr.beta)

/-- `QuadraticPrior::parabolic_surrogate_curvature`: β Σ_d w_d κ_j κ_{j+d}  (independent of the image);
    with the harness' test double additionally `· (1 + x_j²)` -/
def Prior.curvature (pr : Prior) (nz ny nx : Nat) (x : Array Rat) : Array Rat :=
  let c := (pr.neighbourSum nz ny nx x (fun w kk _ => w * 1 * kk)).map (· * pr.beta)
  if pr.depends then (Array.range c.size).map (fun j => c.getD j 0 * (1 + x.getD j 0 * x.getD j 0)) else c

/-- `GeneralisedObjectiveFunction::prior_is_zero` -/
def Problem.priorIsZero (q : Problem) : Bool :=
  match q.opaquePrior with
  | some _ => false
  | none =>
  match q.prior with
  | none => !q.priorNotParabolic
  | some pr => pr.beta == 0

/-- `GeneralisedObjectiveFunction::compute_sub_gradient`: likelihood part minus prior gradient / num_subsets -/
def Problem.grad (q : Problem) (subset : Int) (x : Array Rat) : Array Rat :=
  let g := q.gradLik subset x
  match q.prior with
  | some pr =>
    if pr.beta == 0 then g
    else
      let pg := pr.gradient q.nz q.ny q.nx x
      (Array.range g.size).map (fun j => g.getD j 0 - pg.getD j 0 / (q.numSubsets : Rat))
  | none => g

def Problem.curv (q : Problem) (x : Array Rat) : Array Rat :=
  match q.prior with
  | some pr => pr.curvature q.nz q.ny q.nx x
  | none => Array.replicate q.nvox 0

/-- `fill_nonidentifiable_target_parameters(target, 0)` for a given sensitivity-is-zero mask -/
def fillMask (mask : List Bool) (x : Img) : Img :=
  List.zipWith (fun (b : Bool) v => if b then 0 else v) mask x

def Problem.fill (q : Problem) (x : Img) : Img := fillMask q.nonIdent.toList x

/-- the problem as `OSSPSReconstruction` sees it, with the two image-independent precomputations passed in
    (so that an executable can cache them) -/
def Problem.toObjectiveWith (q : Problem) (hess : Img) (mask : List Bool) : Objective where
  grad := fun s x => (q.grad s x.toArray).toList
  hessOnes := hess
  priorIsZero := q.priorIsZero
  priorParabolic := !q.priorNotParabolic
  curv := fun x => (q.curv x.toArray).toList
  curvDepends := match q.opaquePrior with
    | some d => d
    | none => match q.prior with | some pr => pr.depends | none => true
  fillNonIdent := fillMask mask
  setUpOk := q.setUpOk

/-- the problem as `OSSPSReconstruction` sees it -/
def Problem.toObjective (q : Problem) : Objective := q.toObjectiveWith q.hessOnes.toList q.nonIdent.toList

end StirVerif.C08
