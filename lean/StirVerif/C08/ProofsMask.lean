/-
C08 — non-identifiable voxels: when the (penalised) gradient vanishes on the voxels with zero sensitivity — the case without a
prior — every iterate is exactly 0 there.
-/
import StirVerif.C08.ProofsRun

namespace StirVerif.C08

def ZeroOn (mask : List Bool) (img : Img) : Prop :=
  ∀ j : Nat, mask[j]? = some true → ∀ v, img[j]? = some v → v = 0

theorem zeroOn_fillMask (mask : List Bool) (img : Img) : ZeroOn mask (fillMask mask img) := by
  intro j hm v hv
  obtain ⟨b, w, hb, _, rfl⟩ := List.getElem?_zipWith_eq_some.mp hv
  rw [hm] at hb
  cases hb
  rfl

theorem fillMask_length_le (mask : List Bool) (img : Img) : (fillMask mask img).length ≤ img.length := by
  unfold fillMask
  rw [List.length_zipWith]
  exact Nat.min_le_right _ _

theorem fillMask_eq_self (mask : List Bool) (img : Img) (hlen : img.length ≤ mask.length) (hz : ZeroOn mask img) :
    fillMask mask img = img := by
  -- entry by entry: entry `j` of `img` has a mask bit, and where the bit is set the entry is 0 already
  unfold fillMask
  refine List.ext_getElem (by rw [List.length_zipWith, Nat.min_eq_right hlen]) fun j _ h => ?_
  rw [List.getElem_zipWith, ite_eq_right_iff]
  exact fun hb => (hz j (List.getElem?_eq_some_iff.mpr ⟨lt_of_lt_of_le h hlen, hb⟩) _ (List.getElem?_eq_getElem h)).symm

variable (p : Params) (obj : Objective) (start : Int)

/-- one sub-iteration, from ANY state, leaves the masked voxels at 0 when the gradient vanishes there: the sub-iteration zeroes
    them first, the step is `ζ·N·0/D = 0`, and the clamp keeps 0 -/
theorem updateEstimate_zeroOn (s : State) (mask : List Bool)
    (hub : 0 ≤ p.upperBound) (hfill : obj.fillNonIdent = fillMask mask)
    (hg : ∀ S y, ZeroOn mask (obj.grad S y)) :
    ZeroOn mask (updateEstimate p obj start s).image := by
  intro j hm v hv
  rw [updateEstimate_getElem?] at hv
  obtain ⟨xj, hxj, hv⟩ := Option.bind_eq_some_iff.mp hv
  obtain ⟨gj, hgj, hv⟩ := Option.bind_eq_some_iff.mp hv
  obtain ⟨dj, _, rfl⟩ := Option.map_eq_some_iff.mp hv
  have hcur : currentImage obj s.image = fillMask mask s.image := congrFun hfill s.image
  rw [hcur] at hxj
  rw [zeroOn_fillMask mask s.image j hm xj hxj, hg _ _ j hm gj hgj, zero_gradient_step]
  exact thresholdUpperLower_of_mem 0 p.upperBound 0 (le_refl 0) hub

theorem updateEstimate_length_le (s : State) :
    (updateEstimate p obj start s).image.length ≤ (currentImage obj s.image).length := by
  unfold updateEstimate
  simp only [List.length_map, List.length_zipWith]
  exact Nat.min_le_left _ _

theorem loop_length_le (mask : List Bool)
    (hfill : obj.fillNonIdent = fillMask mask) (n : Nat) (s : State) :
    (loop p obj start n s).image.length ≤ s.image.length := by
  induction n generalizing s with
  | zero => exact le_refl _
  | succ n ih =>
    refine le_trans (ih (step p obj start s)) (le_trans (updateEstimate_length_le p obj start s) ?_)
    rw [currentImage, hfill]
    exact fillMask_length_le mask s.image

end StirVerif.C08
