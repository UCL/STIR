/-
C08 — thresholding and the arithmetic of the relaxed step.
-/
import StirVerif.C08.Model
import Mathlib.Tactic.SplitIfs
import Mathlib.Algebra.Order.Field.Rat
import Mathlib.Algebra.Order.Field.Basic

namespace StirVerif.C08

theorem thresholdUpperLower_bounds (lo hi x : Rat) (h : lo ≤ hi) :
    lo ≤ thresholdUpperLower lo hi x ∧ thresholdUpperLower lo hi x ≤ hi := by
  unfold thresholdUpperLower
  split_ifs with h1 h2
  · exact ⟨h, le_refl _⟩
  · exact ⟨le_refl _, h⟩
  · exact ⟨not_lt.mp h2, not_lt.mp h1⟩

theorem thresholdUpperLower_of_mem (lo hi x : Rat) (h1 : lo ≤ x) (h2 : x ≤ hi) : thresholdUpperLower lo hi x = x := by
  unfold thresholdUpperLower
  rw [if_neg (not_lt.mpr h2), if_neg (not_lt.mpr h1)]

theorem thresholdLower_eq_max (lo x : Rat) : thresholdLower lo x = max x lo := (max_def_lt x lo).symm

theorem minPosStep_of_nonpos (acc : Option Rat) (x : Rat) (h : x ≤ 0) : minPosStep acc x = acc := if_pos h

theorem minPosStep_none_of_pos (x : Rat) (h : 0 < x) : minPosStep none x = some x := if_neg (not_le.mpr h)

theorem minPosStep_some_of_pos (m x : Rat) (h : 0 < x) : minPosStep (some m) x = some (min m x) := by
  rw [min_def_lt', apply_ite some]
  exact if_neg (not_le.mpr h)

theorem foldl_minPosStep (l : Img) (acc : Option Rat) :
    l.foldl minPosStep acc = (acc.toList ++ l.filter (0 < ·)).min? := by
  induction l generalizing acc with
  | nil => cases acc <;> rfl
  | cons x t ih =>
    rw [List.foldl_cons, ih, List.filter_cons]
    by_cases hx : 0 < x
    · rw [if_pos (decide_eq_true hx)]
      cases acc with
      | none =>
        rw [minPosStep_none_of_pos x hx]
        rfl
      | some m =>
        rw [minPosStep_some_of_pos m x hx]
        rfl
    · rw [if_neg (by simpa using hx), minPosStep_of_nonpos acc x (not_lt.mp hx)]

theorem minPositive_eq_min? (l : Img) : minPositive l = (l.filter (0 < ·)).min? :=
  foldl_minPosStep l none

theorem minPositive_some (l : Img) (m : Rat) (h : minPositive l = some m) :
    0 < m ∧ ∀ x ∈ l, 0 < x → m ≤ x := by
  rw [minPositive_eq_min?, List.min?_eq_some_iff] at h
  obtain ⟨hm, hmin⟩ := h
  exact ⟨of_decide_eq_true (List.mem_filter.mp hm).2,
    fun x hx hpos => hmin x (List.mem_filter.mpr ⟨hx, decide_eq_true hpos⟩)⟩

theorem minPositive_none (l : Img) (h : minPositive l = none) : ∀ x ∈ l, x ≤ 0 := by
  rw [minPositive_eq_min?, List.min?_eq_none_iff, List.filter_eq_nil_iff] at h
  intro x hx
  exact not_lt.mp (fun hpos => h x hx (decide_eq_true hpos))

theorem smallNumber_pos : 0 < smallNumber := by decide +kernel

theorem smallNumber_le_one : smallNumber ≤ 1 := by decide +kernel

theorem thresholdMin_lower_bound (l : Img) (small : Rat) :
    ∀ v ∈ thresholdMinToSmallPositiveValue l small,
      (match minPositive l with | some m => m * small | none => small) ≤ v := by
  unfold thresholdMinToSmallPositiveValue
  cases minPositive l with
  | none => exact List.forall_mem_map.mpr fun _ _ => le_refl small
  | some m =>
    refine List.forall_mem_map.mpr fun x _ => ?_
    rw [thresholdLower_eq_max]
    exact le_max_right x _

theorem thresholdMin_pos (l : Img) (small : Rat) (hs : 0 < small) :
    ∀ v ∈ thresholdMinToSmallPositiveValue l small, 0 < v := by
  intro v hv
  refine lt_of_lt_of_le ?_ (thresholdMin_lower_bound l small v hv)
  cases hm : minPositive l with
  | none => exact hs
  | some m => exact mul_pos (minPositive_some l m hm).1 hs

theorem thresholdMin_of_all_pos (l : Img) (small : Rat) (hs : small ≤ 1) (h : ∀ x ∈ l, 0 < x) :
    thresholdMinToSmallPositiveValue l small = l := by
  unfold thresholdMinToSmallPositiveValue
  cases hm : minPositive l with
  | none =>
    cases l with
    | nil => rfl
    | cons a t => exact absurd (h a List.mem_cons_self) (not_lt.mpr (minPositive_none _ hm a List.mem_cons_self))
  | some m =>
    obtain ⟨hmpos, hmin⟩ := minPositive_some l m hm
    have hfloor : m * small ≤ m := mul_le_of_le_one_right (le_of_lt hmpos) hs
    refine (List.map_congr_left fun x hx => ?_).trans (List.map_id l)
    exact (thresholdLower_eq_max _ x).trans (max_eq_left (le_trans hfloor (hmin x hx (h x hx))))

theorem thresholdMin_length (l : Img) (small : Rat) : (thresholdMinToSmallPositiveValue l small).length = l.length := by
  unfold thresholdMinToSmallPositiveValue
  cases minPositive l <;> simp

theorem thresholdMin_idem (l : Img) (small : Rat) (hs0 : 0 < small) (hs : small ≤ 1) :
    thresholdMinToSmallPositiveValue (thresholdMinToSmallPositiveValue l small) small
      = thresholdMinToSmallPositiveValue l small :=
  thresholdMin_of_all_pos _ small hs (thresholdMin_pos l small hs0)

/-- a zero gradient component makes the relaxed preconditioned step `ζ·N·0/D` vanish, whatever the denominator -/
theorem zero_gradient_step (x n d z : Rat) : x + 0 * n / d * z = x := by
  rw [zero_mul, zero_div, zero_mul, add_zero]

theorem div_one_add_mul_antitone {alpha gamma q q' : Rat} (ha : 0 < alpha) (hg : 0 ≤ gamma) (hq : 0 ≤ q) (hqq : q ≤ q') :
    0 < alpha / (1 + gamma * q') ∧ alpha / (1 + gamma * q') ≤ alpha / (1 + gamma * q) ∧ alpha / (1 + gamma * q) ≤ alpha := by
  have d1 : 1 ≤ 1 + gamma * q := le_add_of_nonneg_right (mul_nonneg hg hq)
  have d12 : 1 + gamma * q ≤ 1 + gamma * q' := add_le_add (le_refl 1) (mul_le_mul_of_nonneg_left hqq hg)
  have d1pos : 0 < 1 + gamma * q := lt_of_lt_of_le one_pos d1
  exact ⟨div_pos ha (lt_of_lt_of_le d1pos d12), div_le_div_of_nonneg_left (le_of_lt ha) d1pos d12,
    div_le_self (le_of_lt ha) d1⟩

end StirVerif.C08
