/-
C08 — `set_up`, the `reconstruct` loop and the restart argument.
-/
import StirVerif.C08.Proofs

namespace StirVerif.C08

@[simp] theorem updateEstimate_k (p : Params) (obj : Objective) (start : Int) (s : State) :
    (updateEstimate p obj start s).k = s.k := rfl

variable (p : Params) (obj : Objective) (start : Int)

/-- the checks of `OSSPSReconstruction::set_up` / `IterativeReconstruction::set_up`: none of them looks at the image -/
structure SetUpAccepts (p : Params) (obj : Objective) (start : Int) : Prop where
  numSubsets : 1 ≤ p.numSubsets
  numSubiterations : 1 ≤ p.numSubiterations
  startSubset : 0 ≤ p.startSubset ∧ p.startSubset < p.numSubsets
  start : 1 ≤ start
  objective : obj.setUpOk = true
  alpha : 0 < p.alpha
  gamma : 0 ≤ p.gamma
  parabolic : obj.priorParabolic = true

theorem setUp_eq_some_iff (target img d : Img) :
    setUp p obj start target = some (img, d) ↔
      SetUpAccepts p obj start ∧
      img = (if p.enforceInitialPositivity then thresholdMinToSmallPositiveValue target smallNumber else target) ∧
      d = (if p.denominatorOnes then target.map (fun _ => 1) else precomputeDenominator obj) := by
  -- `(if c then none else b) = some a ↔ ¬c ∧ b = some a` turns the chain of refusals into a conjunction
  simp only [setUp, Option.ite_none_left_eq_some, Option.some.injEq, Prod.mk.injEq, not_lt, not_le, Bool.or_eq_true,
    decide_eq_true_eq, not_or, Bool.not_eq_true', Bool.not_eq_false, ge_iff_le, @eq_comm _ _ img, @eq_comm _ _ d]
  constructor
  · rintro ⟨h1, h2, h3, h4, h5, h6, h7, h8, h⟩
    exact ⟨⟨h1, h2, h3, h4, h5, h6, h7, h8⟩, h⟩
  · rintro ⟨⟨h1, h2, h3, h4, h5, h6, h7, h8⟩, h⟩
    exact ⟨h1, h2, h3, h4, h5, h6, h7, h8, h⟩

theorem setUp_eq_none_iff (target : Img) :
    setUp p obj start target = none ↔ ¬ SetUpAccepts p obj start := by
  rw [Option.eq_none_iff_forall_ne_some]
  constructor
  · intro h ha
    exact h _ ((setUp_eq_some_iff p obj start target _ _).mpr ⟨ha, rfl, rfl⟩)
  · intro h v hv
    exact h ((setUp_eq_some_iff p obj start target v.1 v.2).mp hv).1

@[simp] theorem step_k (s : State) :
    (step p obj start s).k = s.k + 1 := rfl

theorem loop_add (a b : Nat) (s : State) :
    loop p obj start (a + b) s = loop p obj start b (loop p obj start a s) := by
  induction a generalizing s with
  | zero =>
    rw [Nat.zero_add]
    rfl
  | succ a ih =>
    rw [Nat.succ_add]
    exact ih _

theorem loop_succ (n : Nat) (s : State) :
    loop p obj start (n + 1) s = step p obj start (loop p obj start n s) :=
  loop_add p obj start n 1 s

theorem loop_k (n : Nat) (s : State) :
    (loop p obj start n s).k = n + s.k := by
  induction n with
  | zero => exact (Int.zero_add _).symm
  | succ n ih => rw [loop_succ, step_k, ih, Int.natCast_succ, Int.add_right_comm]

theorem lt_loop_k (n : Nat) (s : State) : s.k < (loop p obj start (n + 1) s).k := by
  rw [loop_k]
  omega

theorem loop_not_first (img d : Img) (n : Nat) :
    ((loop p obj start (n + 1) ⟨img, d, start⟩).k == start) = false :=
  beq_eq_false_iff_ne.mpr (ne_of_gt (lt_loop_k p obj start n _))

theorem denomUsed_first (x d : Img) : denomUsed obj true x d = workDenominator obj x d := by
  simp only [denomUsed, Bool.or_true, if_true]

theorem denomUsed_not_first (x d : Img) :
    denomUsed obj false x d = if recomputePenalty obj then workDenominator obj x d else d := by
  simp only [denomUsed, Bool.or_false]

theorem denomStored_first (x d : Img) :
    denomStored obj true x d = if recomputePenalty obj then d else workDenominator obj x d := by
  unfold denomStored
  cases recomputePenalty obj <;> rfl

theorem denomStored_not_first (x d : Img) : denomStored obj false x d = d := by
  unfold denomStored
  cases recomputePenalty obj <;> rfl

theorem additiveUpdate_getElem? (k : Int) (x D : Img) (j : Nat) :
    (additiveUpdate p obj k x D)[j]? =
      (obj.grad (subsetNum k p.startSubset p.numSubsets) x)[j]?.bind fun gj =>
      D[j]?.map fun dj => gj * (p.numSubsets : Rat) / dj * relaxation p.alpha p.gamma k p.numSubsets := by
  -- every `map` / `zipWith` layer reads the voxel it is applied to, in the `Option` monad
  simp only [additiveUpdate, List.getElem?_map, List.getElem?_zipWith, mul_one]
  cases (obj.grad (subsetNum k p.startSubset p.numSubsets) x)[j]? <;> cases D[j]? <;> rfl

theorem updateEstimate_getElem? (s : State) (j : Nat) :
    (updateEstimate p obj start s).image[j]? =
      (currentImage obj s.image)[j]?.bind fun xj =>
      (obj.grad (subsetNum s.k p.startSubset p.numSubsets) (currentImage obj s.image))[j]?.bind fun gj =>
      (denomUsed obj (s.k == start) (currentImage obj s.image) s.denom)[j]?.map fun dj =>
        thresholdUpperLower 0 p.upperBound
          (xj + gj * (p.numSubsets : Rat) / dj * relaxation p.alpha p.gamma s.k p.numSubsets) := by
  simp only [updateEstimate, List.getElem?_map, List.getElem?_zipWith, additiveUpdate_getElem?]
  cases (currentImage obj s.image)[j]? <;>
    cases (obj.grad (subsetNum s.k p.startSubset p.numSubsets) (currentImage obj s.image))[j]? <;>
    cases (denomUsed obj (s.k == start) (currentImage obj s.image) s.denom)[j]? <;> rfl

theorem step_indep_start (a b : Int) (s : State) (ha : a < s.k) (hb : b < s.k) : step p obj a s = step p obj b s := by
  have h : (s.k == a) = (s.k == b) := by
    rw [beq_eq_false_iff_ne.mpr (ne_of_gt ha), beq_eq_false_iff_ne.mpr (ne_of_gt hb)]
  simp only [step, updateEstimate, h]

theorem loop_indep_start (a b : Int) (n : Nat) (s : State) (ha : a < s.k) (hb : b < s.k) :
    loop p obj a n s = loop p obj b n s := by
  induction n generalizing s with
  | zero => rfl
  | succ n ih =>
    show loop p obj a n (step p obj a s) = loop p obj b n (step p obj b s)
    rw [step_indep_start p obj a b s ha hb]
    apply ih
    · rw [step_k]
      omega
    · rw [step_k]
      omega

theorem loop_denom (img d : Img) (n : Nat) :
    (loop p obj start (n + 1) ⟨img, d, start⟩).denom
      = if recomputePenalty obj then d else workDenominator obj (currentImage obj img) d := by
  induction n with
  | zero =>
    show denomStored obj (start == start) (currentImage obj img) d = _
    rw [beq_self_eq_true, denomStored_first]
  | succ n ih =>
    rw [loop_succ]
    show denomStored obj ((loop p obj start (n + 1) ⟨img, d, start⟩).k == start) _ _ = _
    rw [loop_not_first, denomStored_not_first, ih]

/-- the image the numerator is divided by in sub-iteration `n` (0-based) of a run set up on `d` is the work denominator of `d`: at
    the current image when the penalty term is recomputed every time or the run is at its first sub-iteration, otherwise at the
    image the run started from -/
theorem loop_denomUsed (img d x : Img) (n : Nat) :
    denomUsed obj ((loop p obj start n ⟨img, d, start⟩).k == start) x (loop p obj start n ⟨img, d, start⟩).denom
      = workDenominator obj (if recomputePenalty obj || n == 0 then x else currentImage obj img) d := by
  cases n with
  | zero =>
    show denomUsed obj (start == start) x d = _
    rw [beq_self_eq_true, denomUsed_first]
    cases recomputePenalty obj <;> rfl
  | succ n =>
    rw [loop_not_first, denomUsed_not_first, loop_denom]
    cases recomputePenalty obj <;> rfl

def InBox (ub : Rat) (img : Img) : Prop := ∀ v ∈ img, 0 ≤ v ∧ v ≤ ub

theorem updateEstimate_inBox (s : State) (hub : 0 ≤ p.upperBound) :
    InBox p.upperBound (updateEstimate p obj start s).image :=
  List.forall_mem_map.mpr fun y _ => thresholdUpperLower_bounds 0 p.upperBound y hub

theorem workDenominator_pos (x d : Img) : ∀ v ∈ workDenominator obj x d, 0 < v :=
  thresholdMin_pos _ _ smallNumber_pos

/-- a prior that is present and declares its surrogate curvature independent of the image has one that is
    (quadratic prior: `C08_quadratic_curvature_independent`; no prior: vacuous) -/
def CurvIndep (obj : Objective) : Prop :=
  obj.priorIsZero = false → obj.curvDepends = false → ∀ a b, obj.curv a = obj.curv b

/-- the work denominator looks at the image only through the prior's curvature: not at all when the penalty term is not
    recomputed and the prior keeps its word -/
theorem workDenominator_indep (hr : recomputePenalty obj = false) (hcurv : CurvIndep obj) (x x' d : Img) :
    workDenominator obj x d = workDenominator obj x' d := by
  unfold workDenominator
  cases hp : obj.priorIsZero with
  | true => rfl
  | false =>
    have hcd : obj.curvDepends = false := by
      simpa [recomputePenalty, hp] using hr
    rw [hcurv hp hcd x x']

/-- What makes a restart work: the first sub-iteration of a run set up on `d0` does what a later sub-iteration of an earlier run
    set up on `d0` does in the same place (that run holds `d0` itself if the penalty term is recomputed every time, otherwise the
    work denominator of its first sub-iteration, which does not depend on the image then). -/
theorem step_first_eq_later (hcurv : CurvIndep obj) (a K : Int) (hK : a < K) (img x0 d0 : Img) :
    step p obj K ⟨img, d0, K⟩
      = step p obj a ⟨img, if recomputePenalty obj then d0 else workDenominator obj x0 d0, K⟩ := by
  have hnf : (K == a) = false := beq_eq_false_iff_ne.mpr (ne_of_gt hK)
  -- both sides are `⟨clamp (x + update x D), D', K + 1⟩` with `x` the zeroed image: the left one at its first sub-iteration
  -- (`K == K`), the right one not (`hnf`)
  simp only [step, updateEstimate, beq_self_eq_true, hnf, denomUsed_first, denomUsed_not_first, denomStored_first,
    denomStored_not_first]
  cases hr : recomputePenalty obj
  · simp only [Bool.false_eq_true, if_false, workDenominator_indep obj hr hcurv (currentImage obj img) x0 d0]
  · rfl

/-- a fresh object set up on the image of a later state `s` of a run set up on `d0`, with `start_subiteration_num = s.k`, is after
    its first sub-iteration in the state the running object is in after its next one, hence for ever after -/
theorem restart_of_later (hcurv : CurvIndep obj) (a : Int) (x0 d0 : Img) (s : State) (hk : a < s.k)
    (hd : s.denom = if recomputePenalty obj then d0 else workDenominator obj x0 d0) (m : Nat) :
    loop p obj s.k (m + 1) ⟨s.image, d0, s.k⟩ = loop p obj a (m + 1) s := by
  show loop p obj s.k m (step p obj s.k ⟨s.image, d0, s.k⟩) = loop p obj a m (step p obj a s)
  rw [step_first_eq_later p obj hcurv a s.k hk s.image x0 d0, ← hd]
  exact loop_indep_start p obj s.k a m _ (Int.lt_add_one_of_le (Int.le_refl _)) (Int.lt_add_one_of_le (Int.le_of_lt hk))

/-- `⟨img0, d0, a⟩` is the state after `set_up` of the uninterrupted run (started at any sub-iteration `a`); the resumed run is a
    fresh object set up on the saved image with `start_subiteration_num = k + a`.  No condition on the non-identifiable voxels:
    they are zeroed at the start of every sub-iteration of every run. -/
theorem restart_loop (a : Int) (img0 d0 : Img) (k : Nat) (hcurv : CurvIndep obj) (m : Nat) (hm : 1 ≤ m) :
    loop p obj (k + a) m ⟨(loop p obj a k ⟨img0, d0, a⟩).image, d0, k + a⟩ = loop p obj a m (loop p obj a k ⟨img0, d0, a⟩) := by
  cases k with
  | zero => simp [loop]
  | succ k =>
    obtain ⟨m, rfl⟩ : ∃ m', m = m' + 1 := ⟨m - 1, by omega⟩
    have h := restart_of_later p obj hcurv a _ d0 _ (lt_loop_k p obj a k _) (loop_denom p obj a img0 d0 k) m
    rwa [loop_k] at h

end StirVerif.C08
