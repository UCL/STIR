/-
C07 — one voxel: `stir::divide`, the MAP denominators, the relative-change limits and the multiplicative application;
one bin of `divide_and_truncate`.
-/
import StirVerif.C07.Model
import Mathlib.Algebra.Order.Field.Basic
import Mathlib.Algebra.Order.Field.Rat
import Mathlib.Tactic.Linarith
import Mathlib.Tactic.NormNum
import Mathlib.Tactic.SplitIfs

namespace StirVerif.C07

theorem absR_eq_abs (x : Rat) : absR x = |x| := by
  unfold absR
  split_ifs with h
  · exact (abs_of_neg h).symm
  · exact (abs_of_nonneg (not_lt.mp h)).symm

theorem stdMax_eq_max (a b : Rat) : stdMax a b = max a b :=
  (max_def_lt a b).symm

theorem stdMin_eq_min (a b : Rat) : stdMin a b = min a b :=
  ((min_comm a b).trans (min_def_lt b a)).symm

theorem clamp_bounds {lo hi : Rat} (d : Rat) (h : lo ≤ hi) :
    lo ≤ stdMax (stdMin d hi) lo ∧ stdMax (stdMin d hi) lo ≤ hi := by
  rw [stdMax_eq_max, stdMin_eq_min]
  exact ⟨le_max_right _ _, max_le (min_le_right _ _) h⟩

theorem clamp_id {lo hi d : Rat} (h1 : lo ≤ d) (h2 : d ≤ hi) : stdMax (stdMin d hi) lo = d := by
  rw [stdMax_eq_max, stdMin_eq_min, min_eq_left h2, max_eq_left h1]

theorem denom_bounds (m : MapModel) (n : Nat) (pg s : Rat) (hs : 0 ≤ s) :
    s / 10 ≤ denom m n pg s ∧ denom m n pg s ≤ s * 10 := by
  have h10 : (1 : Rat) ≤ 10 := by norm_num
  have lo : s / 10 ≤ s := div_le_self hs h10
  have hi : s ≤ s * 10 := le_mul_of_one_le_right hs h10
  cases m
  · exact ⟨lo, hi⟩
  · exact clamp_bounds _ (lo.trans hi)
  · obtain ⟨h1, h2⟩ := clamp_bounds (pg + 1) (show (1 / 10 : Rat) ≤ 10 by norm_num)
    constructor
    · rw [div_eq_inv_mul, ← one_div]
      exact mul_le_mul_of_nonneg_right h1 hs
    · rw [mul_comm s]
      exact mul_le_mul_of_nonneg_right h2 hs

theorem denom_nonneg (m : MapModel) (n : Nat) (pg s : Rat) (hs : 0 ≤ s) : 0 ≤ denom m n pg s :=
  (div_nonneg hs (by norm_num)).trans (denom_bounds m n pg s hs).1

theorem denom_eq_zero_iff (m : MapModel) (n : Nat) (pg s : Rat) (hs : 0 ≤ s) : denom m n pg s = 0 ↔ s = 0 := by
  obtain ⟨h1, h2⟩ := denom_bounds m n pg s hs
  constructor
  · intro h0
    rw [h0] at h1
    exact le_antisymm (by linarith) hs
  · intro h0
    subst h0
    rw [zero_div] at h1
    rw [zero_mul] at h2
    exact le_antisymm h2 h1

theorem le_maxElem {g : Img} {x : Rat} (hx : x ∈ g) : x ≤ maxElem g := by
  cases g with
  | nil => cases hx
  | cons a as =>
    -- the fold keeps the larger of two values: `maxElem (a :: as)` is the `max?` of core
    have hf : (fun m y : Rat => if m < y then y else m) = max := funext fun m => funext fun y => stdMax_eq_max m y
    rw [maxElem, hf]
    exact (List.max?_eq_some_iff.1 List.max?_cons').2 x hx

theorem smallValue_nonneg (g : Img) (c : Rat) : 0 ≤ smallValue g c := by
  simp only [smallValue]
  split_ifs with h
  · exact h.le
  · exact le_rfl

theorem smallValue_smallNum_zero (g : Img) : smallValue g 0 = 0 := by
  simp [smallValue]

theorem divide1_regular {small num den : Rat} (hd : den ≠ 0) (h : ¬(absR den ≤ small ∧ absR num ≤ small)) :
    divide1 small num den = .fin (num / den) := by
  simp only [divide1, if_neg h, if_neg hd]

/-- threshold `0` (no prior) and a numerator that vanishes with the denominator: the quotient, `0/0 ↦ 0` (which is what
    `num / 0` is in a Lean field) -/
theorem divide1_small_zero {num den : Rat} (h : den = 0 → num = 0) : divide1 0 num den = .fin (num / den) := by
  by_cases hd : den = 0
  · rw [hd, h hd, div_zero]
    rfl
  · refine divide1_regular hd fun h' => hd ?_
    rw [absR_eq_abs] at h'
    exact abs_nonpos_iff.mp h'.1

theorem divide1_nonneg {small num den : Rat} (hsm : 0 ≤ small) (hn : 0 ≤ num) (hd : 0 ≤ den)
    (hcons : den = 0 → num = 0) : ∃ q, divide1 small num den = .fin q ∧ 0 ≤ q := by
  by_cases h1 : absR den ≤ small ∧ absR num ≤ small
  · exact ⟨0, if_pos h1, le_rfl⟩
  · have h2 : den ≠ 0 := by
      intro h2
      rw [h2, hcons h2, absR_eq_abs, abs_zero] at h1
      exact h1 ⟨hsm, hsm⟩
    exact ⟨num / den, divide1_regular h2 h1, div_nonneg hn hd⟩

/-- the relative-change limits are the clamp of the MAP denominators; `lo ≤ hi` is needed: a value above `hi < lo` becomes
    `hi` in the code and `lo` in the clamp -/
theorem thresholdUpperLower_fin {lo hi : Rat} (h : lo ≤ hi) (q : Rat) :
    thresholdUpperLower lo hi (.fin q) = .fin (stdMax (stdMin q hi) lo) := by
  rw [stdMax_eq_max, stdMin_eq_min, thresholdUpperLower]
  split_ifs with h1 h2
  · rw [min_eq_right h1.le, max_eq_left h]
  · rw [min_eq_left (not_lt.mp h1), max_eq_right h2.le]
  · rw [min_eq_left (not_lt.mp h1), max_eq_left (not_lt.mp h2)]

/-- the update of a voxel once `stir::divide` has delivered a finite quotient `u` that the relative-change limits leave
    alone: `λ · u`.  The EM formula (`divide1_small_zero`) and the one-step-late MAP update (`divide1_regular`) are the two
    cases of it. -/
theorem updVoxel_of_divide1 {m : MapModel} {n : Nat} {small : Rat} {limit : Bool} {minRel maxRel lam g s pg u : Rat}
    (hu : divide1 small g (denom m n pg s) = .fin u) (hlim : limit = false ∨ (minRel ≤ u ∧ u ≤ maxRel)) :
    updVoxel m n small limit minRel maxRel lam g s pg = .fin (lam * u) := by
  have hc : (if limit then thresholdUpperLower minRel maxRel (.fin u) else .fin u) = .fin u := by
    rcases hlim with rfl | h
    · rfl
    · rw [thresholdUpperLower_fin (h.1.trans h.2), clamp_id h.1 h.2, ite_self]
  simp only [updVoxel, hu, hc, mulExt]

theorem dtSmallValue_nonneg (num : List Rat) : 0 ≤ dtSmallValue num := by
  rw [dtSmallValue, stdMax_eq_max]
  exact le_max_right _ _

theorem divideAndTruncate1_bounds (small num den : Rat) (hs : 0 ≤ small) :
    0 ≤ divideAndTruncate1 small num den ∧ divideAndTruncate1 small num den ≤ maxQuotient := by
  unfold divideAndTruncate1 maxQuotient
  split_ifs with h1 h2
  · norm_num
  · norm_num
  · have hn : 0 < num := lt_of_le_of_lt hs (not_le.mp h1)
    have h2' : num ≤ 10000 * den := not_lt.mp h2
    have hd : 0 < den := by linarith
    exact ⟨div_nonneg hn.le hd.le, (div_le_iff₀ hd).mpr h2'⟩

end StirVerif.C07
