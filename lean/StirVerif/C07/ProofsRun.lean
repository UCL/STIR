/-
C07 — the run of sub-iterations and its restart.  `runFrom` and `runFromPost` are the same loop over two step functions
(`iterFrom`); a run of `m + n` steps is the run of `m` steps continued from its last image (`iterFrom_add`), and it depends on
the step function only at the sub-iteration numbers it visits (`iterFrom_congr`).  Restarting and the post-filter follow from
these two; that `enforce_initial_positivity` plays no role in a run is `rfl` on the step function.
-/
import StirVerif.C07.ProofsImage

namespace StirVerif.C07

def iterFrom (step : Nat → Img → Option Img) : Nat → Nat → Img → List Img
  | _, 0, _ => []
  | k, n + 1, img =>
    match step k img with
    | none => []
    | some img' => img' :: iterFrom step (k + 1) n img'

theorem runFrom_eq_iterFrom (c : Cfg) (n k : Nat) (img : Img) : runFrom c k n img = iterFrom (subIter c) k n img := by
  fun_induction runFrom c k n img with
  | case1 => rfl
  | case2 k n img h => simp only [iterFrom, h]
  | case3 k n img img' h ih => simp only [iterFrom, h, ih]

theorem runFromPost_eq_iterFrom (c : Cfg) (post : Option (Img → Img)) (last n k : Nat) (img : Img) :
    runFromPost c post last k n img = iterFrom (subIterPost c post last) k n img := by
  fun_induction runFromPost c post last k n img with
  | case1 => rfl
  | case2 k n img h => simp only [iterFrom, h]
  | case3 k n img img' h ih => simp only [iterFrom, h, ih]

theorem iterFrom_add (step : Nat → Img → Option Img) : ∀ (m n k : Nat) (img : Img), (iterFrom step k m img).length = m →
    iterFrom step k (m + n) img =
      iterFrom step k m img ++ iterFrom step (k + m) n ((iterFrom step k m img).getLastD img)
  | 0, n, k, img, _ => by
    rw [Nat.zero_add]
    rfl
  | m + 1, n, k, img, h => by
    rw [Nat.add_right_comm m 1 n]
    simp only [iterFrom] at h ⊢
    split at h
    · cases h
    · next img' _ =>
      rw [iterFrom_add step m n (k + 1) img' (Nat.succ.inj h), Nat.add_right_comm k 1 m, List.cons_append,
        List.getLastD_cons]
      rfl

theorem iterFrom_congr (step step' : Nat → Img → Option Img) :
    ∀ (n k : Nat) (img : Img), (∀ j, k ≤ j → j < k + n → step j = step' j) →
    iterFrom step k n img = iterFrom step' k n img
  | 0, _, _, _ => rfl
  | n + 1, k, img, h => by
    simp only [iterFrom, h k (Nat.le_refl k) (by omega)]
    split
    · rfl
    · rw [iterFrom_congr step step' n (k + 1) _ fun j h1 h2 => h j (by omega) (by omega)]

theorem iterFrom_invariant (step : Nat → Img → Option Img) (Q : Img → Prop)
    (hstep : ∀ k img, Q img → ∃ img', step k img = some img' ∧ Q img') :
    ∀ (n k : Nat) (img : Img), Q img → (iterFrom step k n img).length = n ∧ ∀ im ∈ iterFrom step k n img, Q im
  | 0, _, _, _ => ⟨rfl, fun _ h => nomatch h⟩
  | n + 1, k, img, himg => by
    obtain ⟨img', h1, h2⟩ := hstep k img himg
    obtain ⟨ih1, ih2⟩ := iterFrom_invariant step Q hstep n (k + 1) img' h2
    simp only [iterFrom, h1, List.length_cons, ih1, List.forall_mem_cons]
    exact ⟨trivial, h2, ih2⟩

theorem runFrom_length_le (c : Cfg) : ∀ (n k : Nat) (img : Img), (runFrom c k n img).length ≤ n := by
  intro n k img
  fun_induction runFrom c k n img with
  | case1 => exact Nat.le_refl 0
  | case2 => exact Nat.zero_le _
  | case3 k n img img' h ih => exact Nat.succ_le_succ ih

theorem endOfIterationPost_none (c : Cfg) (last k : Nat) (img : Img) :
    endOfIterationPost c none last k img = endOfIteration c k img := rfl

theorem endOfIterationPost_eq_endOfIteration (c : Cfg) (post : Option (Img → Img)) (last k : Nat) (h : post = none ∨ k ≠ last) :
    endOfIterationPost c post last k = endOfIteration c k := by
  funext img
  cases post with
  | none => rfl
  | some f => simp only [endOfIterationPost, if_neg (h.resolve_left (Option.some_ne_none f))]

theorem subIterPost_eq_subIter (c : Cfg) (post : Option (Img → Img)) (last k : Nat) (h : post = none ∨ k ≠ last) :
    subIterPost c post last k = subIter c k := by
  funext img
  rw [subIterPost, endOfIterationPost_eq_endOfIteration c post last k h]
  rfl

def postApply (post : Option (Img → Img)) (img : Img) : Img :=
  match post with
  | some f => f img
  | none => img

theorem endOfIterationPost_last (c : Cfg) (post : Option (Img → Img)) (last : Nat) :
    endOfIterationPost c post last last = postApply post ∘ endOfIteration c last := by
  funext img
  cases post with
  | none => rfl
  | some f => simp only [endOfIterationPost, if_true, postApply, Function.comp_apply]

theorem subIterPost_last (c : Cfg) (post : Option (Img → Img)) (last : Nat) (img : Img) :
    subIterPost c post last last img = (subIter c last img).map (postApply post) := by
  rw [subIterPost, subIter, Option.map_map, endOfIterationPost_last]

theorem runFromPost_eq_runFrom_of_le (c : Cfg) (post : Option (Img → Img)) (last n k : Nat) (img : Img) (h : k + n ≤ last) :
    runFromPost c post last k n img = runFrom c k n img := by
  rw [runFromPost_eq_iterFrom, runFrom_eq_iterFrom]
  exact iterFrom_congr _ _ n k img fun j _ hj => subIterPost_eq_subIter c post last j (Or.inr (by omega))

theorem iterFrom_split (step : Nat → Img → Option Img) {start k last : Nat} (img : Img) (h1 : start ≤ k + 1) (h2 : k ≤ last)
    (hfull : (iterFrom step start (k + 1 - start) img).length = k + 1 - start) :
    iterFrom step start (last + 1 - start) img =
      iterFrom step start (k + 1 - start) img ++
        iterFrom step (k + 1) (last + 1 - (k + 1)) ((iterFrom step start (k + 1 - start) img).getLastD img) := by
  rw [← Nat.sub_add_sub_cancel (Nat.succ_le_succ h2) h1, Nat.add_comm, iterFrom_add step _ _ _ _ hfull,
    Nat.add_sub_cancel' h1]

theorem reconstruct_split (c : Cfg) (start k last : Nat) (img : Img) (h1 : start ≤ k + 1) (h2 : k ≤ last)
    (hfull : (reconstruct c start k img).length = k + 1 - start) :
    reconstruct c start last img =
      reconstruct c start k img ++ reconstruct c (k + 1) last ((reconstruct c start k img).getLastD img) := by
  simp only [reconstruct, runFrom_eq_iterFrom] at hfull ⊢
  exact iterFrom_split _ img h1 h2 hfull

theorem reconstructPost_split (c : Cfg) (post : Option (Img → Img)) (start k last : Nat) (img : Img)
    (h1 : start ≤ k + 1) (h2 : k < last)
    (hfull : (reconstruct c start k img).length = k + 1 - start) :
    reconstructPost c post start last img =
      reconstruct c start k img ++ reconstructPost c post (k + 1) last ((reconstruct c start k img).getLastD img) := by
  rw [reconstruct, ← runFromPost_eq_runFrom_of_le c post last _ _ img ((Nat.add_sub_cancel' h1).trans_le h2)] at hfull ⊢
  simp only [reconstructPost, runFromPost_eq_iterFrom] at hfull ⊢
  exact iterFrom_split _ img h1 h2.le hfull

theorem reconstructPost_last (c : Cfg) (post : Option (Img → Img)) (last : Nat) (img : Img) :
    reconstructPost c post last last img = ((subIter c last img).map (postApply post)).toList := by
  rw [reconstructPost, Nat.add_sub_cancel_left, runFromPost_eq_iterFrom, ← subIterPost_last]
  simp only [iterFrom]
  cases subIterPost c post last last img <;> rfl

theorem reconstruct_last (c : Cfg) (last : Nat) (img : Img) :
    reconstruct c last last img = (subIter c last img).toList := by
  rw [reconstruct, Nat.add_sub_cancel_left, runFrom_eq_iterFrom]
  simp only [iterFrom]
  cases subIter c last img <;> rfl

theorem reconstructPost_enforce_irrelevant (c : Cfg) (post : Option (Img → Img)) (b : Bool) (start last : Nat) (img : Img) :
    reconstructPost { c with enforceInitialPositivity := b } post start last img = reconstructPost c post start last img := by
  simp only [reconstructPost, runFromPost_eq_iterFrom]
  -- `subIterPost` reads every field of the configuration but this one
  rfl

end StirVerif.C07
