/-
C07 — whole images: the positivity thresholding, the filter stage of a sub-iteration, `zip4With` and `allFin`.
-/
import StirVerif.C07.ProofsVoxel
import Mathlib.Data.List.OfFn

namespace StirVerif.C07

/-- only `b` and `c` come paired: `DataOK` relates numerator and sensitivity of the SAME voxel, the other two operands are
    bounded element by element -/
theorem zip4With_mem {α : Type} (f : Rat → Rat → Rat → Rat → α) (a b c d : Img) (x : α) (h : x ∈ zip4With f a b c d) :
    ∃ aj ∈ a, ∃ p ∈ b.zip c, ∃ dj ∈ d, x = f aj p.1 p.2 dj := by
  fun_induction zip4With f a b c d with
  | case1 a as b bs c cs d ds ih =>
    rcases List.mem_cons.mp h with rfl | h
    · exact ⟨a, List.mem_cons_self, (b, c), List.mem_cons_self, d, List.mem_cons_self, rfl⟩
    · obtain ⟨aj, ha, p, hp, dj, hd, rfl⟩ := ih h
      exact ⟨aj, List.mem_cons_of_mem _ ha, p, List.mem_cons_of_mem _ hp, dj, List.mem_cons_of_mem _ hd, rfl⟩
  | case2 => cases h

theorem zip4With_ofFn {α : Type} (f : Rat → Rat → Rat → Rat → α) :
    ∀ (n : Nat) (a b c d : Fin n → Rat),
      zip4With f (List.ofFn a) (List.ofFn b) (List.ofFn c) (List.ofFn d) = List.ofFn fun j => f (a j) (b j) (c j) (d j)
  | 0, _, _, _, _ => by simp [zip4With]
  | n + 1, a, b, c, d => by
    simp only [List.ofFn_succ, zip4With]
    rw [zip4With_ofFn f n]

theorem mem_zip_ofFn {n : Nat} (g s : Fin n → Rat) (p : Rat × Rat) (hp : p ∈ (List.ofFn g).zip (List.ofFn s)) :
    ∃ j, p = (g j, s j) := by
  obtain ⟨i, hi, rfl⟩ := List.mem_iff_getElem.mp hp
  rw [List.length_zip, List.length_ofFn, List.length_ofFn, Nat.min_self] at hi
  exact ⟨⟨i, hi⟩, by rw [List.getElem_zip, List.getElem_ofFn, List.getElem_ofFn]⟩

theorem zip4With_eq_zipWith_zip3With {α β : Type} (f : Rat → Rat → Rat → α) (h : Rat → α → β) (a b c d : Img) :
    zip4With (fun x y z w => h x (f y z w)) a b c d = List.zipWith h a (zip3With f b c d) := by
  fun_induction zip4With (fun x y z w => h x (f y z w)) a b c d with
  | case1 a as b bs c cs d ds ih => rw [zip3With, List.zipWith_cons_cons, ih]
  | case2 a b c d hne =>
    -- one of the four lists is empty: `a`, or one of the three that `zip3With` needs
    fun_induction zip3With f b c d with
    | case1 y ys z zs w ws _ =>
      cases a with
      | nil => rfl
      | cons x xs => exact (hne _ _ _ _ _ _ _ _ rfl rfl rfl rfl).elim
    | case2 => exact List.zipWith_nil_right.symm

theorem allFin_of_forall_fin_nonneg : ∀ (l : List Ext), (∀ e ∈ l, ∃ q, e = .fin q ∧ 0 ≤ q) →
    ∃ img, allFin l = some img ∧ ∀ x ∈ img, (0 : Rat) ≤ x
  | [], _ => ⟨[], rfl, by simp⟩
  | e :: r, h => by
    obtain ⟨q, rfl, hq⟩ := h e (by simp)
    obtain ⟨img, himg, hpos⟩ := allFin_of_forall_fin_nonneg r (fun e he => h e (List.mem_cons_of_mem _ he))
    exact ⟨q :: img, by simp [allFin, himg], List.forall_mem_cons.mpr ⟨hq, hpos⟩⟩

theorem allFin_ofFn {n : Nat} (f : Fin n → Rat) : allFin (List.ofFn fun j => Ext.fin (f j)) = some (List.ofFn f) := by
  induction n with
  | zero => simp [allFin]
  | succ n ih =>
    simp only [List.ofFn_succ, allFin]
    rw [ih (fun j => f j.succ)]
    rfl

theorem minPositive_eq_min? (img : Img) : minPositive img = (img.filter (0 < ·)).min? := by
  induction img with
  | nil => rfl
  | cons a as ih =>
    rw [minPositive, ih, List.filter_cons]
    by_cases ha : 0 < a
    · rw [if_pos (decide_eq_true ha), List.min?_cons]
      cases (as.filter (0 < ·)).min? with
      | none => exact if_pos ha
      | some m => simp only [ha, true_and, min_def, apply_ite some, Option.elim]
    · rw [if_neg (mt of_decide_eq_true ha)]
      cases (as.filter (0 < ·)).min? with
      | none => exact if_neg ha
      | some m => exact if_neg fun h => ha h.1

theorem minPositive_none {img : Img} (h : minPositive img = none) : ∀ x ∈ img, x ≤ 0 := by
  rw [minPositive_eq_min?, List.min?_eq_none_iff, List.filter_eq_nil_iff] at h
  exact fun x hx => not_lt.mp fun h0 => h x hx (decide_eq_true h0)

theorem minPositive_some {img : Img} {m : Rat} (h : minPositive img = some m) :
    0 < m ∧ m ∈ img ∧ ∀ x ∈ img, 0 < x → m ≤ x := by
  rw [minPositive_eq_min?, List.min?_eq_some_iff, List.mem_filter] at h
  exact ⟨of_decide_eq_true h.1.2, h.1.1, fun x hx h0 => h.2 x (List.mem_filter.mpr ⟨hx, decide_eq_true h0⟩)⟩

theorem thresholdMinToSmallPositive_pos (img : Img) {small : Rat} (hs : 0 < small) :
    ∀ x ∈ thresholdMinToSmallPositive img small, 0 < x := by
  intro x hx
  unfold thresholdMinToSmallPositive at hx
  split at hx
  · next m h =>
    obtain ⟨y, _, rfl⟩ := List.mem_map.mp hx
    have ht : 0 < m * small := mul_pos (minPositive_some h).1 hs
    split_ifs with hlt
    · exact ht
    · exact ht.trans_le (not_lt.mp hlt)
  · obtain ⟨_, _, rfl⟩ := List.mem_map.mp hx
    exact hs

theorem thresholdMinToSmallPositive_id (img : Img) {small : Rat} (hs1 : small ≤ 1) (hpos : ∀ x ∈ img, 0 < x) :
    thresholdMinToSmallPositive img small = img := by
  unfold thresholdMinToSmallPositive
  split
  · next m h =>
    obtain ⟨hm0, _, hmin⟩ := minPositive_some h
    refine (List.map_congr_left fun x hx => ?_).trans (List.map_id' img)
    exact if_neg (not_lt.mpr ((mul_le_of_le_one_right hm0.le hs1).trans (hmin x hx (hpos x hx))))
  · next h =>
    cases img with
    | nil => rfl
    | cons a as => exact absurd (hpos a List.mem_cons_self) (not_lt.mpr (minPositive_none h a List.mem_cons_self))

theorem thresholdMinToSmallPositive_length (img : Img) (small : Rat) :
    (thresholdMinToSmallPositive img small).length = img.length := by
  unfold thresholdMinToSmallPositive
  cases minPositive img <;> simp

theorem smallNum_pos : 0 < smallNum := by
  unfold smallNum
  norm_num

theorem smallNum_le_one : smallNum ≤ 1 := by
  unfold smallNum
  norm_num

theorem chained_pos (f : Img → Img) (img : Img) : ∀ x ∈ chained f img, 0 < x :=
  thresholdMinToSmallPositive_pos _ smallNum_pos

theorem threshold_idem (img : Img) :
    thresholdMinToSmallPositive (thresholdMinToSmallPositive img smallNum) smallNum = thresholdMinToSmallPositive img smallNum :=
  thresholdMinToSmallPositive_id _ smallNum_le_one (thresholdMinToSmallPositive_pos img smallNum_pos)

/-- `if (interval > 0 && filter && !(subiteration_num % interval)) filter->apply(image)` with the thresholding chained behind
    the user's filter: what `interUpdateFiltered` and `endOfIteration` both are -/
def optFiltered (filter : Option (Img → Img)) (interval k : Nat) (img : Img) : Img :=
  match filter with
  | some f => if interval > 0 ∧ k % interval = 0 then chained f img else img
  | none => img

theorem interUpdateFiltered_eq (c : Cfg) (k : Nat) (img : Img) :
    interUpdateFiltered c k img = optFiltered c.interUpdateFilter c.interUpdateInterval k img := rfl

theorem endOfIteration_eq (c : Cfg) (k : Nat) (img : Img) :
    endOfIteration c k img = optFiltered c.interIterationFilter c.interIterationInterval k img := rfl

theorem optFiltered_nonneg (filter : Option (Img → Img)) (interval k : Nat) (img : Img) (h : ∀ x ∈ img, (0 : Rat) ≤ x) :
    ∀ x ∈ optFiltered filter interval k img, (0 : Rat) ≤ x := by
  unfold optFiltered
  split
  · split_ifs
    · exact fun x hx => (chained_pos _ img x hx).le
    · exact h
  · exact h

end StirVerif.C07
