/-
C07 — the filter slots as objects (`Filt`, `setUpSlot`, `Slots`): user chains of any shape, repeated `set_up`.
-/
import StirVerif.C07.ProofsImage

namespace StirVerif.C07

theorem Filt.isNull_iff (f : Filt) : f.isNull = true ↔ f = .null := by
  cases f <;> simp [Filt.isNull]

theorem setUpSlot_null (interval : Nat) : setUpSlot interval .null = .null := by
  simp [setUpSlot, Filt.isNull]

theorem setUpSlot_zero (f : Filt) : setUpSlot 0 f = f := by simp [setUpSlot]

theorem setUpSlotN_zero (f : Filt) : ∀ n, setUpSlotN 0 n f = f
  | 0 => rfl
  | n + 1 => by rw [setUpSlotN, setUpSlot_zero, setUpSlotN_zero f n]

theorem setUpSlot_wrap (interval : Nat) (f : Filt) (hi : 0 < interval) (hf : f.isNull = false) :
    setUpSlot interval f = .chain f .threshold := by
  simp [setUpSlot, hi, hf]

/-- every call adds one thresholding stage, but the stages act as one (`threshold_idem`): after any number `n ≥ 1` of
    calls the slot's object applies the user's content and then ONE thresholding -/
theorem setUpSlotN_apply_chained (interval n : Nat) (hi : 0 < interval) (hn : 1 ≤ n) (f : Filt) (hf : f.isNull = false)
    (img : Img) : (setUpSlotN interval n f).apply img = chained f.apply img := by
  obtain ⟨m, rfl⟩ := Nat.exists_eq_add_of_le' hn
  induction m generalizing f with
  | zero =>
    rw [setUpSlotN, setUpSlot_wrap interval f hi hf]
    rfl
  | succ m ih =>
    rw [setUpSlotN, setUpSlot_wrap interval f hi hf, ih _ rfl (Nat.le_add_left 1 m)]
    exact threshold_idem (f.apply img)

theorem setUpSlotN_isNull (interval : Nat) : ∀ (n : Nat) (f : Filt), (setUpSlotN interval n f).isNull = f.isNull
  | 0, _ => rfl
  | n + 1, f => by
    rw [setUpSlotN, setUpSlotN_isNull interval n]
    unfold setUpSlot
    split_ifs with h
    · simp only [Bool.and_eq_true, Bool.not_eq_true', decide_eq_true_eq] at h
      exact h.2.symm
    · rfl

theorem setUpSlotN_null (interval n : Nat) : setUpSlotN interval n .null = .null :=
  (Filt.isNull_iff _).mp (setUpSlotN_isNull interval n .null)

theorem slots_setUpN_fields (c : Cfg) : ∀ (n : Nat) (s : Slots),
    (Slots.setUpN c n s).interUpdate = setUpSlotN c.interUpdateInterval n s.interUpdate ∧
    (Slots.setUpN c n s).interIteration = setUpSlotN c.interIterationInterval n s.interIteration ∧
    (Slots.setUpN c n s).post = s.post
  | 0, _ => ⟨rfl, rfl, rfl⟩
  | n + 1, s => slots_setUpN_fields c n (Slots.setUp c s)

theorem slotFiltered_setUpSlotN (interval n : Nat) (hn : 1 ≤ n) (f : Filt) (k : Nat) (img : Img) :
    slotFiltered interval (setUpSlotN interval n f) k img = optFiltered f.toOption interval k img := by
  unfold slotFiltered Filt.toOption optFiltered
  cases hf : f.isNull with
  | true =>
    rw [(Filt.isNull_iff f).mp hf, setUpSlotN_null]
    exact ite_self img
  | false =>
    simp only [Bool.false_eq_true, if_false]
    split_ifs with h
    · exact setUpSlotN_apply_chained interval n h.1 hn f hf img
    · rfl

theorem updateEstimateS_setUpN (c : Cfg) (s : Slots) (n : Nat) (hn : 1 ≤ n) (k : Nat) (img : Img) :
    updateEstimateS c (Slots.setUpN c n s) k img = updateEstimate (Cfg.ofSlots c s) k img := by
  unfold updateEstimateS updateEstimate
  rw [(slots_setUpN_fields c n s).1, slotFiltered_setUpSlotN _ n hn]
  rfl

theorem endOfIterationS_setUpN (c : Cfg) (s : Slots) (n : Nat) (hn : 1 ≤ n) (last k : Nat) (img : Img) :
    endOfIterationS c (Slots.setUpN c n s) last k img = endOfIterationPost (Cfg.ofSlots c s) s.post.toOption last k img := by
  unfold endOfIterationS endOfIterationPost
  rw [(slots_setUpN_fields c n s).2.1, (slots_setUpN_fields c n s).2.2, slotFiltered_setUpSlotN _ n hn]
  unfold Filt.toOption
  cases hp : s.post.isNull with
  | true =>
    rw [(Filt.isNull_iff s.post).mp hp]
    exact ite_self _
  | false => rfl

theorem subIterS_setUpN (c : Cfg) (s : Slots) (n : Nat) (hn : 1 ≤ n) (last k : Nat) (img : Img) :
    subIterS c (Slots.setUpN c n s) last k img = subIterPost (Cfg.ofSlots c s) s.post.toOption last k img := by
  unfold subIterS subIterPost
  rw [updateEstimateS_setUpN c s n hn, funext (endOfIterationS_setUpN c s n hn last k)]

end StirVerif.C07
