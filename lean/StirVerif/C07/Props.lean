/-
C07 — "OSMAPOSL sub-iterations follow the EM update and are restartable".
Property theorems over the model of `Model.lean` (numbers: ℚ — every float is a dyadic rational, so the statements
cover every float input exactly; float *rounding* is outside the model and handled by the correspondence check).
All statements are for every number of voxels / bins / subsets / sub-iterations (no bounds).

The subset gradient-plus-sensitivity, the subset sensitivities and the prior gradient are what the real objective
function / prior deliver (fields of `Cfg`); where a theorem needs to know what they *are*, it says so by an explicit
hypothesis `c.gps S (List.ofFn λ) = List.ofFn (gpsSpec P y a S λ)` (the statement of property C05 on the regular
region of `divide_and_truncate`).
-/
import StirVerif.C07.ProofsRun
import StirVerif.C07.ProofsLogLik
import StirVerif.C07.ProofsZeroEnd
import StirVerif.C07.ProofsSlots
import Mathlib.Data.Fin.VecNotation

namespace StirVerif.C07
open Finset

/-- "Without prior and filters, one OSMAPOSL sub-iteration on subset S maps the image lambda to
    lambda * A_S^T[y / (A_S lambda + a)] / s_S voxelwise (zero where the subset sensitivity s_S is zero)."
    One voxel: no prior (division threshold 0), relative-change limits inactive (first sub-iteration or quotient within
    the limits), numerator zero where the sensitivity is zero.  (Where `s = 0` the quotient `g / s` in `hlim` is Lean's
    `g / 0 = 0`, which is also what `stir::divide` delivers there: `hlim` then reads `minRel ≤ 0 ≤ maxRel`.) -/
theorem C07_em_formula_voxel (n : Nat) (limit : Bool) (minRel maxRel lam g s pg : Rat)
    (hlim : limit = false ∨ (minRel ≤ g / s ∧ g / s ≤ maxRel)) (hcons : s = 0 → g = 0) :
    updVoxel .none n 0 limit minRel maxRel lam g s pg = .fin (if s = 0 then 0 else lam * g / s) := by
  have hu : divide1 0 g (denom .none n pg s) = .fin (g / s) := divide1_small_zero hcons
  rw [updVoxel_of_divide1 hu hlim]
  split_ifs with h
  · rw [h, div_zero, mul_zero]
  · rw [mul_div_assoc]

/-- … the same for the whole image, with the data given by an explicit non-negative system matrix `P`, counts `y`,
    additive term `a`, efficiencies `eff` and the bins `S` of the subset: `update_estimate` produces exactly
    `emStep = λ_j · Σ_{b∈S} P_bj y_b / ((Pλ)_b + a_b) / Σ_{b∈S} P_bj eff_b` (0 where the denominator is 0).
    (`updateEstimate` is validated against the real class on span-1 and span-3, view-mashed and time-of-flight geometries.
    The theorem is stated for ONE matrix `P` in `hg` and `hs`: non-TOF data, or TOF data with TOF sensitivities.  With STIR's
    default `use time-of-flight sensitivities := 0` the sensitivity of TOF data comes from the non-TOF matrix, so `hs`
    holds for another matrix than `hg`; the harness then evaluates the formula with exactly these two matrices.)
    `S` is ANY set of bins: with `zero end planes of segment 0 := 1` (covered by the harness) it is the set
    of bins of the subset WITHOUT the first and last sinogram of segment 0 — the same `S` in `hg` and `hs`
    (`C07_zero_end_planes_removes_rows` below proves, for the executable explicit-matrix model `emExplicit` that the
    correspondence check compares with the real class, that the code's zeroing of the three viewgrams is exactly that). -/
theorem C07_em_formula {nb nv : ℕ} (c : Cfg) (k : Nat)
    (P : Fin nb → Fin nv → ℚ) (y a eff : Fin nb → ℚ) (S : Finset (Fin nb)) (lam : Fin nv → ℚ)
    (hmap : c.map = .none) (hfilt : c.interUpdateFilter = none)
    (hg : c.gps (subsetNum k c.startSubset c.numSubsets) (List.ofFn lam) = List.ofFn (gpsSpec P y a S lam))
    (hs : c.sens (subsetNum k c.startSubset c.numSubsets) = List.ofFn (sensSpec P eff S))
    (hP : ∀ b j, 0 ≤ P b j) (he : ∀ b, 0 < eff b)
    (hlim : k = 1 ∨ ∀ j, c.minRel ≤ gpsSpec P y a S lam j / sensSpec P eff S j ∧
                          gpsSpec P y a S lam j / sensSpec P eff S j ≤ c.maxRel) :
    updateEstimate c k (List.ofFn lam) = List.ofFn fun j => Ext.fin (emStep P y a eff S lam j) := by
  simp only [updateEstimate, hg, hs, hmap, interUpdateFiltered, hfilt, divideSmallNum, smallValue_smallNum_zero, List.map_ofFn]
  -- what is left is `zip4With (updVoxel .none …)` over four `List.ofFn`s: image, numerator, sensitivity, zero prior gradient
  rw [zip4With_ofFn]
  congr 1
  funext j
  exact C07_em_formula_voxel (hlim := hlim.imp (fun h => by simp [h]) fun h => h j)
    (hcons := gpsSpec_eq_zero_of_sensSpec_eq_zero S hP he j) ..

/-- … and hence, without inter-iteration filter, the sub-iteration as a whole -/
theorem C07_em_formula_subIter {nb nv : ℕ} (c : Cfg) (k : Nat)
    (P : Fin nb → Fin nv → ℚ) (y a eff : Fin nb → ℚ) (S : Finset (Fin nb)) (lam : Fin nv → ℚ)
    (hmap : c.map = .none) (hfilt : c.interUpdateFilter = none) (hfilt2 : c.interIterationFilter = none)
    (hg : c.gps (subsetNum k c.startSubset c.numSubsets) (List.ofFn lam) = List.ofFn (gpsSpec P y a S lam))
    (hs : c.sens (subsetNum k c.startSubset c.numSubsets) = List.ofFn (sensSpec P eff S))
    (hP : ∀ b j, 0 ≤ P b j) (he : ∀ b, 0 < eff b)
    (hlim : k = 1 ∨ ∀ j, c.minRel ≤ gpsSpec P y a S lam j / sensSpec P eff S j ∧
                          gpsSpec P y a S lam j / sensSpec P eff S j ≤ c.maxRel) :
    subIter c k (List.ofFn lam) = some (List.ofFn (emStep P y a eff S lam)) := by
  simp only [subIter, C07_em_formula c k P y a eff S lam hmap hfilt hg hs hP he hlim, allFin_ofFn, endOfIteration,
    hfilt2, Option.map_some]

def DataOK (g s : Img) : Prop := ∀ p ∈ g.zip s, 0 ≤ p.1 ∧ 0 ≤ p.2 ∧ (p.2 = 0 → p.1 = 0)

/-- `DataOK` is satisfiable with zeros in it -/
example : DataOK [2, 0, 1] [1, 0, 3] := by
  unfold DataOK
  decide +kernel

/-- "Hence non-negative images stay non-negative": one voxel, every branch (no prior / additive / multiplicative MAP
    model, with and without relative-change limits). -/
theorem C07_nonneg_preserved_voxel (m : MapModel) (n : Nat) (small : Rat) (limit : Bool) (minRel maxRel lam g s pg : Rat)
    (hsm : 0 ≤ small) (hmin : 0 ≤ minRel) (hmm : minRel ≤ maxRel)
    (hl : 0 ≤ lam) (hg : 0 ≤ g) (hs : 0 ≤ s) (hcons : s = 0 → g = 0) :
    ∃ q, updVoxel m n small limit minRel maxRel lam g s pg = .fin q ∧ 0 ≤ q := by
  obtain ⟨u, hu, hu0⟩ := divide1_nonneg (small := small) (num := g) (den := denom m n pg s) hsm hg
    (denom_nonneg m n pg s hs) (fun h => hcons ((denom_eq_zero_iff m n pg s hs).mp h))
  simp only [updVoxel, hu]
  cases limit
  · exact ⟨lam * u, rfl, mul_nonneg hl hu0⟩
  · simp only [if_true, thresholdUpperLower_fin hmm, mulExt]
    exact ⟨_, rfl, mul_nonneg hl (hmin.trans (clamp_bounds u hmm).1)⟩

/-- … a whole sub-iteration, *arbitrary* inter-update / inter-iteration filters included (the positivity thresholding
    chained behind them makes their output strictly positive): if the data for this image are non-negative and
    consistent (`DataOK`), a non-negative image is mapped to a finite non-negative image.
    (`c.interUpdateFilter` / `c.interIterationFilter` are arbitrary functions: the model of the filter SLOTS
    (`Slots`, `C07_filter_slots_any_number_of_setups` below) ties this theorem to objects whose slots hold the user's own
    `ChainedDataProcessor`s and that were set up several times, and the correspondence check exercises exactly those.) -/
theorem C07_nonneg_preserved (c : Cfg) (k : Nat) (img : Img)
    (hmin : 0 ≤ c.minRel) (hmm : c.minRel ≤ c.maxRel) (himg : ∀ x ∈ img, (0 : Rat) ≤ x)
    (hdata : DataOK (c.gps (subsetNum k c.startSubset c.numSubsets) img) (c.sens (subsetNum k c.startSubset c.numSubsets))) :
    ∃ img', subIter c k img = some img' ∧ ∀ x ∈ img', (0 : Rat) ≤ x := by
  have hall : ∀ e ∈ updateEstimate c k img, ∃ q, e = .fin q ∧ 0 ≤ q := by
    intro e he
    obtain ⟨lam, hlam, p, hp, pg, _, rfl⟩ := zip4With_mem (x := e) (h := he) ..
    obtain ⟨hg, hs, hcons⟩ := hdata p hp
    rw [interUpdateFiltered_eq] at hlam
    exact C07_nonneg_preserved_voxel (hsm := smallValue_nonneg _ _) (hmin := hmin) (hmm := hmm)
      (hl := optFiltered_nonneg _ _ k img himg lam hlam) (hg := hg) (hs := hs) (hcons := hcons) ..
  obtain ⟨img1, h1, hpos⟩ := allFin_of_forall_fin_nonneg _ hall
  refine ⟨endOfIteration c k img1, by rw [subIter, h1, Option.map_some], ?_⟩
  rw [endOfIteration_eq]
  exact optFiltered_nonneg _ _ k img1 hpos

/-- … the data are non-negative and consistent when `λ, y, a, P ≥ 0` and the efficiencies are positive -/
theorem C07_nonneg_data {nb nv : ℕ} (P : Fin nb → Fin nv → ℚ) (y a eff : Fin nb → ℚ) (S : Finset (Fin nb))
    (lam : Fin nv → ℚ) (hP : ∀ b j, 0 ≤ P b j) (hy : ∀ b, 0 ≤ y b) (ha : ∀ b, 0 ≤ a b) (he : ∀ b, 0 < eff b)
    (hl : ∀ j, 0 ≤ lam j) : DataOK (List.ofFn (gpsSpec P y a S lam)) (List.ofFn (sensSpec P eff S)) := by
  intro p hp
  obtain ⟨j, rfl⟩ := mem_zip_ofFn _ _ p hp
  exact ⟨gpsSpec_nonneg S hP hy ha hl j, sensSpec_nonneg S hP he j, gpsSpec_eq_zero_of_sensSpec_eq_zero S hP he j⟩

/-- … and every iterate of a whole run (any number of sub-iterations, any start) is non-negative and finite
    (user filters of any kind, user chains included: see `C07_filter_slots_any_number_of_setups`). -/
theorem C07_nonneg_run (c : Cfg) (hmin : 0 ≤ c.minRel) (hmm : c.minRel ≤ c.maxRel)
    (hdata : ∀ S img, (∀ x ∈ img, (0 : Rat) ≤ x) → DataOK (c.gps S img) (c.sens S))
    (start last : Nat) (img : Img) (himg : ∀ x ∈ img, (0 : Rat) ≤ x) :
    (reconstruct c start last img).length = last + 1 - start ∧
      ∀ im ∈ reconstruct c start last img, ∀ x ∈ im, (0 : Rat) ≤ x := by
  rw [reconstruct, runFrom_eq_iterFrom]
  exact iterFrom_invariant _ (fun im => ∀ x ∈ im, (0 : Rat) ≤ x)
    (fun k im him => C07_nonneg_preserved c k im hmin hmm him (hdata _ im him)) _ _ img himg

/-- "without additive term the sensitivity-weighted image sum equals the total of the measured counts after every
    full-data update": one subset (all bins), `a = 0`, every bin with counts has a non-zero estimated projection
    (regular region): `Σ_j s_j λ'_j = Σ_b y_b`. -/
theorem C07_count_preservation {nb nv : ℕ} (P : Fin nb → Fin nv → ℚ) (y eff : Fin nb → ℚ) (lam : Fin nv → ℚ)
    (hP : ∀ b j, 0 ≤ P b j) (he : ∀ b, 0 < eff b) (hreg : ∀ b, y b ≠ 0 → fwd P lam b ≠ 0) :
    ∑ j, sensSpec P eff univ j * emStep P y (fun _ => 0) eff univ lam j = ∑ b, y b :=
  count_preservation P y eff lam hP he hreg

/-- … the same for ANY set `S` of bins in place of "all bins": `Σ_j s_S,j λ'_j = Σ_{b∈S} y_b`.  This is the clause for
    `zero end planes of segment 0 := 1` ("every full-data update" is then the update with all bins but the first and the last
    sinogram of segment 0: numerator, sensitivity and counts over the same `S`; a sensitivity that still contained the
    end planes would break it), and it also says what a sub-iteration of several subsets preserves: the counts of its
    own subset, weighted with the subset sensitivity.  (`C07_count_preservation` is the case `S = univ`.) -/
theorem C07_count_preservation_subset {nb nv : ℕ} (P : Fin nb → Fin nv → ℚ) (y eff : Fin nb → ℚ) (S : Finset (Fin nb))
    (lam : Fin nv → ℚ) (hP : ∀ b j, 0 ≤ P b j) (he : ∀ b, 0 < eff b) (hreg : ∀ b ∈ S, y b ≠ 0 → fwd P lam b ≠ 0) :
    ∑ j, sensSpec P eff S j * emStep P y (fun _ => 0) eff S lam j = ∑ b ∈ S, y b :=
  count_preservation_subset P y eff S lam hP he hreg

/-- a 3-bin × 2-voxel system: bin 0 sees both voxels, bin 1 only voxel 1, bin 2 nothing -/
def exP : Fin 3 → Fin 2 → ℚ := ![![1, 2], ![0, 3], ![0, 0]]
def exY : Fin 3 → ℚ := ![5, 0, 0]
def exEff : Fin 3 → ℚ := ![1, 1 / 2, 1]
def exLam : Fin 2 → ℚ := ![1, 2]

example : (∀ b j, 0 ≤ exP b j) ∧ (∀ b, 0 < exEff b) ∧ (∀ b, exY b ≠ 0 → fwd exP exLam b ≠ 0) := by
  decide +kernel

/-- the count-preservation identity on this instance, computed: `Σ_j s_j λ'_j = 5 = Σ_b y_b` -/
example : ∑ j, sensSpec exP exEff univ j * emStep exP exY (fun _ => 0) exEff univ exLam j = 5 := by
  rw [C07_count_preservation exP exY exEff exLam (by decide +kernel) (by decide +kernel) (by decide +kernel)]
  decide +kernel

/-! ## The explicit system and `zero end planes of segment 0`

`emExplicit` (Model.lean) is the update with numerator and sensitivity formed by the model itself from an explicit system
matrix (one `Row` per bin with its counts, additive term, multiplicative viewgram value), the bins chosen as
`distributable_computation` chooses them and — option `zero end planes of segment 0` — the three viewgrams of the first
and last sinogram of segment 0 set to zero as `get_viewgrams` / `zero_end_sinograms` (distributable.cxx) do.  The
correspondence check compares it with the real class (operation `emx`). -/

/-- "maps the image lambda to lambda * A_S^T[y / (A_S lambda + a)] / s_S voxelwise": with the option on, numerator AND
    sensitivity are those of the system WITHOUT the rows of the first and the last sinogram of segment 0 (option off on the
    reduced system) — the same set of bins in `A_S^T[…]` and in `s_S`, for subset and for total sensitivities. -/
theorem C07_zero_end_planes_removes_rows (c : Cfg) (z useSubsetSens : Bool) (maxSeg : Int) (rows : List Row) (k : Nat)
    (lam : Img) (js : List Nat) :
    emExplicit c z useSubsetSens maxSeg rows k lam js
      = emExplicit c false useSubsetSens maxSeg (rows.filter fun r => !zeroedEndPlane z r) k lam js := by
  rw [emExplicit_eq, emExplicit_eq]
  refine List.map_congr_left fun j _ => ?_
  rw [gpsExplicit_zeroed, sensExplicit_zeroed]

/-- … and `emExplicit` is the formula of the property, written with the model's own sums over the rows (`gpsExplicit`,
    `sensExplicit`; no theorem identifies these with `gpsSpec` / `sensSpec` of a matrix `P`, so the theorems about `emStep`
    do not speak of `emExplicit`).  Subset sensitivities; non-negative matrix, positive multiplicative viewgrams,
    relative-change limits inactive or first sub-iteration: voxel `j` becomes
    `λ_j · Σ_{b∈S} P_bj y_b/((Pλ)_b + a_b) / Σ_{b∈S} P_bj eff_b`, `0` where the subset sensitivity is zero — with the
    option on or off (no extra hypothesis: with the option on the system is the one without those rows, `gpsExplicit_zeroed` /
    `sensExplicit_zeroed`, and "numerator zero where the sensitivity is zero" holds of every system with positive
    multiplicative viewgrams). -/
theorem C07_em_formula_explicit (c : Cfg) (z : Bool) (maxSeg : Int) (rows : List Row) (k : Nat) (lam : Img) (js : List Nat)
    (hrows : ∀ r ∈ rows, (∀ e ∈ r.elems, (0 : Rat) ≤ e.2) ∧ 0 < r.eff)
    (hlim : k = 1 ∨ ∀ j ∈ js,
      c.minRel ≤ gpsExplicit z maxSeg c.numSubsets (subsetNum k c.startSubset c.numSubsets) rows lam j /
          sensExplicit z true maxSeg c.numSubsets (subsetNum k c.startSubset c.numSubsets) rows j ∧
        gpsExplicit z maxSeg c.numSubsets (subsetNum k c.startSubset c.numSubsets) rows lam j /
          sensExplicit z true maxSeg c.numSubsets (subsetNum k c.startSubset c.numSubsets) rows j ≤ c.maxRel) :
    emExplicit c z true maxSeg rows k lam js =
      js.map fun j => Ext.fin
        (if sensExplicit z true maxSeg c.numSubsets (subsetNum k c.startSubset c.numSubsets) rows j = 0 then 0
         else voxelOf lam j * gpsExplicit z maxSeg c.numSubsets (subsetNum k c.startSubset c.numSubsets) rows lam j /
           sensExplicit z true maxSeg c.numSubsets (subsetNum k c.startSubset c.numSubsets) rows j) := by
  rw [emExplicit_eq]
  refine List.map_congr_left fun j hj => C07_em_formula_voxel
    (hlim := hlim.imp (fun h => by simp [h]) fun h => h j hj) (hcons := ?_) ..
  -- zeroing the end planes is removing their rows; the rows that are left keep their positive efficiency
  rw [gpsExplicit_zeroed, sensExplicit_zeroed, gpsExplicit, sensExplicit, if_pos rfl, subsetViewgrams_off]
  exact gpsVoxel_eq_zero_of_sensVoxel_eq_zero _ lam j fun r hr => hrows r (List.mem_filter.mp (List.mem_filter.mp hr).1).1

/-- 3 bins of segment 0 (axial positions 0, 1, 2 of 0..2), 2 voxels, one subset; bin 0 (an end plane) sees voxel 0 only,
    bin 1 both, bin 2 (the other end plane) voxel 1 only -/
def exRows : List Row :=
  [ { seg := 0, basicView := 0, ax := 0, minAx := 0, maxAx := 2, y := 4, a := 0, eff := 1, elems := [(0, 1)] },
    { seg := 0, basicView := 0, ax := 1, minAx := 0, maxAx := 2, y := 6, a := 0, eff := 1, elems := [(0, 1), (1, 1)] },
    { seg := 0, basicView := 0, ax := 2, minAx := 0, maxAx := 2, y := 2, a := 0, eff := 1, elems := [(1, 1)] } ]

def exCfg : Cfg :=
  { numSubsets := 1, startSubset := 0, map := .none, minRel := 0, maxRel := 1000000,
    interUpdateInterval := 0, interIterationInterval := 0, enforceInitialPositivity := true,
    gps := fun _ _ => [], sens := fun _ => [], priorGrad := fun _ => [],
    interUpdateFilter := none, interIterationFilter := none }

/-- non-vacuity, computed, `λ = [1, 1]`.  Option off: `g = [4/1 + 6/2, 6/2 + 2/1] = [7, 5]`, `s = [2, 2]`, `λ' = [7/2, 5/2]`;
    option on: only bin 1 is left: `g = [3, 3]`, `s = [1, 1]`, `λ' = [3, 3]`. -/
example : emExplicit exCfg false true 0 exRows 1 [1, 1] [0, 1] = [.fin (7 / 2), .fin (5 / 2)] ∧
    emExplicit exCfg true true 0 exRows 1 [1, 1] [0, 1] = [.fin 3, .fin 3] := by
  decide +kernel

/-- the hypothesis `hrows` of `C07_em_formula_explicit` holds for it -/
example : ∀ r ∈ exRows, (∀ e ∈ r.elems, (0 : Rat) ≤ e.2) ∧ 0 < r.eff := by
  decide +kernel

/-- "with a prior the one-step-late update with the documented bounds on the denominator holds": the denominator is
    within `[s/10, 10 s]` for both MAP models (and without prior) … -/
theorem C07_map_denominator_bounds (m : MapModel) (n : Nat) (pg s : Rat) (hs : 0 ≤ s) :
    s / 10 ≤ denom m n pg s ∧ denom m n pg s ≤ s * 10 :=
  denom_bounds m n pg s hs

/-- … inside the bounds it *is* the one-step-late denominator `s + ∇R/num_subsets` resp. `s·(1 + ∇R)` … -/
theorem C07_map_denominator_osl (n : Nat) (pg s : Rat) :
    (s / 10 ≤ pg / n + s → pg / n + s ≤ s * 10 → denom .additive n pg s = pg / n + s) ∧
    (1 / 10 ≤ pg + 1 → pg + 1 ≤ 10 → denom .multiplicative n pg s = (1 + pg) * s) := by
  refine ⟨fun h1 h2 => ?_, fun h1 h2 => ?_⟩
  · simp only [denom, denAdditive, clamp_id h1 h2]
  · simp only [denom, denMultiplicative, clamp_id h1 h2]
    rw [add_comm]

/-- … and the voxel is updated to `λ · g / denominator` wherever the division is above the threshold of `stir::divide`
    and the relative-change limits are not active. -/
theorem C07_map_update (m : MapModel) (n : Nat) (small : Rat) (limit : Bool) (minRel maxRel lam g s pg : Rat)
    (hs : 0 < s) (hreg : small < g ∨ small < denom m n pg s) (hg : 0 ≤ g)
    (hlim : limit = false ∨ (minRel ≤ g / denom m n pg s ∧ g / denom m n pg s ≤ maxRel)) :
    updVoxel m n small limit minRel maxRel lam g s pg = .fin (lam * g / denom m n pg s) := by
  have hd0 : 0 < denom m n pg s := (div_pos hs (by norm_num)).trans_le (denom_bounds m n pg s hs.le).1
  have hdiv : divide1 small g (denom m n pg s) = .fin (g / denom m n pg s) := by
    refine divide1_regular hd0.ne' ?_
    rw [absR_eq_abs, absR_eq_abs, abs_of_pos hd0, abs_of_nonneg hg]
    rintro ⟨h1, h2⟩
    rcases hreg with h | h
    · exact absurd h2 (not_le.mpr h)
    · exact absurd h1 (not_le.mpr h)
  rw [updVoxel_of_divide1 hdiv hlim, mul_div_assoc]

/-- voxel level: an additive-MAP voxel whose prior gradient would push the denominator below `s/10` is clamped,
    and the update stays non-negative (`λ = 2, g = 3, s = 1, ∇R = -5, 1 subset`: denominator `1/10`, `λ' = 60`) -/
example : updVoxel .additive 1 (1 / 1000000) false 0 1000 2 3 1 (-5) = .fin 60 := by
  decide +kernel

/-- `set_up` leaves the start image alone when it has nothing to lift: `enforce_initial_positivity = false` or the
    image is strictly positive (the converse is `C07_setUp_id_iff`). -/
theorem C07_setUp_id (c : Cfg) (img : Img) (h : c.enforceInitialPositivity = false ∨ ∀ x ∈ img, 0 < x) :
    setUp c img = img := by
  unfold setUp
  split_ifs
  · exact thresholdMinToSmallPositive_id img smallNum_le_one (h.resolve_left (by simp [*]))
  · rfl

/-- With `enforce_initial_positivity` on, whatever image comes in, `set_up` hands a strictly positive image to the first
    sub-iteration (`threshold_min_to_small_positive_value`, OSMAPOSLReconstruction.cxx:291-292). -/
theorem C07_setUp_pos (c : Cfg) (img : Img) (h : c.enforceInitialPositivity = true) : ∀ x ∈ setUp c img, 0 < x := by
  rw [setUp, if_pos h]
  exact thresholdMinToSmallPositive_pos _ smallNum_pos

/-- … so the side condition of the restart theorem below is not merely sufficient: it is *exactly* "`set_up` of the
    resumed run does not change the saved image". -/
theorem C07_setUp_id_iff (c : Cfg) (img : Img) :
    setUp c img = img ↔ (c.enforceInitialPositivity = false ∨ ∀ x ∈ img, 0 < x) := by
  refine ⟨fun h => ?_, C07_setUp_id c img⟩
  cases hb : c.enforceInitialPositivity with
  | false => exact Or.inl rfl
  | true =>
    rw [← h]
    exact Or.inr (C07_setUp_pos c img hb)

/-- "A reconstruction resumed at sub-iteration k+1 from the image saved after sub-iteration k produces the same
    images as the uninterrupted run."  The state after sub-iteration `k` is `(image_k, k)` only (the model has no other
    state, and the correspondence check validates exactly this model), so the uninterrupted run is the run to `k`
    followed by the run from `k+1` over `set_up image_k` — PROVIDED `set_up` of the resumed run does not change the
    image: `enforce_initial_positivity = false`, or image_k strictly positive (by `C07_setUp_id_iff` this is exactly
    "`set_up` leaves image_k alone"; the inputs excluded are those of the known finding
    `restart:enforce-initial-positivity-lifts-exact-zeros`, see the negative witnesses below).
    (`hfull`: no non-finite value occurred up to `k`.)  Fixed subset order only (randomised order: C06).
    `reconstruct c = reconstructPost c none` (`C07_reconstructPost_none`) and the no-argument `reconstruct()` driven by a
    parameter file is `reconstructNoArg = reconstructPost ∘ setUp ∘ initialData`, so this is also the statement for
    restarts made with `initial estimate` / `start at subiteration number` (spelled out, with a post-filter, in
    `C07_restart_eq_post_partial` and `C07_restart_eq_noarg_partial`). -/
theorem C07_restart_eq_partial (c : Cfg) (start k last : Nat) (img : Img) (h1 : start ≤ k + 1) (h2 : k ≤ last)
    (hfull : (reconstruct c start k img).length = k + 1 - start)
    (hpos : c.enforceInitialPositivity = false ∨ ∀ x ∈ (reconstruct c start k img).getLastD img, 0 < x) :
    reconstruct c start last img =
      reconstruct c start k img ++
        reconstruct c (k + 1) last (setUp c ((reconstruct c start k img).getLastD img)) := by
  rw [C07_setUp_id c _ hpos]
  exact reconstruct_split c start k last img h1 h2 hfull

/-- `enforce_initial_positivity` acts in `set_up` only: the sub-iterations of a reconstruction do not depend on it (so the
    whole effect of the option on a resumed run is what `setUp` does to the saved image; the harness checks the same on
    the real class: the resumed run with the option on = the run with the option off from the lifted image, bitwise). -/
theorem C07_enforce_only_in_setUp (c : Cfg) (b : Bool) (start last : Nat) (img : Img) :
    reconstruct { c with enforceInitialPositivity := b } start last img = reconstruct c start last img := by
  simp only [reconstruct, runFrom_eq_iterFrom]
  -- `subIter` reads every field of the configuration but this one
  rfl

/-- "A reconstruction resumed at sub-iteration k+1 from the image saved after sub-iteration k produces the same
    images as the uninterrupted run" — at full strength (every configuration, every image, zeros included) when the
    resumed run is made with `enforce initial positivity condition := 0` (what STIR's own restarting scripts and test
    parameter files do): the state after sub-iteration `k` is `(image_k, k)` and nothing else.
    (`hfull`: no non-finite value occurred up to `k`.)  Fixed subset order only (randomised order: C06). -/
theorem C07_restart_eq_option_off (c : Cfg) (start k last : Nat) (img : Img) (h1 : start ≤ k + 1) (h2 : k ≤ last)
    (hfull : (reconstruct c start k img).length = k + 1 - start) :
    reconstruct c start last img =
      reconstruct c start k img ++
        reconstruct { c with enforceInitialPositivity := false } (k + 1) last
          (setUp { c with enforceInitialPositivity := false } ((reconstruct c start k img).getLastD img)) := by
  rw [C07_setUp_id _ _ (Or.inl rfl), C07_enforce_only_in_setUp c false]
  exact reconstruct_split c start k last img h1 h2 hfull

/-- witness for the side condition: 2 voxels, 2 subsets, voxel 1 has zero counts in subset 0 (numerator 0), default
    `enforce_initial_positivity = true` -/
def restartWitness : Cfg :=
  { numSubsets := 2, startSubset := 0, map := .none, minRel := 0, maxRel := 1000000,
    interUpdateInterval := 0, interIterationInterval := 0, enforceInitialPositivity := true,
    gps := fun S _ => if S = 0 then [2, 0] else [1, 1],
    sens := fun _ => [1, 1], priorGrad := fun _ => [0, 0],
    interUpdateFilter := none, interIterationFilter := none }

/-- **negative witness** (the class is found on the real code by the harness: KNOWN-CANDIDATE
    `restart:enforce-initial-positivity-lifts-exact-zeros`; zeros from zero counts occur in its random Poisson cases,
    zeros from a zero subset sensitivity in its deterministic reproduction): the uninterrupted run gives `[2,0], [2,0]`; resuming at
    sub-iteration 2 from the saved `[2,0]` gives `[2, 2·10⁻⁶]` because `set_up` lifts the exact zero. -/
theorem C07_restart_fails_with_enforced_positivity :
    reconstruct restartWitness 1 2 [1, 1] = [[2, 0], [2, 0]] ∧
    reconstruct restartWitness 2 2 (setUp restartWitness [2, 0]) = [[2, 1 / 500000]] ∧
    reconstruct restartWitness 1 2 [1, 1] ≠
      reconstruct restartWitness 1 1 [1, 1] ++ reconstruct restartWitness 2 2 (setUp restartWitness [2, 0]) := by
  decide +kernel

/-- the same with the zero produced by the clause "(zero where the subset sensitivity s_S is zero)" of the property
    itself instead of zero counts: voxel 1 is not seen by subset 0 (sensitivity 0, numerator 0), seen by subset 1 -/
def restartWitnessSens : Cfg :=
  { restartWitness with sens := fun S => if S = 0 then [1, 0] else [1, 1] }

/-- **negative witness**, zero-subset-sensitivity flavour (this is the flavour of the deterministic reproduction on the
    real class in `run_restart_witness` of the harness: uniform counts, all defaults) -/
theorem C07_restart_fails_zero_subset_sensitivity :
    reconstruct restartWitnessSens 1 2 [1, 1] = [[2, 0], [2, 0]] ∧
    reconstruct restartWitnessSens 2 2 (setUp restartWitnessSens [2, 0]) = [[2, 1 / 500000]] ∧
    reconstruct restartWitnessSens 1 2 [1, 1] ≠
      reconstruct restartWitnessSens 1 1 [1, 1] ++ reconstruct restartWitnessSens 2 2 (setUp restartWitnessSens [2, 0]) := by
  decide +kernel

/-- … and on the second witness the resumed run with the option off reproduces the uninterrupted run (instance of
    `C07_restart_eq_option_off`; computed) -/
example : reconstruct restartWitnessSens 1 2 [1, 1] =
    reconstruct restartWitnessSens 1 1 [1, 1] ++
      reconstruct { restartWitnessSens with enforceInitialPositivity := false } 2 2
        (setUp { restartWitnessSens with enforceInitialPositivity := false } [2, 0]) := by
  decide +kernel

/-- the side condition `hpos` of the restart theorems holds, through its first disjunct, for the witness configuration with the
    option switched off -/
example : ({ restartWitness with enforceInitialPositivity := false } : Cfg).enforceInitialPositivity = false := rfl

/-! ## Post-filter, the no-argument `reconstruct()` of parameter files, the written update image

The model functions `endOfIterationPost` / `reconstructPost` (post-filter of `Reconstruction::set_post_processor_sptr`, key
`post-filter type`), `initialData` / `reconstructNoArg` (`get_initial_data_ptr` + the no-argument `reconstruct()`, keys
`initial estimate` and `start at subiteration number`) and `updateImage` (`write update image`) extend the model to the
way users run OSMAPOSL.  `reconstructPost c none = reconstruct c` (`C07_reconstructPost_none`), so every theorem above
about `reconstruct` (non-negativity of every iterate, restart) is a theorem about the run as the executable makes it
when no post-filter is set; the theorems below are the restart clause with a post-filter and through parameter files. -/

/-- `reconstruct(target)` of an object without post-filter (`post_filter_sptr` null) is the run `reconstruct` of the theorems
    above: the post-filter model adds nothing when no post-filter is set. -/
theorem C07_reconstructPost_none (c : Cfg) (start last : Nat) (img : Img) :
    reconstructPost c none start last img = reconstruct c start last img := by
  rw [reconstructPost, runFromPost_eq_iterFrom, reconstruct, runFrom_eq_iterFrom]
  rfl

/-- The post-filter touches the LAST iterate only ("produces the same images": all saved iterates before the last one are
    those of the run without post-filter, the last one is the post-filtered last iterate of that run): for a run from
    `start ≥ 1` to `last ≥ start` whose first `last - start` sub-iterations stay finite (`hfull`), with
    `x` the iterate `last - 1`,
    `reconstructPost = reconstruct start (last-1) ++ [post (subIter last x)]` and
    `reconstruct     = reconstruct start (last-1) ++ [subIter last x]`. -/
theorem C07_post_filter_only_last (c : Cfg) (post : Option (Img → Img)) (start last : Nat) (img : Img)
    (h0 : 1 ≤ start) (h : start ≤ last)
    (hfull : (reconstruct c start (last - 1) img).length = last - start) :
    reconstructPost c post start last img =
        reconstruct c start (last - 1) img ++
          ((subIter c last ((reconstruct c start (last - 1) img).getLastD img)).map (postApply post)).toList ∧
      reconstruct c start last img =
        reconstruct c start (last - 1) img ++
          (subIter c last ((reconstruct c start (last - 1) img).getLastD img)).toList := by
  obtain ⟨k, rfl⟩ := Nat.exists_eq_add_of_le' (h0.trans h)
  rw [Nat.add_sub_cancel] at hfull ⊢
  constructor
  · rw [reconstructPost_split c post start k (k + 1) img h (Nat.lt_succ_self k) hfull, reconstructPost_last]
  · rw [reconstruct_split c start k (k + 1) img h (Nat.le_succ k) hfull, reconstruct_last]

/-- "A reconstruction resumed at sub-iteration k+1 from the image saved after sub-iteration k produces the same images as
    the uninterrupted run" WITH a post-filter set in both runs, resuming before the last sub-iteration (`k < last`; the
    image saved after the last sub-iteration is post-filtered and is not a state of the iteration): the images saved up
    to `k` are those of the run without post-filter, and the resumed run (post-filter set) gives the rest, the
    post-filtered last one included.  Side condition as in `C07_restart_eq_partial`: `set_up` of the resumed run must not
    change the saved image. -/
theorem C07_restart_eq_post_partial (c : Cfg) (post : Option (Img → Img)) (start k last : Nat) (img : Img)
    (h1 : start ≤ k + 1) (h2 : k < last)
    (hfull : (reconstruct c start k img).length = k + 1 - start)
    (hpos : c.enforceInitialPositivity = false ∨ ∀ x ∈ (reconstruct c start k img).getLastD img, 0 < x) :
    reconstructPost c post start last img =
      reconstruct c start k img ++
        reconstructPost c post (k + 1) last (setUp c ((reconstruct c start k img).getLastD img)) := by
  rw [C07_setUp_id c _ hpos]
  exact reconstructPost_split c post start k last img h1 h2 hfull

/-- … at full strength (zeros in the saved image included) when the resumed run is made with
    `enforce initial positivity condition := 0` -/
theorem C07_restart_eq_post_option_off (c : Cfg) (post : Option (Img → Img)) (start k last : Nat) (img : Img)
    (h1 : start ≤ k + 1) (h2 : k < last)
    (hfull : (reconstruct c start k img).length = k + 1 - start) :
    reconstructPost c post start last img =
      reconstruct c start k img ++
        reconstructPost { c with enforceInitialPositivity := false } post (k + 1) last
          (setUp { c with enforceInitialPositivity := false } ((reconstruct c start k img).getLastD img)) := by
  rw [C07_setUp_id _ _ (Or.inl rfl), reconstructPost_enforce_irrelevant c post false]
  exact reconstructPost_split c post start k last img h1 h2 hfull

/-- The restart as users make it: a parameter file with `initial estimate := <image saved after k>` and
    `start at subiteration number := k+1`, run by the no-argument `reconstruct()` (`reconstructNoArg`:
    `get_initial_data_ptr`, `set_up`, `reconstruct(target)`), continues the run that a parameter file with
    `initial estimate := 0 | 1 | <file>` started at sub-iteration 1: with `x₀ = set_up (initial image)` and
    `image_k` the image saved after `k < last`,
    `reconstructNoArg init 1 last = (iterates 1..k) ++ reconstructNoArg (file image_k) (k+1) last`
    — under the side condition of `C07_restart_eq_partial` on `image_k` (the excluded inputs are those of the known
    finding `restart:enforce-initial-positivity-lifts-exact-zeros`). -/
theorem C07_restart_eq_noarg_partial (c : Cfg) (post : Option (Img → Img)) (nvox : Nat) (init : InitialEstimate)
    (k last : Nat) (h2 : k < last)
    (hfull : (reconstruct c 1 k (setUp c (initialData nvox init))).length = k)
    (hpos : c.enforceInitialPositivity = false ∨
      ∀ x ∈ (reconstruct c 1 k (setUp c (initialData nvox init))).getLastD (setUp c (initialData nvox init)), 0 < x) :
    reconstructNoArg c post nvox init 1 last =
      reconstruct c 1 k (setUp c (initialData nvox init)) ++
        reconstructNoArg c post nvox
          (.file ((reconstruct c 1 k (setUp c (initialData nvox init))).getLastD (setUp c (initialData nvox init))))
          (k + 1) last := by
  exact C07_restart_eq_post_partial c post 1 k last _ (Nat.le_add_left 1 k) h2 (by rw [hfull, Nat.add_sub_cancel]) hpos

/-- The image written by `write update image` is the multiplicative update that is applied: the image after
    `update_estimate` is, voxel by voxel, the (inter-update filtered) image before times the written update limited to
    `[minimum relative change, maximum relative change]` (limits from sub-iteration 2 on) — "maps the image lambda to
    lambda * A_S^T[y / (A_S lambda + a)] / s_S voxelwise" with the second factor observable in a file. -/
theorem C07_update_image_applied (c : Cfg) (k : Nat) (img : Img) :
    updateEstimate c k img =
      List.zipWith (fun lam u => mulExt lam (limitUpdate c k u)) (interUpdateFiltered c k img) (updateImage c k img) := by
  unfold updateEstimate updateImage
  simp only
  rw [← zip4With_eq_zipWith_zip3With]
  rfl

/-- non-vacuity, computed: witness configuration with the option off and the post-filter "+1": the uninterrupted run
    saves `[2,0]` and the post-filtered `[3,1]`; the run resumed at 2 from `[2,0]` saves `[3,1]` -/
example : reconstructPost { restartWitness with enforceInitialPositivity := false } (some (List.map (· + 1))) 1 2 [1, 1]
      = [[2, 0], [3, 1]] ∧
    reconstructPost { restartWitness with enforceInitialPositivity := false } (some (List.map (· + 1))) 2 2
      (setUp { restartWitness with enforceInitialPositivity := false } [2, 0]) = [[3, 1]] ∧
    reconstructNoArg { restartWitness with enforceInitialPositivity := false } (some (List.map (· + 1))) 2 .ones 1 2
      = [[2, 0], [3, 1]] := by
  decide +kernel

/-- the hypotheses of `C07_restart_eq_noarg_partial` hold there (`k = 1 < last = 2`, one finite iterate, option off) -/
example : (reconstruct { restartWitness with enforceInitialPositivity := false } 1 1
    (setUp { restartWitness with enforceInitialPositivity := false } (initialData 2 .ones))).length = 1 := by
  decide +kernel

/-! ## The filter slots as objects: user chains (`Chained Data Processor`), repeated `set_up`

`Filt` / `Slots` / `updateEstimateS` / `endOfIterationS` / `subIterS` transcribe the slots as the class holds them (see
Model.lean, "the filter slots as OBJECTS").  The correspondence check compares THIS model with the real class for user filters that are single registered filters, user-made
`ChainedDataProcessor`s of 2 and 3 members (smoothing + sharpening in both orders, with a thresholding member, nested, with a
null member), given through the setters and parsed from parameter files, with 1-3 consecutive `set_up` calls. -/

/-- "inter-update / inter-iteration filters off and on (positivity only)": for EVERY content of the three slots (single
    filters, user chains of any shape, thresholding members, null members, empty slots), after ANY number `n ≥ 1` of
    consecutive `set_up` calls on the object, a sub-iteration of the object is the sub-iteration of the model
    `subIterPost` with the slots' original contents as user filters — each followed by exactly one positivity thresholding
    (the `n` thresholding stages that `n` calls stack up act as one).  Hence every theorem of this file about
    `updateEstimate` / `subIter` / `subIterPost` / `reconstruct…` with arbitrary `interUpdateFilter` /
    `interIterationFilter` (non-negativity of every iterate, restart, post-filter at the last sub-iteration only) is a
    theorem about objects holding user chains and set up several times. -/
theorem C07_filter_slots_any_number_of_setups (c : Cfg) (s : Slots) (n : Nat) (hn : 1 ≤ n) (last k : Nat) (img : Img) :
    updateEstimateS c (Slots.setUpN c n s) k img = updateEstimate (Cfg.ofSlots c s) k img ∧
    subIterS c (Slots.setUpN c n s) last k img = subIterPost (Cfg.ofSlots c s) s.post.toOption last k img :=
  ⟨updateEstimateS_setUpN c s n hn k img, subIterS_setUpN c s n hn last k img⟩

/-- "with filters on, non-negative images stay non-negative", the filter stage: whatever data processor the user put
    into an inter-update / inter-iteration slot (`f` is any non-null `Filt`: a filter with negative lobes, a user
    `ChainedDataProcessor`, a chain of chains …) and whatever image comes in, after `n ≥ 1` calls of `set_up` with the
    filter switched on (`interval > 0`) the slot's object delivers a strictly positive image — the thresholding stage is
    added for EVERY kind of content.  (A `set_up` that skipped the wrapping for a content that is a `ChainedDataProcessor`
    would make this false: `C07_unwrapped_user_chain_goes_negative` below.) -/
theorem C07_filter_slot_output_positive (interval n : Nat) (hi : 0 < interval) (hn : 1 ≤ n) (f : Filt)
    (hf : f.isNull = false) (img : Img) : ∀ x ∈ (setUpSlotN interval n f).apply img, 0 < x := by
  rw [setUpSlotN_apply_chained interval n hi hn f hf]
  exact chained_pos _ _

/-- … and the sub-iteration as a whole, for an object with any user slots after `n ≥ 1` calls of `set_up` (before the last
    sub-iteration, or without post-filter: the post-filter is the user's and is not thresholded): a non-negative image is
    mapped to a finite non-negative image (data non-negative and consistent, as in `C07_nonneg_preserved`). -/
theorem C07_nonneg_preserved_slots (c : Cfg) (s : Slots) (n : Nat) (hn : 1 ≤ n) (last k : Nat) (img : Img)
    (hpost : s.post.isNull = true ∨ k ≠ last)
    (hmin : 0 ≤ c.minRel) (hmm : c.minRel ≤ c.maxRel) (himg : ∀ x ∈ img, (0 : Rat) ≤ x)
    (hdata : DataOK (c.gps (subsetNum k c.startSubset c.numSubsets) img) (c.sens (subsetNum k c.startSubset c.numSubsets))) :
    ∃ img', subIterS c (Slots.setUpN c n s) last k img = some img' ∧ ∀ x ∈ img', (0 : Rat) ≤ x := by
  rw [subIterS_setUpN c s n hn, subIterPost_eq_subIter _ s.post.toOption last k (hpost.imp_left (if_pos ·))]
  exact C07_nonneg_preserved (Cfg.ofSlots c s) k img hmin hmm himg hdata

/-- a user chain with a sharpening-like second member: `x ↦ x + 1` followed by `x ↦ x − 3` -/
def exUserChain : Filt := .chain (.user (List.map (· + 1))) (.user (List.map (· - 3)))

/-- non-vacuity, computed: the chain alone turns the positive image `[1, 4]` into `[-1, 2]`; in a slot with interval 1
    after one, two and three `set_up` calls the object delivers `[2·10⁻⁶, 2]` -/
example : exUserChain.apply [1, 4] = [-1, 2] ∧
    (setUpSlotN 1 1 exUserChain).apply [1, 4] = [1 / 500000, 2] ∧
    (setUpSlotN 1 2 exUserChain).apply [1, 4] = [1 / 500000, 2] ∧
    (setUpSlotN 1 3 exUserChain).apply [1, 4] = [1 / 500000, 2] := by
  decide +kernel

/-- **negative witness for a guarded `set_up`** ("do not chain the thresholding again when the slot already holds a
    `ChainedDataProcessor`"): such a `set_up` leaves the user chain `exUserChain` as it is, and the slot then delivers a
    negative value for the positive image `[1, 4]` — the wrapping must not depend on the kind of the content. -/
theorem C07_unwrapped_user_chain_goes_negative :
    (∃ x ∈ exUserChain.apply [1, 4], x < 0) ∧ ∀ x ∈ (setUpSlot 1 exUserChain).apply [1, 4], 0 < x := by
  constructor
  · exact ⟨-1, by decide +kernel, by norm_num⟩
  · exact C07_filter_slot_output_positive 1 1 Nat.one_pos (le_refl _) exUserChain rfl [1, 4]

/-- "A_S^T[y / (A_S lambda + a)]": the quotient that `divide_and_truncate` leaves in the numerator viewgram is, for EVERY
    numerator and denominator (zeros, negatives, `0/0`, `x/0` included), a number in `[0, max_quotient]` — no division by
    zero is ever made (so a NaN or a negative quotient in a viewgram cannot come from this function) … -/
theorem C07_divide_and_truncate_bounds (num den : List Rat) :
    ∀ q ∈ divideAndTruncate num den, 0 ≤ q ∧ q ≤ maxQuotient := by
  intro q hq
  rw [divideAndTruncate, ← List.map_uncurry_zip_eq_zipWith] at hq
  obtain ⟨p, _, rfl⟩ := List.mem_map.mp hq
  exact divideAndTruncate1_bounds _ _ _ (dtSmallValue_nonneg num)

/-- … a bin without counts gives `0` whatever the denominator (`0/0 = 0`), and on the regular region
    (`small_value < y ≤ max_quotient · ȳ`) the quotient is `y / ȳ`: the `ratioRow` that `emExplicit` back projects. -/
theorem C07_divide_and_truncate_regular (num : List Rat) (y ybar : Rat) :
    divideAndTruncate1 (dtSmallValue num) 0 ybar = 0 ∧
    (dtSmallValue num < y → y ≤ maxQuotient * ybar → divideAndTruncate1 (dtSmallValue num) y ybar = y / ybar) :=
  ⟨if_pos (dtSmallValue_nonneg num), fun h1 h2 => by
    rw [divideAndTruncate1, if_neg (not_le.mpr h1), if_neg (not_lt.mpr h2)]⟩

/-- non-vacuity, computed: numerator `[0, 4, 8, 2]`, denominator `[0, 2, 0, 1]`: `0/0 → 0`, `4/2 → 2`, `8/0 → 10000`, `2/1 → 2` -/
example : divideAndTruncate [0, 4, 8, 2] [0, 2, 0, 1] = [0, 2, 10000, 2] := by
  decide +kernel

/-- "with a single subset the Poisson log-likelihood never decreases": the classical EM theorem over ℝ,
    `L(λ) = Σ_b y_b log(eff_b ((Pλ)_b + a_b)) − eff_b ((Pλ)_b + a_b)`, `EM(λ)_j = λ_j · Σ_b P_bj y_b/((Pλ)_b+a_b) / Σ_b P_bj eff_b`
    (0 where the sensitivity is 0): for `P, y, a ≥ 0`, efficiencies `> 0`, a strictly positive image and strictly positive
    estimated data (regular region of `divide_and_truncate`), `L(EM(λ)) ≥ L(λ)`.  (Jensen per bin, `x log x − x + 1 ≥ 0`
    per voxel; no further assumption — in particular voxels with zero sensitivity and bins without counts are allowed.)
    The theorem is for every system `(nb, P, y, a, eff)`: with `zero end planes of segment 0 := 1` it is the theorem for the
    system without the rows of the first and last sinogram of segment 0, which is the system the update uses
    (`C07_zero_end_planes_removes_rows`) and the one `compute_objective_function` evaluates (harness oracle `loglik-value`). -/
theorem C07_loglik_monotone_real {nb nv : ℕ} (P : Fin nb → Fin nv → ℝ) (y a eff : Fin nb → ℝ) (lam : Fin nv → ℝ)
    (hP : ∀ b j, 0 ≤ P b j) (hy : ∀ b, 0 ≤ y b) (ha : ∀ b, 0 ≤ a b) (he : ∀ b, 0 < eff b) (hl : ∀ j, 0 < lam j)
    (hq : ∀ b, 0 < Real.ybar P a lam b) :
    Real.logLik P y a eff lam ≤ Real.logLik P y a eff (Real.em P y a eff lam) :=
  Real.loglik_monotone P y a eff lam hP hy ha he hl hq (Real.ybar_em_pos ⟨hP, hy, ha, he, hl, hq⟩)

/-- … and for the rational quantities of the model: the image `emStep` that `C07_em_formula_subIter` shows the
    sub-iteration to produce has a log-likelihood (evaluated in ℝ) not below that of the image before. -/
theorem C07_loglik_monotone {nb nv : ℕ} (P : Fin nb → Fin nv → ℚ) (y a eff : Fin nb → ℚ) (lam : Fin nv → ℚ)
    (hP : ∀ b j, 0 ≤ P b j) (hy : ∀ b, 0 ≤ y b) (ha : ∀ b, 0 ≤ a b) (he : ∀ b, 0 < eff b) (hl : ∀ j, 0 < lam j)
    (hq : ∀ b, 0 < fwd P lam b + a b) :
    Real.logLik (fun b j => (P b j : ℝ)) (fun b => (y b : ℝ)) (fun b => (a b : ℝ)) (fun b => (eff b : ℝ))
        (fun j => (lam j : ℝ)) ≤
      Real.logLik (fun b j => (P b j : ℝ)) (fun b => (y b : ℝ)) (fun b => (a b : ℝ)) (fun b => (eff b : ℝ))
        (fun j => ((emStep P y a eff univ lam j : ℚ) : ℝ)) := by
  rw [funext fun j => emStep_cast P y a eff lam j]
  apply C07_loglik_monotone_real
  · exact fun b j => by exact_mod_cast hP b j
  · exact fun b => by exact_mod_cast hy b
  · exact fun b => by exact_mod_cast ha b
  · exact fun b => by exact_mod_cast he b
  · exact fun j => by exact_mod_cast hl j
  · intro b
    rw [ybar_cast]
    exact_mod_cast hq b

/-- non-vacuity: a 2-bin × 2-voxel system with counts, no additive term, satisfying every hypothesis -/
def exP2 : Fin 2 → Fin 2 → ℚ := ![![1, 2], ![0, 3]]

example : (∀ b j, 0 ≤ exP2 b j) ∧ (∀ b, (0 : ℚ) ≤ (![5, 0] : Fin 2 → ℚ) b) ∧ (∀ j, (0 : ℚ) < exLam j) ∧
    (∀ b, 0 < fwd exP2 exLam b + (fun _ => (0 : ℚ)) b) := by
  decide +kernel

end StirVerif.C07
