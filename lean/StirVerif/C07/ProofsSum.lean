/-
C07 — the textbook EM quantities over an explicit system matrix (rows = bins, columns = voxels) as finite sums, and count
preservation.
-/
import Mathlib.Algebra.Order.Field.Rat
import Mathlib.Algebra.BigOperators.Group.Finset.Basic
import Mathlib.Algebra.BigOperators.Ring.Finset
import Mathlib.Algebra.BigOperators.Field
import Mathlib.Algebra.Order.BigOperators.Group.Finset
import Mathlib.Tactic.Ring
import Mathlib.Tactic.FieldSimp

namespace StirVerif.C07
open Finset

variable {nb nv : ℕ}

def fwd (P : Fin nb → Fin nv → ℚ) (lam : Fin nv → ℚ) (b : Fin nb) : ℚ := ∑ j, P b j * lam j

/-- textbook subset gradient-plus-sensitivity `Σ_{b∈S} P_bj · y_b / ((Pλ)_b + a_b)`
    (what `compute_sub_gradient_without_penalty_plus_sensitivity` is on the regular region of `divide_and_truncate`,
    property C05) -/
def gpsSpec (P : Fin nb → Fin nv → ℚ) (y a : Fin nb → ℚ) (S : Finset (Fin nb)) (lam : Fin nv → ℚ) (j : Fin nv) : ℚ :=
  ∑ b ∈ S, P b j * (y b / (fwd P lam b + a b))

/-- textbook subset sensitivity `Σ_{b∈S} P_bj · n_b` (`n_b` = efficiency; 1 without normalisation) -/
def sensSpec (P : Fin nb → Fin nv → ℚ) (eff : Fin nb → ℚ) (S : Finset (Fin nb)) (j : Fin nv) : ℚ :=
  ∑ b ∈ S, P b j * eff b

/-- the EM update of the property statement: `λ · A_S^T[y / (A_S λ + a)] / s_S`, zero where `s_S = 0` -/
def emStep (P : Fin nb → Fin nv → ℚ) (y a eff : Fin nb → ℚ) (S : Finset (Fin nb)) (lam : Fin nv → ℚ) (j : Fin nv) : ℚ :=
  if sensSpec P eff S j = 0 then 0 else lam j * gpsSpec P y a S lam j / sensSpec P eff S j

theorem fwd_nonneg {P : Fin nb → Fin nv → ℚ} {lam : Fin nv → ℚ} (hP : ∀ b j, 0 ≤ P b j) (hl : ∀ j, 0 ≤ lam j)
    (b : Fin nb) : 0 ≤ fwd P lam b :=
  Finset.sum_nonneg fun j _ => mul_nonneg (hP b j) (hl j)

theorem gpsSpec_nonneg {P : Fin nb → Fin nv → ℚ} {y a : Fin nb → ℚ} {lam : Fin nv → ℚ} (S : Finset (Fin nb))
    (hP : ∀ b j, 0 ≤ P b j) (hy : ∀ b, 0 ≤ y b) (ha : ∀ b, 0 ≤ a b) (hl : ∀ j, 0 ≤ lam j) (j : Fin nv) :
    0 ≤ gpsSpec P y a S lam j :=
  Finset.sum_nonneg fun b _ =>
    mul_nonneg (hP b j) (div_nonneg (hy b) (add_nonneg (fwd_nonneg hP hl b) (ha b)))

theorem sensSpec_nonneg {P : Fin nb → Fin nv → ℚ} {eff : Fin nb → ℚ} (S : Finset (Fin nb))
    (hP : ∀ b j, 0 ≤ P b j) (he : ∀ b, 0 < eff b) (j : Fin nv) : 0 ≤ sensSpec P eff S j :=
  Finset.sum_nonneg fun b _ => mul_nonneg (hP b j) (le_of_lt (he b))

/-- a sum of non-negative weights `p` against positive numbers vanishes only if every weight does, and then so does the sum of
    the weights against anything (ℚ for the specification, ℝ for the log-likelihood) -/
theorem sum_mul_eq_zero_of_pos_of_sum_mul_eq_zero {ι K : Type} [Field K] [LinearOrder K] [IsStrictOrderedRing K] (s : Finset ι)
    {p e : ι → K} (x : ι → K) (hp : ∀ b, 0 ≤ p b) (he : ∀ b, 0 < e b) (h : ∑ b ∈ s, p b * e b = 0) :
    ∑ b ∈ s, p b * x b = 0 := by
  have hz := (Finset.sum_eq_zero_iff_of_nonneg fun b _ => mul_nonneg (hp b) (he b).le).mp h
  refine Finset.sum_eq_zero fun b hb => ?_
  rw [(mul_eq_zero.mp (hz b hb)).resolve_right (he b).ne', zero_mul]

theorem gpsSpec_eq_zero_of_sensSpec_eq_zero {P : Fin nb → Fin nv → ℚ} {y a eff : Fin nb → ℚ} {lam : Fin nv → ℚ}
    (S : Finset (Fin nb)) (hP : ∀ b j, 0 ≤ P b j) (he : ∀ b, 0 < eff b) (j : Fin nv)
    (h : sensSpec P eff S j = 0) : gpsSpec P y a S lam j = 0 :=
  sum_mul_eq_zero_of_pos_of_sum_mul_eq_zero S _ (fun b => hP b j) he h

theorem sensSpec_mul_emStep {P : Fin nb → Fin nv → ℚ} {y a eff : Fin nb → ℚ} {lam : Fin nv → ℚ}
    (S : Finset (Fin nb)) (hP : ∀ b j, 0 ≤ P b j) (he : ∀ b, 0 < eff b) (j : Fin nv) :
    sensSpec P eff S j * emStep P y a eff S lam j = lam j * gpsSpec P y a S lam j := by
  unfold emStep
  split_ifs with h
  · rw [h, gpsSpec_eq_zero_of_sensSpec_eq_zero S hP he j h, zero_mul, mul_zero]
  · field_simp

/-- **count preservation**, any set `S` of bins (a subset; all bins but the end planes of segment 0; …), no additive term,
    every bin of `S` with counts has a non-zero estimated projection: `Σ_j s_S,j λ'_j = Σ_{b∈S} y_b`. -/
theorem count_preservation_subset (P : Fin nb → Fin nv → ℚ) (y eff : Fin nb → ℚ) (S : Finset (Fin nb)) (lam : Fin nv → ℚ)
    (hP : ∀ b j, 0 ≤ P b j) (he : ∀ b, 0 < eff b)
    (hreg : ∀ b ∈ S, y b ≠ 0 → fwd P lam b ≠ 0) :
    ∑ j, sensSpec P eff S j * emStep P y (fun _ => 0) eff S lam j = ∑ b ∈ S, y b := by
  simp only [sensSpec_mul_emStep S hP he, gpsSpec, add_zero, Finset.mul_sum]
  -- Σ_j λ_j Σ_b P_bj y_b/(Pλ)_b = Σ_b y_b/(Pλ)_b Σ_j P_bj λ_j
  rw [Finset.sum_comm]
  refine Finset.sum_congr rfl fun b hb => ?_
  have : ∑ j, lam j * (P b j * (y b / fwd P lam b)) = y b / fwd P lam b * fwd P lam b := by
    rw [fwd, Finset.mul_sum]
    exact Finset.sum_congr rfl fun j _ => by ring
  rw [this]
  by_cases hy : y b = 0
  · rw [hy, zero_div, zero_mul]
  · exact div_mul_cancel₀ _ (hreg b hb hy)

theorem count_preservation (P : Fin nb → Fin nv → ℚ) (y eff : Fin nb → ℚ) (lam : Fin nv → ℚ)
    (hP : ∀ b j, 0 ≤ P b j) (he : ∀ b, 0 < eff b)
    (hreg : ∀ b, y b ≠ 0 → fwd P lam b ≠ 0) :
    ∑ j, sensSpec P eff univ j * emStep P y (fun _ => 0) eff univ lam j = ∑ b, y b :=
  count_preservation_subset P y eff univ lam hP he fun b _ => hreg b

end StirVerif.C07
