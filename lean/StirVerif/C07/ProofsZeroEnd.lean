/-
C07 — the explicit system (`Row`, `gpsExplicit`, `sensExplicit`, `emExplicit`) and the option `zero end planes of segment 0`
(`zeroEndSinograms`): zeroing the three viewgrams of a bin is the same as removing the bin from the system, for every sum
over the bins whose term vanishes on a zeroed bin — the numerator and the sensitivity alike.
-/
import StirVerif.C07.Model
import StirVerif.C07.ProofsSum
import Mathlib.Algebra.BigOperators.Fin
import Mathlib.Algebra.Order.BigOperators.Group.List

namespace StirVerif.C07

theorem sumR_cons (x : Rat) (l : List Rat) : sumR (x :: l) = x + sumR l := rfl

theorem sumR_nil : sumR [] = 0 := rfl

theorem sumR_eq_sum (l : List Rat) : sumR l = l.sum := rfl

theorem coeff_eq_sum (r : Row) (j : Nat) : coeff r j = ((r.elems.filter fun e => e.1 == j).map Prod.snd).sum :=
  (List.foldr_map ..).symm

theorem coeff_nonneg (r : Row) (j : Nat) (h : ∀ e ∈ r.elems, (0 : Rat) ≤ e.2) : 0 ≤ coeff r j := by
  rw [coeff_eq_sum]
  refine List.sum_nonneg fun x hx => ?_
  obtain ⟨e, he, rfl⟩ := List.mem_map.mp hx
  exact h e (List.mem_filter.mp he).1

theorem zeroEndSinograms_of_not (z : Bool) (r : Row) (h : zeroedEndPlane z r = false) : zeroEndSinograms z r = r := by
  simp [zeroEndSinograms, h]

theorem zeroEndSinograms_elems (z : Bool) (r : Row) : (zeroEndSinograms z r).elems = r.elems := by
  unfold zeroEndSinograms
  split <;> rfl

theorem coeff_zeroEndSinograms (z : Bool) (r : Row) (j : Nat) : coeff (zeroEndSinograms z r) j = coeff r j := by
  simp [coeff, zeroEndSinograms_elems]

theorem gps_term_zeroed (z : Bool) (lam : Img) (j : Nat) (r : Row) (h : zeroedEndPlane z r = true) :
    coeff (zeroEndSinograms z r) j * ratioRow lam (zeroEndSinograms z r) = 0 := by
  simp [zeroEndSinograms, h, ratioRow]

theorem sens_term_zeroed (z : Bool) (j : Nat) (r : Row) (h : zeroedEndPlane z r = true) :
    coeff (zeroEndSinograms z r) j * (zeroEndSinograms z r).eff = 0 := by
  simp [zeroEndSinograms, h]

theorem sumR_map_zeroed (z : Bool) (t : Row → Rat) (ht : ∀ r, zeroedEndPlane z r = true → t (zeroEndSinograms z r) = 0)
    (rows : List Row) :
    sumR ((rows.map (zeroEndSinograms z)).map t) = sumR ((rows.filter fun r => !zeroedEndPlane z r).map t) := by
  induction rows with
  | nil => rfl
  | cons r rs ih =>
    rw [List.map_cons, List.map_cons, sumR_cons, ih]
    cases h : zeroedEndPlane z r with
    | true => rw [ht r h, zero_add, List.filter_cons_of_neg (by simp [h])]
    | false => rw [zeroEndSinograms_of_not z r h, List.filter_cons_of_pos (by simp [h]), List.map_cons, sumR_cons]

theorem subsetViewgrams_off (maxSeg : Int) (n S : Nat) (rows : List Row) :
    subsetViewgrams false maxSeg n S rows = rows.filter (rowInSubset maxSeg n S) := by
  unfold subsetViewgrams
  rw [List.map_congr_left (fun r _ => zeroEndSinograms_of_not false r rfl), List.map_id']

theorem sumR_subsetViewgrams_zeroed (z : Bool) (t : Row → Rat)
    (ht : ∀ r, zeroedEndPlane z r = true → t (zeroEndSinograms z r) = 0) (maxSeg : Int) (n S : Nat) (rows : List Row) :
    sumR ((subsetViewgrams z maxSeg n S rows).map t) =
      sumR ((subsetViewgrams false maxSeg n S (rows.filter fun r => !zeroedEndPlane z r)).map t) := by
  rw [subsetViewgrams_off, subsetViewgrams, sumR_map_zeroed z t ht, List.filter_comm]

theorem gpsExplicit_zeroed (z : Bool) (maxSeg : Int) (n S : Nat) (rows : List Row) (lam : Img) (j : Nat) :
    gpsExplicit z maxSeg n S rows lam j
      = gpsExplicit false maxSeg n S (rows.filter fun r => !zeroedEndPlane z r) lam j :=
  sumR_subsetViewgrams_zeroed z _ (gps_term_zeroed z lam j) maxSeg n S rows

theorem sensExplicit_zeroed (z u : Bool) (maxSeg : Int) (n S : Nat) (rows : List Row) (j : Nat) :
    sensExplicit z u maxSeg n S rows j
      = sensExplicit false u maxSeg n S (rows.filter fun r => !zeroedEndPlane z r) j := by
  unfold sensExplicit sensVoxel
  rw [sumR_subsetViewgrams_zeroed z _ (sens_term_zeroed z j) maxSeg n S,
    sumR_subsetViewgrams_zeroed z _ (sens_term_zeroed z j) maxSeg 1 0]

/-- `emExplicit` is `updVoxel` fed with `gpsExplicit` / `sensExplicit` (the sharing of the quotients in its definition is
    an optimisation only) -/
theorem emExplicit_eq (c : Cfg) (z u : Bool) (maxSeg : Int) (rows : List Row) (k : Nat) (lam : Img) (js : List Nat) :
    emExplicit c z u maxSeg rows k lam js =
      js.map fun j => updVoxel .none c.numSubsets 0 (k != 1) c.minRel c.maxRel (voxelOf lam j)
        (gpsExplicit z maxSeg c.numSubsets (subsetNum k c.startSubset c.numSubsets) rows lam j)
        (sensExplicit z u maxSeg c.numSubsets (subsetNum k c.startSubset c.numSubsets) rows j) 0 := by
  unfold emExplicit gpsExplicit sensExplicit gpsVoxel
  simp only [List.map_map]
  apply List.map_congr_left
  intro j _
  cases u <;> simp [Function.comp_def]

/-- the sensitivity is a sum of non-negative terms: where it vanishes every matrix element of the column does, and with it the
    numerator -/
theorem gpsVoxel_eq_zero_of_sensVoxel_eq_zero (rows : List Row) (lam : Img) (j : Nat)
    (hok : ∀ r ∈ rows, (∀ e ∈ r.elems, (0 : Rat) ≤ e.2) ∧ 0 < r.eff) (h : sensVoxel rows j = 0) : gpsVoxel rows lam j = 0 := by
  rw [sensVoxel, sumR_eq_sum, ← Fin.sum_univ_fun_getElem] at h
  rw [gpsVoxel, sumR_eq_sum, ← Fin.sum_univ_fun_getElem]
  exact sum_mul_eq_zero_of_pos_of_sum_mul_eq_zero _ _ (fun i => coeff_nonneg _ j (hok _ (List.getElem_mem _)).1)
    (fun i => (hok _ (List.getElem_mem _)).2) h

end StirVerif.C07
