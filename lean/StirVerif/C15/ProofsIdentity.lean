/-
C15 — `overlap_interpolate` and `zoom_image` on DEGENERATE requests: what `fl32` makes of the identity request, and the PURE SHIFT
(zoom exactly 1, an offset of a whole number of boxes), which copies every value to the box at the same position.
-/
import StirVerif.C15.Model
import Mathlib.Tactic.Ring
import Mathlib.Tactic.Linarith
import Mathlib.Data.Rat.Floor

namespace StirVerif.C15

theorem fl32_one : fl32 1 = 1 := by decide +kernel

theorem fl32_zero : fl32 0 = 0 := by decide +kernel

theorem fl32_div_self (v : ℚ) (hv : v ≠ 0) : fl32 (v / v) = 1 := by
  rw [div_self hv]
  exact fl32_one

theorem fl32_zero_div (v : ℚ) : fl32 (fl32 0 / v) = 0 := by
  rw [fl32_zero, zero_div, fl32_zero]

theorem Vec.set_lo (v : Vec) (i : Int) (x : ℚ) : (v.set i x).lo = v.lo := by
  unfold Vec.set
  split <;> rfl

theorem Vec.set_length (v : Vec) (i : Int) (x : ℚ) : (v.set i x).vals.length = v.vals.length := by
  unfold Vec.set
  split <;> simp

theorem Vec.set_hi (v : Vec) (i : Int) (x : ℚ) : (v.set i x).hi = v.hi := by
  unfold Vec.hi
  rw [Vec.set_lo, Vec.set_length]

theorem Vec.get_set_same {v : Vec} {i : Int} (x : ℚ) (h1 : v.lo ≤ i) (h2 : i ≤ v.hi) : (v.set i x).get i = x := by
  unfold Vec.hi at h2
  unfold Vec.set Vec.get
  have hn : ¬ i < v.lo := by omega
  simp only [hn, if_false]
  have : (i - v.lo).toNat < v.vals.length := by omega
  simp [List.getD_eq_getElem?_getD, this]

theorem Vec.get_set_ne {v : Vec} {i j : Int} (x : ℚ) (h : j ≠ i) : (v.set i x).get j = v.get j := by
  unfold Vec.set
  split
  · rfl
  · rename_i hi
    unfold Vec.get
    simp only
    split
    · rfl
    · rename_i hj
      have : (i - v.lo).toNat ≠ (j - v.lo).toNat := by omega
      simp only [List.getD_eq_getElem?_getD, List.getElem?_set_ne this]

theorem Vec.get_out (v : Vec) (i : Int) (h : i < v.lo ∨ v.hi < i) : v.get i = 0 := by
  unfold Vec.get
  split
  · rfl
  · rename_i hi
    unfold Vec.hi at h
    have : v.vals.length ≤ (i - v.lo).toNat := by omega
    simp [List.getD_eq_getElem?_getD, List.getElem?_eq_none this]

/-- `R` is `out` with the positions `x2 … out.hi` replaced by the values `f` -/
def Filled (R out : Vec) (x2 : Int) (f : Int → ℚ) : Prop :=
  R.lo = out.lo ∧ R.vals.length = out.vals.length ∧ (∀ i, i < x2 → R.get i = out.get i) ∧ (∀ i, x2 ≤ i → i ≤ out.hi → R.get i = f i)

theorem Filled.done {out : Vec} {x2 : Int} {f : Int → ℚ} (h : out.hi < x2) : Filled out out x2 f :=
  ⟨rfl, rfl, fun _ _ => rfl, fun i h1 h2 => by omega⟩

theorem Filled.step {R out : Vec} {x2 : Int} {f : Int → ℚ} {v : ℚ} (h : Filled R (out.set x2 v) (x2 + 1) f)
    (h1 : out.lo ≤ x2) (h2 : x2 ≤ out.hi) (hv : f x2 = v) : Filled R out x2 f := by
  obtain ⟨a, b, c, d⟩ := h
  refine ⟨by rw [a, Vec.set_lo], by rw [b, Vec.set_length], ?_, ?_⟩
  · intro i hi
    rw [c i (by omega), Vec.get_set_ne _ (by omega)]
  · intro i hi1 hi2
    by_cases e : i = x2
    · subst e
      rw [c i (by omega), Vec.get_set_same _ h1 h2, hv]
    · refine d i (by omega) ?_
      rw [Vec.set_hi]
      exact hi2

theorem shrink_done {inp : Vec} {fuel : Nat} {x2 x1 : Int} {d : ℚ} {out : Vec} (h : fuel = 0 ∨ x2 > out.hi) :
    overlapVecShrink 1 true inp fuel x2 x1 d out = out := by
  unfold overlapVecShrink
  cases fuel with
  | zero => rfl
  | succ n => simp [h.resolve_left (by omega)]

theorem shrink_exhausted {inp : Vec} {fuel : Nat} {x2 x1 : Int} {d : ℚ} {out : Vec} (h2 : ¬ x2 > out.hi) (h1 : x1 > inp.hi) :
    overlapVecShrink 1 true inp (fuel + 1) x2 x1 d out = overlapVecShrink 1 true inp fuel (x2 + 1) x1 (d - 1) (out.set x2 0) := by
  rw [overlapVecShrink]
  simp only [h2, h1, if_true, if_false]

/-- right edges aligned (`d = 0`, the first step): out-box `x2` is in-box `x1` -/
theorem shrink_aligned {inp : Vec} {fuel : Nat} {x2 x1 : Int} {out : Vec} (h2 : ¬ x2 > out.hi) (h1 : ¬ x1 > inp.hi) :
    overlapVecShrink 1 true inp (fuel + 1) x2 x1 0 out = overlapVecShrink 1 true inp fuel (x2 + 1) x1 (-1) (out.set x2 (inp.get x1)) := by
  rw [overlapVecShrink]
  have hd : (0 : ℚ) ≥ 0 := le_refl _
  simp only [h2, h1, hd, if_true, if_false, div_one, zero_sub]
  split
  · rfl
  · rw [Vec.get_out inp x1 (Or.inl (by omega))]

/-- one box behind (`d = -1`): out-box `x2` is in-box `x1 + 1`, and so it goes on -/
theorem shrink_behind {inp : Vec} {fuel : Nat} {x2 x1 : Int} {out : Vec} (h2 : ¬ x2 > out.hi) (h1 : ¬ x1 > inp.hi) :
    overlapVecShrink 1 true inp (fuel + 1) x2 x1 (-1) out
      = overlapVecShrink 1 true inp fuel (x2 + 1) (x1 + 1) (-1) (out.set x2 (inp.get (x1 + 1))) := by
  rw [overlapVecShrink]
  have hd : ¬ ((-1 : ℚ) ≥ 0) := by norm_num
  have hz : ∀ q : ℚ, q * (1 / -1 + 1) = 0 := fun q => by norm_num
  have hdn : (-1 : ℚ) + 1 - 1 = -1 := by norm_num
  simp only [h2, h1, hd, if_true, if_false, hz, ite_self, hdn]
  congr 2
  split
  · norm_num
  · rw [Vec.get_out inp (x1 + 1) (by omega)]
    norm_num

/-- from every state of a pure shift by `k` boxes — aligned (the start), one box behind, or past the end of the input — the loop
    fills the rest of the output with the input values `k` boxes further on (`d` stays at `-1` because a step adds `zoom − 1 = 0`) -/
theorem shrink_fills (inp : Vec) (k : Int) (fuel : Nat) : ∀ (x2 x1 : Int) (d : ℚ) (out : Vec), out.lo ≤ x2 → (out.hi - x2 + 1).toNat ≤ fuel →
    ((d = 0 ∧ x1 = x2 + k) ∨ (d = -1 ∧ x1 = x2 - 1 + k) ∨ (inp.hi < x1 ∧ x1 ≤ x2 + k)) →
    Filled (overlapVecShrink 1 true inp fuel x2 x1 d out) out x2 (fun i => inp.get (i + k)) := by
  induction fuel with
  | zero =>
    intro x2 x1 d out _ hf _
    rw [shrink_done (Or.inl rfl)]
    exact Filled.done (by omega)
  | succ n ih =>
    intro x2 x1 d out hlo hf hst
    by_cases h2 : x2 > out.hi
    · rw [shrink_done (Or.inr h2)]
      exact Filled.done h2
    · have hnext : ∀ v x1' d', inp.get (x2 + k) = v →
          ((d' = 0 ∧ x1' = x2 + 1 + k) ∨ (d' = -1 ∧ x1' = x2 + 1 - 1 + k) ∨ (inp.hi < x1' ∧ x1' ≤ x2 + 1 + k)) →
          Filled (overlapVecShrink 1 true inp n (x2 + 1) x1' d' (out.set x2 v)) out x2 (fun i => inp.get (i + k)) := by
        intro v x1' d' hv hst'
        refine Filled.step ?_ hlo (by omega) hv
        have g1 : (out.set x2 v).lo ≤ x2 + 1 := by
          rw [Vec.set_lo]
          omega
        have g2 : ((out.set x2 v).hi - (x2 + 1) + 1).toNat ≤ n := by
          rw [Vec.set_hi]
          omega
        exact ih (x2 + 1) x1' d' _ g1 g2 hst'
      by_cases h1 : x1 > inp.hi
      · rw [shrink_exhausted h2 h1]
        exact hnext 0 x1 (d - 1) (Vec.get_out inp _ (Or.inr (by omega))) (Or.inr (Or.inr ⟨h1, by omega⟩))
      · rcases hst with ⟨rfl, rfl⟩ | ⟨rfl, rfl⟩ | ⟨h, _⟩
        · rw [shrink_aligned h2 h1]
          exact hnext _ _ _ rfl (Or.inr (Or.inl ⟨rfl, by omega⟩))
        · rw [shrink_behind h2 h1]
          exact hnext _ _ _ (by rw [show x2 - 1 + k + 1 = x2 + k by omega]) (Or.inr (Or.inl ⟨rfl, by omega⟩))
        · omega

theorem Vec.vals_eq (v : Vec) : v.vals = (List.range v.vals.length).map fun (j : Nat) => v.get (v.lo + (j : Int)) := by
  apply List.ext_getElem
  · simp
  · intro j h1 _
    simp only [List.getElem_map, List.getElem_range]
    unfold Vec.get
    rw [if_neg (by omega), show (v.lo + (j : Int) - v.lo).toNat = j by omega]
    simp [List.getD_eq_getElem?_getD, h1]

theorem Filled.vals {R out : Vec} {f : Int → ℚ} (h : Filled R out out.lo f) :
    R.vals = (List.range out.vals.length).map fun (j : Nat) => f (out.lo + (j : Int)) := by
  obtain ⟨a, b, _, d⟩ := h
  rw [Vec.vals_eq R, a, b]
  apply List.map_congr_left
  intro j hj
  have := List.mem_range.mp hj
  exact d _ (by omega) (by
    unfold Vec.hi
    omega)

theorem overlapVec_pure_shift (out inp : Vec) (k : Int) (hfl : fl32 (out.lo : ℚ) = out.lo) :
    (overlapVec out inp 1 (k : ℚ) true).vals = (List.range out.vals.length).map fun (j : Nat) => inp.get (out.lo + (j : Int) + k) := by
  rw [overlapVec]
  by_cases he : out.vals.isEmpty = true
  · rw [if_pos he, List.isEmpty_iff.mp he]
    rfl
  · have hlen : out.vals.length ≠ 0 := fun h => he (List.isEmpty_iff.mpr (List.eq_nil_of_length_eq_zero h))
    rw [if_neg he]
    by_cases hs : ((1 : ℚ) == 1 ∧ (k : ℚ) == 0 ∧ inp.lo == out.lo ∧ inp.hi == out.hi)
    · -- the plain copy of the identity request
      rw [if_pos hs]
      simp only [beq_iff_eq, Int.cast_eq_zero] at hs
      obtain ⟨_, rfl, hlo, hhi⟩ := hs
      unfold Vec.hi at hhi
      show inp.vals = _
      rw [Vec.vals_eq inp, hlo, show inp.vals.length = out.vals.length by omega]
      simp only [Int.add_zero]
    · -- the loop starts aligned: `x1 = lo + k`, `d = 0`
      rw [if_neg hs, if_pos (le_refl (1 : ℚ))]
      have hx1 : (((out.lo : ℚ) - 1 / 2) / 1 + (k : ℚ) + 1 / 2).floor = out.lo + k := by
        have : ((out.lo : ℚ) - 1 / 2) / 1 + (k : ℚ) + 1 / 2 = ((out.lo + k : Int) : ℚ) := by
          push_cast
          ring
        rw [this, Rat.floor_intCast]
      have hd : (1 : ℚ) * (fl32 (((out.lo + k : Int) : ℚ) - (k : ℚ)) + 1 / 2) - ((out.lo : ℚ) + 1 / 2) = 0 := by
        have : ((out.lo + k : Int) : ℚ) - (k : ℚ) = (out.lo : ℚ) := by
          push_cast
          ring
        rw [this, hfl]
        ring
      simp only [hx1, hd]
      have hfuel : (out.hi - out.lo + 1).toNat ≤ out.vals.length + 1 := by
        unfold Vec.hi
        omega
      exact Filled.vals (shrink_fills inp k (out.vals.length + 1) out.lo (out.lo + k) 0 out (le_refl _) hfuel (Or.inl ⟨rfl, rfl⟩))

/-- the pixel `(y, x)` of a plane with first indices `(gi.ymin, gi.xmin)`; 0 outside the plane -/
def planeAt (gi : Grid) (pl : List (List ℚ)) (y x : Int) : ℚ :=
  Vec.get ⟨gi.xmin, if y < gi.ymin then [] else pl.getD (y - gi.ymin).toNat []⟩ x

theorem ovl_pure_shift (outLo : Int) (outN : Nat) (inLo : Int) (k : Int) (hfl : fl32 (outLo : ℚ) = outLo) :
    ovl outLo outN inLo 1 (k : ℚ) = fun vals => (List.range outN).map fun (j : Nat) => Vec.get ⟨inLo, vals⟩ (outLo + (j : Int) + k) := by
  funext vals
  unfold ovl
  have := overlapVec_pure_shift ⟨outLo, List.replicate outN 0⟩ ⟨inLo, vals⟩ k hfl
  simpa using this

theorem transpose2_map_range {α : Type} (n : Nat) (l : List α) (f : α → Nat → ℚ) :
    transpose2 n (l.map fun r => (List.range n).map (f r)) = (List.range n).map fun c => l.map fun r => f r c := by
  unfold transpose2
  apply List.map_congr_left
  intro c hc
  rw [List.map_map]
  apply List.map_congr_left
  intro r _
  simp [List.getD_eq_getElem?_getD, List.getElem?_map, List.getElem?_range (List.mem_range.mp hc)]

theorem planeAt_column (gi : Grid) (pl : List (List ℚ)) (y x : Int) :
    Vec.get ⟨gi.ymin, pl.map fun r => Vec.get ⟨gi.xmin, r⟩ x⟩ y = planeAt gi pl y x := by
  have hempty : Vec.get ⟨gi.xmin, []⟩ x = 0 := by
    unfold Vec.get
    split <;> rfl
  unfold planeAt
  show (if y < gi.ymin then 0 else (pl.map fun r => Vec.get ⟨gi.xmin, r⟩ x).getD (y - gi.ymin).toNat 0) = _
  split
  · exact hempty.symm
  · rw [← hempty, List.getD_eq_getElem?_getD, List.getElem?_map, Option.getD_map, ← List.getD_eq_getElem?_getD]

end StirVerif.C15
