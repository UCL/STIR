/-
C15 — the TOF bookkeeping of `SSRB`: rounding to TOF bins and the window test.
-/
import StirVerif.C15.Model
import StirVerif.C01.ProofsBins
import Mathlib.Tactic.Ring
import Mathlib.Tactic.Linarith

namespace StirVerif.C15
open StirVerif.C01

/-- `roundDiv_eq_iff` of C01 with the bounds doubled, so that no half of the odd `m` appears -/
theorem roundDiv_odd (t m q : Int) (hm : 0 < m) (hodd : m % 2 = 1) : roundDiv t m = q ↔ 2 * q * m - m < 2 * t ∧ 2 * t < 2 * q * m + m := by
  rw [roundDiv_eq_iff t m q hm hodd, Int.tdiv_eq_ediv_of_nonneg (Int.le_of_lt hm), Int.mul_assoc]
  omega

/-- **TOF**: with odd mashing factor `m` of the input and an odd number `k` of TOF bins to combine, the TOF bin `round(t/(m·k))` that the
    output geometry assigns to the unmashed timing position `t` passes the half-open window test of `SSRB`
    (`in_k ∈ [out_k − Δ/2, out_k + Δ/2)`) for the input's bin `round(t/m)`; no other bin does (`tofInWindow_unique`). -/
theorem tof_in_window (t m k : Int) (hm : 0 < m) (hmo : m % 2 = 1) (hk : 0 < k) (hko : k % 2 = 1) :
    tofInWindow m (m * k) (roundDiv t m) (roundDiv t (m * k)) = true := by
  have hP : 0 < m * k := Int.mul_pos hm hk
  have hPo : (m * k) % 2 = 1 := by
    rw [Int.mul_emod, hmo, hko]
    rfl
  obtain ⟨h1, h2⟩ := (roundDiv_odd t m _ hm hmo).mp rfl
  obtain ⟨g1, g2⟩ := (roundDiv_odd t (m * k) _ hP hPo).mp rfl
  generalize roundDiv t m = a at *
  generalize roundDiv t (m * k) = o at *
  unfold tofInWindow
  rw [if_neg (by omega), decide_eq_true_eq]
  -- in units of `m`: `2t` lies strictly between `2a ∓ 1` and strictly between the odd numbers `(2o ∓ 1)·k`, so `2a` lies between these
  have e1 : 2 * o * (m * k) - m * k = (2 * (o * k) - k) * m := by ring
  have e2 : 2 * o * (m * k) + m * k = (2 * (o * k) + k) * m := by ring
  rw [e1] at g1
  rw [e2] at g2
  rw [e1, e2]
  rw [show 2 * a * m - m = (2 * a - 1) * m by ring] at h1
  rw [show 2 * a * m + m = (2 * a + 1) * m by ring] at h2
  generalize o * k = x at *
  have l := lt_of_mul_lt_mul_right (lt_trans g1 h2) (le_of_lt hm)
  have r := lt_of_mul_lt_mul_right (lt_trans h1 g2) (le_of_lt hm)
  exact ⟨mul_le_mul_of_nonneg_right (by omega) (le_of_lt hm), mul_lt_mul_of_pos_right (by omega) hm⟩

/-- the TOF bins that the input geometry (mashing `mi`) and the output geometry (mashing `mo`) assign to a detector pair pass the window
    test of `SSRB`, for the pair as given (`keep`) and with the detectors exchanged, where the TOF index is negated -/
theorem tof_window_of_pair (mi mo kTof t : Int) (keep : Bool)
    (h : (mi = 0 ∧ mo = 0) ∨ (0 < mi ∧ mi % 2 = 1 ∧ 0 < kTof ∧ kTof % 2 = 1 ∧ mo = mi * kTof)) :
    tofInWindow mi mo (if keep then (if mi == 0 then 0 else roundDiv t mi) else -(if mi == 0 then 0 else roundDiv t mi))
      (if keep then (if mo == 0 then 0 else roundDiv t mo) else -(if mo == 0 then 0 else roundDiv t mo)) = true := by
  rcases h with ⟨rfl, rfl⟩ | ⟨hm, hmo, hk, hko, rfl⟩
  · rfl
  · have hne : (mi == 0) = false := beq_false_of_ne (by omega)
    have hne' : (mi * kTof == 0) = false := beq_false_of_ne (Int.ne_of_gt (Int.mul_pos hm hk))
    rw [hne, hne']
    cases keep
    · show tofInWindow mi (mi * kTof) (-roundDiv t mi) (-roundDiv t (mi * kTof)) = true
      rw [← roundDiv_neg t mi hm hmo, ← roundDiv_neg t (mi * kTof) (Int.mul_pos hm hk) (by
        rw [Int.mul_emod, hmo, hko]
        rfl)]
      exact tof_in_window (-t) mi kTof hm hmo hk hko
    · exact tof_in_window t mi kTof hm hmo hk hko

end StirVerif.C15
