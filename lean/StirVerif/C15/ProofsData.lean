/-
C15 — from the output geometry of `SSRB(ProjDataInfo…)` to the sinogram matching of `SSRB(ProjData&…)`.
-/
import StirVerif.C15.ProofsGroup

namespace StirVerif.C15
open StirVerif.C01

theorem PDI.seg?_eq_some_iff (p : PDI) (i : Int) (s : Seg) :
    p.seg? i = some s ↔ ∃ k : Nat, ∃ hk : k < p.segs.length, i = p.minSeg + k ∧ p.segs[k] = s :=
  Geom.seg?_eq_some p.toGeom i s

theorem PDI.irange_segs (p : PDI) : irange p.minSeg p.maxSeg = (List.range p.segs.length).map fun (k : Nat) => p.minSeg + (k : Int) := by
  rw [irange, PDI.maxSeg]
  congr 2
  omega

theorem collect_seg_all (p : PDI) : collect p.seg? (irange p.minSeg p.maxSeg) = some p.segs := by
  rw [collect_eq_some_iff, p.irange_segs, List.map_map]
  apply List.ext_getElem
  · simp
  · intro k h1 h2
    simp only [List.getElem_map, List.getElem_range, Function.comp_apply]
    exact (PDI.seg?_eq_some_iff p _ _).mpr ⟨k, by simpa using h2, rfl, rfl⟩

theorem mem_zip_segs (p : PDI) (i : Int) (s : Seg) :
    (i, s) ∈ List.zip (irange p.minSeg p.maxSeg) p.segs ↔ p.seg? i = some s := by
  -- both sides: an index `k` into the table with `minSeg + k = i` and `segs[k] = s`
  rw [p.irange_segs, List.mem_iff_getElem, PDI.seg?_eq_some_iff]
  simp only [List.getElem_zip, List.getElem_map, List.getElem_range, Prod.mk.injEq, List.length_zip, List.length_map, List.length_range,
    Nat.min_self]
  exact exists_congr fun k => exists_congr fun hk => and_congr_left' eq_comm

theorem ssrbInfo_eq_some_iff {p o : PDI} {kSeg kView trim maxSegArg kTof : Int} :
    ssrbInfo p kSeg kView trim maxSegArg kTof = some o ↔
      ¬ (kSeg.tmod 2 == 0 ∨ p.maxSeg < ssrbMaxIn p maxSegArg ∨ p.numTang ≤ trim ∨ ssrbOutMax p kSeg maxSegArg < 0) ∧
      ∃ segs tofMash minTof maxTof,
        collect (ssrbOutSeg p kSeg) (irange (-(ssrbOutMax p kSeg maxSegArg)) (ssrbOutMax p kSeg maxSegArg)) = some segs ∧
        ssrbTof p kTof = some (tofMash, minTof, maxTof) ∧
        o = { p with minSeg := -(ssrbOutMax p kSeg maxSegArg), segs := segs, numViews := p.numViews.tdiv kView,
                     minTang := (setNumTang (p.numTang - trim)).1, maxTang := (setNumTang (p.numTang - trim)).2,
                     tofMash := tofMash, minTof := minTof, maxTof := maxTof } := by
  unfold ssrbInfo
  rw [Option.ite_none_left_eq_some]
  refine and_congr_right fun _ => ?_
  split
  · rename_i segs tofMash minTof maxTof hsegs htof
    simp only [Option.some.injEq, hsegs, htof]
    constructor
    · rintro rfl
      exact ⟨segs, _, _, _, rfl, rfl, rfl⟩
    · rintro ⟨_, _, _, _, rfl, ⟨⟩, rfl⟩
      rfl
  · rename_i hnot
    constructor
    · intro h
      cases h
    · rintro ⟨segs, t1, t2, t3, h1, h2, _⟩
      exact (hnot segs t1 t2 t3 h1 h2).elim

/-- all input segments processed (`max_in_segment_num_to_process = -1`), nothing combined -/
theorem ssrbOutMax_one (p : PDI) : ssrbOutMax p 1 (-1) = p.maxSeg := by
  unfold ssrbOutMax ssrbMaxIn
  simp

/-- nothing combined, all segments `-S … S` processed: the output segments are the input's -/
theorem collect_ssrbOutSeg_one (p : PDI) (hsym : p.minSeg = -p.maxSeg) :
    collect (ssrbOutSeg p 1) (irange (-p.maxSeg) p.maxSeg) = some p.segs := by
  rw [← hsym, (funext (ssrbOutSeg_one p) : ssrbOutSeg p 1 = p.seg?)]
  exact collect_seg_all p

theorem setNumTang_centred (p : PDI) (hc : p.minTang = -(p.numTang.tdiv 2)) : setNumTang (p.numTang - 0) = (p.minTang, p.maxTang) := by
  unfold setNumTang
  rw [Int.sub_zero, Prod.mk.injEq]
  unfold PDI.numTang at hc ⊢
  omega

theorem ssrbInfo_fields {p o : PDI} {kSeg kView trim maxSegArg kTof : Int} (h : ssrbInfo p kSeg kView trim maxSegArg kTof = some o) :
    o.R = p.R ∧ o.N = p.N ∧ o.numViews = p.numViews.tdiv kView := by
  obtain ⟨_, _, _, _, _, _, _, rfl⟩ := ssrbInfo_eq_some_iff.mp h
  exact ⟨rfl, rfl, rfl⟩

theorem ssrbInfo_seg {p o : PDI} {kSeg kView trim maxSegArg kTof : Int} (h : ssrbInfo p kSeg kView trim maxSegArg kTof = some o)
    (os : Int) (og : Seg) (hog : o.seg? os = some og) : ssrbOutSeg p kSeg os = some og := by
  obtain ⟨_, segs, _, _, _, hsegs, _, rfl⟩ := ssrbInfo_eq_some_iff.mp h
  obtain ⟨k, hk, rfl, rfl⟩ := (PDI.seg?_eq_some_iff _ os og).mp hog
  exact collect_getElem? hsegs k hk

/-- `get_segment_axial_pos_num_for_ring_pair` of the geometry `p`, read on `p` itself -/
theorem PDI.segAx_eq_some (p : PDI) {r1 r2 s a : Int} (h : p.toGeom.segAxOfRingPair r1 r2 = some (s, a)) :
    ∃ sg off, p.seg? s = some sg ∧ sg.axOff p.R = some off ∧ a = sg.axOf off r1 r2 ∧ sg.minRD ≤ r2 - r1 ∧ r2 - r1 ≤ sg.maxRD := by
  unfold Geom.segAxOfRingPair at h
  simp only [Option.bind_eq_bind, Option.bind_eq_some_iff, Option.pure_def, Option.some.injEq, Prod.mk.injEq] at h
  obtain ⟨s', hs', sg, hsg, off, hoff, rfl, rfl⟩ := h
  obtain ⟨sg', hsg', hrd⟩ := p.toGeom.segOfRingDiff_some _ _ hs'
  rw [hsg] at hsg'
  cases hsg'
  exact ⟨sg, off, hsg, hoff, rfl, hrd⟩

/-- the two tests of `inSegStep`, word for word -/
def contained (og sg : Seg) : Prop := sg.minRD ≥ og.minRD ∧ sg.maxRD ≤ og.maxRD
def disjointRD (og sg : Seg) : Prop := sg.minRD > og.maxRD ∨ sg.maxRD < og.minRD

/-- one step of the scan on a classified entry: it does not fail, widens the bracket within `lo … hi`, and the bracket holds the entry if it is
    contained -/
theorem inSegStep_spec {og : Seg} {lo hi : Int} {acc : Int × Int} {x : Int × Seg}
    (hx : (contained og x.2 ∧ lo ≤ x.1 ∧ x.1 ≤ hi) ∨ (¬ contained og x.2 ∧ disjointRD og x.2)) (h1 : lo ≤ acc.1) (h2 : acc.2 ≤ hi) :
    ∃ r, inSegStep og acc x = some r ∧ lo ≤ r.1 ∧ r.1 ≤ acc.1 ∧ acc.2 ≤ r.2 ∧ r.2 ≤ hi ∧ (contained og x.2 → r.1 ≤ x.1 ∧ x.1 ≤ r.2) := by
  unfold inSegStep
  rcases hx with ⟨hc, _, _⟩ | ⟨hc, hd⟩
  · refine ⟨_, if_pos hc, ?_⟩
    simp only
    omega
  · exact ⟨acc, (if_neg hc).trans (if_pos hd), h1, Int.le_refl _, Int.le_refl _, h2, fun h => absurd h hc⟩

/-- the scan does not fail, stays within `lo … hi` (if the start values do) and brackets every contained segment -/
theorem inSegRange_scan (og : Seg) (lo hi : Int) (l : List (Int × Seg)) (acc : Int × Int)
    (hcls : ∀ x ∈ l, (contained og x.2 ∧ lo ≤ x.1 ∧ x.1 ≤ hi) ∨ (¬ contained og x.2 ∧ disjointRD og x.2))
    (h1 : lo ≤ acc.1) (h2 : acc.2 ≤ hi) :
    ∃ r, l.foldlM (inSegStep og) acc = some r ∧ lo ≤ r.1 ∧ r.1 ≤ acc.1 ∧ acc.2 ≤ r.2 ∧ r.2 ≤ hi ∧
      ∀ x ∈ l, contained og x.2 → r.1 ≤ x.1 ∧ x.1 ≤ r.2 := by
  induction l generalizing acc with
  | nil => exact ⟨acc, rfl, h1, Int.le_refl _, Int.le_refl _, h2, fun x hx => absurd hx (by simp)⟩
  | cons a rest ih =>
    obtain ⟨hca, hrest⟩ := List.forall_mem_cons.mp hcls
    obtain ⟨acc', hstep, s1, s2, s3, s4, ha⟩ := inSegStep_spec hca h1 h2
    obtain ⟨r, hr, b1, b2, b3, b4, hin⟩ := ih acc' hrest s1 s4
    refine ⟨r, ?_, b1, by omega, by omega, b4, List.forall_mem_cons.mpr ⟨fun hc => ?_, hin⟩⟩
    · rw [List.foldlM_cons, hstep]
      exact hr
    · have := ha hc
      omega

/-- what is assumed of the whole input geometry: the facts `ProjDataInfoCylindrical` checks, plus `Exact` -/
structure PDI.WF (p : PDI) : Prop where
  offs : ∀ i s, p.seg? i = some s → ∃ off, s.axOff p.R = some off ∧ s.Exact off
  pos : ∀ i s, p.seg? i = some s → 1 ≤ s.numAx
  rd : ∀ i s, p.seg? i = some s → s.minRD ≤ s.maxRD
  sorted : ∀ i j si sj, i < j → p.seg? i = some si → p.seg? j = some sj → si.maxRD < sj.minRD

theorem PDI.WF.group {p : PDI} (wf : p.WF) (lo hi : Int) : GroupWF p lo hi :=
  { offs := fun i s _ _ h => (wf.offs i s h).imp fun _ h' => h'.1
    pos := fun i s _ _ h => wf.pos i s h
    rd := fun i s _ _ h => wf.rd i s h
    sorted := fun i j si sj _ hij _ h1 h2 => wf.sorted i j si sj hij h1 h2 }

/-- Boolean check of `PDI.WF`: sound by `C15_wfb_sound`.  (C01's `Geom.WFb` on `p.toGeom` asks pairwise disjoint ranges and, for every ring
    pair, an axial position inside the segment; the SSRB theorems need the ranges INCREASING with the segment number and no ring-pair clause.) -/
def PDI.wfb (p : PDI) : Bool :=
  p.segs.all (fun s => match s.axOff p.R with
    | none => false
    | some off => decide (s.minRD = s.maxRD → (s.minRD - off) % 2 = 0) && decide (1 ≤ s.numAx) && decide (s.minRD ≤ s.maxRD)) &&
  decide (p.segs.Pairwise fun a b => a.maxRD < b.minRD)

theorem PDI.WF.classify {p : PDI} (wf : p.WF) {kSeg os : Int} {og : Seg} (h : ssrbOutSeg p kSeg os = some og) (i : Int) (s : Seg)
    (hs : p.seg? i = some s) :
    (contained og s ∧ groupLo kSeg os ≤ i ∧ i ≤ groupHi kSeg os) ∨
      (¬ contained og s ∧ disjointRD og s ∧ (i < groupLo kSeg os ∨ groupHi kSeg os < i)) := by
  obtain ⟨a, a1, _, ha, ha1, _, hmin, hmax, _⟩ := ssrbOutSeg_eq_some_iff.mp h
  unfold contained disjointRD
  have hsrd := wf.rd i s hs
  rcases Int.lt_or_le i (groupLo kSeg os) with h1 | h1
  · have := wf.sorted i _ s a h1 hs ha
    exact Or.inr ⟨by omega, Or.inr (by omega), Or.inl h1⟩
  · rcases Int.lt_or_le (groupHi kSeg os) i with h2 | h2
    · have := wf.sorted _ i a1 s h2 ha1 hs
      exact Or.inr ⟨by omega, Or.inl (by omega), Or.inr h2⟩
    · have := (wf.group _ _).rd_within ha ha1 h1 h2 hs
      exact Or.inl ⟨by omega, h1, h2⟩

theorem inSegRange_group {pin : PDI} (wf : pin.WF) {kSeg os : Int} {og : Seg} (hk : 0 ≤ kSeg.tdiv 2)
    (h : ssrbOutSeg pin kSeg os = some og) :
    inSegRange pin og = some (groupLo kSeg os, groupHi kSeg os) := by
  obtain ⟨a, a1, _, ha, ha1, _⟩ := ssrbOutSeg_eq_some_iff.mp h
  have hlohi := groupLo_le_groupHi kSeg os hk
  have hcls := wf.classify h
  generalize groupLo kSeg os = lo at *
  generalize groupHi kSeg os = hi at *
  -- the start values are the ends of the segment table, which holds `lo` and `hi`
  have hza := (mem_zip_segs pin lo a).mpr ha
  have hza1 := (mem_zip_segs pin hi a1).mpr ha1
  obtain ⟨r, hr, b1, _, _, b4, hin⟩ := inSegRange_scan og lo hi (List.zip (irange pin.minSeg pin.maxSeg) pin.segs) (pin.maxSeg, pin.minSeg)
    (fun x hx => (hcls x.1 x.2 ((mem_zip_segs pin x.1 x.2).mp hx)).imp_right fun h => ⟨h.1, h.2.1⟩)
    ((mem_irange _ _ _).mp (List.of_mem_zip hza).1).2 ((mem_irange _ _ _).mp (List.of_mem_zip hza1).1).1
  -- `lo` and `hi` are themselves contained
  have hlo : contained og a := ((hcls lo a ha).resolve_right fun h => by omega).1
  have hhi : contained og a1 := ((hcls hi a1 ha1).resolve_right fun h => by omega).1
  have e1 : r.1 = lo := Int.le_antisymm (hin (lo, a) hza hlo).1 b1
  have e2 : r.2 = hi := Int.le_antisymm b4 (hin (hi, a1) hza1 hhi).2
  unfold inSegRange
  rw [hr, ← e1, ← e2]

/-- the axial part of the test in the loop nest of `SSRB(out, in)`: output sinogram `(os, oa)` takes input sinogram `(is, ia)` -/
def PullsAx (pin pout : PDI) (os oa is ia : Int) : Prop :=
  ∃ og sg lo hi, pout.seg? os = some og ∧ pin.seg? is = some sg ∧ inSegRange pin og = some (lo, hi) ∧ lo ≤ is ∧ is ≤ hi ∧
    firstAxWithM sg (og.m4 oa) = some ia

theorem pullsSino_eq_true_iff {pin pout : PDI} {os oa ot is ia it : Int} :
    pullsSino pin pout os oa ot is ia it = true ↔ PullsAx pin pout os oa is ia ∧ tofInWindow pin.tofMash pout.tofMash it ot = true := by
  unfold pullsSino PullsAx
  constructor
  · intro h
    split at h
    · rename_i og sg hog hsg
      split at h
      · rename_i lo hi hr
        simp only [Bool.and_eq_true, decide_eq_true_eq, beq_iff_eq] at h
        exact ⟨⟨og, sg, lo, hi, hog, hsg, hr, h.1.1.1, h.1.1.2, h.1.2⟩, h.2⟩
      · cases h
    · cases h
  · rintro ⟨⟨og, sg, lo, hi, hog, hsg, hr, h1, h2, h3⟩, h4⟩
    simp [hog, hsg, hr, h1, h2, h3, h4]

/-- axial part of `ssrb_commutes_with_binning` on the real data structures: for a ring pair binned into `(is, ia)` by the input and into
    `(os, oa)` by the output geometry, `(os, oa)` is in range and is the output sinogram the loops of `SSRB(out, in)` add `(is, ia)` into -/
theorem ssrb_pulls_axial {pin pout : PDI} {kSeg kView trim maxSegArg kTof : Int}
    (hinfo : ssrbInfo pin kSeg kView trim maxSegArg kTof = some pout) (hk : 0 ≤ kSeg.tdiv 2) (wf : pin.WF)
    {r1 r2 is ia os oa : Int}
    (hin : pin.toGeom.segAxOfRingPair r1 r2 = some (is, ia))
    (hia : ∀ sg, pin.seg? is = some sg → 0 ≤ ia ∧ ia < sg.numAx)
    (hout : pout.toGeom.segAxOfRingPair r1 r2 = some (os, oa)) :
    PullsAx pin pout os oa is ia ∧ ∃ og, pout.seg? os = some og ∧ 0 ≤ oa ∧ oa < og.numAx := by
  obtain ⟨sg, off, hsg, hoff, rfl, hrd⟩ := pin.segAx_eq_some hin
  obtain ⟨og, offO, hog, hoffO, rfl, hrdO⟩ := pout.segAx_eq_some hout
  rw [(ssrbInfo_fields hinfo).1] at hoffO
  have hout' := ssrbInfo_seg hinfo os og hog
  -- the ring difference of the pair lies in both segments, so the input segment is not disjoint from the output segment
  have his : groupLo kSeg os ≤ is ∧ is ≤ groupHi kSeg os := by
    rcases wf.classify hout' is sg hsg with h | ⟨_, hd, _⟩
    · exact h.2
    · unfold disjointRD at hd
      omega
  obtain ⟨off2, hoff2, hex⟩ := wf.offs is sg hsg
  rw [hoff] at hoff2
  cases hoff2
  obtain ⟨hon, hgrid⟩ := ssrbOutSeg_grid hk hout' (wf.group _ _) his hsg
  obtain ⟨offO', h1, hexO⟩ := hon off hoff hex
  rw [hoffO] at h1
  cases h1
  -- the pair has the same `m` in both segments (`m4_axOf`), so its output position is the one the grid of `og` has at that `m`
  obtain ⟨oa, o0, o1, hm⟩ := hgrid _ (hia sg hsg).1 (hia sg hsg).2
  have hmO := m4_axOf hoffO hexO hrdO
  rw [← m4_axOf hoff hex hrd, ← hm] at hmO
  rw [m4_inj og _ _ hmO]
  exact ⟨⟨og, sg, _, _, hog, hsg, inSegRange_group wf hk hout', his.1, his.2,
    firstAxWithM_eq_some.mpr ⟨(hia sg hsg).1, (hia sg hsg).2, hm.symm⟩⟩, og, hog, o0, o1⟩

theorem group_unique (k os os' i : Int) (hk : 0 < k) (hodd : k % 2 = 1) (h : groupLo k os ≤ i ∧ i ≤ groupHi k os)
    (h' : groupLo k os' ≤ i ∧ i ≤ groupHi k os') : os = os' := by
  unfold groupLo groupHi at h h'
  have hk2 : k.tdiv 2 = (k - 1) / 2 := by
    rw [Int.tdiv_eq_ediv_of_nonneg (by omega)]
    omega
  -- a group is `k − 1` long and lies within the window of width `2k` around `2·os·k` (in halves)
  exact window_unique (k := k) (x := 2 * i) (by omega) (by omega)

theorem tofInWindow_unique (m mk it ot ot' : Int) (hmk : 0 < mk) (h : tofInWindow m mk it ot = true) (h' : tofInWindow m mk it ot' = true) :
    ot = ot' := by
  unfold tofInWindow at h h'
  rw [if_neg (by omega), decide_eq_true_eq, Int.mul_assoc] at h h'
  exact window_unique h h'

/-- an input sinogram is pulled by at most one output sinogram.  For a non-TOF output `tofInWindow` accepts every `ot`, so there the two TOF
    positions have to be known equal (`htof`, second alternative: the output has a single one, say).  `hodd` restricts nothing: `ssrbInfo` returns
    `none` for an even `kSeg`, so it follows from `hinfo` and `hk`; it is asked for because `group_unique` uses it as given -/
theorem pullsSino_unique {pin pout : PDI} {kSeg kView trim maxSegArg kTof : Int}
    (hinfo : ssrbInfo pin kSeg kView trim maxSegArg kTof = some pout) (hk : 0 < kSeg) (hodd : kSeg % 2 = 1) (wf : pin.WF)
    {os oa ot os' oa' ot' is ia it : Int} (htof : 0 < pout.tofMash ∨ ot = ot')
    (h : pullsSino pin pout os oa ot is ia it = true) (h' : pullsSino pin pout os' oa' ot' is ia it = true) :
    os = os' ∧ oa = oa' ∧ ot = ot' := by
  have hsegs := ssrbInfo_seg hinfo
  have hk2 : 0 ≤ kSeg.tdiv 2 := Int.tdiv_nonneg (Int.le_of_lt hk) (by decide)
  obtain ⟨⟨og, sg, lo, hi, hog, hsg, hr, h1, h2, h3⟩, h4⟩ := pullsSino_eq_true_iff.mp h
  obtain ⟨⟨og', sg', lo', hi', hog', hsg', hr', h1', h2', h3'⟩, h4'⟩ := pullsSino_eq_true_iff.mp h'
  rw [inSegRange_group wf hk2 (hsegs os og hog)] at hr
  rw [inSegRange_group wf hk2 (hsegs os' og' hog')] at hr'
  cases hr
  cases hr'
  have hos := group_unique kSeg os os' is hk hodd ⟨h1, h2⟩ ⟨h1', h2'⟩
  subst hos
  rw [hog] at hog'
  rw [hsg] at hsg'
  cases hog'
  cases hsg'
  refine ⟨rfl, ?_, ?_⟩
  · -- both axial positions have the `m` of input position `ia`
    have m1 := (firstAxWithM_eq_some.mp h3).2.2
    have m2 := (firstAxWithM_eq_some.mp h3').2.2
    exact m4_inj og oa oa' (m1.symm.trans m2)
  · rcases htof with ht | ht
    · exact tofInWindow_unique _ _ _ _ _ ht h4 h4'
    · exact ht

end StirVerif.C15
