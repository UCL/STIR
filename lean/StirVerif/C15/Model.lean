/-
C15 — executable model of rebinning (`SSRB`) and resampling (`overlap_interpolate`, `zoom_image`).

Sources (pinned tree):
* `SSRB(const ProjDataInfo&, num_segments_to_combine, num_views_to_combine, num_tang_poss_to_trim,
  max_in_segment_num_to_process, num_tof_bins_to_combine)`: src/buildblock/SSRB.cxx:42-142  (`ssrbInfo`);
* `SSRB(ProjData& out, const ProjData& in, bool do_norm)`: src/buildblock/SSRB.cxx:165-310 (`pullsSino`, `targets`, `ssrbData`);
* `ProjDataInfoCylindrical::get_m`, `get_axial_sampling`, `initialise_ring_diff_arrays` (m_offset):
  src/include/stir/ProjDataInfoCylindrical.inl:72, :134, src/buildblock/ProjDataInfoCylindrical.cxx:138-150 (`Seg.m4`);
  and, in millimetres for a given ring spacing, `Seg.mMm`, `Seg.axialSampling` (for scanners whose ring spacing is not a dyadic rational);
* `VoxelsOnCartesianGrid::construct_from_projdata_info` with `find_sampling_and_z_size`: src/buildblock/VoxelsOnCartesianGrid.cxx:53-150, :215-283
  (`voxelsFromProjData`: grid sizes derived from float zooms);
* `ProjDataInfo::set_tof_mash_factor`, `get_k`, `get_sampling_in_k`, `set_num_tangential_poss`, `set_num_views`:
  src/buildblock/ProjDataInfo.cxx:69-90, :117-129, :174-255 (`setTofMash`, `tofInWindow`, `setNumTang`);
* `overlap_interpolate(VectorWithOffset&, const VectorWithOffset&, zoom, offset, assign_rest_with_zeroes)`:
  src/buildblock/overlap_interpolate.cxx:100-313 (`overlapVec`);
* iterator `overlap_interpolate`: src/include/stir/numerics/overlap_interpolate.inl:22-157 (`overlapIter`);
* `zoom_image` family: src/buildblock/zoom.cxx:212-478 (`newGridFromZoom`, `zoomImage3`, `zoomImage2`, `zoomImageParams3`, `zoomImageParams2`);
* `zoom_viewgram` (both overloads), `zoom_viewgrams`: src/buildblock/zoom.cxx:97-210 (`zoomViewgramOffset`, `zoomViewgram`, `zoomViewgramInPlace`);
* `find_centre_of_gravity_in_mm`: src/buildblock/centre_of_gravity.cxx:32-128 (`cogMm`);
* `inverse_SSRB`: src/buildblock/inverse_SSRB.cxx:33-131 (`inverseSsrbCompatible`, `inverseSsrbWeights`, `inverseSsrbSino`);
* `extend_segment`: src/buildblock/extend_projdata.cxx:36-150 (`extendModeK`, `extendSegment`).

The ring pair ↔ (segment, axial position) and detector pair → bin model is the one of C01 (`StirVerif.C01.Seg`,
`Geom.binForDetPair`, …), imported, not copied, so that the C01 theorems apply.

Numbers.  Axial coordinates `m` are exact integers in units of ring_spacing/4 (`Seg.m4`); the source compares
floats with `fabs(out_m - in_m) < 1E-3 * axial_sampling` (SSRB.cxx:253, :279; before repair ee5421c49: `< 1E-4` mm).  TOF bin positions `k` are exact in units of the unmashed TOF bin.
Image values / coordinates are `Rat` (every float is a dyadic rational); the float roundings of the implementation
are modelled by `fl32` at the single-precision operations transcribed in `ssrbData` (normalisation), `overlapVec`, `zoomImage3/2`,
`newGridFromZoom`, `voxelsFromProjData` and `zoomViewgram*`, and nowhere else.  32-bit overflow is not modelled.
Core Lean only.
-/
import StirVerif.C01.Model

namespace StirVerif.C15
open StirVerif.C01

/-! ## small numeric helpers -/

def pow2 (e : Int) : Rat := if e ≥ 0 then ((2 ^ e.toNat : Nat) : Rat) else 1 / ((2 ^ (-e).toNat : Nat) : Rat)

def absQ (q : Rat) : Rat := if q < 0 then -q else q

/-- round to the nearest IEEE binary32 (ties to even); overflow and subnormals are not handled (never reached) -/
def fl32 (q : Rat) : Rat :=
  if q == 0 then 0
  else
    let a := absQ q
    let e0 : Int := (Nat.log2 a.num.natAbs : Int) - (Nat.log2 a.den : Int)
    let e := if pow2 e0 > a then e0 - 1 else if pow2 (e0 + 1) ≤ a then e0 + 1 else e0
    let scaled := a / pow2 (e - 23)
    let fl := scaled.floor
    let frac := scaled - (fl : Rat)
    let n : Int := if frac > 1 / 2 then fl + 1 else if frac < 1 / 2 then fl else (if fl % 2 == 0 then fl else fl + 1)
    let r := (n : Rat) * pow2 (e - 23)
    if q < 0 then -r else r

/-- the integers `lo, lo+1, …, hi` -/
def irange (lo hi : Int) : List Int := (List.range (hi - lo + 1).toNat).map fun (k : Nat) => lo + (k : Int)

/-! ## projection-data geometry as far as `SSRB` reads / writes it -/

structure PDI where
  N : Int            -- detectors per ring
  R : Int            -- rings
  T : Int            -- scanner: max_num_of_timing_poss (≤ 0: scanner not TOF ready)
  minSeg : Int
  segs : List Seg    -- segment `minSeg + k` is `segs[k]`; min_axial_pos_num is 0 (always, after construction and after SSRB)
  numViews : Int     -- min_view_num = 0
  minTang : Int
  maxTang : Int
  tofMash : Int      -- 0: non-TOF
  minTof : Int
  maxTof : Int
  deriving Repr, DecidableEq, Inhabited

def PDI.maxSeg (p : PDI) : Int := p.minSeg + p.segs.length - 1

def PDI.seg? (p : PDI) (s : Int) : Option Seg :=
  if s < p.minSeg then none else p.segs[(s - p.minSeg).toNat]?

def PDI.numTang (p : PDI) : Int := p.maxTang - p.minTang + 1

/-- the C01 view of the same geometry (`get_view_mashing_factor` = N/2/num_views) -/
def PDI.toGeom (p : PDI) : Geom :=
  { N := p.N, R := p.R, minSeg := p.minSeg, segs := p.segs,
    viewMash := (p.N.tdiv 2).tdiv p.numViews, tofMash := p.tofMash }

/-- `ProjDataInfoCylindrical::get_m(Bin(seg,·,a,·))` in units of ring_spacing/4:
    `a*axial_sampling - m_offset` with `axial_sampling = ring_spacing/inc`, `m_offset = (max_ax+min_ax)*axial_sampling/2`, `min_ax = 0` -/
def _root_.StirVerif.C01.Seg.m4 (s : Seg) (a : Int) : Int := (2 * a - (s.numAx - 1)) * (if s.inc == 2 then 1 else 2)

/-- `ProjDataInfoCylindrical::get_m(Bin(seg,·,a,·))` in millimetres for a scanner with ring spacing `rs` (exact; the source evaluates
    `a*axial_sampling - m_offset` in binary32).  The ring spacing of most predefined scanners (6.54, 4.85, 3.29114, 5.56 … mm) is not a dyadic
    rational: `rs` is then the exact value of the binary32 number the scanner holds. -/
def _root_.StirVerif.C01.Seg.mMm (s : Seg) (rs : Rat) (a : Int) : Rat := ((s.m4 a : Int) : Rat) * rs / 4

/-- `ProjDataInfoCylindrical::get_axial_sampling(segment)` = `ring_spacing / get_num_axial_poss_per_ring_inc(segment)` in millimetres -/
def _root_.StirVerif.C01.Seg.axialSampling (s : Seg) (rs : Rat) : Rat := rs / ((s.inc : Int) : Rat)

/-- `ProjDataInfo::set_num_tangential_poss` -/
def setNumTang (n : Int) : Int × Int := (-(n.tdiv 2), -(n.tdiv 2) + n - 1)

/-- `ProjDataInfo::set_tof_mash_factor(new)` for a scanner with `T` timing positions: (mash, min_tof, max_tof), `none` = `error` -/
def setTofMash (T new : Int) : Option (Int × Int × Int) :=
  if T > 0 ∧ new > 0 then
    if new > T then none
    else
      let nb := T.tdiv new
      let mn := (-nb).tdiv 2
      let mx := mn + nb - 1
      if (mx - mn + 1).tmod 2 == 0 then none else some (new, mn, mx)
  else some (0, 0, 0)

/-! ## `SSRB(const ProjDataInfo&, …)`: the output geometry -/

/-- the segments with the listed numbers; `none` if one of them does not exist -/
def collect (f : Int → Option Seg) : List Int → Option (List Seg)
  | [] => some []
  | i :: r =>
    match f i, collect f r with
    | some s, some l => some (s :: l)
    | _, _ => none

/-- one iteration of the loop over `out_segment_num` (SSRB.cxx:95-132): ring-difference range and number of axial
    positions of output segment `os`.  `none`: the source calls `error` ("non-integer") — or reads a segment the
    input does not have (undefined behaviour in the source: there is no check). -/
def ssrbOutSeg (p : PDI) (kSeg os : Int) : Option Seg := do
  let inMinS := os * kSeg - kSeg.tdiv 2
  let inMaxS := os * kSeg + kSeg.tdiv 2
  let sMin ← p.seg? inMinS
  let sMax ← p.seg? inMaxS
  let minRD := sMin.minRD
  let maxRD := sMax.maxRD
  -- min_m / max_m over the input segments (1.E37F / -1.E37F initial values are never the result: the loop is not empty)
  let grp ← collect p.seg? (irange inMinS inMaxS)
  let minM := grp.foldl (fun acc s => min acc (s.m4 0)) (sMin.m4 0)
  let maxM := grp.foldl (fun acc s => max acc (s.m4 (s.numAx - 1))) (sMin.m4 (sMin.numAx - 1))
  let outInc : Int := if maxRD != minRD then 2 else 1
  -- number_of_ms = (max_m - min_m)/axial_sampling(out) + 1, axial_sampling(out) = 4/outInc quarter ring spacings
  let num := (maxM - minM) * outInc
  if num.tmod 4 != 0 then none
  else some { minRD := minRD, maxRD := maxRD, numAx := num.tdiv 4 + 1 }

/-- `max_in_segment_num_to_process`; a negative argument means all input segments -/
def ssrbMaxIn (p : PDI) (maxSegArg : Int) : Int := if maxSegArg ≥ 0 then maxSegArg else p.maxSeg

/-- `out_max_segment_num` (SSRB.cxx:84-87; C division truncates towards zero) -/
def ssrbOutMax (p : PDI) (kSeg maxSegArg : Int) : Int :=
  ((if ssrbMaxIn p maxSegArg == -1 then p.maxSeg else ssrbMaxIn p maxSegArg) - kSeg.tdiv 2).tdiv kSeg

/-- TOF part (SSRB.cxx:134-140) -/
def ssrbTof (p : PDI) (kTof : Int) : Option (Int × Int × Int) :=
  if kTof != 1 then (if kTof < 1 then none else setTofMash p.T (p.tofMash * kTof))
  else some (p.tofMash, p.minTof, p.maxTof)

/-- `SSRB(in_proj_data_info, num_segments_to_combine, num_views_to_combine, num_tang_poss_to_trim,
    max_in_segment_num_to_process, num_tof_bins_to_combine)`; `none` = `error(...)`.
    The azimuthal offset / sampling (floats) are `ssrbPhi`. -/
def ssrbInfo (p : PDI) (kSeg kView trim maxSegArg kTof : Int) : Option PDI :=
  -- the four `error` calls before the segment loop (their order is immaterial here)
  if kSeg.tmod 2 == 0 ∨ p.maxSeg < ssrbMaxIn p maxSegArg ∨ p.numTang ≤ trim ∨ ssrbOutMax p kSeg maxSegArg < 0 then none
  else
    match collect (ssrbOutSeg p kSeg) (irange (-(ssrbOutMax p kSeg maxSegArg)) (ssrbOutMax p kSeg maxSegArg)), ssrbTof p kTof with
    | some segs, some (tofMash, minTof, maxTof) =>
      some { p with minSeg := -(ssrbOutMax p kSeg maxSegArg), segs := segs, numViews := p.numViews.tdiv kView,
                    minTang := (setNumTang (p.numTang - trim)).1, maxTang := (setNumTang (p.numTang - trim)).2,
                    tofMash := tofMash, minTof := minTof, maxTof := maxTof }
    | _, _ => none

/-- `number_of_ms` of SSRB.cxx:126 evaluated EXACTLY in millimetres for ring spacing `rs`: `(max_m - min_m)/axial_sampling(out) + 1` with
    `min_m`/`max_m` the smallest / largest `get_m` of the first / last axial positions of the input segments `lo … hi` and the axial
    sampling of an output segment with increment `outInc`.  The source computes this quotient in binary32 and converts it with `round`
    (after checking that it is within 1E-3 of an integer); `ssrbOutSeg` computes the same number in quarter ring spacings, where the ring
    spacing cancels (`C15_ssrb_number_of_ms_any_ring_spacing`). -/
def ssrbNumberOfMs (grp : List Seg) (first : Seg) (outInc : Int) (rs : Rat) : Rat :=
  let minM := grp.foldl (fun acc s => min acc (s.mMm rs 0)) (first.mMm rs 0)
  let maxM := grp.foldl (fun acc s => max acc (s.mMm rs (s.numAx - 1))) (first.mMm rs (first.numAx - 1))
  (maxM - minM) / (rs / ((outInc : Int) : Rat)) + 1

/-- azimuthal angle (offset, sampling) of the output (SSRB.cxx:72-79, `ProjDataInfoCylindrical::set_num_views`),
    exact in `Rat` from the input's float offset and sampling -/
def ssrbPhi (offIn sampIn : Rat) (numViewsIn kView : Int) : Rat × Rat :=
  let numViewsOut := numViewsIn.tdiv kView
  let samp := sampIn * numViewsIn / numViewsOut
  let off := if kView > 1 then offIn + sampIn * (kView - 1) / 2 else offIn
  (off, samp)

/-! ## `SSRB(ProjData& out, const ProjData& in, do_norm)`: the data -/

/-- one step of the scan over the input segments (SSRB.cxx:201-230): `(in_min_segment_num, in_max_segment_num)` so far -/
def inSegStep (og : Seg) (acc : Int × Int) (x : Int × Seg) : Option (Int × Int) :=
  if x.2.minRD ≥ og.minRD ∧ x.2.maxRD ≤ og.maxRD then
    some (if acc.1 > x.1 then x.1 else acc.1, if acc.2 < x.1 then x.1 else acc.2)
  else if x.2.minRD > og.maxRD ∨ x.2.maxRD < og.minRD then some acc
  else none

/-- range of input segments rebinned into output segment `os` (SSRB.cxx:194-230):
    `some (in_min_segment_num, in_max_segment_num)`; `none` = `error` (overlapping ring-difference ranges) -/
def inSegRange (pin : PDI) (og : Seg) : Option (Int × Int) :=
  (List.zip (irange pin.minSeg pin.maxSeg) pin.segs).foldlM (inSegStep og) (pin.maxSeg, pin.minSeg)

/-- the first input axial position (the `break`) whose `m` equals `m4` (SSRB.cxx:268-274) -/
def firstAxWithM (sg : Seg) (m4 : Int) : Option Int :=
  (irange 0 (sg.numAx - 1)).find? fun a => sg.m4 a == m4

/-- `in_k < out_lower_k || in_k >= out_higher_k` negated (SSRB.cxx:255-282); positions in units of the unmashed TOF
    bin: `in_k = it*inMash`, `out_k = ot*outMash`, `sampling_in_k(out) = outMash`.  Non-TOF output: always inside. -/
def tofInWindow (inMash outMash it ot : Int) : Bool :=
  if outMash ≤ 0 then true
  else decide (2 * ot * outMash - outMash ≤ 2 * it * inMash ∧ 2 * it * inMash < 2 * ot * outMash + outMash)

/-- is input sinogram `(is, ia, it)` added into output sinogram `(os, oa, ot)`?  (body of the loop nest SSRB.cxx:238-298) -/
def pullsSino (pin pout : PDI) (os oa ot is ia it : Int) : Bool :=
  match pout.seg? os, pin.seg? is with
  | some og, some sg =>
    match inSegRange pin og with
    | some (lo, hi) =>
      decide (lo ≤ is ∧ is ≤ hi) && (firstAxWithM sg (og.m4 oa) == some ia) && tofInWindow pin.tofMash pout.tofMash it ot
    | none => false
  | _, _ => false

/-- all output sinograms `(segment, axial position, TOF position)` in the loop order of the source -/
def outSinos (pout : PDI) : List (Int × Int × Int) :=
  (List.zip (irange pout.minSeg pout.maxSeg) pout.segs).flatMap fun (os, og) =>
    (irange pout.minTof pout.maxTof).flatMap fun ot =>
      (irange 0 (og.numAx - 1)).map fun oa => (os, oa, ot)

/-- the output bins that input bin `b` is added to (0 or 1 in a legal call; computed by scanning like the source) -/
def targets (pin pout : PDI) (b : Bin) : List Bin :=
  let kView := pin.numViews.tdiv pout.numViews
  if b.tang < max pin.minTang pout.minTang ∨ b.tang > min pin.maxTang pout.maxTang then []
  else
    (outSinos pout).filterMap fun (os, oa, ot) =>
      if pullsSino pin pout os oa ot b.seg b.ax b.tof then some ⟨os, b.view.tdiv kView, oa, b.tang, ot⟩ else none

/-- `num_in_ax_pos` of output sinogram `(os, oa)`: number of input segments in the range having an axial position with
    equal `m` (counted for the first input TOF position only, regardless of the TOF window) -/
def numInAxPos (pin pout : PDI) (os oa : Int) : Int :=
  match pout.seg? os with
  | none => 0
  | some og =>
    match inSegRange pin og with
    | none => 0
    | some (lo, hi) =>
      ((irange lo hi).filter fun is =>
        match pin.seg? is with
        | some sg => (firstAxWithM sg (og.m4 oa)).isSome
        | none => false).length

/-- add `v` at key `b` in an association list -/
def accum (l : List (Bin × Rat)) (b : Bin) (v : Rat) : List (Bin × Rat) :=
  match l with
  | [] => [(b, v)]
  | (b', v') :: r => if b' == b then (b', v' + v) :: r else (b', v') :: accum r b v

/-- does the call error out?  (SSRB.cxx:185-188 and the overlap `error`) -/
def ssrbDataErr (pin pout : PDI) : Bool :=
  pout.numViews == 0 || pin.numViews.tmod pout.numViews != 0 || pout.segs.any fun og => (inSegRange pin og).isNone

/-- `SSRB(out, in, do_norm)` on sparse data (list of (input bin, value), bins inside the input ranges):
    the non-zero output bins.  `none` = `error`. -/
def ssrbData (pin pout : PDI) (doNorm : Bool) (data : List (Bin × Rat)) : Option (List (Bin × Rat)) :=
  if ssrbDataErr pin pout then none
  else
    let kView := pin.numViews.tdiv pout.numViews
    let sums := data.foldl (fun acc (bv : Bin × Rat) => (targets pin pout bv.1).foldl (fun a t => accum a t bv.2) acc) []
    some (if doNorm then
      sums.map fun (b, v) =>
        let n := numInAxPos pin pout b.seg b.ax
        (b, if n != 0 then fl32 (v / ((n * kView : Int) : Rat)) else v)
    else sums)

/-- histogramming: the input bin of a detector-position pair, when inside the ranges of the geometry -/
def binInRange (p : PDI) (b : Bin) : Bool :=
  match p.seg? b.seg with
  | none => false
  | some sg =>
    decide (0 ≤ b.ax ∧ b.ax < sg.numAx ∧ 0 ≤ b.view ∧ b.view < p.numViews ∧ p.minTang ≤ b.tang ∧ b.tang ≤ p.maxTang ∧
            p.minTof ≤ b.tof ∧ b.tof ≤ p.maxTof)

def histBin (p : PDI) (dp : DetPair) : Option Bin :=
  match p.toGeom.binForDetPair dp with
  | some b => if binInRange p b then some b else none
  | none => none

/-! ## `overlap_interpolate` on a `VectorWithOffset` (overlap_interpolate.cxx:100-313)

A 1-D array is a first index and a list of values.  `get i` reads, `set i v` writes inside the range. -/

structure Vec where
  lo : Int
  vals : List Rat
  deriving Repr, Inhabited

def Vec.hi (v : Vec) : Int := v.lo + v.vals.length - 1
def Vec.get (v : Vec) (i : Int) : Rat := if i < v.lo then 0 else v.vals.getD (i - v.lo).toNat 0
def Vec.set (v : Vec) (i : Int) (x : Rat) : Vec :=
  if i < v.lo then v else { v with vals := v.vals.set (i - v.lo).toNat x }

/-- zoom ≥ 1 ("shrinking to a smaller bin size"): the loop over `x2` with the state `(x1, diff_between_right_edges)` -/
def overlapVecShrink (zoom : Rat) (assign : Bool) (inp : Vec) : Nat → Int → Int → Rat → Vec → Vec
  | 0, _, _, _, out => out
  | fuel + 1, x2, x1, d, out =>
    if x2 > out.hi then out
    else if x1 > inp.hi then
      overlapVecShrink zoom assign inp fuel (x2 + 1) x1 (d - 1) (if assign then out.set x2 0 else out)
    else if d ≥ 0 then
      let out := if x1 ≥ inp.lo then out.set x2 (inp.get x1 / zoom) else if assign then out.set x2 0 else out
      overlapVecShrink zoom assign inp fuel (x2 + 1) x1 (d - 1) out
    else
      let v0 := if x1 ≥ inp.lo then inp.get x1 * (1 / d + 1) else if assign then 0 else out.get x2
      let v1 := if x1 + 1 ≤ inp.hi ∧ x1 + 1 ≥ inp.lo then v0 - inp.get (x1 + 1) else v0
      let v2 := v1 * (d / zoom)
      overlapVecShrink zoom assign inp fuel (x2 + 1) (x1 + 1) (d + zoom - 1) (out.set x2 v2)

/-- zoom < 1 ("stretching the bin size"): the loop over `x1` with the state `(x2, diff_between_right_edges)`;
    returns the array and the last `x2` (for the zero-fill of the rest) -/
def overlapVecStretch (inv : Rat) (assign : Bool) (inp : Vec) : Nat → Int → Int → Rat → Vec → Vec × Int
  | 0, _, x2, _, out => (out, x2)
  | fuel + 1, x1, x2, d, out =>
    if x1 > inp.hi then (out, x2)
    else if d ≤ 0 then
      let out := if x1 ≥ inp.lo then out.set x2 (out.get x2 + inp.get x1) else out
      overlapVecStretch inv assign inp fuel (x1 + 1) x2 (d + 1) out
    else
      let dx := 1 - d
      let out := if x1 ≥ inp.lo ∧ absQ dx > 1 / 100000 then out.set x2 ((out.get x2 / dx + inp.get x1) * dx) else out
      let x2 := x2 + 1
      let d := d - inv
      if x2 ≤ out.hi then
        let out := if x1 ≥ inp.lo then out.set x2 (inp.get x1 * (1 - dx)) else if assign then out.set x2 0 else out
        overlapVecStretch inv assign inp fuel (x1 + 1) x2 (d + 1) out
      else (out, x2)

/-- `overlap_interpolate(out_data, in_data, zoom, offset, assign_rest_with_zeroes)`; `zoom > 0`.
    `out` carries the previous contents of `out_data`. -/
def overlapVec (out inp : Vec) (zoom offset : Rat) (assign : Bool) : Vec :=
  if out.vals.isEmpty then out
  else if zoom == 1 ∧ offset == 0 ∧ inp.lo == out.lo ∧ inp.hi == out.hi then { out with vals := inp.vals }
  else if zoom ≥ 1 then
    let x2 := out.lo
    let x1 := (((x2 : Rat) - 1 / 2) / zoom + offset + 1 / 2).floor
    let d := zoom * (fl32 ((x1 : Rat) - offset) + 1 / 2) - ((x2 : Rat) + 1 / 2)   -- `x1 - offset` is an `int - float` = float operation
    overlapVecShrink zoom assign inp (out.vals.length + 1) x2 x1 d out
  else
    let inv := fl32 (1 / zoom)
    let x2 := out.lo
    let x1 := (((x2 : Rat) - 1 / 2) * inv + offset + 1 / 2).floor
    let d := (fl32 ((x1 : Rat) - offset) + 1 / 2) - ((x2 : Rat) + 1 / 2) * inv
    let dl := d - 1 + inv
    let out := if dl < 0 ∧ x1 ≥ inp.lo ∧ x1 ≤ inp.hi then out.set x2 (inp.get x1 * dl) else if assign then out.set x2 0 else out
    let (out, x2) := overlapVecStretch inv assign inp ((inp.hi - x1 + 2).toNat) x1 x2 d out
    if assign then (irange (x2 + 1) out.hi).foldl (fun o i => o.set i 0) out else out

/-! ## the iterator version (numerics/overlap_interpolate.inl:22-157): arbitrary box boundaries -/

/-- the main walk: `i`/`j` index the current in-box and out-box, `cur` = `current_coord`, `first` = `first_time_for_this_out_box`.
    Returns the output and the index of the out-box reached when the input ran out (`none`: all out-boxes done). -/
def overlapIterWalk (oc ic inv : Array Rat) (eps : Rat) (onlyAdd : Bool) :
    Nat → Nat → Nat → Rat → Bool → Array Rat → Array Rat × Option Nat
  | 0, _, j, _, _, out => (out, some j)
  | fuel + 1, i, j, cur, first, out =>
    let inBeyond := ic[i + 1]! > oc[j + 1]!
    let newc := if inBeyond then oc[j + 1]! else ic[i + 1]!
    let ov := newc - cur
    let out :=
      if !onlyAdd && first then
        (if ov > eps then out.set! j (inv[i]! * ov) else out.set! j 0)
      else
        (if ov > eps then out.set! j (out[j]! + inv[i]! * ov) else out)
    let first := if !onlyAdd && first then false else first
    if inBeyond then
      if j + 1 == out.size then (out, none)
      else overlapIterWalk oc ic inv eps onlyAdd fuel i (j + 1) newc true out
    else
      if i + 1 == inv.size then (out, some j)
      else overlapIterWalk oc ic inv eps onlyAdd fuel (i + 1) j newc first out

/-- `overlap_interpolate(out_begin, out_end, out_coord_begin, out_coord_end, in_begin, in_end, in_coord_begin, in_coord_end,
    only_add_to_output, assign_rest_with_zeroes)`; `oc` has one element more than `out`, `ic` one more than `inv` -/
def overlapIter (out oc inv ic : Array Rat) (onlyAdd assign : Bool) : Array Rat :=
  if out.size == 0 ∨ inv.size == 0 then out
  else
    -- skip input to the left of the output range
    let rec skipIn : Nat → Nat → Option Nat
      | 0, i => some i
      | f + 1, i => if ic[i + 1]! ≤ oc[0]! then (if i + 2 == ic.size then none else skipIn f (i + 1)) else some i
    match skipIn inv.size 0 with
    | none => out
    | some i =>
      -- skip output to the left of the input range
      let rec skipOut : Nat → Nat → Array Rat → Array Rat × Option Nat
        | 0, j, o => (o, some j)
        | f + 1, j, o =>
          if oc[j + 1]! ≤ ic[i]! then
            let o := if !onlyAdd && assign then o.set! j 0 else o
            if j + 2 == oc.size then (o, none) else skipOut f (j + 1) o
          else (o, some j)
      match skipOut out.size 0 out with
      | (o, none) => o
      | (o, some j) =>
        let eps := min ((oc[oc.size - 1]! - oc[0]!) / (((oc.size - 1) * 10000 : Nat) : Rat))
                       ((ic[ic.size - 1]! - ic[0]!) / (((ic.size - 1) * 10000 : Nat) : Rat))
        let cur := max ic[i]! oc[j]!
        match overlapIterWalk oc ic inv eps onlyAdd (out.size + inv.size + 2) i j cur true o with
        | (o, none) => o
        | (o, some j) =>
          if !onlyAdd && assign then (List.range (o.size - (j + 1))).foldl (fun o k => o.set! (j + 1 + k) 0) o else o


/-! ## specification of overlap interpolation (what the two implementations above are meant to compute) -/

/-- length of `[a, b] ∩ [c, d]` -/
def ovLen (a b c d : Rat) : Rat := max 0 (min b d - max a c)

/-- value of the output box `[l, r]`: `Σ_j in_j · |[ic j, ic (j+1)] ∩ [l, r]|` over the `n` input boxes -/
def specBox (n : Nat) (inv ic : Nat → Rat) (l r : Rat) : Rat :=
  ((List.range n).map fun j => inv j * ovLen (ic j) (ic (j + 1)) l r).sum

/-- the specification for explicit box boundaries (iterator version; the implementation additionally drops overlaps `≤ epsilon`) -/
def overlapSpecIter (oc inv ic : Array Rat) : List Rat :=
  (List.range (oc.size - 1)).map fun i => specBox inv.size (fun j => inv[j]!) (fun j => ic[j]!) oc[i]! oc[i + 1]!

/-- the specification for `overlap_interpolate(out, in, zoom, offset)`: input box `j` is `[j-½, j+½]`, output box `i` is
    `[(i-½)/zoom + offset, (i+½)/zoom + offset]` (in input index units) -/
def overlapSpecVec (outLo : Int) (outN : Nat) (inp : Vec) (zoom offset : Rat) : List Rat :=
  (List.range outN).map fun (k : Nat) =>
    let i : Int := outLo + (k : Int)
    specBox inp.vals.length (fun j => inp.vals.getD j 0) (fun (j : Nat) => ((inp.lo + (j : Int) : Int) : Rat) - 1 / 2)
      (((i : Rat) - 1 / 2) / zoom + offset) (((i : Rat) + 1 / 2) / zoom + offset)

/-! ## images and `zoom_image` (zoom.cxx) -/

structure Grid where
  zmin : Int
  ymin : Int
  xmin : Int
  nz : Nat
  ny : Nat
  nx : Nat
  vz : Rat
  vy : Rat
  vx : Rat
  oz : Rat
  oy : Rat
  ox : Rat
  deriving Repr, Inhabited

/-- voxel values `[z][y][x]` -/
abbrev Vol := List (List (List Rat))

structure Img where
  g : Grid
  d : Vol
  deriving Repr, Inhabited

def transpose2 (n : Nat) (m : List (List Rat)) : List (List Rat) :=
  (List.range n).map fun k => m.map fun row => row.getD k 0

/-- apply a 1-D operation along x of every row -/
def alongX (f : List Rat → List Rat) (v : Vol) : Vol := v.map fun pl => pl.map f
/-- along y (rows of a plane are the elements; the scalar algorithm acts element-wise on them) -/
def alongY (nx : Nat) (nyOut : Nat) (f : List Rat → List Rat) (v : Vol) : Vol :=
  v.map fun pl => transpose2 nyOut ((transpose2 nx pl).map f)
/-- along z -/
def alongZ (ny nx : Nat) (nzOut : Nat) (f : List Rat → List Rat) (v : Vol) : Vol :=
  -- columns [y][x] → list over z
  let cols : List (List (List Rat)) := (List.range ny).map fun y => (List.range nx).map fun x =>
    f (v.map fun pl => (pl.getD y []).getD x 0)
  (List.range nzOut).map fun z => cols.map fun row => row.map fun col => col.getD z 0

def ovl (outLo : Int) (outN : Nat) (inLo : Int) (zoom offset : Rat) (vals : List Rat) : List Rat :=
  (overlapVec ⟨outLo, List.replicate outN 0⟩ ⟨inLo, vals⟩ zoom offset true).vals

/-- `ZoomOptions::Scaling`: 0 preserve_sum, 1 preserve_values, 2 preserve_projections -/
abbrev ZoomOpt := Nat

/-- `zoom_image(VoxelsOnCartesianGrid& image_out, const VoxelsOnCartesianGrid& image_in, ZoomOptions)` (zoom.cxx:329-423):
    three separable `overlap_interpolate` passes (x, then y, then z) and the option scaling.  `gout` is the geometry of
    `image_out`; its previous contents are overwritten. -/
def zoomImage3 (gout : Grid) (im : Img) (opt : ZoomOpt) : Vol :=
  let gi := im.g
  let zx := fl32 (gi.vx / gout.vx)
  let zy := fl32 (gi.vy / gout.vy)
  let zz := fl32 (gi.vz / gout.vz)
  let xo := fl32 (fl32 (gout.ox - gi.ox) / gi.vx)
  let yo := fl32 (fl32 (gout.oy - gi.oy) / gi.vy)
  let zo := fl32 (fl32 (gout.oz - gi.oz) / gi.vz)
  if zx == 1 ∧ zy == 1 ∧ zz == 1 ∧ xo == 0 ∧ yo == 0 ∧ zo == 0 ∧
     gi.zmin == gout.zmin ∧ gi.ymin == gout.ymin ∧ gi.xmin == gout.xmin ∧ gi.nz == gout.nz ∧ gi.ny == gout.ny ∧ gi.nx == gout.nx then im.d
  else
    let t1 := alongX (ovl gout.xmin gout.nx gi.xmin zx xo) im.d
    let t2 := alongY gout.nx gout.ny (ovl gout.ymin gout.ny gi.ymin zy yo) t1
    let t3 := alongZ gout.ny gout.nx gout.nz (ovl gout.zmin gout.nz gi.zmin zz zo) t2
    let scale : Rat := match opt with
      | 1 => fl32 (fl32 (zx * zy) * zz)
      | 2 => fl32 (zy * zz)
      | _ => 1
    if scale != 1 then t3.map fun pl => pl.map fun row => row.map (· * scale) else t3

/-- `zoom_image(PixelsOnCartesianGrid& out, const PixelsOnCartesianGrid& in, ZoomOptions)` (zoom.cxx:425-478) on one plane.
    The plain-copy shortcut needs BOTH offsets to be 0 (and both zooms 1, equal index ranges): `C15_zoom_image2_shortcut_only_identity`.
    Compared with the implementation through the transaxial one-call variant (`zoom 2d`) and directly, plane by plane into a re-used
    output plane (`zoom pl`). -/
def zoomImage2 (gout : Grid) (gi : Grid) (pl : List (List Rat)) (opt : ZoomOpt) : List (List Rat) :=
  let zx := fl32 (gi.vx / gout.vx)
  let zy := fl32 (gi.vy / gout.vy)
  let xo := fl32 (fl32 (gout.ox - gi.ox) / gi.vx)
  let yo := fl32 (fl32 (gout.oy - gi.oy) / gi.vy)
  if zx == 1 ∧ zy == 1 ∧ xo == 0 ∧ yo == 0 ∧ gi.ymin == gout.ymin ∧ gi.xmin == gout.xmin ∧ gi.ny == gout.ny ∧ gi.nx == gout.nx then pl
  else
    let t1 := pl.map (ovl gout.xmin gout.nx gi.xmin zx xo)
    let t2 := transpose2 gout.ny ((transpose2 gout.nx t1).map (ovl gout.ymin gout.ny gi.ymin zy yo))
    let scale : Rat := match opt with
      | 1 => fl32 (zx * zy)
      | 2 => zy
      | _ => 1
    if scale != 1 then t2.map fun row => row.map (· * scale) else t2

/-- `construct_new_image_from_zoom_parameters` (zoom.cxx:212-262): grid of the new image (float operations as in the source) -/
def newGridFromZoom (gi : Grid) (zz zy zx offz offy offx : Rat) (nz ny nx : Int) : Grid :=
  let vz := fl32 (gi.vz / zz)
  let vy := fl32 (gi.vy / zy)
  let vx := fl32 (gi.vx / zx)
  let ymin := -(ny.tdiv 2)
  let xmin := -(nx.tdiv 2)
  -- middle = (phys(min) + phys(max))/2, phys(i) = spacing*i + origin
  let mid (v o : Rat) (lo : Int) (n : Int) : Rat :=
    fl32 (fl32 (fl32 (fl32 (v * lo) + o) + fl32 (fl32 (v * (lo + n - 1)) + o)) / 2)
  let org (off vin oin : Rat) (loIn : Int) (nIn : Int) (vnew : Rat) (loNew : Int) (nNew : Int) : Rat :=
    fl32 (fl32 (off + mid vin oin loIn nIn) - mid vnew 0 loNew nNew)
  { zmin := 0, ymin := ymin, xmin := xmin, nz := nz.toNat, ny := ny.toNat, nx := nx.toNat, vz := vz, vy := vy, vx := vx,
    oz := org offz gi.vz gi.oz gi.zmin gi.nz vz 0 nz,
    oy := org offy gi.vy gi.oy gi.ymin gi.ny vy ymin ny,
    ox := org offx gi.vx gi.ox gi.xmin gi.nx vx xmin nx }

/-- `zoom_image(image, zooms, offsets_in_mm, new_sizes, options)` (zoom.cxx:316-327) -/
def zoomImageParams3 (im : Img) (zz zy zx offz offy offx : Rat) (nz ny nx : Int) (opt : ZoomOpt) : Img :=
  let g := newGridFromZoom im.g zz zy zx offz offy offx nz ny nx
  ⟨g, zoomImage3 g im opt⟩

/-- `zoom_image(image, zoom, x_offset_in_mm, y_offset_in_mm, new_size, options)` (zoom.cxx:275-303): plane by plane.
    Plane numbering: the new image has the planes `0 … nz-1` (`newGridFromZoom`; its z-origin puts plane `k` at the physical position of
    input plane `zmin + k`), and plane `k` of the result is the zoomed input plane `zmin + k`.  The source stores the zoomed input plane
    `p` with `new_image.set_plane(…, p - image.get_min_z() + new_image.get_min_z())` (zoom.cxx:303, since repair docs/fixes/C15-3.diff;
    before, under the *input's* plane number `p`: the same thing when `zmin = 0`, an access outside the new image otherwise).  The early return ignores the y size (as the source does). -/
def zoomImageParams2 (im : Img) (zoom xoff yoff : Rat) (newSize : Int) (opt : ZoomOpt) : Img :=
  if zoom == 1 ∧ xoff == 0 ∧ yoff == 0 ∧ newSize == im.g.nx then im
  else
    let g := newGridFromZoom im.g 1 zoom zoom 0 yoff xoff im.g.nz newSize newSize
    ⟨g, im.d.map fun pl => zoomImage2 g im.g pl opt⟩

/-! ## grid sizes derived from float zooms: `VoxelsOnCartesianGrid(exam_info, proj_data_info, zooms, origin, sizes)` -/

/-- `ceil` of a rational -/
def ceilQ (q : Rat) : Int := -((-q).floor)

/-- `VoxelsOnCartesianGrid::construct_from_projdata_info` (VoxelsOnCartesianGrid.cxx:215-283) with `find_sampling_and_z_size`
    (:53-150) for cylindrical projection data: ring spacing `rs`, default bin size `binSize > 0` of the scanner, segment 0 `seg0`,
    `fov` = the largest `|get_s|` of the outermost tangential positions over the views (a float found by the source; an input here).
    Voxel sizes are the binary32 quotients `(rs/2, binSize, binSize) / zooms`; the number of planes comes from segment 0 (all its axial
    positions with axial compression, `2n-1` without) unless given; an x / y size given as `-1` is derived from the zoom:
    `2 * static_cast<int>(ceil(fov / voxel_size)) + 1` with the quotient evaluated in binary32 — it is an ulp above or below an integer
    for zooms like 1/3, 0.3, 2.2, and the conversion is transcribed as it is (`ceil` of the ROUNDED quotient).  `none` = `error`
    (negative size).  Index ranges: planes from 0, y and x centred (`-(n/2) …`). The origin is the argument (not modelled: copied). -/
def voxelsFromProjData (rs binSize fov : Rat) (seg0 : Seg) (zz zy zx : Rat) (sz sy sx : Int) : Option Grid :=
  let zSize : Int := if sz < 0 then (if seg0.maxRD > seg0.minRD then seg0.numAx else 2 * seg0.numAx - 1) else sz
  let vz := fl32 (fl32 (rs / 2) / zz)
  let vy := fl32 (binSize / zy)
  let vx := fl32 (binSize / zx)
  let derive : Bool := sx == -1 || sy == -1
  let xs : Int := if derive && sx == -1 then 2 * ceilQ (fl32 (fov / vx)) + 1 else sx
  let ys : Int := if derive && sy == -1 then 2 * ceilQ (fl32 (fov / vy)) + 1 else sy
  if xs < 0 ∨ ys < 0 then none
  else some { zmin := 0, ymin := -(ys.tdiv 2), xmin := -(xs.tdiv 2), nz := zSize.toNat, ny := ys.toNat, nx := xs.toNat,
              vz := vz, vy := vy, vx := vx, oz := 0, oy := 0, ox := 0 }

/-! ## `zoom_viewgram` / `zoom_viewgrams` (zoom.cxx:97-210): arc-corrected viewgrams, tangential direction

A viewgram is a list of rows (one per axial position) over the tangential positions `lo … lo+n-1`; every row is zoomed by the same
1-D `overlap_interpolate`, so the one-axis theorems `C15_zoom_axis_*` are statements about each row. -/

/-- offset in units of the input's tangential sampling (zoom.cxx:201-204):
    `(x_offset_in_mm*cos(phi) + y_offset_in_mm*sin(phi)) / in_bin_size`, `c = cos phi`, `s = sin phi` of the view
    (the result is stored in a `float`; the roundings of the intermediate operations are bounded by the driver, not modelled) -/
def zoomViewgramOffset (xoff yoff c s inBin : Rat) : Rat := fl32 ((xoff * c + yoff * s) / inBin)

/-- `zoom_viewgram(Viewgram& out_view, const Viewgram& in_view, x_offset_in_mm, y_offset_in_mm)` (zoom.cxx:169-210).
    `out_view` has the tangential positions `outLo … outLo+outN-1` and tangential sampling `outBin`; `rows` are the rows of `in_view`
    (first tangential position `inLo`, sampling `inBin`).  The documented contract is "zoom in_viewgram, replacing out_viewgram with
    the new data".  In the identity case (same range, zoom 1, no offsets) the source copies `in_view` into `out_view` and
    returns (zoom.cxx:196-203, since repair docs/fixes/C15-1.diff; before, it returned *without* writing `out_view`), which is what
    `overlap_interpolate` itself does for the identity request. -/
def zoomViewgram (outLo : Int) (outN : Nat) (inLo : Int) (rows : List (List Rat)) (inBin outBin xoff yoff c s : Rat) :
    List (List Rat) :=
  let zoom := fl32 (inBin / outBin)
  if outLo == inLo ∧ rows.all (fun r => r.length == outN) ∧ zoom == 1 ∧ xoff == 0 ∧ yoff == 0 then rows
  else rows.map (ovl outLo outN inLo zoom (zoomViewgramOffset xoff yoff c s inBin))

/-- `zoom_viewgram(Viewgram& in_view, zoom, min_tang_pos_num, max_tang_pos_num, x_offset_in_mm, y_offset_in_mm)` (zoom.cxx:137-167)
    and, viewgram by viewgram (each with the `phi` of its own view), `zoom_viewgrams(RelatedViewgrams&, …)` (zoom.cxx:97-135):
    new first tangential position, new tangential sampling `in_bin/zoom` (a float division) and the new rows. -/
def zoomViewgramInPlace (zoom : Rat) (minT maxT inLo : Int) (rows : List (List Rat)) (inBin xoff yoff c s : Rat) :
    Int × Rat × List (List Rat) :=
  if minT == inLo ∧ rows.all (fun r => maxT == inLo + r.length - 1) ∧ zoom == 1 ∧ xoff == 0 ∧ yoff == 0 then (inLo, inBin, rows)
  else
    let outBin := fl32 (inBin / zoom)
    (minT, outBin, zoomViewgram minT (maxT - minT + 1).toNat inLo rows inBin outBin xoff yoff c s)

/-! ## `find_centre_of_gravity_in_mm` (centre_of_gravity.cxx:32-128) -/

def volSum (v : Vol) : Rat := v.foldl (fun a pl => pl.foldl (fun a row => row.foldl (· + ·) a) a) 0

/-- Σ index·value along the three axes -/
def volMoments (g : Grid) (v : Vol) : Rat × Rat × Rat :=
  let idx {α : Type} (lo : Int) (l : List α) : List (Int × α) := (List.range l.length).map (fun (k : Nat) => lo + (k : Int)) |>.zip l
  (idx g.zmin v).foldl (fun acc (z, pl) =>
    (idx g.ymin pl).foldl (fun acc (y, row) =>
      (idx g.xmin row).foldl (fun (mz, my, mx) (x, val) => (mz + z * val, my + y * val, mx + x * val)) acc) acc) (0, 0, 0)

/-- centre of gravity in mm (z, y, x); `none` when the data sum to 0 (`error`) -/
def cogMm (im : Img) : Option (Rat × Rat × Rat) :=
  let s := volSum im.d
  if s == 0 then none
  else
    let (mz, my, mx) := volMoments im.g im.d
    some (im.g.vz * (mz / s) + im.g.oz, im.g.vy * (my / s) + im.g.oy, im.g.vx * (mx / s) + im.g.ox)

/-! ## `inverse_SSRB` (inverse_SSRB.cxx:33-131) -/

/-- the input (direct, segment 0) sinograms and weights that make up the output sinogram with axial coordinate `outM`;
    `ms` = the `m` of the input axial positions in order (any common unit).  `none`: no position selected (`error`),
    or the source reads a sinogram outside the input range (single input position not matching). -/
def inverseSsrbWeights (ms : List Rat) (outM : Rat) (tol : Rat) : Option (List (Nat × Rat)) :=
  let n := ms.length
  let dist (k : Nat) : Rat := absQ (outM - ms.getD k 0)
  let rec go : Nat → Nat → Option (List (Nat × Rat))
    | 0, _ => none
    | fuel + 1, a =>
      if a ≥ n then none
      else
        let cur := dist a
        let prevOk := a == 0 || cur ≤ dist (a - 1)          -- first slice: distance_to_previous = FLT_MAX
        let nextOk := a + 1 == n || cur ≤ dist (a + 1)      -- last slice: distance_to_next = FLT_MAX
        if prevOk && nextOk then
          if cur ≤ tol then some [(a, 1)]
          else if a != 0 && (a + 1 == n || dist (a - 1) < dist (a + 1)) then
            let p := dist (a - 1)
            some [(a - 1, cur / (p + cur)), (a, p / (p + cur))]
          else if a + 1 == n then none     -- reads sinogram `a+1` which does not exist
          else
            let nx := dist (a + 1)
            some [(a + 1, cur / (nx + cur)), (a, nx / (nx + cur))]
        else go fuel (a + 1)
  go n 0

/-- the compatibility guards of `inverse_SSRB` (inverse_SSRB.cxx:40-51): `false` = `Succeeded::no`.  First and last view,
    first and last tangential position agree (since repair docs/fixes/C15-2.diff; before, the source compared `get_min_view_num()` and
    `get_min_tangential_pos_num()` twice and never the maxima, so that data with another number of views / tangential positions but the
    same first index were accepted). -/
def inverseSsrbCompatible (minV3 maxV3 minT3 maxT3 minV4 maxV4 minT4 maxT4 : Int) : Bool :=
  minV3 == minV4 && maxV3 == maxV4 && minT3 == minT4 && maxT3 == maxT4

/-- one output sinogram of `inverse_SSRB` bin by bin: `sinos[a]` = the bins (any fixed order) of the direct sinogram at axial position `a`
    of the same TOF position; copy (`sino_4D += sino_3D_1` into zeros) or `sapyb` of the two selected sinograms -/
def inverseSsrbSino (ms : List Rat) (outM tol : Rat) (sinos : List (List Rat)) : Option (List Rat) :=
  match inverseSsrbWeights ms outM tol with
  | none => none
  | some ws =>
    match ws with
    | [(a, _)] => some (sinos.getD a [])
    | [(a, wa), (b, wb)] => some (List.zipWith (fun x y => wa * x + wb * y) (sinos.getD a []) (sinos.getD b []))
    | _ => none

/-! ## `extend_segment` (extend_projdata.cxx:36-150) -/

/-- a 3-D array `[axial][view][tang]` with its first indices -/
structure Arr3 where
  a0 : Int
  v0 : Int
  t0 : Int
  d : Array (Array (Array Rat))
  deriving Repr, Inhabited

def Arr3.get (x : Arr3) (a v t : Int) : Rat := ((x.d.getD (a - x.a0).toNat #[]).getD (v - x.v0).toNat #[]).getD (t - x.t0).toNat 0
def Arr3.set (x : Arr3) (a v t : Int) (q : Rat) : Arr3 :=
  let i := (a - x.a0).toNat
  let j := (v - x.v0).toNat
  let k := (t - x.t0).toNat
  { x with d := x.d.modify i (fun pl => pl.modify j (fun row => row.set! k q)) }

/-- view handling: 0 = wrap around (360°), 1 = wrap with tangential flip (180°, segment 0), 2 = nearest neighbour.
    `numViews` views with azimuthal sampling `k·π/numViews`, `k = kn/kd > 0` (`k = 1`: the 180° of PET data, `k = 2`: 360° as for SPECT),
    i.e. `phi_range = (numViews-1)·k·π/numViews`; the source compares `|phi_range − 2π|` and `|phi_range − π|` with 5 samplings
    (extend_projdata.cxx:73-86); both sides multiplied by `numViews·kd/π` here.  (Equality is decided by float rounding in the source: not generated.) -/
def extendModeK (numViews segNum kn kd : Int) : Nat :=
  if numViews < 2 then 2          -- 0/0 sampling: every comparison is false
  else if ((numViews - 1) * kn - 2 * numViews * kd).natAbs < (5 * kn).natAbs then 0
  else if ((numViews - 1) * kn - numViews * kd).natAbs < (5 * kn).natAbs ∧ segNum == 0 then 1
  else 2

/-- the PET case `k = 1`: `|range − 2π| < 5·sampling ⇔ numViews + 1 < 5` -/
def extendMode (numViews segNum : Int) : Nat := extendModeK numViews segNum 1 1

def extendSegment (seg : Arr3) (na nv nt : Nat) (ve ae te : Int) (mode : Nat) : Arr3 :=
  let min1 := seg.a0 - ae
  let min2 := seg.v0 - ve
  let min3 := seg.t0 - te
  let max1 := seg.a0 + na - 1 + ae
  let max2 := seg.v0 + nv - 1 + ve
  let max3 := seg.t0 + nt - 1 + te
  let axs := irange min1 max1
  let vs := irange min2 max2
  let ts := irange min3 max3
  -- out.grow(...): old values kept, new entries 0
  let d0 := (axs.map fun a => (vs.map fun v => (ts.map fun t =>
      if seg.a0 ≤ a ∧ a < seg.a0 + na ∧ seg.v0 ≤ v ∧ v < seg.v0 + nv ∧ seg.t0 ≤ t ∧ t < seg.t0 + nt then seg.get a v t else 0).toArray).toArray).toArray
  let out : Arr3 := { a0 := min1, v0 := min2, t0 := min3, d := d0 }
  let copyVT (o : Arr3) (dst src : Int) : Arr3 := vs.foldl (fun o v => ts.foldl (fun o t => o.set dst v t (o.get src v t)) o) o
  let out := (irange 0 (ae - 1)).foldl (fun o e => copyVT (copyVT o (min1 + e) (min1 + ae)) (max1 - e) (max1 - ae)) out
  let copyT (o : Arr3) (a dst src : Int) (flip : Bool) (tsel : List Int) : Arr3 :=
    tsel.foldl (fun o t => o.set a dst t (o.get a src (if flip then -t else t))) o
  let out := (irange 0 (ve - 1)).foldl (fun o e => axs.foldl (fun o a =>
      match mode with
      | 2 =>
        let o := copyT o a (min2 + e) (min2 + ve) false ts
        copyT o a (max2 - e) (max2 - ve) false ts
      | 1 =>
        -- `sym_dim` and the two "asymmetric" loops over the tangential range of the INPUT (`seg.t0 … seg.t0+nt-1`): the documented
        -- behaviour ("fill in asymmetric tangential positions at the end by just picking the nearest existing element";
        -- extend_projdata.cxx:102-104, since repair docs/fixes/C15-5.diff).  Before, the source took the EXTENDED range (`min_dim[3]`,
        -- `max_dim[3]`) here, whose added positions are still empty (they are filled by the last loop): the same result for a symmetric
        -- tangential range or without tangential extension, zeros in the added views for data with an even number of tangential positions
        -- (`-n/2 … n/2-1`) and `tangential_extension > 0`.
        let tmin := seg.t0
        let tmax := seg.t0 + nt - 1
        let sym := min (if tmin < 0 then -tmin else tmin) tmax
        let min3 := tmin
        let max3 := tmax
        let o := (irange (-sym) sym).foldl (fun o t =>
          let o := o.set a (min2 + e) t (o.get a (max2 - 2 * ve + e + 1) (-t))
          o.set a (max2 - ve + 1 + e) t (o.get a (min2 + ve + e) (-t))) o
        let o := (irange min3 (-sym - 1)).foldl (fun o t =>
          let o := o.set a (min2 + e) t (o.get a (max2 - 2 * ve + e + 1) sym)
          o.set a (max2 - ve + 1 + e) t (o.get a (min2 + ve + e) sym)) o
        (irange (sym + 1) max3).reverse.foldl (fun o t =>
          let o := o.set a (min2 + e) t (o.get a (max2 - 2 * ve + e + 1) (-sym))
          o.set a (max2 - ve + 1 + e) t (o.get a (min2 + ve + e) (-sym))) o
      | _ =>
        let o := copyT o a (min2 + e) (max2 - 2 * ve + e + 1) false ts
        copyT o a (max2 - ve + 1 + e) (min2 + ve + e) false ts) o) out
  (irange 0 (te - 1)).foldl (fun o e => axs.foldl (fun o a => vs.foldl (fun o v =>
      let o := o.set a v (min3 + e) (o.get a v (min3 + te))
      o.set a v (max3 - e) (o.get a v (max3 - te))) o) o) out

end StirVerif.C15
