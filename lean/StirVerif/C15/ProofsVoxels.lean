/-
C15 — `ceilQ`, which turns the field-of-view radius in voxels into the half-width of a grid derived from a zoom (`voxelsFromProjData`).
-/
import StirVerif.C15.Model
import Mathlib.Algebra.Order.Floor.Ring
import Mathlib.Data.Rat.Floor

namespace StirVerif.C15
open StirVerif.C01

/-- `ceilQ` is the ceiling of the ordered field `ℚ` (defined there, too, as `-⌊-q⌋`) -/
theorem ceilQ_eq_ceil (q : ℚ) : ceilQ q = ⌈q⌉ := rfl

end StirVerif.C15
