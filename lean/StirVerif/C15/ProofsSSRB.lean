/-
C15 — the coordinate `m` of an axial position, the list functions (`irange`, `collect`, `firstAxWithM`) the model of `SSRB` is written with,
and the two integer facts behind uniqueness and views (`window_unique`, `tdiv_tdiv_of_nonneg`).
-/
import StirVerif.C15.Model
import StirVerif.C01.ProofsAxial
import StirVerif.Common.IntRange
import StirVerif.Common.IntDiv

namespace StirVerif.C15
open StirVerif.C01

theorem mem_irange (lo hi i : Int) : i ∈ irange lo hi ↔ lo ≤ i ∧ i ≤ hi := by
  rw [irange, Common.mem_map_range_add]
  omega

theorem irange_length (lo hi : Int) : (irange lo hi).length = (hi - lo + 1).toNat := by
  unfold irange
  simp

theorem irange_getElem? (lo hi : Int) (k : Nat) (hk : k < (hi - lo + 1).toNat) : (irange lo hi)[k]? = some (lo + k) :=
  Common.getElem?_map_range_add lo hk

/-- the windows `[2ak − k, 2ak + k)`, `a ∈ ℤ`, do not overlap -/
theorem window_unique {k x a b : Int} (ha : 2 * (a * k) - k ≤ x ∧ x < 2 * (a * k) + k)
    (hb : 2 * (b * k) - k ≤ x ∧ x < 2 * (b * k) + k) : a = b := by
  -- `k·(a − b)` lies strictly between `−k` and `k`
  have e : k * (a - b) = a * k - b * k := by rw [Int.mul_comm, Int.sub_mul]
  have := Common.eq_zero_of_mul_lt (n := k) (k := a - b) (by omega) (by omega)
  omega

/-- several ring differences: axial sampling half a ring spacing; a single one: a whole ring spacing (`m` in quarter spacings) -/
theorem seg_cases (s : Seg) :
    (s.maxRD ≠ s.minRD ∧ s.inc = 2 ∧ ∀ a, s.m4 a = 2 * a - (s.numAx - 1)) ∨
    (s.maxRD = s.minRD ∧ s.inc = 1 ∧ ∀ a, s.m4 a = 2 * (2 * a - (s.numAx - 1))) := by
  unfold Seg.m4
  by_cases h : s.maxRD = s.minRD
  · have hi := Seg.inc_of_eq h.symm
    exact Or.inr ⟨h, hi, fun a => by
      rw [hi]
      exact Int.mul_comm _ _⟩
  · have hi := Seg.inc_of_ne (Ne.symm h)
    exact Or.inl ⟨h, hi, fun a => by
      rw [hi]
      exact Int.mul_one _⟩

theorem inc_pos (s : Seg) : 0 < s.inc := by
  unfold Seg.inc
  split <;> decide

/-- the `m` grid of a segment, for both samplings at once: it increases with the axial position, is centred on 0, and spans
    `numAx − 1` axial samplings -/
theorem m4_facts (s : Seg) :
    (∀ a b, s.m4 a ≤ s.m4 b ↔ a ≤ b) ∧ s.m4 0 = -(s.m4 (s.numAx - 1)) ∧ (s.m4 (s.numAx - 1) - s.m4 0) * s.inc = 4 * (s.numAx - 1) := by
  rcases seg_cases s with ⟨_, hi, hm⟩ | ⟨_, hi, hm⟩
  · simp only [hm, hi]
    exact ⟨fun a b => by omega, by omega, by omega⟩
  · simp only [hm, hi]
    exact ⟨fun a b => by omega, by omega, by omega⟩

theorem m4_le_m4 (s : Seg) (a b : Int) : s.m4 a ≤ s.m4 b ↔ a ≤ b :=
  (m4_facts s).1 a b

theorem m4_inj (s : Seg) (a b : Int) (h : s.m4 a = s.m4 b) : a = b :=
  Int.le_antisymm ((m4_le_m4 s a b).mp (Int.le_of_eq h)) ((m4_le_m4 s b a).mp (Int.le_of_eq h.symm))

theorem m4_zero_neg (s : Seg) : s.m4 0 = -(s.m4 (s.numAx - 1)) :=
  (m4_facts s).2.1

theorem m4_span (s : Seg) : (s.m4 (s.numAx - 1) - s.m4 0) * s.inc = 4 * (s.numAx - 1) :=
  (m4_facts s).2.2

theorem m4_even {R : Int} {s : Seg} {off : Int} (h : s.axOff R = some off) (a : Int) : s.m4 a % 2 = 0 := by
  rw [axOff_eq_some_iff] at h
  rcases seg_cases s with ⟨_, hi, hm⟩ | ⟨_, _, hm⟩
  · rw [hi] at h
    rw [hm]
    omega
  · rw [hm]
    omega

theorem m4_surj (s : Seg) (hrd : s.maxRD ≠ s.minRD) (hlast : s.m4 (s.numAx - 1) % 2 = 0) (m : Int) (hm : m % 2 = 0)
    (hlo : -(s.m4 (s.numAx - 1)) ≤ m) (hhi : m ≤ s.m4 (s.numAx - 1)) : ∃ a, 0 ≤ a ∧ a < s.numAx ∧ s.m4 a = m := by
  rcases seg_cases s with ⟨_, _, h⟩ | ⟨he, _, _⟩
  · simp only [h] at hlast hlo hhi ⊢
    exact ⟨(m + (s.numAx - 1)) / 2, by omega⟩
  · exact absurd he hrd

theorem m4_axOf {R : Int} {s : Seg} {off r1 r2 : Int} (hoff : s.axOff R = some off) (hex : s.Exact off)
    (hrd : s.minRD ≤ r2 - r1 ∧ r2 - r1 ≤ s.maxRD) :
    s.m4 (s.axOf off r1 r2) = 2 * (r1 + r2 - (R - 1)) := by
  rw [axOff_eq_some_iff] at hoff
  have h2 := Seg.two_mul_axOf hex hrd.1 hrd.2
  rcases seg_cases s with ⟨_, hi, hm⟩ | ⟨_, hi, hm⟩
  · rw [hi] at hoff h2
    rw [hm]
    omega
  · rw [hi] at hoff h2
    rw [hm]
    omega

theorem collect_eq_some_iff (f : Int → Option Seg) (l : List Int) (g : List Seg) : collect f l = some g ↔ l.map f = g.map some := by
  induction l generalizing g with
  | nil => cases g <;> simp [collect]
  | cons i r ih =>
    unfold collect
    cases g with
    | nil => split <;> simp
    | cons s g' =>
      rw [List.map_cons, List.map_cons, List.cons.injEq, ← ih g']
      split
      · rename_i s0 l0 hs hl
        simp [hs, hl]
      · rename_i hnot
        constructor
        · intro h
          cases h
        · rintro ⟨h1, h2⟩
          exact (hnot _ _ h1 h2).elim

theorem mem_group {f : Int → Option Seg} {lo hi : Int} {g : List Seg} (h : collect f (irange lo hi) = some g) (s : Seg) :
    s ∈ g ↔ ∃ i, lo ≤ i ∧ i ≤ hi ∧ f i = some s := by
  rw [collect_eq_some_iff] at h
  have hs : some s ∈ g.map some ↔ s ∈ g := by simp
  rw [← hs, ← h, List.mem_map]
  simp only [mem_irange, and_assoc]

theorem collect_getElem? {f : Int → Option Seg} {lo hi : Int} {g : List Seg} (h : collect f (irange lo hi) = some g) (k : Nat)
    (hk : k < g.length) : f (lo + k) = some g[k] := by
  rw [collect_eq_some_iff] at h
  have hlen := congrArg List.length h
  rw [List.length_map, List.length_map, irange_length] at hlen
  have hk' := congrArg (·[k]?) h
  simp only [List.getElem?_map, irange_getElem? lo hi k (by omega), List.getElem?_eq_getElem hk, Option.map_some] at hk'
  exact Option.some.inj hk'

theorem collect_isSome (f : Int → Option Seg) (l : List Int) (h : ∀ i ∈ l, ∃ s, f i = some s) : ∃ g, collect f l = some g := by
  induction l with
  | nil => exact ⟨[], rfl⟩
  | cons a r ih =>
    obtain ⟨s, hs⟩ := h a (by simp)
    obtain ⟨g, hg⟩ := ih (fun i hi => h i (by simp [hi]))
    exact ⟨s :: g, by simp [collect, hs, hg]⟩

theorem firstAxWithM_eq_some {sg : Seg} {m a : Int} : firstAxWithM sg m = some a ↔ 0 ≤ a ∧ a < sg.numAx ∧ sg.m4 a = m := by
  unfold firstAxWithM
  constructor
  · intro h
    have hm := List.mem_of_find?_eq_some h
    have hp := List.find?_some h
    rw [mem_irange] at hm
    exact ⟨hm.1, by omega, by simpa using hp⟩
  · rintro ⟨h0, h1, rfl⟩
    -- some position is found, and `m` determines the position
    have hex : ((irange 0 (sg.numAx - 1)).find? fun a' => sg.m4 a' == sg.m4 a).isSome :=
      List.find?_isSome.mpr ⟨a, (mem_irange 0 (sg.numAx - 1) a).mpr ⟨h0, by omega⟩, beq_self_eq_true _⟩
    obtain ⟨a', ha'⟩ := Option.isSome_iff_exists.mp hex
    rw [ha', m4_inj sg a' a (by simpa using List.find?_some ha')]

theorem tdiv_tdiv_of_nonneg (u m k : Int) (hu : 0 ≤ u) (hm : 0 ≤ m) : (u.tdiv m).tdiv k = u.tdiv (m * k) := by
  rw [Int.tdiv_eq_ediv_of_nonneg hu, Int.tdiv_eq_ediv_of_nonneg (Int.ediv_nonneg hu hm),
    Int.tdiv_eq_ediv_of_nonneg hu, Int.ediv_ediv_of_nonneg hm]

end StirVerif.C15
