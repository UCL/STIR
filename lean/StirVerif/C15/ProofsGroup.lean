/-
C15 — one output segment of `SSRB(ProjDataInfo…)`: what `ssrbOutSeg` makes of the group of input segments it combines.
-/
import StirVerif.C15.ProofsSSRB

namespace StirVerif.C15
open StirVerif.C01

/-- what is assumed of the input segments `lo..hi` that one output segment combines
    (facts that `ProjDataInfoCylindrical` establishes or checks for every geometry it constructs) -/
structure GroupWF (p : PDI) (lo hi : Int) : Prop where
  /-- axial offsets are integers (`initialise_ring_diff_arrays` calls `error` otherwise) -/
  offs : ∀ i s, lo ≤ i → i ≤ hi → p.seg? i = some s → ∃ off, s.axOff p.R = some off
  pos : ∀ i s, lo ≤ i → i ≤ hi → p.seg? i = some s → 1 ≤ s.numAx
  rd : ∀ i s, lo ≤ i → i ≤ hi → p.seg? i = some s → s.minRD ≤ s.maxRD
  sorted : ∀ i j si sj, lo ≤ i → i < j → j ≤ hi → p.seg? i = some si → p.seg? j = some sj → si.maxRD < sj.minRD

theorem GroupWF.rd_within {p : PDI} {lo hi : Int} (wf : GroupWF p lo hi) {a a1 sg : Seg} {is : Int}
    (ha : p.seg? lo = some a) (ha1 : p.seg? hi = some a1) (h1 : lo ≤ is) (h2 : is ≤ hi) (hsg : p.seg? is = some sg) :
    a.minRD ≤ sg.minRD ∧ sg.maxRD ≤ a1.maxRD := by
  constructor
  · rcases Int.lt_or_le lo is with hlt | hge
    · have := wf.sorted lo is a sg (Int.le_refl _) hlt h2 ha hsg
      have := wf.rd lo a (Int.le_refl _) (Int.le_trans h1 h2) ha
      omega
    · have : is = lo := Int.le_antisymm hge h1
      subst this
      rw [ha] at hsg
      cases hsg
      omega
  · rcases Int.lt_or_le is hi with hlt | hge
    · have := wf.sorted is hi sg a1 h1 hlt (Int.le_refl _) hsg ha1
      have := wf.rd hi a1 (Int.le_trans h1 h2) (Int.le_refl _) ha1
      omega
    · have : is = hi := Int.le_antisymm h2 hge
      subst this
      rw [ha1] at hsg
      cases hsg
      omega

/-- `in_min_segment_num … in_max_segment_num` of SSRB.cxx:95-132: the input segments that output segment `os` combines -/
abbrev groupLo (kSeg os : Int) : Int := os * kSeg - kSeg.tdiv 2

abbrev groupHi (kSeg os : Int) : Int := os * kSeg + kSeg.tdiv 2

theorem groupLo_le_groupHi (kSeg os : Int) (hk : 0 ≤ kSeg.tdiv 2) : groupLo kSeg os ≤ groupHi kSeg os := by
  unfold groupLo groupHi
  omega


/-- `max_m` of the loop body SSRB.cxx:95-132 as `ssrbOutSeg` folds it: the largest `m` of the last axial positions of `first :: grp` -/
def maxLastM (first : Seg) (grp : List Seg) : Int :=
  grp.foldl (fun acc s => max acc (s.m4 (s.numAx - 1))) (first.m4 (first.numAx - 1))

/-- `min_m`: the smallest `m` of the first axial positions -/
def minFirstM (first : Seg) (grp : List Seg) : Int := grp.foldl (fun acc s => min acc (s.m4 0)) (first.m4 0)

theorem minFirstM_eq_neg (first : Seg) (grp : List Seg) : minFirstM first grp = -maxLastM first grp := by
  unfold minFirstM maxLastM
  rw [m4_zero_neg first]
  -- segments are centred on `m = 0`: negation turns the min-fold of the first `m`s into the max-fold of the last `m`s
  exact List.foldl_hom (fun x : Int => -x) (H := fun x s => by
    rw [m4_zero_neg s]
    omega)

theorem maxLastM_spec {p : PDI} {lo hi : Int} {a : Seg} {grp : List Seg} (hlohi : lo ≤ hi) (ha : p.seg? lo = some a)
    (hgrp : collect p.seg? (irange lo hi) = some grp) :
    (∀ is sg, lo ≤ is → is ≤ hi → p.seg? is = some sg → sg.m4 (sg.numAx - 1) ≤ maxLastM a grp) ∧
    ∃ is sg, lo ≤ is ∧ is ≤ hi ∧ p.seg? is = some sg ∧ sg.m4 (sg.numAx - 1) = maxLastM a grp := by
  -- the fold is the `max?` of the list of last `m`s
  obtain ⟨hmem, hge⟩ := List.max?_eq_some_iff.mp
    (show (a.m4 (a.numAx - 1) :: grp.map fun s => s.m4 (s.numAx - 1)).max? = some (maxLastM a grp) by
      rw [List.max?_cons', List.foldl_map, maxLastM])
  constructor
  · intro is sg h1 h2 hsg
    exact hge _ (List.mem_cons_of_mem _ (List.mem_map_of_mem ((mem_group hgrp sg).mpr ⟨is, h1, h2, hsg⟩)))
  · rcases List.mem_cons.mp hmem with e | e
    · exact ⟨lo, a, Int.le_refl _, hlohi, ha, e.symm⟩
    · obtain ⟨s, hs, e⟩ := List.mem_map.mp e
      obtain ⟨i, h1, h2, h3⟩ := (mem_group hgrp s).mp hs
      exact ⟨i, s, h1, h2, h3, e⟩

/-- `ssrbOutSeg` without the C division: the `m`-range of the group is `numAx − 1` axial samplings (`4/inc` quarter ring spacings) of the
    output segment -/
theorem ssrbOutSeg_eq_some_iff {p : PDI} {kSeg os : Int} {og : Seg} :
    ssrbOutSeg p kSeg os = some og ↔
      ∃ a a1 grp, p.seg? (groupLo kSeg os) = some a ∧ p.seg? (groupHi kSeg os) = some a1 ∧
        collect p.seg? (irange (groupLo kSeg os) (groupHi kSeg os)) = some grp ∧
        og.minRD = a.minRD ∧ og.maxRD = a1.maxRD ∧ (maxLastM a grp - minFirstM a grp) * og.inc = 4 * (og.numAx - 1) := by
  unfold ssrbOutSeg
  simp only [Option.bind_eq_bind, Option.bind_eq_some_iff]
  constructor
  · rintro ⟨a, ha, a1, ha1, grp, hgrp, h⟩
    refine ⟨a, a1, grp, ha, ha1, hgrp, ?_⟩
    rw [Option.ite_none_left_eq_some, Option.some.injEq] at h
    obtain ⟨hz, rfl⟩ := h
    have hz' := Decidable.of_not_not fun hne => hz (bne_iff_ne.mpr hne)
    rw [Int.tmod_def] at hz'
    refine ⟨rfl, rfl, ?_⟩
    simp only [maxLastM, minFirstM, Seg.inc]
    omega
  · rintro ⟨a, a1, grp, ha, ha1, hgrp, h1, h2, h3⟩
    refine ⟨a, ha, a1, ha1, grp, hgrp, ?_⟩
    simp only [maxLastM, minFirstM, Seg.inc, h1, h2] at h3
    rw [h3, Int.mul_tmod_right, Int.mul_tdiv_cancel_left _ (by decide)]
    -- the `tmod` test passes; what remains is `og` field by field
    cases og
    simp_all

/-- nothing combined (`num_segments_to_combine` 1, or any `k` with `k/2 = 0`): the output segment is the input segment -/
theorem ssrbOutSeg_of_half_zero (p : PDI) {kSeg : Int} (os : Int) (h0 : kSeg.tdiv 2 = 0) : ssrbOutSeg p kSeg os = p.seg? (os * kSeg) := by
  unfold ssrbOutSeg
  have hr : irange (os * kSeg) (os * kSeg) = [os * kSeg] := by
    unfold irange
    simp
  simp only [h0, Int.sub_zero, Int.add_zero, hr]
  cases hs : p.seg? (os * kSeg) with
  | none => rfl
  | some s =>
    have hspan := m4_span s
    unfold Seg.inc at hspan
    simp only [Option.bind_eq_bind, Option.bind_some, collect, hs, List.foldl_cons, List.foldl_nil, Int.max_self, Int.min_self, hspan,
      Int.mul_tmod_right]
    simp [Int.mul_tdiv_cancel_left]

theorem ssrbOutSeg_one (p : PDI) (os : Int) : ssrbOutSeg p 1 os = p.seg? os := by
  rw [ssrbOutSeg_of_half_zero p os (by decide), Int.mul_one]

/-- the last `m` of the output segment is the largest last `m` of the input segments of its group, and one of them has it -/
theorem ssrbOutSeg_last {p : PDI} {kSeg os : Int} {og : Seg} (hk : 0 ≤ kSeg.tdiv 2) (h : ssrbOutSeg p kSeg os = some og) :
    (∀ is sg, groupLo kSeg os ≤ is → is ≤ groupHi kSeg os → p.seg? is = some sg →
        sg.m4 (sg.numAx - 1) ≤ og.m4 (og.numAx - 1)) ∧
    (∃ is sg, groupLo kSeg os ≤ is ∧ is ≤ groupHi kSeg os ∧ p.seg? is = some sg ∧
        sg.m4 (sg.numAx - 1) = og.m4 (og.numAx - 1)) := by
  obtain ⟨a, a1, grp, ha, _, hgrp, _, _, hspan⟩ := ssrbOutSeg_eq_some_iff.mp h
  have hlast : og.m4 (og.numAx - 1) = maxLastM a grp := by
    have h1 := m4_span og
    rw [← hspan, m4_zero_neg og, minFirstM_eq_neg] at h1
    have := Int.eq_of_mul_eq_mul_right (Int.ne_of_gt (inc_pos og)) h1
    omega
  rw [hlast]
  exact maxLastM_spec (groupLo_le_groupHi kSeg os hk) ha hgrp

/-- an output segment with a single ring difference has a group of one input segment, which it equals -/
theorem ssrbOutSeg_single {p : PDI} {kSeg os : Int} {og : Seg} (hk : 0 ≤ kSeg.tdiv 2) (h : ssrbOutSeg p kSeg os = some og)
    (wf : GroupWF p (groupLo kSeg os) (groupHi kSeg os)) (hrd : og.maxRD = og.minRD)
    {is : Int} (his : groupLo kSeg os ≤ is ∧ is ≤ groupHi kSeg os) {sg : Seg} (hsg : p.seg? is = some sg) : sg = og := by
  obtain ⟨a, a1, _, ha, ha1, _, hmin, hmax, _⟩ := ssrbOutSeg_eq_some_iff.mp h
  -- a single ring difference leaves no room for two segments with increasing ranges: the group is the one segment `os·kSeg`
  have h0 : kSeg.tdiv 2 = 0 := by
    rcases Int.lt_or_le 0 (kSeg.tdiv 2) with hpos | hle
    · have hlt : groupLo kSeg os < groupHi kSeg os := by
        unfold groupLo groupHi
        omega
      have := wf.sorted _ _ a a1 (Int.le_refl _) hlt (Int.le_refl _) ha ha1
      have := wf.rd _ a (Int.le_refl _) (Int.le_of_lt hlt) ha
      have := wf.rd _ a1 (Int.le_of_lt hlt) (Int.le_refl _) ha1
      omega
    · omega
  have e : os * kSeg = is := by
    unfold groupLo groupHi at his
    omega
  rw [ssrbOutSeg_of_half_zero p os h0, e, hsg] at h
  exact Option.some.inj h

/-- the output segment sits on the rings like its input segments, and its axial grid contains theirs -/
theorem ssrbOutSeg_grid {p : PDI} {kSeg os : Int} {og : Seg} (hk : 0 ≤ kSeg.tdiv 2) (h : ssrbOutSeg p kSeg os = some og)
    (wf : GroupWF p (groupLo kSeg os) (groupHi kSeg os))
    {is : Int} (his : groupLo kSeg os ≤ is ∧ is ≤ groupHi kSeg os) {sg : Seg} (hsg : p.seg? is = some sg) :
    (∀ off, sg.axOff p.R = some off → sg.Exact off → ∃ offO, og.axOff p.R = some offO ∧ og.Exact offO) ∧
    ∀ ia, 0 ≤ ia → ia < sg.numAx → ∃ oa, 0 ≤ oa ∧ oa < og.numAx ∧ og.m4 oa = sg.m4 ia := by
  by_cases hone : og.maxRD = og.minRD
  · have := ssrbOutSeg_single hk h wf hone his hsg
    subst this
    exact ⟨fun off h1 h2 => ⟨off, h1, h2⟩, fun ia h0 h1 => ⟨ia, h0, h1, rfl⟩⟩
  · -- half-ring sampling: the last `m` of `og` is the last `m` of an input segment and so even; `og` has a position at every even `m` of
    -- its range, which contains the ranges of its input segments
    obtain ⟨hle, js, sj, j1, j2, hsj, hlast⟩ := ssrbOutSeg_last hk h
    obtain ⟨oj, hoj⟩ := wf.offs js sj j1 j2 hsj
    have hev : og.m4 (og.numAx - 1) % 2 = 0 := hlast ▸ m4_even hoj _
    constructor
    · intro _ _ _
      rcases seg_cases og with ⟨_, hi, hm⟩ | ⟨he, _, _⟩
      · refine ⟨p.R - 1 - (og.numAx - 1) / 2, (axOff_eq_some_iff _ _ _).mpr ?_, fun hc => absurd hc.symm hone⟩
        rw [hi]
        rw [hm] at hev
        omega
      · exact absurd he hone
    · intro ia h0 h1
      obtain ⟨o, ho⟩ := wf.offs is sg his.1 his.2 hsg
      have a0 := (m4_le_m4 sg 0 ia).mpr h0
      have a1 := (m4_le_m4 sg ia (sg.numAx - 1)).mpr (Int.le_sub_one_of_lt h1)
      have a2 := hle is sg his.1 his.2 hsg
      rw [m4_zero_neg sg] at a0
      exact m4_surj og hone hev _ (m4_even ho ia) (Int.le_trans (Int.neg_le_neg a2) a0) (Int.le_trans a1 a2)

end StirVerif.C15
