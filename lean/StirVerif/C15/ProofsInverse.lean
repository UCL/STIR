/-
C15 — `inverse_SSRB` forms convex combinations of (at most two) direct sinograms, placed at the output's axial position
when that position lies between them.
-/
import StirVerif.C15.Model
import Mathlib.Tactic.Ring
import Mathlib.Tactic.Linarith
import Mathlib.Tactic.FieldSimp
import Mathlib.Algebra.Order.Field.Rat
import Mathlib.Algebra.Order.Ring.Abs

namespace StirVerif.C15

theorem absQ_eq_abs (q : ℚ) : absQ q = |q| := by
  unfold absQ
  split
  · rename_i h
    rw [abs_of_neg h]
  · rename_i h
    rw [abs_of_nonneg (not_lt.mp h)]

/-- the two shapes of the result of `inverse_SSRB` for one output sinogram: a copy, or a combination of two positions (the source's branches
    "with the previous" and "with the next" position are the one shape `two`) -/
inductive InvShape (ms : List ℚ) (outM tol : ℚ) : List (Nat × ℚ) → Prop
  | copy (a : Nat) (h : |outM - ms.getD a 0| ≤ tol) : InvShape ms outM tol [(a, 1)]
  | two (a b : Nat) (hne : 0 < |outM - ms.getD a 0| + |outM - ms.getD b 0|) :
      InvShape ms outM tol [(a, |outM - ms.getD b 0| / (|outM - ms.getD a 0| + |outM - ms.getD b 0|)),
                            (b, |outM - ms.getD a 0| / (|outM - ms.getD a 0| + |outM - ms.getD b 0|))]

theorem inverseSsrb_go_spec {ms : List ℚ} {outM tol : ℚ} {fuel a : Nat} {ws : List (Nat × ℚ)}
    (h : inverseSsrbWeights.go tol ms.length (fun k => absQ (outM - ms.getD k 0)) fuel a = some ws) :
    (0 ≤ tol → InvShape ms outM tol ws) ∧ ∀ w ∈ ws, w.1 < ms.length := by
  -- the branches of `go` in the order of its definition: out of fuel, past the end, copy, combination with the previous position, next
  -- position missing, combination with the next position, no local minimum of the distance yet
  fun_induction inverseSsrbWeights.go tol ms.length (fun k => absQ (outM - ms.getD k 0)) fuel a with
  | case1 => cases h
  | case2 => cases h
  | case3 f a han cur _ _ _ hc =>
    cases h
    simp only [cur, absQ_eq_abs] at hc
    exact ⟨fun _ => InvShape.copy a hc, by simpa using Nat.lt_of_not_ge han⟩
  | case4 f a han cur _ _ _ hc _ p =>
    cases h
    simp only [cur, p, absQ_eq_abs] at hc ⊢
    refine ⟨fun htol => InvShape.two (a - 1) a (add_pos_of_nonneg_of_pos (abs_nonneg _) (lt_of_le_of_lt htol (not_le.mp hc))), ?_⟩
    simp only [List.mem_cons, List.mem_nil_iff, or_false, forall_eq_or_imp, forall_eq]
    omega
  | case5 => cases h
  | case6 f a han cur _ _ _ hc _ hlast nx =>
    cases h
    simp only [cur, nx, absQ_eq_abs] at hc ⊢
    refine ⟨fun htol => InvShape.two (a + 1) a (add_pos_of_nonneg_of_pos (abs_nonneg _) (lt_of_le_of_lt htol (not_le.mp hc))), ?_⟩
    simp only [List.mem_cons, List.mem_nil_iff, or_false, forall_eq_or_imp, forall_eq]
    have hne : a + 1 ≠ ms.length := by simpa using hlast
    omega
  | case7 _ _ _ _ _ _ _ ih => exact ih h

/-- what `inverse_SSRB` selects: one of the shapes of `InvShape` (for a non-negative tolerance), with positions inside the input -/
theorem inverseSsrb_spec {ms : List ℚ} {outM tol : ℚ} {ws : List (Nat × ℚ)} (h : inverseSsrbWeights ms outM tol = some ws) :
    (0 ≤ tol → InvShape ms outM tol ws) ∧ ∀ w ∈ ws, w.1 < ms.length := by
  unfold inverseSsrbWeights at h
  exact inverseSsrb_go_spec h

theorem inverseSsrb_shape {ms : List ℚ} {outM tol : ℚ} (htol : 0 ≤ tol) {ws : List (Nat × ℚ)}
    (h : inverseSsrbWeights ms outM tol = some ws) : InvShape ms outM tol ws :=
  (inverseSsrb_spec h).1 htol

theorem InvShape.convex {ms : List ℚ} {outM tol : ℚ} {ws : List (Nat × ℚ)} (h : InvShape ms outM tol ws) :
    (∀ w ∈ ws, 0 ≤ w.2) ∧ (ws.map (·.2)).sum = 1 := by
  cases h with
  | copy a _ => simp
  | two a b hne =>
    have ha := abs_nonneg (outM - ms.getD a 0)
    have hb := abs_nonneg (outM - ms.getD b 0)
    constructor
    · intro w hw
      simp only [List.mem_cons, List.mem_nil_iff, or_false] at hw
      rcases hw with rfl | rfl <;> exact div_nonneg (by assumption) (le_of_lt hne)
    · simp only [List.map_cons, List.map_nil, List.sum_cons, List.sum_nil, add_zero]
      rw [← add_div, add_comm, div_self (ne_of_gt hne)]

theorem InvShape.position {ms : List ℚ} {outM tol : ℚ} {ws : List (Nat × ℚ)} (h : InvShape ms outM tol ws) :
    (∃ a, ws = [(a, 1)] ∧ |outM - ms.getD a 0| ≤ tol) ∨
    (∃ a b wa wb, ws = [(a, wa), (b, wb)] ∧
      ((ms.getD a 0 ≤ outM ∧ outM ≤ ms.getD b 0) ∨ (ms.getD b 0 ≤ outM ∧ outM ≤ ms.getD a 0) →
        wa * ms.getD a 0 + wb * ms.getD b 0 = outM)) := by
  cases h with
  | copy a ha => exact Or.inl ⟨a, rfl, ha⟩
  | two a b hne =>
    right
    refine ⟨a, b, _, _, rfl, ?_⟩
    intro hbr
    -- `(q·x + p·y)/(p + q)` with `p`, `q` the distances of `outM` from `x`, `y`: both orders give `outM·(p + q)` in the numerator
    rw [div_mul_eq_mul_div, div_mul_eq_mul_div, ← add_div, div_eq_iff (ne_of_gt hne)]
    rcases hbr with ⟨h1, h2⟩ | ⟨h1, h2⟩
    · rw [abs_of_nonneg (sub_nonneg.mpr h1), abs_of_nonpos (sub_nonpos.mpr h2)]
      ring
    · rw [abs_of_nonpos (sub_nonpos.mpr h2), abs_of_nonneg (sub_nonneg.mpr h1)]
      ring

theorem getD_zipWith (f : ℚ → ℚ → ℚ) (l1 l2 : List ℚ) (hlen : l1.length = l2.length) (hf : f 0 0 = 0) (i : Nat) :
    (List.zipWith f l1 l2).getD i 0 = f (l1.getD i 0) (l2.getD i 0) := by
  simp only [List.getD_eq_getElem?_getD, List.getElem?_zipWith]
  by_cases hi : i < l1.length
  · rw [List.getElem?_eq_getElem hi, List.getElem?_eq_getElem (hlen ▸ hi)]
    rfl
  · rw [List.getElem?_eq_none (Nat.le_of_not_lt hi), List.getElem?_eq_none (hlen ▸ Nat.le_of_not_lt hi)]
    exact hf.symm

end StirVerif.C15
