/-
C15 — rebinning and resampling conserve counts and physical positions: the property theorems.
Units: axial coordinate `m` in quarter ring spacings (`Seg.m4`), TOF positions in unmashed TOF bins, image coordinates in `ℚ`.
-/
import StirVerif.C15.ProofsTotal
import StirVerif.C15.ProofsAxialGrid
import StirVerif.C15.ProofsZoom
import StirVerif.C15.ProofsInverse
import StirVerif.C15.ProofsIdentity
import StirVerif.C15.ProofsVoxels

namespace StirVerif.C15
open StirVerif.C01 Finset

/-! ## SSRB

The theorems of this section are about `ssrbInfo` (`SSRB(ProjDataInfo, …)`) and `ssrbData` (`SSRB(ProjData& out, const ProjData& in, do_norm)`).
The third overload, `SSRB(output_filename, in, num_segments_to_combine, …, do_norm, max_in_segment_num_to_process, num_tof_bins_to_combine)`
(SSRB.cxx:144-163), is their composition — `ssrbData pin pout` with `ssrbInfo pin … = some pout` — which is exactly the hypothesis
`hinfo` of `C15_ssrb_commutes_with_binning`, `C15_ssrb_targets_exact`, `C15_ssrb_conserves_total`; the correspondence run answers the
`ssrbdata` operation a second time from the file that overload writes.

The correspondence run drives the real `SSRB` overloads also with the IDENTITY-LIKE argument lists (`num_segments_to_combine = 1`,
`num_views_to_combine = 1`, `num_tang_poss_to_trim = 0`, `num_tof_bins_to_combine = 1`, one at a time or all together) and with geometries
with a single segment and / or a single axial position per segment (one ring; direct sinograms only; span 1 with all ring differences;
all ring differences in one segment; harness `run_ssrb_identity_like`, `gen_degenerate_cfg`), so the code these theorems are tied to
includes those paths.

The axial coordinate `m` of the model is an exact integer number of quarter ring spacings, so every theorem of this section holds
for ANY ring spacing; the correspondence run drives the real `SSRB` overloads on the predefined scanners of `Scanner.cxx` with their
true numbers of rings and ring spacings (6.54, 4.85, 3.29114, 5.56, 5.52296 … mm: not dyadic rationals, so the float quotient
`m-range / axial sampling` of the source is not exact) and on generated scanners with such ring spacings and 2 … 64 rings, and compares
the number of axial positions and the first / last `m` and the axial sampling in millimetres of every output segment (operation `ssrbm`)
with the model. -/

/-- "puts the counts of every detector pair into the bin that the output geometry assigns to that pair" — the axial coordinate:
    in any segment whose axial positions sit on the physical rings, the `m` of the axial position assigned to ring pair `(r1, r2)`
    is the physical mid-point `2·(r1 + r2 − (R−1))` (quarter ring spacings), for every number of rings `R`. -/
theorem C15_m_of_ring_pair (R : Int) (s : Seg) (off r1 r2 : Int) (hoff : s.axOff R = some off) (hex : s.Exact off)
    (hrd : s.minRD ≤ r2 - r1 ∧ r2 - r1 ≤ s.maxRD) :
    s.m4 (s.axOf off r1 r2) = 2 * (r1 + r2 - (R - 1)) :=
  m4_axOf hoff hex hrd

/-- `ssrb_commutes_with_binning`, axial (ring-pair) part, for every number of rings and every `num_segments_to_combine` (its half `≥ 0`):
    let `og` be the output segment `os` built by `SSRB(ProjDataInfo…)` from the input segments `os·k − k/2 … os·k + k/2`; for every ring
    pair binned by the input geometry into `(is, ia)` with `is` in that group, the *output geometry's own* binning of the pair
    (`og.axOf`) exists, is in range, has the same `m`, and lies in the ring-difference range of `og`. -/
theorem C15_ssrb_axial_commutes (p : PDI) (kSeg os : Int) (og : Seg) (hk : 0 ≤ kSeg.tdiv 2)
    (h : ssrbOutSeg p kSeg os = some og)
    (wf : GroupWF p (os * kSeg - kSeg.tdiv 2) (os * kSeg + kSeg.tdiv 2))
    (is : Int) (his : os * kSeg - kSeg.tdiv 2 ≤ is ∧ is ≤ os * kSeg + kSeg.tdiv 2) (sg : Seg) (hsg : p.seg? is = some sg)
    (off : Int) (hoff : sg.axOff p.R = some off) (hex : sg.Exact off)
    (r1 r2 : Int) (hrd : sg.minRD ≤ r2 - r1 ∧ r2 - r1 ≤ sg.maxRD)
    (hax : 0 ≤ sg.axOf off r1 r2 ∧ sg.axOf off r1 r2 < sg.numAx) :
    ∃ offO, og.axOff p.R = some offO ∧ og.Exact offO ∧ og.minRD ≤ r2 - r1 ∧ r2 - r1 ≤ og.maxRD ∧
      0 ≤ og.axOf offO r1 r2 ∧ og.axOf offO r1 r2 < og.numAx ∧
      og.m4 (og.axOf offO r1 r2) = sg.m4 (sg.axOf off r1 r2) := by
  obtain ⟨a, a1, _, ha, ha1, _, hmin, hmax, _⟩ := ssrbOutSeg_eq_some_iff.mp h
  have hw := GroupWF.rd_within wf ha ha1 his.1 his.2 hsg
  obtain ⟨hon, hgrid⟩ := ssrbOutSeg_grid hk h wf his hsg
  obtain ⟨offO, hoffO, hexO⟩ := hon off hoff hex
  have hrdO : og.minRD ≤ r2 - r1 ∧ r2 - r1 ≤ og.maxRD := by omega
  -- a ring pair has the same `m` in every segment on the rings (`m4_axOf`), so its position in `og` is the one the grid has at that `m`
  obtain ⟨oa, o0, o1, hm⟩ := hgrid _ hax.1 hax.2
  have hmO := m4_axOf hoffO hexO hrdO
  rw [← m4_axOf hoff hex hrd, ← hm] at hmO
  refine ⟨offO, hoffO, hexO, hrdO.1, hrdO.2, ?_⟩
  rw [m4_inj og _ _ hmO]
  exact ⟨o0, o1, hm⟩

/-- the scan of `SSRB(ProjData&…)` over the axial positions (first position with equal `m`, then `break`) selects exactly the
    position with that `m`: no sinogram is added twice, none is missed. -/
theorem C15_ssrb_axial_target_unique (sg : Seg) (a : Int) (ha : 0 ≤ a ∧ a < sg.numAx) : firstAxWithM sg (sg.m4 a) = some a :=
  firstAxWithM_eq_some.mpr ⟨ha.1, ha.2, rfl⟩

/-- `ssrb_commutes_with_binning`, view part: `in_view / num_views_to_combine` is the view the output geometry (mashing `m·k`) assigns -/
theorem C15_ssrb_view_commutes (u m k : Int) (hu : 0 ≤ u) (hm : 0 < m) (hk : 0 < k) : (u.tdiv m).tdiv k = u.tdiv (m * k) :=
  tdiv_tdiv_of_nonneg u m k hu (Int.le_of_lt hm)

/-- `ssrb_commutes_with_binning`, TOF part (odd mashing factor, odd number of TOF bins to combine) -/
theorem C15_ssrb_tof_commutes (t m k ot : Int) (hm : 0 < m) (hmo : m % 2 = 1) (hk : 0 < k) (hko : k % 2 = 1) :
    tofInWindow m (m * k) (roundDiv t m) ot = true ↔ ot = roundDiv t (m * k) :=
  ⟨fun h => tofInWindow_unique _ _ _ _ _ (Int.mul_pos hm hk) h (tof_in_window t m k hm hmo hk hko),
   fun h => h ▸ tof_in_window t m k hm hmo hk hko⟩

/-- **`ssrb_commutes_with_binning`** (full bins, real data structures, every number of rings / detectors / segments).
    `pout = SSRB(pin, kSeg, kView, trim, maxSeg, kTof)`, `kSeg > 0`; `pin` well formed (`PDI.WF`; decidable form `PDI.wfb`, see
    `C15_wfb_sound`); views `N/2 = V·mIn`, `kView ∣ V`; TOF: non-TOF input, or TOF scanner with odd mashing factor and odd `kTof`.
    For every detector-position pair `dp` (its azimuthal index `≥ 0`: C01 proves this for valid detector numbers) binned by the input
    geometry into `bi` (inside the input's axial range) and by the output geometry into `bo`: the loop nest of `SSRB(out, in)` adds the
    sinogram of `bi` into the sinogram of `bo`, at the view and tangential position of `bo`. -/
theorem C15_ssrb_commutes_with_binning (pin pout : PDI) (kSeg kView trim maxSegArg kTof : Int)
    (hinfo : ssrbInfo pin kSeg kView trim maxSegArg kTof = some pout) (hk : 0 < kSeg) (wf : pin.WF)
    (mIn W : Int) (hmash : pin.N.tdiv 2 = pin.numViews * mIn) (hmIn : 0 < mIn) (hV : pin.numViews = W * kView) (hW : 0 < W)
    (hkV : 0 < kView)
    (htof0 : pin.tofMash = 0 ∨ (0 < pin.tofMash ∧ pin.tofMash % 2 = 1 ∧ kTof % 2 = 1 ∧ 0 < pin.T))
    (dp : DetPair) (hv : 0 ≤ (detToViewTang pin.N dp.d1 dp.d2).1) (bi bo : Bin)
    (hbi : pin.toGeom.binForDetPair dp = some bi) (hbir : ∀ sg, pin.seg? bi.seg = some sg → 0 ≤ bi.ax ∧ bi.ax < sg.numAx)
    (hbo : pout.toGeom.binForDetPair dp = some bo) :
    pullsSino pin pout bo.seg bo.ax bo.tof bi.seg bi.ax bi.tof = true ∧ bo.view = bi.view.tdiv kView ∧ bo.tang = bi.tang :=
  ssrb_commutes_with_binning pin pout kSeg kView trim maxSegArg kTof hinfo hk wf mIn W hmash hmIn hV hW hkV htof0 dp hv bi bo hbi hbir hbo

/-- "histogramming at the coarse sampling equals histogramming finely and then rebinning", bin by bin, with the exact account of
    trimming: the output geometry's bin `bo` of the pair is written (`∈ targets`) exactly when it lies inside the output's tangential and
    TOF ranges; and (`kSeg` odd; TOF output or non-TOF output with TOF range 0..0) nothing but `bo` is written for that input bin. -/
theorem C15_ssrb_targets_exact (pin pout : PDI) (kSeg kView trim maxSegArg kTof : Int)
    (hinfo : ssrbInfo pin kSeg kView trim maxSegArg kTof = some pout) (hk : 0 < kSeg) (hodd : kSeg % 2 = 1) (wf : pin.WF)
    (mIn W : Int) (hmash : pin.N.tdiv 2 = pin.numViews * mIn) (hmIn : 0 < mIn) (hV : pin.numViews = W * kView) (hW : 0 < W)
    (hkV : 0 < kView)
    (htof0 : pin.tofMash = 0 ∨ (0 < pin.tofMash ∧ pin.tofMash % 2 = 1 ∧ kTof % 2 = 1 ∧ 0 < pin.T))
    (dp : DetPair) (hv : 0 ≤ (detToViewTang pin.N dp.d1 dp.d2).1) (bi bo : Bin)
    (hbi : pin.toGeom.binForDetPair dp = some bi) (hbir : ∀ sg, pin.seg? bi.seg = some sg → 0 ≤ bi.ax ∧ bi.ax < sg.numAx)
    (hbit : pin.minTang ≤ bi.tang ∧ bi.tang ≤ pin.maxTang)
    (hbo : pout.toGeom.binForDetPair dp = some bo) :
    (bo ∈ targets pin pout bi ↔ (pout.minTang ≤ bo.tang ∧ bo.tang ≤ pout.maxTang ∧ pout.minTof ≤ bo.tof ∧ bo.tof ≤ pout.maxTof)) ∧
    ((0 < pout.tofMash ∨ (pout.minTof = 0 ∧ pout.maxTof = 0)) → ∀ x ∈ targets pin pout bi, x = bo) := by
  obtain ⟨⟨og, hog, ha1, ha2⟩, hp, hview, htang⟩ := ssrb_bin_commutes hinfo hk wf hmash hmIn hV hW hkV htof0 dp hv
    hbi hbir hbo
  have hviews := (ssrbInfo_fields hinfo).2.2
  have hkv : pin.numViews.tdiv pout.numViews = kView := by
    rw [hviews, hV, Int.mul_tdiv_cancel _ (Int.ne_of_gt hkV), Int.mul_comm, Int.mul_tdiv_cancel _ (Int.ne_of_gt hW)]
  constructor
  · rw [mem_targets, mem_outSinos, hkv, htang]
    constructor
    · rintro ⟨⟨h1, h2⟩, ⟨_, _, _, _, h5, h6⟩, _⟩
      exact ⟨Int.le_trans (Int.le_max_right _ _) h1, Int.le_trans h2 (Int.min_le_right _ _), h5, h6⟩
    · rintro ⟨h1, h2, h3, h4⟩
      exact ⟨⟨Int.max_le.mpr ⟨hbit.1, h1⟩, Int.le_min.mpr ⟨hbit.2, h2⟩⟩, ⟨og, hog, ha1, ha2, h3, h4⟩, hp, hview, rfl⟩
  · intro hTof x hx
    rw [mem_targets, hkv, mem_outSinos] at hx
    obtain ⟨_, ⟨_, _, _, _, hx5, hx6⟩, hpx, hvx, htx⟩ := hx
    -- a non-TOF output has the single TOF position 0, where `bo` lies
    have hTof' : 0 < pout.tofMash ∨ x.tof = bo.tof := by
      rcases hTof with h | ⟨h1, h2⟩
      · exact Or.inl h
      · rcases ssrbInfo_tof_cases hinfo htof0 with ⟨_, hz⟩ | ⟨hm, _, hkT, _, e⟩
        · have hbt := binForDetPair_tof_zero _ dp bo hbo hz
          exact Or.inr (by omega)
        · exact Or.inl (e ▸ Int.mul_pos hm hkT)
    obtain ⟨e1, e2, e3⟩ := pullsSino_unique hinfo hk hodd wf hTof' hpx hp
    cases x
    cases bo
    simp only at e1 e2 e3 hvx htx hview htang
    simp only [Bin.mk.injEq]
    exact ⟨e1, by rw [hvx, hview], e2, by rw [htx, htang], e3⟩

/-- no double counting: an input sinogram is added into at most one output sinogram (odd `kSeg`; TOF output or a single output TOF position) -/
theorem C15_ssrb_no_double_counting (pin pout : PDI) (kSeg kView trim maxSegArg kTof : Int)
    (hinfo : ssrbInfo pin kSeg kView trim maxSegArg kTof = some pout) (hk : 0 < kSeg) (hodd : kSeg % 2 = 1) (wf : pin.WF)
    (os oa ot os' oa' ot' is ia it : Int)
    (htof : 0 < pout.tofMash ∨ (pout.minTof = pout.maxTof ∧ pout.minTof ≤ ot ∧ ot ≤ pout.maxTof ∧ pout.minTof ≤ ot' ∧ ot' ≤ pout.maxTof))
    (h : pullsSino pin pout os oa ot is ia it = true) (h' : pullsSino pin pout os' oa' ot' is ia it = true) :
    os = os' ∧ oa = oa' ∧ ot = ot' :=
  pullsSino_unique hinfo hk hodd wf (htof.imp_right fun h => by omega) h h'

/-- the scan of `SSRB(out, in)` over the input segments recovers exactly the group each output segment was built from -/
theorem C15_ssrb_segment_group (pin : PDI) (wf : pin.WF) (kSeg os : Int) (og : Seg) (hk : 0 ≤ kSeg.tdiv 2)
    (h : ssrbOutSeg pin kSeg os = some og) :
    inSegRange pin og = some (os * kSeg - kSeg.tdiv 2, os * kSeg + kSeg.tdiv 2) :=
  inSegRange_group wf hk h

/-- a Boolean check that implies the well-formedness hypothesis (sufficient, not a decision procedure) -/
theorem C15_wfb_sound (p : PDI) (h : p.wfb = true) : p.WF := by
  unfold PDI.wfb at h
  simp only [Bool.and_eq_true, List.all_eq_true, decide_eq_true_eq] at h
  obtain ⟨hall, hpw⟩ := h
  have hone : ∀ i s, p.seg? i = some s → ∃ off, s.axOff p.R = some off ∧ s.Exact off ∧ 1 ≤ s.numAx ∧ s.minRD ≤ s.maxRD := by
    intro i s hs
    have := hall s (seg?_mem p.toGeom i s hs)
    split at this
    · exact absurd this (by simp)
    · rename_i off hoff
      simp only [Bool.and_eq_true, decide_eq_true_eq] at this
      exact ⟨off, hoff, this.1.1, this.1.2, this.2⟩
  refine ⟨fun i s hs => (hone i s hs).imp fun _ h => ⟨h.1, h.2.1⟩, fun i s hs => (hone i s hs).elim fun _ h => h.2.2.1,
    fun i s hs => (hone i s hs).elim fun _ h => h.2.2.2, ?_⟩
  intro i j si sj hij hsi hsj
  obtain ⟨ki, hki, hi, rfl⟩ := (PDI.seg?_eq_some_iff p i si).mp hsi
  obtain ⟨kj, hkj, hj, rfl⟩ := (PDI.seg?_eq_some_iff p j sj).mp hsj
  exact (List.pairwise_iff_getElem.mp hpw) ki kj hki hkj (by omega)

/-- exact account of totals for `SSRB` without normalisation (any geometries): output total = Σ over input bins of
    value × (number of output bins the loops add it to) -/
theorem C15_ssrb_total_account (pin pout : PDI) (data out : List (Bin × Rat)) (h : ssrbData pin pout false data = some out) :
    total out = (data.map fun bv => bv.2 * ((targets pin pout bv.1).length : Rat)).sum :=
  ssrbData_total h

/-- every input bin is added into at most one output bin (odd `kSeg`; TOF output or a single output TOF position) -/
theorem C15_ssrb_at_most_one_target (pin pout : PDI) (kSeg kView trim maxSegArg kTof : Int)
    (hinfo : ssrbInfo pin kSeg kView trim maxSegArg kTof = some pout) (hk : 0 < kSeg) (hodd : kSeg % 2 = 1) (wf : pin.WF)
    (htof : 0 < pout.tofMash ∨ pout.minTof = pout.maxTof) (b : Bin) : (targets pin pout b).length ≤ 1 :=
  targets_length_le_one hinfo hk hodd wf htof b

/-- **`ssrb_conserves_total`** "total counts are conserved when no range is trimmed", with the exact account otherwise: the output total
    is the total of the input bins that have a target; if every input bin has one (by `C15_ssrb_targets_exact`: the bin of every detector
    pair whose output bin lies inside the output's tangential / TOF ranges), the total is conserved.  (TOF output, or a single output TOF position as for non-TOF data.) -/
theorem C15_ssrb_conserves_total (pin pout : PDI) (kSeg kView trim maxSegArg kTof : Int)
    (hinfo : ssrbInfo pin kSeg kView trim maxSegArg kTof = some pout) (hk : 0 < kSeg) (hodd : kSeg % 2 = 1) (wf : pin.WF)
    (htof : 0 < pout.tofMash ∨ pout.minTof = pout.maxTof) (data out : List (Bin × Rat)) (h : ssrbData pin pout false data = some out) :
    total out = total (data.filter fun bv => (targets pin pout bv.1).length != 0) ∧
    ((∀ bv ∈ data, targets pin pout bv.1 ≠ []) → total out = total data) :=
  ssrb_conserves_total pin pout kSeg kView trim maxSegArg kTof hinfo hk hodd wf htof data out h

/-- "physical positions": the azimuthal angle of an output view is the mean of the angles of the views mashed into it -/
theorem C15_ssrb_phi_mean (offIn sampIn : ℚ) (W : ℤ) (k : ℕ) (hW : 0 < W) (hk : 0 < k) (ov : ℤ) :
    (ssrbPhi offIn sampIn (W * k) k).1 + ov * (ssrbPhi offIn sampIn (W * k) k).2
      = (∑ j ∈ range k, (offIn + ((ov * k + j : ℤ) : ℚ) * sampIn)) / k := by
  have hsum : ∀ n : ℕ, ∑ j ∈ range n, (offIn + ((ov * k + j : ℤ) : ℚ) * sampIn)
      = n * (offIn + ov * k * sampIn) + sampIn * ((n : ℚ) * ((n : ℚ) - 1) / 2) := by
    intro n
    induction n with
    | zero => simp
    | succ m ih =>
      rw [sum_range_succ, ih]
      push_cast
      ring
  rw [hsum k, ssrbPhi_mul offIn sampIn (ne_of_gt hW) (by exact_mod_cast hk)]
  push_cast
  field_simp
  ring

/-! ### identity-like settings are the identity

"total counts are conserved when no range is trimmed" / "puts the counts of every detector pair into the bin that the output geometry
assigns to that pair" in the degenerate case where nothing is combined and nothing is trimmed: the output geometry IS the input geometry
and every bin comes back.  One argument at a time: the part of the geometry whose argument is at its identity value is unchanged whatever
the other arguments are (the harness evaluates the same statements on the implementation for every `ssrbinfo` / `ssrbdata` operation). -/

/-- identity-like settings ONE AT A TIME, for any successful call `SSRB(p, kSeg, kView, trim, maxSeg, kTof) = o`:
    scanner data are kept; `num_segments_to_combine = 1` ⇒ every output segment is the input segment of the same number, unchanged
    (ring differences, number of axial positions) — and with all segments processed the segment table is the input's;
    `num_views_to_combine = 1` ⇒ the number of views is kept; `num_tang_poss_to_trim = 0` ⇒ a centred tangential range is kept;
    `num_tof_bins_to_combine = 1` ⇒ TOF mashing factor and TOF range are kept. -/
theorem C15_ssrb_identity_settings (p o : PDI) (kSeg kView trim maxSegArg kTof : Int)
    (h : ssrbInfo p kSeg kView trim maxSegArg kTof = some o) :
    (o.N = p.N ∧ o.R = p.R ∧ o.T = p.T) ∧
    (kSeg = 1 → ∀ os og, o.seg? os = some og → p.seg? os = some og) ∧
    (kSeg = 1 → maxSegArg = -1 → p.minSeg = -p.maxSeg → o.minSeg = p.minSeg ∧ o.segs = p.segs) ∧
    (kView = 1 → o.numViews = p.numViews) ∧
    (trim = 0 → p.minTang = -(p.numTang.tdiv 2) → o.minTang = p.minTang ∧ o.maxTang = p.maxTang) ∧
    (kTof = 1 → o.tofMash = p.tofMash ∧ o.minTof = p.minTof ∧ o.maxTof = p.maxTof) := by
  have hseg := ssrbInfo_seg h
  obtain ⟨_, segs, tofMash, minTof, maxTof, hsegs, htof, rfl⟩ := ssrbInfo_eq_some_iff.mp h
  refine ⟨⟨rfl, rfl, rfl⟩, ?_, ?_, ?_, ?_, ?_⟩
  · intro hk os og hog
    have := hseg os og hog
    rw [hk, ssrbOutSeg_one] at this
    exact this
  · intro hk hm hsym
    subst hk hm
    rw [ssrbOutMax_one, collect_ssrbOutSeg_one p hsym] at hsegs
    exact ⟨by rw [ssrbOutMax_one, hsym], (Option.some.inj hsegs).symm⟩
  · intro hk
    subst hk
    exact Int.tdiv_one _
  · intro ht hc
    subst ht
    rw [setNumTang_centred p hc]
    exact ⟨rfl, rfl⟩
  · intro hk
    subst hk
    cases htof
    exact ⟨rfl, rfl, rfl⟩

/-- the full identity request `SSRB(p, 1, 1, 0, -1, 1)` succeeds and returns the input geometry — for every geometry with segments
    `-S … S` (`S ≥ 0`: also a single segment), any numbers of axial positions (also a single one), a non-empty centred tangential range -/
theorem C15_ssrb_identity_geometry (p : PDI) (hsym : p.minSeg = -p.maxSeg) (hseg : 0 ≤ p.maxSeg) (hnt : 0 < p.numTang)
    (hc : p.minTang = -(p.numTang.tdiv 2)) : ssrbInfo p 1 1 0 (-1) 1 = some p := by
  rw [ssrbInfo_eq_some_iff, ssrbOutMax_one]
  refine ⟨?_, p.segs, p.tofMash, p.minTof, p.maxTof, ?_, rfl, ?_⟩
  · unfold ssrbMaxIn
    simp
    omega
  · exact collect_ssrbOutSeg_one p hsym
  · rw [setNumTang_centred p hc, Int.tdiv_one, ← hsym]

/-- … and the azimuthal angles (offset, sampling) of the views are kept when one view is "combined" -/
theorem C15_ssrb_identity_phi (off samp : ℚ) (V : Int) (hV : V ≠ 0) : ssrbPhi off samp V 1 = (off, samp) := by
  have h := ssrbPhi_mul off samp hV Int.one_pos
  rw [Int.mul_one] at h
  rw [h]
  norm_num

/-- **identity-like settings must be the identity, bin by bin**: with the identity request the loops of `SSRB(out, in)` add the bin of
    every detector pair (inside the ranges of the geometry) into exactly that bin and nowhere else (`targets p p bi = [bi]`; what `ssrbData`
    then returns for a whole data set is not stated).
    (Well-formed geometry, `N/2 = V·m`; non-TOF, or TOF scanner with an odd mashing factor.) -/
theorem C15_ssrb_identity_data (p : PDI) (hsym : p.minSeg = -p.maxSeg) (hseg : 0 ≤ p.maxSeg) (hnt : 0 < p.numTang)
    (hc : p.minTang = -(p.numTang.tdiv 2)) (wf : p.WF)
    (mIn : Int) (hmash : p.N.tdiv 2 = p.numViews * mIn) (hmIn : 0 < mIn) (hV : 0 < p.numViews)
    (htof0 : p.tofMash = 0 ∨ (0 < p.tofMash ∧ p.tofMash % 2 = 1 ∧ 0 < p.T))
    (htr : 0 < p.tofMash ∨ (p.minTof = 0 ∧ p.maxTof = 0))
    (dp : DetPair) (hv : 0 ≤ (detToViewTang p.N dp.d1 dp.d2).1) (bi : Bin)
    (hbi : p.toGeom.binForDetPair dp = some bi) (hbir : ∀ sg, p.seg? bi.seg = some sg → 0 ≤ bi.ax ∧ bi.ax < sg.numAx)
    (hbit : p.minTang ≤ bi.tang ∧ bi.tang ≤ p.maxTang) (hbif : p.minTof ≤ bi.tof ∧ bi.tof ≤ p.maxTof) :
    targets p p bi = [bi] := by
  have hid := C15_ssrb_identity_geometry p hsym hseg hnt hc
  have hex := C15_ssrb_targets_exact p p 1 1 0 (-1) 1 hid (by decide) (by decide) wf mIn p.numViews hmash hmIn (by simp) hV (by decide)
    (htof0.imp id fun h => ⟨h.1, h.2.1, by decide, h.2.2⟩) dp hv bi bi hbi hbir hbit hbi
  have hmem : bi ∈ targets p p bi := hex.1.mpr ⟨hbit.1, hbit.2, hbif.1, hbif.2⟩
  have hlen := C15_ssrb_at_most_one_target p p 1 1 0 (-1) 1 hid (by decide) (by decide) wf
    (htr.imp id fun h => by rw [h.1, h.2]) bi
  match hl : targets p p bi, hmem, hlen with
  | [x], hm, _ => rw [List.mem_singleton.mp hm]
  | _ :: _ :: _, _, hl' => simp at hl'

/-! ### the axial grid of the output segments for ANY ring spacing

"total counts are conserved when no range is trimmed" / "puts the counts of every detector pair into the bin that the output geometry
assigns to that pair" need the output segments of `SSRB(ProjDataInfo…)` to have exactly the axial positions of their input segments.
The source finds their number from float millimetres (`number_of_ms = (max_m − min_m)/axial_sampling + 1`, SSRB.cxx:126-130); for a ring
spacing that is not a dyadic rational the float quotient is an ulp off the integer, and the result must not depend on that. -/

/-- the source's `number_of_ms`, evaluated EXACTLY in millimetres for any ring spacing `rs > 0`, is the integer number of axial positions
    that the model (`ssrbOutSeg`, quarter ring spacings) gives the output segment: the ring spacing cancels.  So `round(number_of_ms) − 1` is
    the last axial position whatever the scanner, and a conversion that turns a float quotient an ulp below the integer into one
    position fewer is wrong for that scanner (the correspondence run compares the axial counts of every output segment). -/
theorem C15_ssrb_number_of_ms_any_ring_spacing (p : PDI) (kSeg os : Int) (og : Seg)
    (h : ssrbOutSeg p kSeg os = some og) (rs : ℚ) (hrs : 0 < rs) :
    ∃ first grp, p.seg? (os * kSeg - kSeg.tdiv 2) = some first ∧
      collect p.seg? (irange (os * kSeg - kSeg.tdiv 2) (os * kSeg + kSeg.tdiv 2)) = some grp ∧
      ssrbNumberOfMs grp first og.inc rs = (og.numAx : ℚ) := by
  obtain ⟨a, _, grp, ha, _, hgrp, _, _, hspan⟩ := ssrbOutSeg_eq_some_iff.mp h
  refine ⟨a, grp, ha, hgrp, ?_⟩
  rw [ssrbNumberOfMs_eq grp a og.inc rs hrs, hspan]
  push_cast
  ring

/-- **no input sinogram without a receiving output sinogram**: every axial position of every input segment of the group of output
    segment `os` has an axial position of the output segment with the same `m` — in quarter ring spacings and in millimetres for every
    ring spacing.  (`SSRB(out, in)` moves sinograms by equal `m`: a position without a partner would lose its counts.) -/
theorem C15_ssrb_no_input_position_lost (p : PDI) (kSeg os : Int) (og : Seg) (hk : 0 ≤ kSeg.tdiv 2)
    (h : ssrbOutSeg p kSeg os = some og)
    (wf : GroupWF p (os * kSeg - kSeg.tdiv 2) (os * kSeg + kSeg.tdiv 2))
    (is : Int) (his : os * kSeg - kSeg.tdiv 2 ≤ is ∧ is ≤ os * kSeg + kSeg.tdiv 2) (sg : Seg) (hsg : p.seg? is = some sg)
    (ia : Int) (hia : 0 ≤ ia ∧ ia < sg.numAx) :
    ∃ oa, 0 ≤ oa ∧ oa < og.numAx ∧ og.m4 oa = sg.m4 ia ∧ ∀ rs : ℚ, og.mMm rs oa = sg.mMm rs ia := by
  obtain ⟨oa, h1, h2, h3⟩ := (ssrbOutSeg_grid hk h wf his hsg).2 ia hia.1 hia.2
  refine ⟨oa, h1, h2, h3, fun rs => ?_⟩
  unfold Seg.mMm
  rw [h3]

/-- the output grid ends where the inputs end: the first / last axial position of the output segment has the smallest / largest `m` of
    the axial positions of its input segments -/
theorem C15_ssrb_output_grid_spans_input (p : PDI) (kSeg os : Int) (og : Seg) (hk : 0 ≤ kSeg.tdiv 2)
    (h : ssrbOutSeg p kSeg os = some og)
    (wf : GroupWF p (os * kSeg - kSeg.tdiv 2) (os * kSeg + kSeg.tdiv 2)) :
    (∀ is sg, os * kSeg - kSeg.tdiv 2 ≤ is → is ≤ os * kSeg + kSeg.tdiv 2 → p.seg? is = some sg →
        og.m4 0 ≤ sg.m4 0 ∧ sg.m4 (sg.numAx - 1) ≤ og.m4 (og.numAx - 1)) ∧
    (∃ is sg, os * kSeg - kSeg.tdiv 2 ≤ is ∧ is ≤ os * kSeg + kSeg.tdiv 2 ∧ p.seg? is = some sg ∧
        og.m4 0 = sg.m4 0 ∧ sg.m4 (sg.numAx - 1) = og.m4 (og.numAx - 1)) := by
  obtain ⟨hle, is, sg, h1, h2, hsg, hm⟩ := ssrbOutSeg_last hk h
  constructor
  · intro is sg h1 h2 hsg
    have := hle is sg h1 h2 hsg
    rw [m4_zero_neg og, m4_zero_neg sg]
    omega
  · refine ⟨is, sg, h1, h2, hsg, ?_, hm⟩
    rw [m4_zero_neg og, m4_zero_neg sg, hm]

/-- **a legal request is served**: when the input has all the (well-formed) segments of the group, the loop body of
    `SSRB(ProjDataInfo…)` for that output segment does not call `error` — in exact arithmetic the m-range of the group is a whole
    number of output samples, for every ring spacing (the harness demands the same of the implementation: `ssrbinfo` must not answer
    `err` for a legal request). -/
theorem C15_ssrb_legal_request_served (p : PDI) (kSeg os : Int) (hk : 0 ≤ kSeg.tdiv 2)
    (wf : GroupWF p (os * kSeg - kSeg.tdiv 2) (os * kSeg + kSeg.tdiv 2))
    (hex : ∀ i, os * kSeg - kSeg.tdiv 2 ≤ i → i ≤ os * kSeg + kSeg.tdiv 2 → ∃ s, p.seg? i = some s) :
    ∃ og, ssrbOutSeg p kSeg os = some og :=
  ssrbOutSeg_isSome p kSeg os hk wf.offs hex

/-! ### the violation on the unchanged tree (C01's "LORs shifted" geometries): negative witness -/

/-- 16 detectors, 4 rings, span 3, max ring difference 2 (`ProjDataInfo::construct_proj_data_info` builds it with a warning): the outer
    segments are clipped to the single ring difference ±2 but keep the `2·4 − 1 − 2·2 = 3` axial positions of a span-3 segment -/
def witnessIn : PDI :=
  { N := 16, R := 4, T := 0, minSeg := -1, segs := [⟨-2, -2, 3⟩, ⟨-1, 1, 7⟩, ⟨2, 2, 3⟩], numViews := 8, minTang := -3, maxTang := 3,
    tofMash := 0, minTof := 0, maxTof := 0 }
def witnessOut : PDI := { witnessIn with minSeg := 0, segs := [⟨-2, 2, 7⟩] }

theorem C15_witness_is_ssrb_output : ssrbInfo witnessIn 3 1 0 (-1) 1 = some witnessOut := by decide +kernel

/-- detector pair (det 0, ring 0)–(det 8, ring 2): histogrammed into input bin (seg 1, ax 0), which `SSRB` adds into output
    (seg 0, ax 1) — while the output geometry bins the same pair into (seg 0, ax 2).  Replayed on the implementation by the harness
    (known finding `ssrb:ringpairs:outermost-segment-clipped-to-single-ring-difference-of-odd-parity`). -/
theorem C15_ssrb_shifted_segment_fails :
    witnessIn.toGeom.binForDetPair ⟨0, 0, 8, 2, 0⟩ = some ⟨1, 0, 0, 0, 0⟩ ∧
    targets witnessIn witnessOut ⟨1, 0, 0, 0, 0⟩ = [⟨0, 0, 1, 0, 0⟩] ∧
    witnessOut.toGeom.binForDetPair ⟨0, 0, 8, 2, 0⟩ = some ⟨0, 0, 2, 0, 0⟩ := by decide +kernel

/-- the hypothesis of `C15_m_of_ring_pair` that excludes it: segment 1 of the witness is not `Exact` -/
theorem C15_witness_not_exact : ¬ (⟨2, 2, 3⟩ : Seg).Exact 1 ∧ (⟨2, 2, 3⟩ : Seg).axOff 4 = some 1 := by
  constructor
  · intro h
    exact absurd (h rfl) (by decide)
  · decide

/-! ## overlap interpolation / zoom (specification level; the transcribed loops `overlapVec`, `overlapIter` are compared with
`specBox` on every operation of the correspondence run by the driver — that link is not a theorem).

The same holds for the rows of `zoomViewgram` / `zoomViewgramInPlace` (`zoom_viewgram`, `zoom_viewgrams` on arc-corrected viewgrams,
operation `zvg` of the correspondence): every row is `overlapVec` with `zoom = in_bin/out_bin` and
`offset = (x cos φ + y sin φ)/in_bin` (`C15_zoom_viewgram_rows`), and the driver compares every row with `overlapSpecVec`.  So the
one-axis theorems `C15_zoom_axis_preserve_sum`, `C15_zoom_axis_uniform`, `C15_zoom_axis_com_bound` below are, with `vin` = the input's
tangential sampling, also the statements "counts of a row are conserved when the new tangential range covers the data", "uniform rows
stay uniform (value · zoom)" and "the centroid of a row moves by at most half the sum of the bin sizes" for zoomed viewgrams. -/

/-- exact account of what a non-covering output range removes: each input box keeps its part inside `[oc 0, oc m]` -/
theorem C15_overlap_trimmed_account (n m : ℕ) (inv ic oc : ℕ → ℚ)
    (hic : ∀ j < n, ic j ≤ ic (j + 1)) (hoc : ∀ i < m, oc i ≤ oc (i + 1)) :
    ∑ i ∈ range m, specBox n inv ic (oc i) (oc (i + 1))
      = ∑ j ∈ range n, inv j * (clamp (ic j) (ic (j + 1)) (oc m) - clamp (ic j) (ic (j + 1)) (oc 0)) := by
  simp only [specBox_eq]
  rw [sum_comm]
  apply sum_congr rfl
  intro j hj
  rw [← mul_sum, sum_ovLen_telescope hoc]

/-- `overlap_conserves` + `zoom_preserve_sum` (any box boundaries): consecutive output boxes covering the input ⇒ the total is conserved -/
theorem C15_overlap_conserves (n m : ℕ) (inv ic oc : ℕ → ℚ)
    (hic : ∀ j < n, ic j ≤ ic (j + 1)) (hoc : ∀ i < m, oc i ≤ oc (i + 1)) (hl : oc 0 ≤ ic 0) (hr : ic n ≤ oc m) :
    ∑ i ∈ range m, specBox n inv ic (oc i) (oc (i + 1)) = ∑ j ∈ range n, inv j * (ic (j + 1) - ic j) := by
  rw [C15_overlap_trimmed_account n m inv ic oc hic hoc]
  apply sum_congr rfl
  intro j hj
  have hj' := mem_range.mp hj
  obtain ⟨h0, h1⟩ := cover_box hic hl hr hj'
  rw [clamp_of_ge (hic j hj') h1, clamp_of_le h0]

/-- `zoom_preserve_values_uniform` (any box boundaries) -/
theorem C15_overlap_uniform (n : ℕ) (inv ic : ℕ → ℚ) (l r c : ℚ) (hlr : l ≤ r)
    (hic : ∀ j < n, ic j ≤ ic (j + 1)) (hl : ic 0 ≤ l) (hr : r ≤ ic n)
    (hc : ∀ j < n, ovLen (ic j) (ic (j + 1)) l r ≠ 0 → inv j = c) :
    specBox n inv ic l r = c * (r - l) := by
  rw [specBox_eq]
  -- seen from the output box: its overlaps with the consecutive input boxes telescope to its length
  have : ∀ j ∈ range n, inv j * ovLen (ic j) (ic (j + 1)) l r = c * ovLen l r (ic j) (ic (j + 1)) := by
    intro j hj
    rw [ovLen_comm l r]
    by_cases h0 : ovLen (ic j) (ic (j + 1)) l r = 0
    · rw [h0]
      ring
    · rw [hc j (mem_range.mp hj) h0]
  rw [sum_congr rfl this, ← mul_sum, sum_ovLen_cover hlr hic hl hr]

/-- `zoom_com_bound` (any box boundaries, non-negative data): the centre of mass moves by at most half the sum of the box sizes -/
theorem C15_overlap_com_bound (n m : ℕ) (inv ic oc : ℕ → ℚ) (win wout : ℚ)
    (hic : ∀ j < n, ic j ≤ ic (j + 1)) (hoc : ∀ i < m, oc i ≤ oc (i + 1))
    (hl : oc 0 ≤ ic 0) (hr : ic n ≤ oc m) (hpos : ∀ j < n, 0 ≤ inv j)
    (hwin : ∀ j < n, ic (j + 1) - ic j ≤ win) (hwout : ∀ i < m, oc (i + 1) - oc i ≤ wout)
    (htot : 0 < ∑ j ∈ range n, inv j * (ic (j + 1) - ic j)) :
    |(∑ i ∈ range m, specBox n inv ic (oc i) (oc (i + 1)) * ((oc i + oc (i + 1)) / 2)) / (∑ i ∈ range m, specBox n inv ic (oc i) (oc (i + 1)))
        - (∑ j ∈ range n, inv j * (ic (j + 1) - ic j) * ((ic j + ic (j + 1)) / 2)) / (∑ j ∈ range n, inv j * (ic (j + 1) - ic j))|
      ≤ (win + wout) / 2 := by
  rw [C15_overlap_conserves n m inv ic oc hic hoc hl hr]
  have hb := spec_com_bound hic hoc hl hr hpos hwin hwout
  generalize (∑ j ∈ range n, inv j * (ic (j + 1) - ic j)) = M at *
  rw [← sub_div, abs_div, abs_of_pos htot, div_le_iff₀ htot]
  exact hb

/-- `zoom_preserve_sum` on the regular grids of `zoom_image`, one axis -/
theorem C15_zoom_axis_preserve_sum (n m : ℕ) (inv : ℕ → ℚ) (ilo olo : ℤ) (zoom offset : ℚ) (hz : 0 < zoom)
    (hl : outEdge olo zoom offset 0 ≤ inEdge ilo 0) (hr : inEdge ilo n ≤ outEdge olo zoom offset m) :
    ∑ i ∈ range m, specBox n inv (inEdge ilo) (outEdge olo zoom offset i) (outEdge olo zoom offset (i + 1)) = ∑ j ∈ range n, inv j := by
  rw [C15_overlap_conserves n m inv (inEdge ilo) (outEdge olo zoom offset) (fun j _ => inEdge_le ilo j)
    (fun i _ => outEdge_le olo zoom offset hz i) hl hr]
  simp only [inEdge_step, mul_one]

/-- `zoom_preserve_values_uniform` on the regular grids, one axis: `zoom · out_i = c` -/
theorem C15_zoom_axis_uniform (n : ℕ) (inv : ℕ → ℚ) (ilo olo : ℤ) (zoom offset c : ℚ) (hz : 0 < zoom) (i : ℕ)
    (hl : inEdge ilo 0 ≤ outEdge olo zoom offset i) (hr : outEdge olo zoom offset (i + 1) ≤ inEdge ilo n)
    (hc : ∀ j < n, ovLen (inEdge ilo j) (inEdge ilo (j + 1)) (outEdge olo zoom offset i) (outEdge olo zoom offset (i + 1)) ≠ 0 → inv j = c) :
    zoom * specBox n inv (inEdge ilo) (outEdge olo zoom offset i) (outEdge olo zoom offset (i + 1)) = c := by
  have hstep := outEdge_step olo zoom offset i
  rw [C15_overlap_uniform n inv (inEdge ilo) _ _ c (outEdge_le olo zoom offset hz i) (fun j _ => inEdge_le ilo j) hl hr hc, hstep]
  field_simp

/-- `zoom_com_bound` on the regular grids, one axis, in millimetres: `≤ ½(v_in + v_out)` with `v_out = v_in/zoom` -/
theorem C15_zoom_axis_com_bound (n m : ℕ) (inv : ℕ → ℚ) (ilo olo : ℤ) (zoom offset vin : ℚ) (hz : 0 < zoom) (hv : 0 < vin)
    (hl : outEdge olo zoom offset 0 ≤ inEdge ilo 0) (hr : inEdge ilo n ≤ outEdge olo zoom offset m)
    (hpos : ∀ j < n, 0 ≤ inv j) (htot : 0 < ∑ j ∈ range n, inv j) :
    let out := fun i => specBox n inv (inEdge ilo) (outEdge olo zoom offset i) (outEdge olo zoom offset (i + 1))
    let cOut := fun i => vin * ((outEdge olo zoom offset i + outEdge olo zoom offset (i + 1)) / 2)
    let cIn := fun j => vin * ((inEdge ilo j + inEdge ilo (j + 1)) / 2)
    |(∑ i ∈ range m, out i * cOut i) / (∑ i ∈ range m, out i) - (∑ j ∈ range n, inv j * cIn j) / (∑ j ∈ range n, inv j)|
      ≤ (vin + vin / zoom) / 2 := by
  intro out cOut cIn
  -- in index units the input boxes have length 1, the output boxes `1/zoom`
  have h := C15_overlap_com_bound n m inv (inEdge ilo) (outEdge olo zoom offset) 1 (1 / zoom) (fun j _ => inEdge_le ilo j)
    (fun i _ => outEdge_le olo zoom offset hz i) hl hr hpos
    (fun j _ => le_of_eq (inEdge_step ilo j)) (fun i _ => le_of_eq (outEdge_step olo zoom offset i))
  simp only [inEdge_step, mul_one] at h
  specialize h htot
  -- the physical coordinates are `vin` times the index coordinates
  simp only [out, cOut, cIn, mul_left_comm _ vin, ← mul_sum]
  rw [mul_div_assoc, mul_div_assoc, ← mul_sub, abs_mul, abs_of_pos hv]
  calc vin * _ ≤ vin * ((1 + 1 / zoom) / 2) := mul_le_mul_of_nonneg_left h (le_of_lt hv)
    _ = (vin + vin / zoom) / 2 := by ring

/-! ## `zoom_image`: degenerate requests (zoom exactly 1 and / or no offset along some axes)

`zoomImage3` (`zoom_image(VoxelsOnCartesianGrid& out, in, options)`: behind the one-call 3-D-parameter, in-place and two-step variants),
`zoomImage2` (`zoom_image(PixelsOnCartesianGrid& out, in, options)`: behind the transaxial one-call and in-place variants) and
`overlapVec` are compared with the implementation on every operation `zoom 3d|2d|out|pl`; the requests include, per axis
independently, zoom exactly 1 with offset 0 / ≠ 0 and offsets along one axis only, into grids of the same and of another size, with all
three scalings (harness `run_zoom_degenerate`; operation `zoom pl` drives the transaxial two-step call directly, plane by plane into a
re-used plane). -/

/-- "the result does not depend on [the variant]" / conservation in the simplest case: zooming an image onto its own grid gives back
    the voxel values, with every `ZoomOptions` scaling (3-D two-step call; any non-zero voxel sizes) -/
theorem C15_zoom_image_identity (im : Img) (opt : ZoomOpt) (hx : im.g.vx ≠ 0) (hy : im.g.vy ≠ 0) (hz : im.g.vz ≠ 0) :
    zoomImage3 im.g im opt = im.d := by
  unfold zoomImage3
  simp [fl32_div_self _ hx, fl32_div_self _ hy, fl32_div_self _ hz, fl32_zero_div]

/-- the same for the transaxial two-step call on a plane -/
theorem C15_zoom_image2_identity (g : Grid) (pl : List (List ℚ)) (opt : ZoomOpt) (hx : g.vx ≠ 0) (hy : g.vy ≠ 0) :
    zoomImage2 g g pl opt = pl := by
  unfold zoomImage2
  simp [fl32_div_self _ hx, fl32_div_self _ hy, fl32_zero_div]

/-- and for the transaxial one-call variant `zoom_image(image, 1, 0, 0, x_size, options)` -/
theorem C15_zoom_image_params2_identity (im : Img) (opt : ZoomOpt) : zoomImageParams2 im 1 0 0 im.g.nx opt = im := by
  unfold zoomImageParams2
  simp

/-- **the plain-copy shortcut of the transaxial `zoom_image` is taken for the identity request only**: if ANY of the two zooms differs
    from 1, any of the two offsets (x OR y, in voxels of the input) differs from 0, or the index ranges differ, the plane goes through the
    two `overlap_interpolate` passes — x with `(zoom_x, x_offset)`, then y with `(zoom_y, y_offset)` — and the option scaling.
    (A shortcut that tests the y condition on the x offset copies planes unshifted when only the y offset is non-zero.) -/
theorem C15_zoom_image2_shortcut_only_identity (gout gi : Grid) (pl : List (List ℚ)) (opt : ZoomOpt)
    (h : fl32 (gi.vx / gout.vx) ≠ 1 ∨ fl32 (gi.vy / gout.vy) ≠ 1 ∨ fl32 (fl32 (gout.ox - gi.ox) / gi.vx) ≠ 0 ∨
         fl32 (fl32 (gout.oy - gi.oy) / gi.vy) ≠ 0 ∨ gi.ymin ≠ gout.ymin ∨ gi.xmin ≠ gout.xmin ∨ gi.ny ≠ gout.ny ∨ gi.nx ≠ gout.nx) :
    zoomImage2 gout gi pl opt =
      let zx := fl32 (gi.vx / gout.vx)
      let zy := fl32 (gi.vy / gout.vy)
      let t1 := pl.map (ovl gout.xmin gout.nx gi.xmin zx (fl32 (fl32 (gout.ox - gi.ox) / gi.vx)))
      let t2 := transpose2 gout.ny ((transpose2 gout.nx t1).map (ovl gout.ymin gout.ny gi.ymin zy (fl32 (fl32 (gout.oy - gi.oy) / gi.vy))))
      let scale : ℚ := match opt with
        | 1 => fl32 (zx * zy)
        | 2 => zy
        | _ => 1
      if scale != 1 then t2.map fun row => row.map (· * scale) else t2 := by
  unfold zoomImage2
  refine (if_neg ?_).trans rfl
  simp only [beq_iff_eq]
  rintro ⟨h1, h2, h3, h4, h5, h6, h7, h8⟩
  -- whichever of the eight conditions of the shortcut fails is contradicted by its equation
  rcases h with h | h | h | h | h | h | h | h
  all_goals exact h (by assumption)

/-- **pure shift** ("keeps the centre of mass in millimetres", exactly): `overlap_interpolate` with zoom exactly 1 and an offset of a whole
    number `k` of boxes — the pass that every axis of `zoom_image` / every row of `zoom_viewgram` makes for a shift by whole voxels / bins —
    copies the values: box `i` of the result is box `i + k` of the input (0 outside the input), whatever the two index ranges are.
    Nothing is blurred, lost inside the new range, or moved by anything but the shift.  (`hfl`: the first index of the output is a float.) -/
theorem C15_overlap_pure_shift (out inp : Vec) (k : Int) (hfl : fl32 (out.lo : ℚ) = out.lo) :
    (overlapVec out inp 1 (k : ℚ) true).vals = (List.range out.vals.length).map fun (j : Nat) => inp.get (out.lo + (j : Int) + k) :=
  overlapVec_pure_shift out inp k hfl

/-- **pure shift of a plane** — the transaxial `zoom_image(PixelsOnCartesianGrid& out, in, options)` (behind
    `zoom_image(image, zoom, x_offset, y_offset, size)` and its in-place variant) with both zooms exactly 1 and offsets of `kx`, `ky` whole
    pixels, not both 0 unless the index ranges differ: pixel `(j, c)` of the new plane holds the input pixel at the same position in mm,
    `(ymin' + j + ky, xmin' + c + kx)`, 0 outside the input — for EVERY `ZoomOptions` scaling (the factor is 1), whatever the two index
    ranges are.  In particular a shift along y only (`kx = 0`, `ky ≠ 0`, same size) moves every row by exactly `ky`: the centre of mass in
    mm stays where it is, the plane is not copied unshifted.  (`hflx`, `hfly`: the first indices of the new plane are floats.) -/
theorem C15_zoom_image2_pure_shift (gout gi : Grid) (pl : List (List ℚ)) (opt : ZoomOpt) (ky kx : Int)
    (hzx : fl32 (gi.vx / gout.vx) = 1) (hzy : fl32 (gi.vy / gout.vy) = 1)
    (hxo : fl32 (fl32 (gout.ox - gi.ox) / gi.vx) = kx) (hyo : fl32 (fl32 (gout.oy - gi.oy) / gi.vy) = ky)
    (hne : ky ≠ 0 ∨ kx ≠ 0 ∨ gi.ymin ≠ gout.ymin ∨ gi.xmin ≠ gout.xmin ∨ gi.ny ≠ gout.ny ∨ gi.nx ≠ gout.nx)
    (hflx : fl32 (gout.xmin : ℚ) = gout.xmin) (hfly : fl32 (gout.ymin : ℚ) = gout.ymin) :
    zoomImage2 gout gi pl opt =
      (List.range gout.ny).map fun (j : Nat) => (List.range gout.nx).map fun (c : Nat) =>
        planeAt gi pl (gout.ymin + (j : Int) + ky) (gout.xmin + (c : Int) + kx) := by
  have hns : fl32 (fl32 (gout.ox - gi.ox) / gi.vx) ≠ 0 ∨ fl32 (fl32 (gout.oy - gi.oy) / gi.vy) ≠ 0 ∨ gi.ymin ≠ gout.ymin ∨
      gi.xmin ≠ gout.xmin ∨ gi.ny ≠ gout.ny ∨ gi.nx ≠ gout.nx := by
    rw [hxo, hyo]
    simp only [ne_eq, Int.cast_eq_zero]
    omega
  rw [C15_zoom_image2_shortcut_only_identity gout gi pl opt (Or.inr (Or.inr hns))]
  simp only [hzx, hzy, hxo, hyo]
  -- the option scaling is by 1
  have hscale : (match opt with | 1 => fl32 ((1 : ℚ) * 1) | 2 => (1 : ℚ) | _ => 1) = 1 := by
    rcases opt with _ | _ | _ | n
    all_goals simp [fl32_one]
  simp only [hscale, bne_self_eq_false, Bool.false_eq_true, if_false]
  -- the x pass shifts every row by `kx`, the y pass every column by `ky`; the two transpositions act on tabulated rows
  rw [ovl_pure_shift gout.xmin gout.nx gi.xmin kx hflx, ovl_pure_shift gout.ymin gout.ny gi.ymin ky hfly, transpose2_map_range,
    transpose2_map_range]
  simp only [List.map_map, Function.comp_def, planeAt_column]

/-- non-vacuity: three boxes −1, 0, 1 holding 1, 2, 3 shifted by one box into the same range: 2, 3 and a zero; into the range 0 … 3: 3, 0, 0, 0 -/
example : (overlapVec ⟨-1, [7, 7, 7]⟩ ⟨-1, [1, 2, 3]⟩ 1 1 true).vals = [2, 3, 0] ∧
    (overlapVec ⟨0, [7, 7, 7, 7]⟩ ⟨-1, [1, 2, 3]⟩ 1 1 true).vals = [3, 0, 0, 0] ∧ fl32 ((-1 : Int) : ℚ) = ((-1 : Int) : ℚ) := by decide +kernel
/-- non-vacuity of the shortcut theorem: a 2 × 2 plane, voxel size 2 mm, the new grid 2 mm further along y only (one voxel): the y offset
    is 1 voxel, the x offset 0 — the rows move by one, the plane is not copied -/
example : zoomImage2 { zmin := 0, ymin := -1, xmin := -1, nz := 1, ny := 2, nx := 2, vz := 1, vy := 2, vx := 2, oz := 0, oy := 2, ox := 0 }
      { zmin := 0, ymin := -1, xmin := -1, nz := 1, ny := 2, nx := 2, vz := 1, vy := 2, vx := 2, oz := 0, oy := 0, ox := 0 } [[1, 2], [3, 4]] 0
    = [[3, 4], [0, 0]] := by decide +kernel
/-- … and the hypotheses of `C15_zoom_image2_pure_shift` hold for that request with `ky = 1`, `kx = 0`, preserve_values -/
example : fl32 ((2 : ℚ) / 2) = 1 ∧ fl32 (fl32 ((0 : ℚ) - 0) / 2) = ((0 : Int) : ℚ) ∧ fl32 (fl32 ((2 : ℚ) - 0) / 2) = ((1 : Int) : ℚ) ∧
    fl32 ((-1 : Int) : ℚ) = ((-1 : Int) : ℚ) := by decide +kernel

/-! ## image grid sizes derived from float zooms

`VoxelsOnCartesianGrid(exam_info, proj_data_info, zooms, origin, sizes)` derives the x / y size of the image from the zoom when the size
is given as `-1`: `2·(int)ceil(fov / voxel_size) + 1` with `voxel_size = bin_size / zoom`, everything in binary32 — for zooms like 1/3, 0.3,
2.2 the quotient is an ulp off an integer.  The model (`voxelsFromProjData`) transcribes the float operations; the correspondence run
(operation `voxsize`) compares index ranges, sizes and voxel sizes exactly. -/

/-- "whenever the new grid covers the object": a size derived from the zoom gives the centred odd grid `-h … h` whose half-width `h`
    (voxels) is the smallest integer not below the field-of-view radius in voxels as the source computes it (`fl32 (fov / voxel_size)`):
    it covers that radius and exceeds it by less than one voxel.  (Stated for x; y is the same expression with `zy`.) -/
theorem C15_voxels_size_from_zoom (rs bin fov : ℚ) (seg0 : Seg) (zz zy zx : ℚ) (sz sy : Int) (g : Grid)
    (h : voxelsFromProjData rs bin fov seg0 zz zy zx sz sy (-1) = some g) (hq : 0 ≤ fl32 (fov / fl32 (bin / zx))) :
    g.vx = fl32 (bin / zx) ∧
    ∃ hx : Int, (g.nx : Int) = 2 * hx + 1 ∧ g.xmin = -hx ∧ fl32 (fov / g.vx) ≤ (hx : ℚ) ∧ (hx : ℚ) < fl32 (fov / g.vx) + 1 := by
  unfold voxelsFromProjData at h
  simp only [beq_self_eq_true, Bool.true_or, Bool.and_self, if_true, ceilQ_eq_ceil] at h
  -- the derived size `2·ceil + 1` is not negative, so the result is the grid with that size
  have hle := Int.le_ceil (fl32 (fov / fl32 (bin / zx)))
  have hlt := Int.ceil_lt_add_one (fl32 (fov / fl32 (bin / zx)))
  generalize ⌈fl32 (fov / fl32 (bin / zx))⌉ = c at h hle hlt
  have h1 : 0 ≤ c := by exact_mod_cast le_trans hq hle
  have ht : (2 * c + 1).tdiv 2 = c := by
    rw [Int.tdiv_eq_ediv_of_nonneg (by omega)]
    omega
  rw [Option.ite_none_left_eq_some, Option.some.injEq] at h
  obtain ⟨_, rfl⟩ := h
  refine ⟨rfl, c, ?_, ?_, hle, hlt⟩
  · simp only
    omega
  · simp only [ht]

/-- non-vacuity, and the float conversion "as it is": bin size 2 mm, zoom 0.6 (the binary32 number `5033165/2^23`, a hair above 3/5),
    field of view 10 mm: the voxel size `fl32(2/zoom)` is 3.3333333, the binary32 quotient `10/voxel` rounds to exactly 3 and the size is
    2·3+1 = 7 — exact arithmetic on the same inputs gives a quotient a hair above 3, i.e. `ceil` = 4 and size 9 -/
example : (voxelsFromProjData 4 2 10 ⟨0, 0, 4⟩ 1 (5033165 / 8388608) (5033165 / 8388608) (-1) (-1) (-1)).map
    (fun g => (g.zmin, g.ymin, g.xmin, g.nz, g.ny, g.nx)) = some (0, -3, -3, 7, 7, 7) ∧
    ceilQ ((10 : ℚ) / (2 / (5033165 / 8388608))) = 4 := by decide +kernel
example : (0 : ℚ) ≤ fl32 (10 / fl32 (2 / (5033165 / 8388608))) := by decide +kernel

/-- "total counts are conserved" / "keeps uniform regions uniform" in the simplest case: zoom 1, no shift, the same tangential range gives
    back the data (`zoom_viewgram(out, in, 0, 0)`: "replacing out_viewgram with the new data").  (Before repair
    docs/fixes/C15-1.diff the implementation returned without writing `out_viewgram` here.) -/
theorem C15_zoom_viewgram_identity (lo : Int) (n : Nat) (rows : List (List ℚ)) (b c s : ℚ) (hb : b ≠ 0)
    (hrows : ∀ r ∈ rows, r.length = n) : zoomViewgram lo n lo rows b b 0 0 c s = rows := by
  unfold zoomViewgram
  have hall : rows.all (fun r => r.length == n) = true := by
    rw [List.all_eq_true]
    intro r hr
    simp [hrows r hr]
  simp [fl32_div_self b hb, hall]

/-- every axial position of a viewgram is zoomed on its own by the 1-D `overlap_interpolate` (`overlapVec`) along the tangential
    direction, with `zoom = in_bin/out_bin` and the offset `(x cos φ + y sin φ)/in_bin` of the view -/
theorem C15_zoom_viewgram_rows (outLo : Int) (outN : Nat) (inLo : Int) (rows : List (List ℚ)) (inBin outBin xoff yoff c s : ℚ)
    (hne : ¬ (outLo == inLo ∧ rows.all (fun r => r.length == outN) ∧ fl32 (inBin / outBin) == 1 ∧ xoff == 0 ∧ yoff == 0)) :
    zoomViewgram outLo outN inLo rows inBin outBin xoff yoff c s
      = rows.map fun r =>
          (overlapVec ⟨outLo, List.replicate outN 0⟩ ⟨inLo, r⟩ (fl32 (inBin / outBin)) (zoomViewgramOffset xoff yoff c s inBin) true).vals := by
  unfold zoomViewgram
  simp only [hne, if_false]
  rfl

/-- "the result does not depend on whether it is produced in one call or composed through the in-place and two-step variants", for
    viewgrams: `zoom_viewgram(viewgram, zoom, min_tang, max_tang, x, y)` (and, viewgram by viewgram, `zoom_viewgrams`) is
    `zoom_viewgram(out, in, x, y)` on the geometry it constructs — tangential range `minT … maxT`, tangential sampling
    `fl32 (in_bin / zoom)` — including the request that it short-cuts (`inBin`: any non-zero float). -/
theorem C15_zoom_viewgram_variants_agree (zoom : ℚ) (minT maxT inLo : Int) (rows : List (List ℚ)) (inBin xoff yoff c s : ℚ)
    (hb : inBin ≠ 0) (hfl : fl32 inBin = inBin) :
    zoomViewgramInPlace zoom minT maxT inLo rows inBin xoff yoff c s
      = (minT, fl32 (inBin / zoom),
         zoomViewgram minT (maxT - minT + 1).toNat inLo rows inBin (fl32 (inBin / zoom)) xoff yoff c s) := by
  unfold zoomViewgramInPlace
  split
  · -- the short-cut request is the identity request of the two-step overload
    rename_i h
    obtain ⟨h1, h2, h3, h4, h5⟩ := h
    have e1 : minT = inLo := by simpa using h1
    have e3 : zoom = 1 := by simpa using h3
    have e4 : xoff = 0 := by simpa using h4
    have e5 : yoff = 0 := by simpa using h5
    subst e1 e3 e4 e5
    have hrows : ∀ r ∈ rows, r.length = (maxT - minT + 1).toNat := by
      intro r hr
      have hm : maxT = minT + r.length - 1 := by simpa using (List.all_eq_true.mp h2) r hr
      omega
    rw [div_one, hfl, C15_zoom_viewgram_identity minT _ rows inBin c s hb hrows]
  · rfl

/-- non-vacuity: two rows over the tangential positions −1, 0, 1 (bin size 2 mm), zoom 2 into positions −3 … 3, no shift:
    the replacing overload gives tangential sampling 1 mm; the seven output bins (half an input bin wide) cover the three input bins, an
    output bin straddling two input bins gets a quarter of each; the row sums 6 and 9 are conserved -/
example : zoomViewgramInPlace 2 (-3) 3 (-1) [[1, 2, 3], [4, 4, 1]] 2 0 0 1 0
    = (-3, 1, [[1 / 4, 1 / 2, 3 / 4, 1, 5 / 4, 3 / 2, 3 / 4], [1, 2, 2, 2, 5 / 4, 1 / 2, 1 / 4]]) := by decide +kernel
example : (2 : ℚ) ≠ 0 ∧ fl32 2 = 2 := by decide +kernel
example : zoomViewgram (-1) 3 (-1) [[1, 2, 3], [4, 4, 1]] 2 2 0 0 1 0 = [[1, 2, 3], [4, 4, 1]] :=
  C15_zoom_viewgram_identity (-1) 3 _ 2 1 0 (by norm_num) (by decide)

/-- every output sinogram of `inverse_SSRB` is a convex combination of direct sinograms (non-negative weights summing to one) -/
theorem C15_inverse_ssrb_convex (ms : List ℚ) (outM tol : ℚ) (htol : 0 ≤ tol) (ws : List (Nat × ℚ))
    (h : inverseSsrbWeights ms outM tol = some ws) : (∀ w ∈ ws, 0 ≤ w.2) ∧ (ws.map (·.2)).sum = 1 :=
  (inverseSsrb_shape htol h).convex

/-- "physical positions": a copy comes from the direct sinogram within `tol` of the output's `m`; a combination of two direct
    sinograms has weighted mean axial position equal to the output's `m` whenever that lies between the two -/
theorem C15_inverse_ssrb_position (ms : List ℚ) (outM tol : ℚ) (htol : 0 ≤ tol) (ws : List (Nat × ℚ))
    (h : inverseSsrbWeights ms outM tol = some ws) :
    (∃ a, ws = [(a, 1)] ∧ |outM - ms.getD a 0| ≤ tol) ∨
    (∃ a b wa wb, ws = [(a, wa), (b, wb)] ∧
      ((ms.getD a 0 ≤ outM ∧ outM ≤ ms.getD b 0) ∨ (ms.getD b 0 ≤ outM ∧ outM ≤ ms.getD a 0) →
        wa * ms.getD a 0 + wb * ms.getD b 0 = outM)) :=
  (inverseSsrb_shape htol h).position

/-- the direct sinograms that `inverse_SSRB` reads exist (their axial position is inside the input) -/
theorem C15_inverse_ssrb_reads_inside (ms : List ℚ) (outM tol : ℚ) (ws : List (Nat × ℚ))
    (h : inverseSsrbWeights ms outM tol = some ws) : ∀ w ∈ ws, w.1 < ms.length :=
  (inverseSsrb_spec h).2

/-- **`inverse_SSRB`, every bin** (the correspondence compares every bin of every output sinogram, operation `invssrb`): with
    `sinos` the direct sinograms (one list of `n` bins per axial position of `ms`), the output sinogram exists whenever the weights do,
    has `n` bins, each bin is the combination of the bins at the *same* (view, tangential position) of the selected direct sinograms with
    the weights of `C15_inverse_ssrb_convex` / `C15_inverse_ssrb_position`, and its total is the same combination of their totals
    ("conserve counts", "physical positions": nothing moves in view or tangential position). -/
theorem C15_inverse_ssrb_bins (ms : List ℚ) (outM tol : ℚ) (htol : 0 ≤ tol) (sinos : List (List ℚ)) (n : Nat)
    (hnum : sinos.length = ms.length) (hlen : ∀ r ∈ sinos, r.length = n) (ws : List (Nat × ℚ))
    (h : inverseSsrbWeights ms outM tol = some ws) :
    ∃ out, inverseSsrbSino ms outM tol sinos = some out ∧ out.length = n ∧
      (∀ i, out.getD i 0 = (ws.map fun w => w.2 * (sinos.getD w.1 []).getD i 0).sum) ∧
      out.sum = (ws.map fun w => w.2 * (sinos.getD w.1 []).sum).sum := by
  have hidx := C15_inverse_ssrb_reads_inside ms outM tol ws h
  have hl : ∀ a, a < ms.length → (sinos.getD a []).length = n := by
    intro a ha
    rw [List.getD_eq_getElem?_getD, List.getElem?_eq_getElem (hnum ▸ ha)]
    exact hlen _ (List.getElem_mem _)
  have hshape := inverseSsrb_shape htol h
  unfold inverseSsrbSino
  rw [h]
  cases hshape with
  | copy a _ =>
    refine ⟨sinos.getD a [], rfl, hl a (hidx (a, 1) (by simp)), ?_, ?_⟩
    · intro i
      simp
    · simp
  | two a b hne =>
    have ha := hl a (hidx _ (List.mem_cons_self))
    have hb := hl b (hidx _ (List.mem_cons_of_mem _ (List.mem_cons_self)))
    refine ⟨_, rfl, ?_, ?_, ?_⟩
    · rw [List.length_zipWith, ha, hb, Nat.min_self]
    · intro i
      rw [getD_zipWith _ _ _ (by rw [ha, hb]) (by simp)]
      simp
    · -- the sum of a termwise combination of lists of one length is the combination of the sums
      rw [← List.zipWith_map (f := (· + ·)) (g := (_ * ·)) (h := (_ * ·)),
        ← List.sum_add_sum_eq_sum_zipWith_of_length_eq _ _ (by rw [List.length_map, List.length_map, ha, hb]), List.sum_map_mul_left,
        List.sum_map_mul_left]
      simp

/-- three direct sinograms of two bins at m = 0, 4, 8; output at m = 3: bin by bin ¼ of the first + ¾ of the second -/
example : inverseSsrbSino [0, 4, 8] 3 (1 / 10000) [[4, 8], [8, 0], [1, 1]] = some [7, 2] := by decide +kernel

/-- direct sinograms at m = 0, 4, 8 and an output sinogram at m = 3: weights ¾ on m = 4 and ¼ on m = 0 -/
example : inverseSsrbWeights [0, 4, 8] 3 (1 / 10000) = some [(0, 1 / 4), (1, 3 / 4)] := by decide +kernel

/-- 5 rings, span 1 (segments −4 … 4), three segments combined: the group of output segment 1 (input segments 2, 3, 4) -/
def exampleIn : PDI :=
  { N := 16, R := 5, T := 0, minSeg := -4,
    segs := [⟨-4, -4, 1⟩, ⟨-3, -3, 2⟩, ⟨-2, -2, 3⟩, ⟨-1, -1, 4⟩, ⟨0, 0, 5⟩, ⟨1, 1, 4⟩, ⟨2, 2, 3⟩, ⟨3, 3, 2⟩, ⟨4, 4, 1⟩],
    numViews := 8, minTang := -3, maxTang := 3, tofMash := 0, minTof := 0, maxTof := 0 }

example : ssrbOutSeg exampleIn 3 1 = some ⟨2, 4, 5⟩ := by decide

example : GroupWF exampleIn (1 * 3 - (3 : Int).tdiv 2) (1 * 3 + (3 : Int).tdiv 2) :=
  (C15_wfb_sound exampleIn (by decide)).group _ _

/-- the group of output segment 1 of `exampleIn` for the ring spacing of the GE Discovery ST family, 6.54 mm = the binary32 number `6857687/2^20`: the
    source's `number_of_ms` evaluated exactly is 5, the number of axial positions of the output segment; input (segment 3, axial
    position 1) has `m = 2` quarter ring spacings = `6857687/2^21` mm and so has output axial position 3 -/
example : ssrbNumberOfMs [⟨2, 2, 3⟩, ⟨3, 3, 2⟩, ⟨4, 4, 1⟩] ⟨2, 2, 3⟩ (⟨2, 4, 5⟩ : Seg).inc (6857687 / 1048576) = 5 := by decide +kernel
example : (⟨3, 3, 2⟩ : Seg).m4 1 = 2 ∧ (⟨2, 4, 5⟩ : Seg).m4 3 = 2 ∧
    (⟨2, 4, 5⟩ : Seg).mMm (6857687 / 1048576) 3 = 6857687 / 2097152 ∧ (⟨3, 3, 2⟩ : Seg).mMm (6857687 / 1048576) 1 = 6857687 / 2097152 := by
  decide +kernel
example : ∀ i, 1 * 3 - (3 : Int).tdiv 2 ≤ i → i ≤ 1 * 3 + (3 : Int).tdiv 2 → ∃ s, exampleIn.seg? i = some s := by
  intro i h1 h2
  have h1' : (2 : Int) ≤ i := h1
  have h2' : i ≤ (4 : Int) := h2
  have : i = 2 ∨ i = 3 ∨ i = 4 := by omega
  rcases this with rfl | rfl | rfl
  all_goals exact ⟨_, rfl⟩

/-- the same geometry rebinned with 3 segments, 2 views combined, no trimming: hypotheses of `C15_ssrb_commutes_with_binning` hold -/
def exampleOut : PDI :=
  { exampleIn with minSeg := -1, segs := [⟨-4, -2, 5⟩, ⟨-1, 1, 9⟩, ⟨2, 4, 5⟩], numViews := 4 }

example : ssrbInfo exampleIn 3 2 0 (-1) 1 = some exampleOut := by decide +kernel
example : exampleIn.WF := C15_wfb_sound exampleIn (by decide)
example : exampleIn.N.tdiv 2 = exampleIn.numViews * 1 ∧ exampleIn.numViews = 4 * 2 := by decide
/-- detector pair (det 3, ring 0)–(det 11, ring 3): input bin (seg 3, view 3, ax 0, tang 0), output bin (seg 1, view 1, ax 1, tang 0);
    `SSRB` writes exactly that bin -/
example : exampleIn.toGeom.binForDetPair ⟨3, 0, 11, 3, 0⟩ = some ⟨3, 3, 0, 0, 0⟩ ∧
    exampleOut.toGeom.binForDetPair ⟨3, 0, 11, 3, 0⟩ = some ⟨1, 1, 1, 0, 0⟩ ∧
    0 ≤ (detToViewTang exampleIn.N 3 11).1 ∧
    targets exampleIn exampleOut ⟨3, 3, 0, 0, 0⟩ = [⟨1, 1, 1, 0, 0⟩] := by decide +kernel

/-- the identity request on that geometry: the hypotheses of `C15_ssrb_identity_geometry` / `C15_ssrb_identity_data` hold, the geometry and
    the bin of the detector pair above come back -/
example : exampleIn.minSeg = -exampleIn.maxSeg ∧ 0 ≤ exampleIn.maxSeg ∧ 0 < exampleIn.numTang ∧
    exampleIn.minTang = -(exampleIn.numTang.tdiv 2) ∧ ssrbInfo exampleIn 1 1 0 (-1) 1 = some exampleIn ∧
    targets exampleIn exampleIn ⟨3, 3, 0, 0, 0⟩ = [⟨3, 3, 0, 0, 0⟩] := by decide +kernel
/-- one ring: a single segment with a single axial position; the identity request gives it back, and so does every bin -/
def exampleOneRing : PDI :=
  { N := 8, R := 1, T := 0, minSeg := 0, segs := [⟨0, 0, 1⟩], numViews := 4, minTang := -1, maxTang := 1, tofMash := 0, minTof := 0, maxTof := 0 }
example : ssrbInfo exampleOneRing 1 1 0 (-1) 1 = some exampleOneRing :=
  C15_ssrb_identity_geometry exampleOneRing (by decide) (by decide) (by decide) (by decide)
example : exampleOneRing.WF ∧ exampleOneRing.toGeom.binForDetPair ⟨0, 0, 5, 0, 0⟩ = some ⟨0, 1, 0, -1, 0⟩ ∧
    targets exampleOneRing exampleOneRing ⟨0, 1, 0, -1, 0⟩ = [⟨0, 1, 0, -1, 0⟩] :=
  ⟨C15_wfb_sound exampleOneRing (by decide), by decide, by decide⟩

/-- ring pair (0, 3) of `exampleIn`: input (seg 3, ax 0), `m = -2`; output (seg 1, ax 1) has `m = -2` too -/
example : (⟨3, 3, 2⟩ : Seg).axOff 5 = some 3 ∧ (⟨3, 3, 2⟩ : Seg).Exact 3 ∧ (⟨3, 3, 2⟩ : Seg).axOf 3 0 3 = 0 ∧ (⟨3, 3, 2⟩ : Seg).m4 0 = -2 ∧
    (⟨2, 4, 5⟩ : Seg).axOff 5 = some 2 ∧ (⟨2, 4, 5⟩ : Seg).axOf 2 0 3 = 1 ∧ (⟨2, 4, 5⟩ : Seg).m4 1 = -2 := by
  refine ⟨by decide, ?_, by decide, by decide, by decide, by decide, by decide⟩
  intro _
  decide

/-- TOF: 9 unmashed bins, mashing 1, three bins combined: `t = 4 ↦` input bin 4, output bin 1; window accepts exactly that -/
example : tofInWindow 1 (1 * 3) (roundDiv 4 1) 1 = true ∧ roundDiv 4 (1 * 3) = 1 ∧ tofInWindow 1 (1 * 3) (roundDiv 4 1) 2 = false := by decide

/-- overlap conservation, centre of mass: 3 input boxes `[0,1],[1,2],[2,3]` with values 1, 2, 3 into two output boxes
    `[-1, 1.5], [1.5, 4]` -/
def exIn : ℕ → ℚ := fun j => (j : ℚ) + 1
def exIc : ℕ → ℚ := fun j => (j : ℚ)
def exOc : ℕ → ℚ := fun i => -1 + 5 / 2 * (i : ℚ)

example : ∑ i ∈ range 2, specBox 3 exIn exIc (exOc i) (exOc (i + 1)) = ∑ j ∈ range 3, exIn j * (exIc (j + 1) - exIc j) := by
  apply C15_overlap_conserves 3 2 exIn exIc exOc
  · intro j _
    simp only [exIc]
    push_cast
    linarith
  · intro i _
    simp only [exOc]
    push_cast
    linarith
  · simp only [exOc, exIc]
    norm_num
  · simp only [exOc, exIc]
    norm_num

example : (∀ j < 3, 0 ≤ exIn j) ∧ 0 < ∑ j ∈ range 3, exIn j * (exIc (j + 1) - exIc j) ∧ (∀ j < 3, exIc (j + 1) - exIc j ≤ 1) ∧
    (∀ i < 2, exOc (i + 1) - exOc i ≤ 5 / 2) := by
  refine ⟨fun j _ => ?_, ?_, fun j _ => ?_, fun i _ => ?_⟩
  · simp only [exIn]
    positivity
  rotate_left
  · simp only [exIc]
    push_cast
    linarith
  · simp only [exOc]
    push_cast
    linarith
  simp only [exIn, exIc, sum_range_succ, sum_range_zero]
  norm_num

end StirVerif.C15
