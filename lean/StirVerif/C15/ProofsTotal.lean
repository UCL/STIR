/-
C15 — totals.  `SSRB(out, in, do_norm = false)` adds every input value once for every target bin; the enumeration of
output sinograms has no duplicates; hence counts are conserved when nothing is trimmed.
-/
import StirVerif.C15.ProofsBins
import Mathlib.Tactic.Ring
import Mathlib.Tactic.Linarith
import StirVerif.Common.ListNodup
import StirVerif.Common.ArrayFold
import Mathlib.Algebra.Order.Field.Rat
import Mathlib.Algebra.BigOperators.Group.List.Basic

namespace StirVerif.C15
open StirVerif.C01

def total (l : List (Bin × Rat)) : Rat := (l.map (·.2)).sum

theorem total_accum (l : List (Bin × Rat)) (b : Bin) (v : Rat) : total (accum l b v) = total l + v := by
  induction l with
  | nil => simp [accum, total]
  | cons a r ih =>
    unfold accum
    split
    · simp only [total, List.map_cons, List.sum_cons]
      ring
    · simp only [total, List.map_cons, List.sum_cons] at ih ⊢
      rw [ih]
      ring

theorem total_foldl_accum (ts : List Bin) (acc : List (Bin × Rat)) (v : Rat) :
    total (ts.foldl (fun a t => accum a t v) acc) = total acc + v * (ts.length : Rat) := by
  induction ts generalizing acc with
  | nil => simp
  | cons t r ih =>
    simp only [List.foldl_cons, List.length_cons]
    rw [ih, total_accum]
    push_cast
    ring

theorem ssrbData_total {pin pout : PDI} {data out : List (Bin × Rat)} (h : ssrbData pin pout false data = some out) :
    total out = (data.map fun bv => bv.2 * ((targets pin pout bv.1).length : Rat)).sum := by
  unfold ssrbData at h
  split at h
  · exact absurd h (by simp)
  · simp only [Bool.false_eq_true, if_false, Option.some.injEq] at h
    subst h
    -- `total` turns the two nested folds over `accum` into a running sum
    rw [← List.foldl_hom total (g₂ := fun s (bv : Bin × Rat) => s + bv.2 * ((targets pin pout bv.1).length : Rat))
      (H := fun acc bv => (total_foldl_accum _ acc bv.2).symm), Common.foldl_add_eq_sum]
    exact zero_add _

theorem irange_nodup (lo hi : Int) : (irange lo hi).Nodup :=
  Common.nodup_map_range_add lo _

theorem outSinos_nodup (pout : PDI) : (outSinos pout).Nodup := by
  unfold outSinos
  refine Common.nodup_flatMap_of_tag Prod.fst (fun y => y.1) ?_ ?_ ?_
  · rw [List.map_fst_zip (Nat.le_of_eq (by rw [pout.irange_segs, List.length_map, List.length_range]))]
    exact irange_nodup _ _
  · rintro ⟨os, og⟩ _
    exact Common.nodup_flatMap_map (irange_nodup _ _) (fun _ _ => irange_nodup _ _) fun _ _ _ _ h =>
      ⟨(Prod.mk.inj (Prod.mk.inj h).2).2, (Prod.mk.inj (Prod.mk.inj h).2).1⟩
  · rintro ⟨os, og⟩ _ y hy
    obtain ⟨_, _, hy'⟩ := List.mem_flatMap.mp hy
    obtain ⟨_, _, rfl⟩ := List.mem_map.mp hy'
    rfl

theorem length_le_one_of_nodup_of_eq {α : Type} (l : List α) (hn : l.Nodup) (h : ∀ x ∈ l, ∀ y ∈ l, x = y) : l.length ≤ 1 := by
  cases l with
  | nil => exact Nat.zero_le 1
  | cons a r => exact hn.length_le_of_subset (l₂ := [a]) fun x hx => List.mem_singleton.mpr (h x hx a List.mem_cons_self)

theorem targets_length_le_one {pin pout : PDI} {kSeg kView trim maxSegArg kTof : Int}
    (hinfo : ssrbInfo pin kSeg kView trim maxSegArg kTof = some pout) (hk : 0 < kSeg) (hodd : kSeg % 2 = 1) (wf : pin.WF)
    (htof : 0 < pout.tofMash ∨ pout.minTof = pout.maxTof) (b : Bin) : (targets pin pout b).length ≤ 1 := by
  rw [targets_eq]
  split
  · simp
  · rw [List.length_map]
    apply length_le_one_of_nodup_of_eq _ ((outSinos_nodup pout).filter _)
    rintro ⟨os, oa, ot⟩ hx ⟨os', oa', ot'⟩ hy
    simp only [List.mem_filter] at hx hy
    have hxm := (mem_outSinos pout os oa ot).mp hx.1
    have hym := (mem_outSinos pout os' oa' ot').mp hy.1
    obtain ⟨_, _, _, _, hx5, hx6⟩ := hxm
    obtain ⟨_, _, _, _, hy5, hy6⟩ := hym
    obtain ⟨e1, e2, e3⟩ := pullsSino_unique hinfo hk hodd wf (htof.imp_right fun h => by omega) hx.2 hy.2
    simp only [Prod.mk.injEq]
    exact ⟨e1, e2, e3⟩

theorem ssrb_conserves_total (pin pout : PDI) (kSeg kView trim maxSegArg kTof : Int)
    (hinfo : ssrbInfo pin kSeg kView trim maxSegArg kTof = some pout) (hk : 0 < kSeg) (hodd : kSeg % 2 = 1) (wf : pin.WF)
    (htof : 0 < pout.tofMash ∨ pout.minTof = pout.maxTof) (data out : List (Bin × Rat)) (h : ssrbData pin pout false data = some out) :
    total out = total (data.filter fun bv => (targets pin pout bv.1).length != 0) ∧
    ((∀ bv ∈ data, targets pin pout bv.1 ≠ []) → total out = total data) := by
  have hlen := targets_length_le_one hinfo hk hodd wf htof
  -- a bin with a target has exactly one: its value counts once
  have key : total out = total (data.filter fun bv => (targets pin pout bv.1).length != 0) := by
    rw [ssrbData_total h, total, List.map_congr_left (g := fun bv => if (targets pin pout bv.1).length != 0 then bv.2 else 0),
      List.sum_map_ite, List.sum_map_zero, add_zero]
    · simp only [Bool.decide_eq_true]
    · intro bv _
      have := hlen bv.1
      rcases Nat.eq_zero_or_pos (targets pin pout bv.1).length with h0 | hp
      · simp [h0]
      · simp [show (targets pin pout bv.1).length = 1 by omega]
  refine ⟨key, fun hall => ?_⟩
  rw [key]
  congr 1
  apply List.filter_eq_self.mpr
  intro bv hbv
  have := hall bv hbv
  cases htg : targets pin pout bv.1 with
  | nil => exact absurd htg this
  | cons _ _ => simp

end StirVerif.C15
