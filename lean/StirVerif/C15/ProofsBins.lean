/-
C15 — `SSRB` commutes with detector-pair binning (full bins: segment, axial position, view, tangential position, TOF); what is in `outSinos`
and in `targets` (`mem_outSinos`, `targets_eq`, `mem_targets`).
-/
import StirVerif.C15.ProofsData
import StirVerif.C15.ProofsTof

namespace StirVerif.C15
open StirVerif.C01

/-- `get_bin_for_det_pos_pair` spelled out; `keep = false`: the detectors are exchanged, i.e. the rings swapped and the TOF index negated -/
theorem binForDetPair_eq_some (g : Geom) (dp : DetPair) (b : Bin) (h : g.binForDetPair dp = some b) :
    b.view = (detToViewTang g.N dp.d1 dp.d2).1.tdiv g.viewMash ∧ b.tang = (detToViewTang g.N dp.d1 dp.d2).2.1 ∧
    g.segAxOfRingPair (if (detToViewTang g.N dp.d1 dp.d2).2.2 then dp.r1 else dp.r2) (if (detToViewTang g.N dp.d1 dp.d2).2.2 then dp.r2 else dp.r1)
      = some (b.seg, b.ax) ∧
    b.tof = (if (detToViewTang g.N dp.d1 dp.d2).2.2 then tofOf g dp.t else -tofOf g dp.t) := by
  rw [bin_eq] at h
  split at h
  · rename_i hk
    obtain ⟨sa, hs, rfl⟩ := Option.map_eq_some_iff.mp h
    rw [if_pos hk, if_pos hk, if_pos hk]
    exact ⟨rfl, rfl, hs, rfl⟩
  · rename_i hk
    obtain ⟨sa, hs, rfl⟩ := Option.map_eq_some_iff.mp h
    rw [if_neg hk, if_neg hk, if_neg hk]
    exact ⟨rfl, rfl, hs, rfl⟩

theorem ssrbInfo_tof_cases {p o : PDI} {kSeg kView trim maxSegArg kTof : Int} (h : ssrbInfo p kSeg kView trim maxSegArg kTof = some o)
    (htof0 : p.tofMash = 0 ∨ (0 < p.tofMash ∧ p.tofMash % 2 = 1 ∧ kTof % 2 = 1 ∧ 0 < p.T)) :
    (p.tofMash = 0 ∧ o.tofMash = 0) ∨ (0 < p.tofMash ∧ p.tofMash % 2 = 1 ∧ 0 < kTof ∧ kTof % 2 = 1 ∧ o.tofMash = p.tofMash * kTof) := by
  obtain ⟨_, segs, tofMash, minTof, maxTof, _, htof, rfl⟩ := ssrbInfo_eq_some_iff.mp h
  -- `ssrbTof` keeps the mashing factor for `kTof = 1`; otherwise `setTofMash` answers 0 for a non-TOF scanner or factor and the requested
  -- factor `p.tofMash * kTof` for a TOF one (its two `error` branches give `none`)
  unfold ssrbTof at htof
  by_cases h1 : kTof = 1
  · subst h1
    simp only [bne_self_eq_false, Bool.false_eq_true, if_false, Option.some.injEq, Prod.mk.injEq] at htof
    obtain ⟨rfl, _, _⟩ := htof
    exact htof0.imp (fun h => ⟨h, h⟩) (fun h => ⟨h.1, h.2.1, by decide, h.2.2.1, (Int.mul_one _).symm⟩)
  · rw [if_pos (bne_iff_ne.mpr h1), Option.ite_none_left_eq_some] at htof
    obtain ⟨hk, htof⟩ := htof
    unfold setTofMash at htof
    rcases htof0 with hz | ⟨hm, hmo, hko, hT⟩
    · rw [hz] at htof
      simp only [Int.zero_mul, Int.lt_irrefl, and_false, if_false, Option.some.injEq, Prod.mk.injEq] at htof
      exact Or.inl ⟨hz, htof.1.symm⟩
    · have hkT : 0 < kTof := by omega
      have hpos : 0 < p.tofMash * kTof := Int.mul_pos hm hkT
      simp only [hT, hpos, and_self, if_true, Option.ite_none_left_eq_some, Option.some.injEq, Prod.mk.injEq] at htof
      exact Or.inr ⟨hm, hmo, hkT, hko, htof.2.2.1.symm⟩

theorem binForDetPair_tof_zero (g : Geom) (dp : DetPair) (b : Bin) (h : g.binForDetPair dp = some b) (hz : g.tofMash = 0) : b.tof = 0 := by
  obtain ⟨_, _, _, ht⟩ := binForDetPair_eq_some g dp b h
  unfold tofOf at ht
  rw [ht, hz]
  split
  · rfl
  · rfl

/-- `SSRB` commutes with detector-pair binning (`C15_ssrb_commutes_with_binning`), and the output geometry's bin of the pair lies in an
    existing output segment, inside its axial range.  The view and TOF conditions: views `N/2 = V·mIn` and `V = W·kView`; non-TOF input, or a
    TOF scanner with odd mashing factor and an odd number of TOF bins to combine -/
theorem ssrb_bin_commutes {pin pout : PDI} {kSeg kView trim maxSegArg kTof : Int}
    (hinfo : ssrbInfo pin kSeg kView trim maxSegArg kTof = some pout) (hk : 0 < kSeg) (wf : pin.WF)
    {mIn W : Int} (hmash : pin.N.tdiv 2 = pin.numViews * mIn) (hmIn : 0 < mIn) (hV : pin.numViews = W * kView) (hW : 0 < W)
    (hkV : 0 < kView)
    (htof0 : pin.tofMash = 0 ∨ (0 < pin.tofMash ∧ pin.tofMash % 2 = 1 ∧ kTof % 2 = 1 ∧ 0 < pin.T))
    (dp : DetPair) (hv : 0 ≤ (detToViewTang pin.N dp.d1 dp.d2).1) {bi bo : Bin}
    (hbi : pin.toGeom.binForDetPair dp = some bi) (hbir : ∀ sg, pin.seg? bi.seg = some sg → 0 ≤ bi.ax ∧ bi.ax < sg.numAx)
    (hbo : pout.toGeom.binForDetPair dp = some bo) :
    (∃ og, pout.seg? bo.seg = some og ∧ 0 ≤ bo.ax ∧ bo.ax < og.numAx) ∧
    pullsSino pin pout bo.seg bo.ax bo.tof bi.seg bi.ax bi.tof = true ∧ bo.view = bi.view.tdiv kView ∧ bo.tang = bi.tang := by
  obtain ⟨_, hN, hviews⟩ := ssrbInfo_fields hinfo
  have hk2 : 0 ≤ kSeg.tdiv 2 := Int.tdiv_nonneg (Int.le_of_lt hk) (by decide)
  have hVpos : 0 < pin.numViews := by
    rw [hV]
    exact Int.mul_pos hW hkV
  have evi : pin.toGeom.viewMash = mIn := by
    show (pin.N.tdiv 2).tdiv pin.numViews = mIn
    rw [hmash, Int.mul_comm, Int.mul_tdiv_cancel _ (Int.ne_of_gt hVpos)]
  have evo : pout.toGeom.viewMash = mIn * kView := by
    show (pout.N.tdiv 2).tdiv pout.numViews = mIn * kView
    have : W * kView * mIn = (kView * mIn) * W := by
      rw [Int.mul_comm W kView, Int.mul_assoc, Int.mul_comm W mIn, ← Int.mul_assoc]
    rw [hN, hviews, hmash, hV, Int.mul_tdiv_cancel _ (Int.ne_of_gt hkV), this, Int.mul_tdiv_cancel _ (Int.ne_of_gt hW), Int.mul_comm]
  obtain ⟨hvi, hti, hin, ht1⟩ := binForDetPair_eq_some _ dp bi hbi
  obtain ⟨hvo, hto, hout, ht2⟩ := binForDetPair_eq_some _ dp bo hbo
  rw [show pout.toGeom.N = pin.N from hN] at hvo hto hout ht2
  rw [show pin.toGeom.N = pin.N from rfl] at hvi hti hin ht1
  rw [evi] at hvi
  rw [evo] at hvo
  -- the same ring pair, in the same order, in both geometries
  obtain ⟨hpull, hrange⟩ := ssrb_pulls_axial hinfo hk2 wf hin hbir hout
  refine ⟨hrange, pullsSino_eq_true_iff.mpr ⟨hpull, ?_⟩, ?_, by rw [hti, hto]⟩
  · rw [ht1, ht2]
    exact tof_window_of_pair pin.tofMash pout.tofMash kTof dp.t _ (ssrbInfo_tof_cases hinfo htof0)
  · rw [hvi, hvo]
    exact (tdiv_tdiv_of_nonneg _ mIn kView hv (Int.le_of_lt hmIn)).symm

theorem ssrb_commutes_with_binning (pin pout : PDI) (kSeg kView trim maxSegArg kTof : Int)
    (hinfo : ssrbInfo pin kSeg kView trim maxSegArg kTof = some pout) (hk : 0 < kSeg) (wf : pin.WF)
    (mIn W : Int) (hmash : pin.N.tdiv 2 = pin.numViews * mIn) (hmIn : 0 < mIn) (hV : pin.numViews = W * kView) (hW : 0 < W)
    (hkV : 0 < kView)
    (htof0 : pin.tofMash = 0 ∨ (0 < pin.tofMash ∧ pin.tofMash % 2 = 1 ∧ kTof % 2 = 1 ∧ 0 < pin.T))
    (dp : DetPair) (hv : 0 ≤ (detToViewTang pin.N dp.d1 dp.d2).1) (bi bo : Bin)
    (hbi : pin.toGeom.binForDetPair dp = some bi) (hbir : ∀ sg, pin.seg? bi.seg = some sg → 0 ≤ bi.ax ∧ bi.ax < sg.numAx)
    (hbo : pout.toGeom.binForDetPair dp = some bo) :
    pullsSino pin pout bo.seg bo.ax bo.tof bi.seg bi.ax bi.tof = true ∧ bo.view = bi.view.tdiv kView ∧ bo.tang = bi.tang :=
  (ssrb_bin_commutes hinfo hk wf hmash hmIn hV hW hkV htof0 dp hv hbi hbir hbo).2

theorem mem_outSinos (pout : PDI) (os oa ot : Int) :
    (os, oa, ot) ∈ outSinos pout ↔ ∃ og, pout.seg? os = some og ∧ 0 ≤ oa ∧ oa < og.numAx ∧ pout.minTof ≤ ot ∧ ot ≤ pout.maxTof := by
  unfold outSinos
  simp only [List.mem_flatMap, List.mem_map, mem_irange, Prod.mk.injEq, Prod.exists]
  constructor
  · rintro ⟨s, og, hz, t, ht, a, ha, rfl, rfl, rfl⟩
    exact ⟨og, (mem_zip_segs pout s og).mp hz, ha.1, by omega, ht.1, ht.2⟩
  · rintro ⟨og, hog, h1, h2, h3, h4⟩
    exact ⟨os, og, (mem_zip_segs pout os og).mpr hog, ot, ⟨h3, h4⟩, oa, ⟨h1, by omega⟩, rfl, rfl, rfl⟩

theorem targets_eq (pin pout : PDI) (b : Bin) :
    targets pin pout b =
      if b.tang < max pin.minTang pout.minTang ∨ b.tang > min pin.maxTang pout.maxTang then []
      else ((outSinos pout).filter fun x => pullsSino pin pout x.1 x.2.1 x.2.2 b.seg b.ax b.tof).map fun x =>
        ⟨x.1, b.view.tdiv (pin.numViews.tdiv pout.numViews), x.2.1, b.tang, x.2.2⟩ := by
  unfold targets
  rw [← List.filterMap_eq_map', List.filterMap_filter]

theorem mem_targets (pin pout : PDI) (b x : Bin) :
    x ∈ targets pin pout b ↔
      (max pin.minTang pout.minTang ≤ b.tang ∧ b.tang ≤ min pin.maxTang pout.maxTang) ∧
      (x.seg, x.ax, x.tof) ∈ outSinos pout ∧ pullsSino pin pout x.seg x.ax x.tof b.seg b.ax b.tof = true ∧
      x.view = b.view.tdiv (pin.numViews.tdiv pout.numViews) ∧ x.tang = b.tang := by
  rw [targets_eq]
  split
  · simp only [List.not_mem_nil, false_iff]
    omega
  · simp only [List.mem_map, List.mem_filter, Prod.exists]
    constructor
    · rintro ⟨os, oa, ot, h, rfl⟩
      exact ⟨by omega, h.1, h.2, rfl, rfl⟩
    · rintro ⟨_, hmem, hp, hv, ht⟩
      exact ⟨x.seg, x.ax, x.tof, ⟨hmem, hp⟩, by rw [← hv, ← ht]⟩

end StirVerif.C15
