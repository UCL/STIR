/-
C02 — every access path touches exactly the addresses of its bins, in container order.
`rawOffset` is affine in the three inner indices, so a container whose element order is the storage order is one
contiguous run (`block`): this is what justifies the single `write_data`/`read_data` calls of the source.  The other
paths are rows, or runs, taken one after the other.
-/
import StirVerif.C02.ProofsInj
import StirVerif.Common.IntRange
import Mathlib.Data.List.Nodup
import Mathlib.Algebra.BigOperators.Ring.List

namespace StirVerif.C02

theorem mem_flatMap_range_add {α : Type} {n : Nat} {lo : Int} {f : Int → List α} {x : α} :
    x ∈ (List.range n).flatMap (fun (i : Nat) => f (lo + (i : Int))) ↔ ∃ a, lo ≤ a ∧ a < lo + (n : Int) ∧ x ∈ f a := by
  rw [← List.flatMap_map (f := fun (i : Nat) => lo + (i : Int))]
  simp only [List.mem_flatMap, Common.mem_map_range_add, and_assoc]

theorem ok_bind {α β : Type} (x : α) (f : α → Except Err β) : (Except.ok x >>= f) = f x := rfl

theorem mapM_ok {α β : Type} (f : α → Except Err β) (g : α → β) (xs : List α)
    (h : ∀ x ∈ xs, f x = .ok (g x)) : xs.mapM f = .ok (xs.map g) := by
  induction xs with
  | nil => rfl
  | cons x t ih =>
    rw [List.mapM_cons, h x (List.mem_cons_self), ih (fun y hy => h y (List.mem_cons_of_mem _ hy))]
    rfl

theorem mapM_flatten_ok {α β γ : Type} {xs : List α} {f : α → Except Err (List γ)} {g : α → List β} {h : β → γ}
    (hf : ∀ x ∈ xs, f x = .ok ((g x).map h)) :
    (do let r ← xs.mapM f; pure r.flatten) = .ok ((xs.flatMap g).map h) := by
  rw [mapM_ok f _ xs hf, List.map_flatMap, List.flatMap_def]
  rfl

theorem block_add (base S : Int) (m n : Nat) :
    block base S (m + n) = block base S m ++ block (base + (m : Int) * S) S n := by
  unfold block
  rw [List.range_add, List.map_append, List.map_map]
  congr 1
  apply List.map_congr_left
  intro k _
  simp only [Function.comp]
  push_cast
  ring

theorem block_mul (base S : Int) (a b : Nat) :
    block base S (a * b) = (List.range a).flatMap fun (i : Nat) => block (base + (i : Int) * (b : Int) * S) S b := by
  induction a with
  | zero => simp [block]
  | succ n ih =>
    rw [Nat.succ_mul, block_add, ih, List.range_succ, List.flatMap_append]
    simp only [List.flatMap_cons, List.flatMap_nil, List.append_nil]
    congr 2

theorem map_flatMap_eq_block {α : Type} {r : α → Int} {base S : Int} {a b : Nat} {Y : Nat → List α}
    (h : ∀ i : Nat, (Y i).map r = block (base + (i : Int) * (b : Int) * S) S b) :
    ((List.range a).flatMap Y).map r = block base S (a * b) := by
  rw [block_mul, List.map_flatMap]
  exact List.flatMap_congr fun i _ => h i

theorem raw_within (l : Layout) (b : Bin) :
    rawOffset l b = rawOffset l ⟨b.seg, l.minView, l.minAx b.seg, l.minTang, b.tof⟩ + within l b * l.elemSize := by
  unfold rawOffset within
  cases l.order
  · ring
  · ring

/-- no empty dimension (true of every `ProjDataInfo`) -/
structure Layout.Pos (l : Layout) : Prop where
  views : 0 < l.numViews
  tang : 0 < l.numTang
  ax : ∀ s, SegOK l s → 0 < l.numAx s

theorem T_cast {l : Layout} (p : l.Pos) : (l.T : Int) = l.numTang :=
  Int.toNat_of_nonneg (le_of_lt p.tang)

theorem V_cast {l : Layout} (p : l.Pos) : (l.V : Int) = l.numViews :=
  Int.toNat_of_nonneg (le_of_lt p.views)

theorem A_cast {l : Layout} (p : l.Pos) {seg : Int} (hs : SegOK l seg) : (l.A seg : Int) = l.numAx seg :=
  Int.toNat_of_nonneg (le_of_lt (p.ax seg hs))

theorem ax_first {l : Layout} (p : l.Pos) {seg : Int} (hs : SegOK l seg) : AxOK l seg (l.minAx seg) := by
  have := p.ax seg hs
  unfold AxOK Layout.maxAx
  omega

theorem view_first {l : Layout} (p : l.Pos) : ViewOK l l.minView := by
  have := p.views
  unfold ViewOK Layout.maxView
  omega

theorem first_in_range {l : Layout} (p : l.Pos) {seg view ax tof : Int} (hs : SegOK l seg) (hv : ViewOK l view)
    (ha : AxOK l seg ax) (hk : TofOK l tof) : InRange l ⟨seg, view, ax, l.minTang, tof⟩ := by
  refine ⟨hs, ha, hv, ?_, hk⟩
  have := p.tang
  unfold Layout.maxTang
  simp only
  omega

/-- an index range `lo … lo + n - 1` in half-open form, `n.toNat` long: empty on both sides when `n ≤ 0` -/
theorem interval_iff {lo n a : Int} : lo ≤ a ∧ a ≤ lo + n - 1 ↔ lo ≤ a ∧ a < lo + (n.toNat : Int) := by
  omega

theorem axOK_iff {l : Layout} {seg a : Int} : AxOK l seg a ↔ l.minAx seg ≤ a ∧ a < l.minAx seg + l.A seg :=
  interval_iff

theorem viewOK_iff {l : Layout} {v : Int} : ViewOK l v ↔ l.minView ≤ v ∧ v < l.minView + l.V :=
  interval_iff

/-- one container level: if the slice at index `a` holds exactly the bins with `Q` and `proj = a`, and `Q` puts `proj` inside the index
    range, the whole level holds exactly the bins with `Q` -/
theorem mem_flatMap_range_iff {n : Nat} {lo : Int} {Y : Int → List Bin} {Q : Bin → Prop} (proj : Bin → Int)
    (hY : ∀ a b, lo ≤ a ∧ a < lo + (n : Int) → (b ∈ Y a ↔ Q b ∧ proj b = a))
    (hQ : ∀ b, Q b → lo ≤ proj b ∧ proj b < lo + (n : Int)) {b : Bin} :
    b ∈ (List.range n).flatMap (fun (i : Nat) => Y (lo + (i : Int))) ↔ Q b := by
  rw [mem_flatMap_range_add]
  constructor
  · rintro ⟨a, h1, h2, hb⟩
    exact ((hY a b ⟨h1, h2⟩).1 hb).1
  · intro q
    exact ⟨proj b, (hQ b q).1, (hQ b q).2, (hY _ b (hQ b q)).2 ⟨q, rfl⟩⟩

/-- the index conditions are nested so that each container level adds its own last, as `mem_flatMap_range_iff` takes them -/
theorem mem_rowBins {l : Layout} {seg view ax tof : Int} (hs : SegOK l seg) (hv : ViewOK l view)
    (ha : AxOK l seg ax) (hk : TofOK l tof) {b : Bin} :
    b ∈ rowBins l seg view ax tof ↔ ((InRange l b ∧ b.seg = seg ∧ b.tof = tof) ∧ b.view = view) ∧ b.ax = ax := by
  unfold rowBins
  rw [List.map_eq_flatMap, mem_flatMap_range_add (f := fun t => [(⟨seg, view, ax, t, tof⟩ : Bin)])]
  simp only [List.mem_singleton]
  constructor
  · rintro ⟨t, h1, h2, rfl⟩
    exact ⟨⟨⟨⟨hs, ha, hv, interval_iff.2 ⟨h1, h2⟩, hk⟩, rfl, rfl⟩, rfl⟩, rfl⟩
  · rintro ⟨⟨⟨r, rfl, rfl⟩, rfl⟩, rfl⟩
    exact ⟨b.tang, (interval_iff.1 r.tang).1, (interval_iff.1 r.tang).2, rfl⟩

theorem mem_binsViewgram {l : Layout} {seg view tof : Int} (hs : SegOK l seg) (hv : ViewOK l view)
    (hk : TofOK l tof) {b : Bin} :
    b ∈ binsViewgram l seg view tof ↔ (InRange l b ∧ b.seg = seg ∧ b.tof = tof) ∧ b.view = view :=
  mem_flatMap_range_iff (·.ax) (fun _ _ ha => mem_rowBins hs hv (axOK_iff.2 ha) hk)
    fun _ ⟨⟨r, hseg, _⟩, _⟩ => axOK_iff.1 (hseg ▸ r.ax)

theorem mem_binsSinogram {l : Layout} {seg ax tof : Int} (hs : SegOK l seg) (ha : AxOK l seg ax)
    (hk : TofOK l tof) {b : Bin} :
    b ∈ binsSinogram l seg ax tof ↔ (InRange l b ∧ b.seg = seg ∧ b.tof = tof) ∧ b.ax = ax :=
  mem_flatMap_range_iff (·.view) (fun _ _ hv => (mem_rowBins hs (viewOK_iff.2 hv) ha hk).trans and_right_comm)
    fun _ ⟨⟨r, _⟩, _⟩ => viewOK_iff.1 r.view

theorem mem_binsSegByView {l : Layout} {seg tof : Int} (hs : SegOK l seg) (hk : TofOK l tof) {b : Bin} :
    b ∈ binsSegByView l seg tof ↔ InRange l b ∧ b.seg = seg ∧ b.tof = tof :=
  mem_flatMap_range_iff (·.view) (fun _ _ hv => mem_binsViewgram hs (viewOK_iff.2 hv) hk)
    fun _ ⟨r, _⟩ => viewOK_iff.1 r.view

theorem mem_binsSegBySino {l : Layout} {seg tof : Int} (hs : SegOK l seg) (hk : TofOK l tof) {b : Bin} :
    b ∈ binsSegBySino l seg tof ↔ InRange l b ∧ b.seg = seg ∧ b.tof = tof :=
  mem_flatMap_range_iff (·.ax) (fun _ _ ha => mem_binsSinogram hs (axOK_iff.2 ha) hk)
    fun _ ⟨r, hseg, _⟩ => axOK_iff.1 (hseg ▸ r.ax)

theorem mem_range_interval {lo hi x : Int} :
    x ∈ (List.range (hi - lo + 1).toNat).map (fun (i : Nat) => lo + (i : Int)) ↔ lo ≤ x ∧ x ≤ hi := by
  rw [Common.mem_map_range_add]
  omega

theorem mem_segRange_iff (l : Layout) (s : Int) : s ∈ l.segRange ↔ SegOK l s :=
  mem_range_interval

theorem mem_tofRange_iff (l : Layout) (k : Int) : k ∈ l.tofRange ↔ TofOK l k :=
  mem_range_interval

theorem mem_tofSegs {l : Layout} {segs : List Int} (hsegs : ∀ s, s ∈ segs ↔ SegOK l s) {f : Int → Int → List Bin}
    (hf : ∀ {s k}, SegOK l s → TofOK l k → ∀ {b}, b ∈ f s k ↔ InRange l b ∧ b.seg = s ∧ b.tof = k) {b : Bin} :
    b ∈ (l.tofRange.flatMap fun k => segs.flatMap fun s => f s k) ↔ InRange l b := by
  simp only [List.mem_flatMap, mem_tofRange_iff, hsegs]
  constructor
  · rintro ⟨k, hk, s, hs, hb⟩
    exact ((hf hs hk).1 hb).1
  · intro r
    exact ⟨b.tof, r.tof, b.seg, r.seg, (hf r.seg r.tof).2 ⟨r, rfl, rfl⟩⟩

theorem mem_flatMap_comm {α β γ : Type} {xs : List α} {ys : List β} {f : α → β → List γ} {c : γ} :
    c ∈ xs.flatMap (fun x => ys.flatMap fun y => f x y) ↔ c ∈ ys.flatMap fun y => xs.flatMap fun x => f x y := by
  simp only [List.mem_flatMap]
  exact ⟨fun ⟨x, hx, y, hy, h⟩ => ⟨y, hy, x, hx, h⟩, fun ⟨y, hy, x, hx, h⟩ => ⟨x, hx, y, hy, h⟩⟩

theorem rowBins_offsets (l : Layout) (seg view ax tof : Int) :
    (rowBins l seg view ax tof).map (rawOffset l) = block (rawOffset l ⟨seg, view, ax, l.minTang, tof⟩) l.elemSize l.T := by
  unfold rowBins block
  rw [List.map_map]
  apply List.map_congr_left
  intro k _
  simp only [Function.comp]
  rw [raw_within, raw_within l ⟨seg, view, ax, l.minTang, tof⟩]
  unfold within
  cases l.order
  · ring
  · ring

theorem binsViewgram_offsets {l : Layout} (p : l.Pos) (ho : l.order = .svat) (seg view tof : Int) :
    (binsViewgram l seg view tof).map (rawOffset l)
      = block (rawOffset l ⟨seg, view, l.minAx seg, l.minTang, tof⟩) l.elemSize (l.A seg * l.T) :=
  map_flatMap_eq_block fun i => by
    rw [rowBins_offsets, raw_within, raw_within l ⟨seg, view, l.minAx seg, l.minTang, tof⟩, within, within, ho, T_cast p]
    congr 1
    ring

theorem binsSinogram_offsets {l : Layout} (p : l.Pos) (ho : l.order = .savt) (seg ax tof : Int) :
    (binsSinogram l seg ax tof).map (rawOffset l)
      = block (rawOffset l ⟨seg, l.minView, ax, l.minTang, tof⟩) l.elemSize (l.V * l.T) :=
  map_flatMap_eq_block fun i => by
    rw [rowBins_offsets, raw_within, raw_within l ⟨seg, l.minView, ax, l.minTang, tof⟩, within, within, ho, T_cast p]
    congr 1
    ring

theorem binsSegBySino_offsets {l : Layout} (p : l.Pos) (ho : l.order = .savt) (seg tof : Int) :
    (binsSegBySino l seg tof).map (rawOffset l)
      = block (rawOffset l ⟨seg, l.minView, l.minAx seg, l.minTang, tof⟩) l.elemSize (l.A seg * (l.V * l.T)) :=
  map_flatMap_eq_block fun i => by
    rw [binsSinogram_offsets p ho, raw_within, within, ho, Nat.cast_mul, V_cast p, T_cast p]
    congr 1
    ring

theorem binsSegByView_offsets {l : Layout} (p : l.Pos) (ho : l.order = .svat) {seg : Int} (hs : SegOK l seg) (tof : Int) :
    (binsSegByView l seg tof).map (rawOffset l)
      = block (rawOffset l ⟨seg, l.minView, l.minAx seg, l.minTang, tof⟩) l.elemSize (l.V * (l.A seg * l.T)) :=
  map_flatMap_eq_block fun i => by
    rw [binsViewgram_offsets p ho, raw_within, within, ho, Nat.cast_mul, A_cast p hs, T_cast p]
    congr 1
    ring

theorem row_addrs {l : Layout} (p : l.Pos) {seg view ax tof : Int} (hs : SegOK l seg) (hv : ViewOK l view)
    (ha : AxOK l seg ax) (hk : TofOK l tof) :
    addrsRow l seg view ax tof = .ok ((rowBins l seg view ax tof).map (rawOffset l)) := by
  unfold addrsRow
  rw [offsetOf_ok (first_in_range p hs hv ha hk), rowBins_offsets]
  rfl

theorem viewgram_addrs {l : Layout} (p : l.Pos) {seg view tof : Int} (hs : SegOK l seg) (hv : ViewOK l view)
    (hk : TofOK l tof) :
    addrsViewgram l seg view tof = .ok ((binsViewgram l seg view tof).map (rawOffset l)) := by
  unfold addrsViewgram
  cases ho : l.order
  · refine mapM_flatten_ok fun i hi => row_addrs p hs hv (axOK_iff.2 ⟨by omega, ?_⟩) hk
    have := List.mem_range.1 hi
    omega
  · simp only
    rw [offsetOf_ok (first_in_range p hs hv (ax_first p hs) hk), binsViewgram_offsets p ho]
    rfl

theorem sinogram_addrs {l : Layout} (p : l.Pos) {seg ax tof : Int} (hs : SegOK l seg) (ha : AxOK l seg ax)
    (hk : TofOK l tof) :
    addrsSinogram l seg ax tof = .ok ((binsSinogram l seg ax tof).map (rawOffset l)) := by
  unfold addrsSinogram
  cases ho : l.order
  · simp only
    rw [offsetOf_ok (first_in_range p hs (view_first p) ha hk), binsSinogram_offsets p ho]
    rfl
  · refine mapM_flatten_ok fun j hj => row_addrs p hs (viewOK_iff.2 ⟨by omega, ?_⟩) ha hk
    have := List.mem_range.1 hj
    omega

theorem segBySino_addrs {l : Layout} (p : l.Pos) {seg tof : Int} (hs : SegOK l seg) (hk : TofOK l tof) :
    addrsSegBySino l seg tof = .ok ((binsSegBySino l seg tof).map (rawOffset l)) := by
  unfold addrsSegBySino
  rw [offsetOf_ok (first_in_range p hs (view_first p) (ax_first p hs) hk), ok_bind]
  cases ho : l.order
  · exact congrArg Except.ok (binsSegBySino_offsets p ho seg tof).symm
  · -- svat: converted to a SegmentByView, whose run is read in [ax][view][tang] order
    refine congrArg Except.ok ?_
    unfold binsSegBySino binsSinogram rowBins
    simp only [List.map_flatMap, List.map_map]
    apply List.flatMap_congr
    intro i _
    apply List.flatMap_congr
    intro j _
    apply List.map_congr_left
    intro k _
    simp only [Function.comp]
    rw [raw_within l ⟨seg, l.minView + j, l.minAx seg + i, l.minTang + k, tof⟩, within, ho]
    push_cast
    rw [A_cast p hs, T_cast p]
    ring

theorem segByView_addrs {l : Layout} (p : l.Pos) {seg tof : Int} (hs : SegOK l seg) (hk : TofOK l tof) :
    addrsSegByView l seg tof = .ok ((binsSegByView l seg tof).map (rawOffset l)) := by
  unfold addrsSegByView
  rw [offsetOf_ok (first_in_range p hs (view_first p) (ax_first p hs) hk), ok_bind]
  cases ho : l.order
  · -- savt: converted to a SegmentBySinogram, whose run is read in [view][ax][tang] order
    refine congrArg Except.ok ?_
    unfold binsSegByView binsViewgram rowBins
    simp only [List.map_flatMap, List.map_map]
    apply List.flatMap_congr
    intro j _
    apply List.flatMap_congr
    intro i _
    apply List.map_congr_left
    intro k _
    simp only [Function.comp]
    rw [raw_within l ⟨seg, l.minView + j, l.minAx seg + i, l.minTang + k, tof⟩, within, ho]
    push_cast
    rw [V_cast p, T_cast p]
    ring
  · exact congrArg Except.ok (binsSegByView_offsets p ho hs tof).symm

theorem fillPd_addrs {l : Layout} (p : l.Pos) : addrsFillPd l = .ok ((binsFillPd l).map (rawOffset l)) :=
  mapM_flatten_ok fun _ hs => mapM_flatten_ok fun _ hk =>
    segByView_addrs p ((mem_segRange_iff l _).1 hs) ((mem_tofRange_iff l _).1 hk)

theorem mem_binsFill {l : Layout} {b : Bin} : b ∈ binsFill l ↔ InRange l b :=
  mem_tofSegs (mem_segRange_iff l) mem_binsSegByView

theorem mem_binsBulk {l : Layout} {b : Bin} : b ∈ binsBulk l ↔ InRange l b :=
  mem_tofSegs (mem_segRange_iff l) mem_binsSegBySino

theorem mem_binsFillPd {l : Layout} {b : Bin} : b ∈ binsFillPd l ↔ InRange l b :=
  mem_flatMap_comm.trans (mem_tofSegs (mem_segRange_iff l) mem_binsSegByView)

/-- the two segments the `while` loop of `standard_segment_sequence` appends in round `k` -/
theorem mem_standardSegmentSequence_round {minSeg maxSeg : Int} {k : Nat} {s : Int} :
    s ∈ (if (k : Int) + 1 ≤ maxSeg then [(k : Int) + 1] else []) ++ (if -((k : Int) + 1) ≥ minSeg then [-((k : Int) + 1)] else [])
      ↔ ((k : Int) + 1 ≤ maxSeg ∧ s = (k : Int) + 1) ∨ (-((k : Int) + 1) ≥ minSeg ∧ s = -((k : Int) + 1)) := by
  simp only [List.mem_append, List.mem_ite_nil_right, List.mem_singleton]

theorem mem_standardSegmentSequence (minSeg maxSeg s : Int) (h0 : minSeg ≤ 0) (h1 : 0 ≤ maxSeg) :
    s ∈ standardSegmentSequence minSeg maxSeg ↔ (minSeg ≤ s ∧ s ≤ maxSeg) := by
  unfold standardSegmentSequence
  rw [if_neg (by omega)]
  simp only [List.singleton_append, List.mem_cons, List.mem_flatMap, List.mem_range, mem_standardSegmentSequence_round]
  constructor
  · rintro (rfl | ⟨k, -, ⟨h, rfl⟩ | ⟨h, rfl⟩⟩)
    · exact ⟨h0, h1⟩
    · omega
    · omega
  · intro hs
    rcases lt_trichotomy s 0 with hn | rfl | hp
    · exact Or.inr ⟨(-s - 1).toNat, lt_max_of_lt_left (by omega), Or.inr (by omega)⟩
    · exact Or.inl rfl
    · exact Or.inr ⟨(s - 1).toNat, lt_max_of_lt_right (by omega), Or.inl (by omega)⟩

theorem standardSegmentSequence_nodup (minSeg maxSeg : Int) : (standardSegmentSequence minSeg maxSeg).Nodup := by
  unfold standardSegmentSequence
  split
  · exact List.nodup_nil
  · rw [List.nodup_append]
    refine ⟨List.nodup_singleton 0, ?_, ?_⟩
    · rw [List.nodup_flatMap]
      constructor
      · intro k _
        rw [List.nodup_append]
        refine ⟨?_, ?_, ?_⟩
        · split
          · exact List.nodup_singleton _
          · exact List.nodup_nil
        · split
          · exact List.nodup_singleton _
          · exact List.nodup_nil
        · intro a ha b hb
          rw [List.mem_ite_nil_right, List.mem_singleton] at ha hb
          omega
      · -- different rounds append segments of different absolute value
        refine List.Pairwise.imp ?_ List.pairwise_lt_range
        intro i j hij x hx hy
        simp only [mem_standardSegmentSequence_round] at hx hy
        omega
    · intro a ha b hb
      rw [List.mem_singleton] at ha
      obtain ⟨k, _, hb⟩ := List.mem_flatMap.mp hb
      simp only [mem_standardSegmentSequence_round] at hb
      omega

theorem mem_binsAll {l : Layout} (h0 : l.minSeg ≤ 0) (h1 : 0 ≤ l.maxSeg) {b : Bin} :
    b ∈ binsAll l ↔ InRange l b :=
  mem_tofSegs (fun s => mem_standardSegmentSequence _ _ s h0 h1) mem_binsSegBySino

theorem stdOffset3d_eq {l : Layout} (hn : l.segSeq.Nodup) (hm : ∀ s, s ∈ l.segSeq ↔ (l.minSeg ≤ s ∧ s ≤ l.maxSeg)) :
    stdOffset3d l = totalAx l * (l.numViews * l.numTang) * l.elemSize := by
  unfold stdOffset3d totalAx
  simp only [mul_assoc (l.numAx _)]
  rw [List.sum_map_mul_right]
  have hnd : l.segRange.Nodup := Common.nodup_map_range_add _ _
  have hp : l.segSeq.Perm l.segRange :=
    (List.perm_ext_iff_of_nodup hn hnd).2 fun a => (hm a).trans (mem_segRange_iff l a).symm
  rw [(hp.map l.numAx).sum_eq]

end StirVerif.C02
