/-
C02 — what `findIdx` (`std::find(...) - begin()`) returns, and reading a chain of `error(...)` checks that came out `ok`;
core Lean only, so that the bridge theorems of `StirVerif/Gen/Bridges.lean` can use them as well.
-/
import StirVerif.C02.Model

namespace StirVerif.C02

theorem findIdx_eq_idxOf (xs : List Int) (a : Int) : findIdx xs a = xs.idxOf a := by
  induction xs with
  | nil => rfl
  | cons x t ih =>
    simp only [findIdx, List.idxOf_cons, cond_eq_ite, beq_iff_eq, ih]

theorem findIdx_le_length (xs : List Int) (a : Int) : findIdx xs a ≤ xs.length := by
  rw [findIdx_eq_idxOf]
  exact List.idxOf_le_length

theorem ite_error_eq_ok {ε α : Type} {c : Prop} [Decidable c] {e : ε} {x : Except ε α} {o : α} :
    (if c then Except.error e else x) = .ok o ↔ ¬c ∧ x = .ok o := by
  split
  · exact ⟨fun h => (nomatch h), fun h => absurd ‹c› h.1⟩
  · exact ⟨fun h => ⟨‹¬c›, h⟩, fun h => h.2⟩

end StirVerif.C02
