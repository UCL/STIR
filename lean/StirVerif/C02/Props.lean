/-
C02 — "Projection data are one coherent array across access paths, layouts and files".
Property theorems over the model of `Model.lean` (transcription of `ProjDataFromStream::get_offset`,
`ProjDataInMemory::get_index` and of the seek/contiguous-run pattern of every get_*/set_*).
All statements are for every geometry (any number of segments with any, unequal, axial sizes, any view /
tangential / TOF ranges), both storage orders, every permutation of the segment sequence, every element size
and stream offset, and every history of writes — no bounds.

The values a bulk operation (`Op.bulk`, `Op.fillPd`) writes are arbitrary here: they are what the element-wise arithmetic
produced.  `setterAccepts` is compared line by line with `set_viewgram`/`set_sinogram`/`set_segment`/`set_related_viewgrams`
of every implementation.

Hypotheses: `Layout.WF` (segment sequence = a permutation of the segment range, TOF sequence = a list of exactly the TOF bins of the
range, non-negative sizes, `offset_3d_data` = one complete data set — which `C02_offset3d_is_one_data_set` shows is what
`activate_TOF` computes) and `Layout.Pos` (no empty dimension); both hold of every layout STIR constructs
(`example`s below).
-/
import StirVerif.C02.ProofsCopy
import StirVerif.C02.ProofsScale
import StirVerif.C02.ProofsSetters

namespace StirVerif.C02

/-- "a single array indexed by (segment, axial position, view, tangential position, TOF bin)":
    two in-range bins with the same stream offset are the same bin — both storage orders, any segment
    permutation, unequal axial sizes, TOF or not. -/
theorem C02_offset_injective (l : Layout) (h : l.WF) (b1 b2 : Bin) (r1 : InRange l b1) (r2 : InRange l b2)
    (e : offsetOf l b1 = offsetOf l b2) : b1 = b2 := by
  rw [offsetOf_ok r1, offsetOf_ok r2] at e
  exact rawOffset_inj h r1 r2 (Except.ok.inj e)

/-- every in-range bin is accepted and lands inside the store, on an element boundary:
    `offset ≤ off(b) < offset + total·size`, `off(b) ≡ offset (mod size)`.  `total` is `totalSlots l`, counted over the
    positions of the TOF sequence: with a TOF bin listed twice (which `Layout.WF` allows) it exceeds the model's `sizeAll`. -/
theorem C02_offset_in_range (l : Layout) (h : l.WF) (b : Bin) (r : InRange l b) :
    ∃ k : Int, 0 ≤ k ∧ k < totalSlots l ∧ offsetOf l b = .ok (l.offset + k * l.elemSize) :=
  ⟨slot l b, (slot_bounds h r).1, (slot_bounds h r).2, by rw [offsetOf_ok r, rawOffset_eq_slot h]⟩

/-- `ProjDataInMemory::get_index` is `get_offset` for element size 1, stream offset 0 and the
    Segment_AxialPos_View_TangPos order (same checks, same missing checks): all theorems apply to it. -/
theorem C02_in_memory_same (l : Layout) (b : Bin) : getIndex l b = offsetOf l.inMemory b := by
  unfold getIndex offsetOf
  -- the five range checks read fields that `inMemory` keeps
  iterate 5 refine ite_congr rfl (fun _ => rfl) fun _ => ?_
  unfold rawOffset Layout.inMemory axBefore
  simp only
  split
  · congr 1
    ring
  · congr 1
    ring

/-- what `activate_TOF` / the `ProjDataInMemory` constructor store in `offset_3d_data` is the size of one complete
    non-TOF data set, whatever the order of the segment sequence (the `off3d` field of `Layout.WF`). -/
theorem C02_offset3d_is_one_data_set (l : Layout) (hn : l.segSeq.Nodup)
    (hm : ∀ s, s ∈ l.segSeq ↔ (l.minSeg ≤ s ∧ s ≤ l.maxSeg)) :
    stdOffset3d l = totalAx l * (l.numViews * l.numTang) * l.elemSize :=
  stdOffset3d_eq hn hm

/-- "a value written through any access path …": for an in-range request through any path (single bin, viewgram,
    sinogram, segment by sinogram / by view — including the conversion when the storage order does not match —,
    related viewgrams, `fill`, `fill_from`, the bulk arithmetic
    `sapyb`/`xapyb`/`axpby`/`operator+=,-=,*=,/=` (`Op.bulk`) and `fill(const ProjData&)` (`Op.fillPd`)), the addresses
    the code seeks to and runs over are exactly the offsets of the bins of that path, in container element order. -/
theorem C02_path_addresses {α : Type} (l : Layout) (p : l.Pos) (op : Op α) (hv : op.Valid l) :
    op.addrs l = .ok ((op.bins l).map (rawOffset l)) ∧ ∀ b ∈ op.bins l, InRange l b :=
  ⟨Op.addrs_eq p op hv, Op.bins_inRange op hv⟩

/-- contiguity justifying the single `write_data`/`read_data` call: a tangential row is contiguous in both orders … -/
theorem C02_contiguous_row (l : Layout) (seg view ax tof : Int) :
    (rowBins l seg view ax tof).map (rawOffset l)
      = block (rawOffset l ⟨seg, view, ax, l.minTang, tof⟩) l.elemSize l.T :=
  rowBins_offsets l seg view ax tof

set_option linter.unusedVariables false in
/-- … a whole viewgram is one contiguous run in the Segment_View_AxialPos_TangPos order (the range hypotheses
    are not used: as an identity between lists of offsets it holds for requests outside the ranges too) … -/
theorem C02_contiguous_viewgram (l : Layout) (p : l.Pos) (ho : l.order = .svat) (seg view tof : Int)
    (hs : SegOK l seg) (hv : ViewOK l view) (hk : TofOK l tof) :
    (binsViewgram l seg view tof).map (rawOffset l)
      = block (rawOffset l ⟨seg, view, l.minAx seg, l.minTang, tof⟩) l.elemSize (l.A seg * l.T) :=
  binsViewgram_offsets p ho seg view tof

set_option linter.unusedVariables false in
/-- … a whole sinogram in the Segment_AxialPos_View_TangPos order … -/
theorem C02_contiguous_sinogram (l : Layout) (p : l.Pos) (ho : l.order = .savt) (seg ax tof : Int)
    (hs : SegOK l seg) (ha : AxOK l seg ax) (hk : TofOK l tof) :
    (binsSinogram l seg ax tof).map (rawOffset l)
      = block (rawOffset l ⟨seg, l.minView, ax, l.minTang, tof⟩) l.elemSize (l.V * l.T) :=
  binsSinogram_offsets p ho seg ax tof

set_option linter.unusedVariables false in
/-- … and a whole segment, in the matching container, in either order. -/
theorem C02_contiguous_segment (l : Layout) (p : l.Pos) (seg tof : Int) (hs : SegOK l seg) (hk : TofOK l tof) :
    (l.order = .savt → (binsSegBySino l seg tof).map (rawOffset l)
        = block (rawOffset l ⟨seg, l.minView, l.minAx seg, l.minTang, tof⟩) l.elemSize (l.A seg * (l.V * l.T))) ∧
    (l.order = .svat → (binsSegByView l seg tof).map (rawOffset l)
        = block (rawOffset l ⟨seg, l.minView, l.minAx seg, l.minTang, tof⟩) l.elemSize (l.V * (l.A seg * l.T))) :=
  ⟨fun ho => binsSegBySino_offsets p ho seg tof, fun ho => binsSegByView_offsets p ho hs tof⟩

/-- "… is read back unchanged … and no other bin changes": for ANY list of (bin, value) writes to in-range bins,
    laid down in the store at the offsets the code computes, reading the address of any in-range bin gives the
    last value written to that bin, and the previous content if it was never written. -/
theorem C02_writes_then_read {α : Type} (l : Layout) (h : l.WF) (σ : Store α) (ws : List (Bin × α))
    (hw : ∀ w ∈ ws, InRange l w.1) (b : Bin) (hb : InRange l b) :
    writeAddrs σ (ws.map fun w => (rawOffset l w.1, w.2)) (rawOffset l b)
      = (lastWrite ws b).getD (σ (rawOffset l b)) := by
  have r0 : Refines l σ (fun c => σ (rawOffset l c)) := fun _ _ => rfl
  have := refines_writes h ws r0 hw b hb
  rw [this, writeBins_apply]

/-- "… and no other bin changes": an in-range bin that none of the writes names keeps its value. -/
theorem C02_untouched_bins_keep_value {α : Type} (l : Layout) (h : l.WF) (σ : Store α) (ws : List (Bin × α))
    (hw : ∀ w ∈ ws, InRange l w.1) (b : Bin) (hb : InRange l b) (hn : ∀ w ∈ ws, w.1 ≠ b) :
    writeAddrs σ (ws.map fun w => (rawOffset l w.1, w.2)) (rawOffset l b) = σ (rawOffset l b) := by
  rw [C02_writes_then_read l h σ ws hw b hb, lastWrite_none_of_not_mem ws b hn]
  rfl

/-- "arbitrary interleavings of write operations through different access paths": after any history of in-range
    requests through all paths (executed on the store exactly as the code addresses it), the store still holds,
    at the offset of every in-range bin, what the abstract array (reference map) holds … -/
theorem C02_history_refines {α : Type} (l : Layout) (h : l.WF) (p : l.Pos) (ops : List (Op α))
    (σ : Store α) (m : Spec α) (r : Refines l σ m) (hv : ∀ op ∈ ops, op.Valid l) :
    Refines l (ops.foldl (stepStore l) σ) (ops.foldl (stepSpec l) m) :=
  List.foldl_rel r fun op hop _ _ r => refines_step h p r op (hv op hop)

/-- … so that reading through ANY path afterwards returns the abstract array's values for the bins of that path. -/
theorem C02_read_any_path {α : Type} (l : Layout) (h : l.WF) (p : l.Pos) (ops : List (Op α))
    (σ : Store α) (m : Spec α) (r : Refines l σ m) (hv : ∀ op ∈ ops, op.Valid l) (rd : Op α) (hr : rd.Valid l) :
    readPath (ops.foldl (stepStore l) σ) (rd.addrs l) = .ok ((rd.bins l).map (ops.foldl (stepSpec l) m)) :=
  read_refines p (C02_history_refines l h p ops σ m r hv) rd hr

/-- "Requests outside the index ranges are reported as errors": PARTIAL — true of the pinned source for the segment,
    the axial position and the TOF index only (the three checks `get_offset` / `get_index` contain). -/
theorem C02_range_errors_partial (l : Layout) (b : Bin)
    (hb : ¬ SegOK l b.seg ∨ ¬ AxOK l b.seg b.ax ∨ ¬ TofOK l b.tof) : ∃ e, offsetOf l b = .error e :=
  offsetOf_error_of_not fun ⟨h1, h2, h3, _⟩ => hb.elim (· h1) fun hb => hb.elim (· h2) (· h3)

/-- the full clause: every request that is not in range is an error -/
def RangeErrorsFull (l : Layout) : Prop := ∀ b, ¬ InRange l b → ∃ e, offsetOf l b = .error e

/-- the full clause holds once view and tangential position are checked too (the two flags the harness reads off
    the implementation) … -/
theorem C02_range_errors_checked (l : Layout) (hv : l.checkView = true) (ht : l.checkTang = true) :
    RangeErrorsFull l :=
  fun _ hb => offsetOf_error_of_not fun ⟨h1, h2, h3, h4, h5⟩ => hb ⟨h1, h2, h4 hv, h5 ht, h3⟩

/-- a small concrete layout: segments -1..1 stored in the order 1, -1, 0 with 2, 2, 3 axial positions,
    2 views, 3 tangential positions -1..1, 3 TOF bins, 4-byte elements at stream offset 12 -/
def exLayout (o : Order) (cv ct : Bool) : Layout :=
  { segSeq := [1, -1, 0], tofSeq := [-1, 0, 1], minSeg := -1, maxSeg := 1,
    minAx := fun _ => 0, numAx := fun s => if s = 0 then 3 else 2,
    minView := 0, numViews := 2, minTang := -1, numTang := 3, minTof := -1, maxTof := 1, numTof := 3,
    order := o, elemSize := 4, offset := 12, offset3d := 7 * (2 * 3) * 4, checkView := cv, checkTang := ct }

/-- … and FAILS for the pinned source (no view / tangential check): on the small layout above, the request
    (segment 0, view 2 = max_view+1, axial 0) is accepted and has the offset of the in-range bin
    (segment 0, view 0, axial 1): reading it returns, writing it overwrites, another bin.  Same for the tangential
    position 2 = max+1, which (order `svat`) lands on the first bin of the next axial position of the same view. -/
theorem C02_view_out_of_range_aliases_fails :
    ¬ RangeErrorsFull (exLayout .savt false false) ∧
    offsetOf (exLayout .savt false false) ⟨0, 2, 0, -1, 0⟩ = offsetOf (exLayout .savt false false) ⟨0, 0, 1, -1, 0⟩ ∧
    offsetOf (exLayout .savt false false) ⟨0, 2, 0, -1, 0⟩ = .ok 300 ∧
    offsetOf (exLayout .svat false false) ⟨0, 0, 0, 2, 0⟩ = offsetOf (exLayout .svat false false) ⟨0, 0, 1, -1, 0⟩ ∧
    offsetOf (exLayout .svat false false) ⟨0, 0, 0, 2, 0⟩ = .ok 288 := by
  refine ⟨?_, by decide, by decide, by decide, by decide⟩
  intro h
  obtain ⟨e, he⟩ := h ⟨0, 2, 0, -1, 0⟩ (fun r => absurd r.view.2 (by decide))
  have : offsetOf (exLayout .savt false false) ⟨0, 2, 0, -1, 0⟩ = .ok 300 := by decide
  rw [this] at he
  cases he

/-- the hypothesis "every segment of the range occurs in the segment sequence" is needed: `std::find` returns
    `size()` for a missing segment, so with the sequence [0] for the range -1..1 the (accepted) segments -1 and 1
    share their offsets. -/
theorem C02_missing_segment_aliases_fails :
    offsetOf { exLayout .savt false false with segSeq := [0] } ⟨1, 0, 0, -1, 0⟩
      = offsetOf { exLayout .savt false false with segSeq := [0] } ⟨-1, 0, 0, -1, 0⟩ := by decide

/-- "written values are visible … as soon as each write call returns" (class documentation: every set_* flushes):
    PARTIAL, about the model's table of which `set_*` end with `sino_stream->flush()` — all but `set_bin_value`
    (whether the bytes reach a second reader is runtime behaviour, checked by the harness only). -/
theorem C02_flush_after_every_write_partial (k : WriteKind) (hk : k ≠ .bin) : flushes k = true := by
  cases k with
  | bin => exact absurd rfl hk
  | _ => rfl

/-- `set_bin_value` has no `flush()` in the pinned source -/
theorem C02_flush_set_bin_value_fails : flushes .bin = false := rfl

/-- "a value written through any access path … is read back unchanged through every other path … whatever the …
    on-disk number type": on a stream with an integer on-disk type and scale factor `scale ≠ 0`, every value that is a
    multiple `n · scale` of the scale factor (non-negative for unsigned short), written through any path that hands the
    stream's scale factor to `write_data` (`round(value / scale)` on disk), is returned unchanged by every `get_*`
    (`number · scale`) — every `set_*` but the pinned `set_bin_value`. -/
theorem C02_scaled_value_roundtrip (ty : NumType) (hty : ty ≠ .float) (binScaled : Bool) (k : WriteKind)
    (hk : k ≠ .bin ∨ binScaled = true) (scale : Rat) (hs : scale ≠ 0) (n : Int)
    (hn : ty = .ushort → 0 ≤ (n : Rat) * scale) :
    writeThenRead ty binScaled k scale ((n : Rat) * scale) = (n : Rat) * scale := by
  have hw : writeScale binScaled k scale = scale := by
    unfold writeScale
    rcases hk with hk | hk
    · rw [if_neg fun h => hk h.1]
    · rw [hk, if_neg fun h => Bool.noConfusion h.2]
  unfold writeThenRead fromDisk
  rw [hw, toDisk_of_div_eq hty (mul_div_cancel_right₀ _ hs) hn]

/-- float on disk (and `ProjDataInMemory`): every value is kept as it is; with scale factor 1 it is read back unchanged -/
theorem C02_float_value_roundtrip (binScaled : Bool) (k : WriteKind) (v : Rat) :
    writeThenRead .float binScaled k 1 v = v := by
  show v * 1 = v
  exact mul_one v

/-- the clause FAILS for the single-bin path of the pinned source: `set_bin_value` passes scale 1 to `write_data`
    while `get_bin_value` multiplies by `scale_factor`, so an integer value `m` comes back as `m · scale`
    (short data, scale factor 3: 6 is read back as 18, although the same value written through `set_viewgram` comes back as 6). -/
theorem C02_set_bin_value_ignores_scale_fails :
    (∀ (scale : Rat) (m : Int), writeThenRead .short false .bin scale (m : Rat) = (m : Rat) * scale) ∧
    writeThenRead .short false .bin 3 6 = 18 ∧ writeThenRead .short false .viewgram 3 6 = 6 := by
  have hbin : ∀ (scale : Rat) (m : Int), writeThenRead .short false .bin scale (m : Rat) = (m : Rat) * scale :=
    fun scale m => writeThenRead_bin_unscaled .short (hty := by decide) scale m (hm := nofun)
  refine ⟨hbin, ?_, ?_⟩
  · have := hbin 3 6
    norm_num at this ⊢
    exact this
  · have := C02_scaled_value_roundtrip .short (hty := by decide) false .viewgram (hk := Or.inl (by decide)) 3
      (hs := by norm_num) 2 (hn := nofun)
    norm_num at this ⊢
    exact this

/-- non-vacuity: the hypotheses of `C02_scaled_value_roundtrip` hold for unsigned short data with scale factor 1/2 -/
example : writeThenRead .ushort false .sinogram (1/2) ((7 : Int) * (1/2)) = (7 : Int) * (1/2) :=
  C02_scaled_value_roundtrip .ushort (hty := by decide) false .sinogram (hk := Or.inl (by decide)) (1/2)
    (hs := by norm_num) 7 (hn := fun _ => by norm_num)

/-- "… is read back unchanged through every other path … whatever the … backing store": `ProjDataInMemory(const ProjData&)`
    (= `ProjData::fill(const ProjData&)` on the new object, also used by `ProjDataInMemory::read_from_file`) reads, for
    every segment and TOF bin, exactly the addresses of the source's bins and writes them at the buffer index of the SAME
    bin in the new object's own layout (standard segment sequence, natural TOF order) … -/
theorem C02_copy_into_memory_addresses (l : Layout) (p : l.Pos) :
    copyIntoMemory l = .ok ((binsFillPd l).map fun b => (rawOffset l b, rawOffset (memLayout l) b)) := by
  unfold copyIntoMemory
  rw [fillPd_addrs p, ok_bind, fillPd_addrs (memLayout_Pos p), ok_bind]
  exact congrArg Except.ok List.zip_map'

set_option linter.unusedVariables false in
/-- … every in-range bin is copied (`p` is not used: the bins of a path are the in-range bins in every layout) … -/
theorem C02_copy_into_memory_complete (l : Layout) (p : l.Pos) (b : Bin) (r : InRange l b) : b ∈ binsFillPd l :=
  mem_binsFillPd.2 r

set_option linter.unusedVariables false in
/-- … and therefore the new object holds the same abstract array as the source, whatever it held before and whatever the
    source's storage order, segment sequence, element size and offset (`hax` is not used: `p` implies it). -/
theorem C02_copy_into_memory_refines {α : Type} (l : Layout) (p : l.Pos) (h0 : l.minSeg ≤ 0) (h1 : 0 ≤ l.maxSeg)
    (hax : ∀ s, l.minSeg ≤ s ∧ s ≤ l.maxSeg → 0 ≤ l.numAx s) (htof : ¬ l.numTof > 1 → l.minTof = l.maxTof)
    (σ τ : Store α) (m : Spec α) (r : Refines l σ m) :
    Refines (memLayout l) (copyStore σ τ ((binsFillPd l).map fun b => (rawOffset l b, rawOffset (memLayout l) b))) m :=
  copy_refines_of_cover (memLayout_WF p h0 h1 htof) (cs := binsFillPd l) (src := id)
    (hmem := fun _ => mem_binsFillPd.trans inRange_memLayout.symm)
    (hsrc := fun _ => inRange_memLayout.1) r

/-- `ProjData::standard_segment_sequence` never repeats a segment: the layout of every `ProjDataInMemory` is a
    permutation of its segment range (hypothesis `segNodup` of `Layout.WF`). -/
theorem C02_standard_segment_sequence_nodup (minSeg maxSeg : Int) : (standardSegmentSequence minSeg maxSeg).Nodup :=
  standardSegmentSequence_nodup minSeg maxSeg

/-- `ProjData::get_subset(views)` (for TOF bin, segment, subset view `j`: `get_viewgram(views[j])` → `set_viewgram` of view
    `j` of a fresh `ProjDataInMemory` whose geometry has `views.size()` views): for a non-empty list of in-range views the
    code reads, for every bin `c` of the subset object, exactly the source address of the bin `c` with view number
    `views[c.view]`, and writes it at `c`'s own buffer index … -/
theorem C02_get_subset_addresses (l : Layout) (p : l.Pos) (views : List Int) (hne : views ≠ [])
    (hv : ∀ v ∈ views, ViewOK l v) :
    subsetCopy l views = .ok ((subsetDst l views).map fun c =>
      (rawOffset l (subsetSrc views c), rawOffset (subsetLayout l views.length) c)) := by
  have psl := subsetLayout_Pos p (List.length_pos_iff.2 hne)
  refine mapM_flatten_ok fun k hk => mapM_flatten_ok fun s hs => mapM_flatten_ok fun jv hjv => ?_
  obtain ⟨hj, hview⟩ := List.of_mem_zip hjv
  have hso := (mem_segRange_iff l s).1 hs
  have hko := (mem_tofRange_iff l k).1 hk
  have hjo : ViewOK (subsetLayout l views.length) (jv.1 : Int) :=
    viewOK_subsetLayout.2 ⟨Int.natCast_nonneg _, Int.ofNat_lt.2 (List.mem_range.1 hj)⟩
  -- the source viewgram is the destination viewgram with the view number replaced
  rw [viewgram_addrs p hso (hv _ hview) hko, ok_bind, viewgram_addrs psl hso hjo hko, ok_bind,
    binsViewgram_eq_map_subsetSrc l views.length (getD_of_mem_zip_range hjv), List.map_map, List.zip_map']
  rfl

set_option linter.unusedVariables false in
/-- … so that the returned object holds the source's abstract array re-indexed by `views` (views may repeat or come in
    any order), whatever the source's layout (`hax` is not used: `p` implies it). -/
theorem C02_get_subset_refines {α : Type} (l : Layout) (p : l.Pos) (h0 : l.minSeg ≤ 0) (h1 : 0 ≤ l.maxSeg)
    (hax : ∀ s, l.minSeg ≤ s ∧ s ≤ l.maxSeg → 0 ≤ l.numAx s) (htof : ¬ l.numTof > 1 → l.minTof = l.maxTof)
    (views : List Int) (hne : views ≠ []) (hv : ∀ v ∈ views, ViewOK l v)
    (σ τ : Store α) (m : Spec α) (r : Refines l σ m) :
    Refines (subsetLayout l views.length)
      (copyStore σ τ ((subsetDst l views).map fun c =>
        (rawOffset l (subsetSrc views c), rawOffset (subsetLayout l views.length) c)))
      (fun c => m (subsetSrc views c)) :=
  copy_refines_of_cover (subsetLayout_WF p (List.length_pos_iff.2 hne) h0 h1 htof) (cs := subsetDst l views)
    (src := subsetSrc views)
    (hmem := fun _ => mem_subsetDst)
    (hsrc := fun _ => subsetSrc_inRange hv) r

/-- "Requests outside the index ranges are reported as errors instead of touching other data": once `set_segment`
    compares the axial range of the container with its own (`checked`, the flag the harness reads off the
    implementation), a container with an axial position too many is rejected … -/
theorem C02_oversized_segment_checked (l : Layout) (seg tof : Int) (extra : Nat) :
    ∃ e, addrsSegOversized l true seg tof extra = .error e := by
  unfold addrsSegOversized
  cases h : offsetOf l ⟨seg, l.minView, l.minAx seg, l.minTang, tof⟩ with
  | error e => exact ⟨e, rfl⟩
  | ok o => exact ⟨.axRange, rfl⟩

/-- … and it FAILS for the pinned source (views and tangential positions are compared, axial positions are not): on the
    example layout above, `set_segment` of segment 1 (first in the stream, 2 axial positions) with a container that has 3
    axial positions is accepted and its run of addresses contains the offset of the in-range bin
    (segment -1, view 0, axial 0, tang -1) of the NEXT segment in the stream. -/
theorem C02_oversized_segment_aliases_fails :
    ∃ as, addrsSegOversized (exLayout .savt false false) false 1 (-1) 1 = .ok as ∧
      offsetOf (exLayout .savt false false) ⟨-1, 0, 0, -1, -1⟩ = .ok 60 ∧ (60 : Int) ∈ as := by
  refine ⟨_, rfl, by decide, by decide⟩

theorem C02_example_layout_numAx_pos (o : Order) (cv ct : Bool) (s : Int) : 0 < (exLayout o cv ct).numAx s := by
  show (0 : Int) < if s = 0 then 3 else 2
  split
  · decide
  · decide

/-- the hypothesis `Layout.WF` of the theorems above is satisfiable: the example layout (segment sequence 1, -1, 0: not in increasing
    order) is well-formed, in both storage orders -/
theorem C02_example_layout_WF (o : Order) (cv ct : Bool) : (exLayout o cv ct).WF where
  segNodup := (by decide : [(1 : Int), -1, 0].Nodup)
  segMem := by
    intro s
    show s ∈ [1, -1, 0] ↔ -1 ≤ s ∧ s ≤ 1
    simp only [List.mem_cons, List.not_mem_nil, or_false]
    omega
  tofMem := by
    intro _ k
    show k ∈ [-1, 0, 1] ↔ -1 ≤ k ∧ k ≤ 1
    simp only [List.mem_cons, List.not_mem_nil, or_false]
    omega
  tofOne := fun h => absurd (by decide : (3 : Int) > 1) h
  numAxNonneg := fun s _ => le_of_lt (C02_example_layout_numAx_pos o cv ct s)
  viewsNonneg := (by decide : (0 : Int) ≤ 2)
  tangNonneg := (by decide : (0 : Int) ≤ 3)
  sizePos := (by decide : (0 : Int) < 4)
  off3d := fun _ => (by decide : (7 * (2 * 3) * 4 : Int) = (2 + 2 + 3 + 0) * (2 * 3) * 4)

/-- … and has no empty dimension (`Layout.Pos`) -/
theorem C02_example_layout_Pos (o : Order) (cv ct : Bool) : (exLayout o cv ct).Pos where
  views := (by decide : (0 : Int) < 2)
  tang := (by decide : (0 : Int) < 3)
  ax := fun s _ => C02_example_layout_numAx_pos o cv ct s

example : InRange (exLayout .svat false false) ⟨-1, 1, 1, 0, 1⟩ :=
  ⟨by decide, by decide, by decide, by decide, by decide⟩

example : stdOffset3d (exLayout .savt false false) = (exLayout .savt false false).offset3d := by decide

example : ∀ op ∈ ([.setViewgram 0 1 (-1) [1, 2, 3, 4, 5, 6, 7, 8, 9], .setBin ⟨-1, 1, 1, 0, 1⟩ 5,
    .setSegBySino 1 0 (List.replicate 12 7), .fill 0, .fillFrom (List.replicate 126 1)] : List (Op Nat)),
    op.Valid (exLayout .svat false false) := by
  intro op hop
  simp only [List.mem_cons, List.not_mem_nil, or_false] at hop
  rcases hop with rfl | rfl | rfl | rfl | rfl
  · exact ⟨by decide, by decide, by decide⟩
  · exact ⟨by decide, by decide, by decide, by decide, by decide⟩
  · exact ⟨by decide, by decide⟩
  · trivial
  · exact ⟨by decide, by decide⟩

/-- the model computes: viewgram (segment 0, view 1, TOF -1) of the example layout in the
    Segment_View_AxialPos_TangPos order is the contiguous run of 9 elements starting at byte 12 + 4·(4·6 + 9) -/
example : addrsViewgram (exLayout .svat false false) 0 1 (-1) = .ok (block 144 4 9) := by decide

/-- the hypotheses of `C02_copy_into_memory_refines` hold for the example layout (any store content) -/
example (o : Order) (σ τ : Store Nat) (m : Spec Nat) (r : Refines (exLayout o false false) σ m) :
    Refines (memLayout (exLayout o false false))
      (copyStore σ τ ((binsFillPd (exLayout o false false)).map fun b =>
        (rawOffset (exLayout o false false) b, rawOffset (memLayout (exLayout o false false)) b))) m :=
  C02_copy_into_memory_refines _ (C02_example_layout_Pos o false false) (by decide : (-1 : Int) ≤ 0) (by decide : (0 : Int) ≤ 1)
    (fun s _ => le_of_lt (C02_example_layout_numAx_pos o false false s)) (C02_example_layout_WF o false false).tofOne σ τ m r

/-- the hypotheses of `C02_get_subset_refines` hold for the example layout and the views [1, 0] -/
example (o : Order) (σ τ : Store Nat) (m : Spec Nat) (r : Refines (exLayout o false false) σ m) :
    Refines (subsetLayout (exLayout o false false) 2)
      (copyStore σ τ ((subsetDst (exLayout o false false) [1, 0]).map fun c =>
        (rawOffset (exLayout o false false) (subsetSrc [1, 0] c), rawOffset (subsetLayout (exLayout o false false) 2) c)))
      (fun c => m (subsetSrc [1, 0] c)) :=
  C02_get_subset_refines _ (C02_example_layout_Pos o false false) (by decide : (-1 : Int) ≤ 0) (by decide : (0 : Int) ≤ 1)
    (fun s _ => le_of_lt (C02_example_layout_numAx_pos o false false s)) (C02_example_layout_WF o false false).tofOne
    [1, 0] (by decide) (fun v hv => by
      have : v = 1 ∨ v = 0 := by simpa using hv
      show (0 : Int) ≤ v ∧ v ≤ 0 + 2 - 1
      omega) σ τ m r

/-- the model computes: subset view 0 of `get_subset([1, 0])` comes from view 1 -/
example : subsetSrc [1, 0] ⟨0, 0, 2, 1, 0⟩ = ⟨0, 1, 2, 1, 0⟩ := by decide

example : ∀ op ∈ ([.bulk (List.replicate 126 2), .fillPd (List.replicate 126 3), .setBin ⟨0, 1, 2, 1, 0⟩ 9] : List (Op Nat)),
    op.Valid (exLayout .savt false false) := by
  intro op hop
  simp only [List.mem_cons, List.not_mem_nil, or_false] at hop
  rcases hop with rfl | rfl | rfl
  · trivial
  · trivial
  · exact ⟨by decide, by decide, by decide, by decide, by decide⟩

/-- the model computes: the in-memory copy of the example layout stores segment 0 first (standard sequence 0, 1, -1) -/
example : (memLayout (exLayout .svat false false)).segSeq = [0, 1, -1] := by decide

/-- whatever a container setter accepts — with the minimum tangential position compared in `set_segment`
    (`tangChecked = true`) — has the data's ranges; no hypothesis on the segment number.  `set_viewgram`, `set_sinogram` and
    `set_related_viewgrams` end with `ProjDataInfo !=`, which compares all five ranges; `set_segment` compares the two
    sizes, both axial ends and the tangential minimum, which fixes the tangential maximum. -/
theorem C02_container_setter_accepted_has_same_ranges (l : Layout) (s : Setter) (seg : Int) (c : CRange)
    (h : setterAccepts l true s seg c = true) : c = l.crange seg := by
  cases s with
  | viewgram | related => exact (infoEquals_iff l seg c).1 (Bool.and_eq_true_iff.1 h).2
  | sinogram => exact (infoEquals_iff l seg c).1 h
  | segBySino | segByView =>
    obtain ⟨a0, a1, nv, t0, t1⟩ := c
    simp only [setterAccepts, CRange.numTang, Layout.crange, Layout.maxTang, Bool.and_eq_true, beq_iff_eq, Bool.not_true,
      Bool.false_or, CRange.mk.injEq] at h ⊢
    omega

/-- "Requests outside the index ranges are reported as errors instead of touching other data", for the container
    setters (`set_viewgram`, `set_sinogram`, `set_segment(SegmentBySinogram)`, `set_segment(SegmentByView)`,
    `set_related_viewgrams`; `ProjDataFromStream`, `ProjDataInterfile`, `ProjDataInMemory`): with the checks the source
    makes plus the comparison of the minimum tangential position in `set_segment` (`tangChecked = true`), a container
    is accepted IF AND ONLY IF its axial range (of its segment), its number of views and its tangential range are
    exactly the data's — every container of the right size with a shifted range, and every smaller one, is refused
    (and a refused setter writes nothing: the driver answers `err` without touching the store), while a container
    made by the data's own `get_empty_*` is never refused.  All layouts, all segments in range. -/
theorem C02_container_setter_accepts_iff_same_ranges (l : Layout) (s : Setter) (seg : Int) (c : CRange)
    (hs : l.minSeg ≤ seg ∧ seg ≤ l.maxSeg) :
    setterAccepts l true s seg c = true ↔ c = l.crange seg :=
  ⟨C02_container_setter_accepted_has_same_ranges l s seg c, fun h => h ▸ setterAccepts_own_ranges l true s seg hs⟩

/-- … and FAILS for the pinned source (`tangChecked = false`: `set_segment` compares the NUMBER of tangential positions
    only): on the small layout a `SegmentByView`/`SegmentBySinogram` of segment 0 with tangential range 0..2 (data: -1..1)
    is accepted although it is not the data's range — its last index 2 is outside; the setter then writes it position by
    position, i.e. shifted by one bin.  `set_viewgram`/`set_sinogram` refuse the same ranges. -/
theorem C02_set_segment_shifted_tang_range_fails :
    setterAccepts (exLayout .svat false false) false .segByView 0 ⟨0, 2, 2, 0, 2⟩ = true ∧
    setterAccepts (exLayout .savt false false) false .segBySino 0 ⟨0, 2, 2, 0, 2⟩ = true ∧
    (⟨0, 2, 2, 0, 2⟩ : CRange) ≠ (exLayout .svat false false).crange 0 ∧
    setterAccepts (exLayout .svat false false) false .viewgram 0 ⟨0, 2, 2, 0, 2⟩ = false ∧
    setterAccepts (exLayout .svat false false) false .sinogram 0 ⟨0, 2, 2, 0, 2⟩ = false := by decide

/-- non-vacuity: the data's own ranges of segment 0 of the example layout are accepted by every setter, the axial range
    shifted by one (1..3 instead of 0..2: the same number of axial positions) is refused by every setter -/
example : ∀ s : Setter, setterAccepts (exLayout .svat false false) true s 0 ⟨0, 2, 2, -1, 1⟩ = true ∧
    setterAccepts (exLayout .svat false false) false s 0 ⟨1, 3, 2, -1, 1⟩ = false := by
  intro s
  cases s
  all_goals decide

end StirVerif.C02
