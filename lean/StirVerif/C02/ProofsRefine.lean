/-
C02 — refinement: the stream, written through the offsets the code computes, behaves as the abstract
array indexed by (segment, view, axial position, tangential position, TOF bin).
-/
import StirVerif.C02.ProofsPaths

namespace StirVerif.C02

def Refines {α : Type} (l : Layout) (σ : Store α) (m : Spec α) : Prop :=
  ∀ b, InRange l b → σ (rawOffset l b) = m b

theorem refines_write {α : Type} {l : Layout} (h : l.WF) {σ : Store α} {m : Spec α} (r : Refines l σ m)
    {b : Bin} (hb : InRange l b) (v : α) : Refines l (σ.write (rawOffset l b) v) (m.write b v) := by
  intro c hc
  unfold Store.write Spec.write
  by_cases e : c = b
  · rw [e, if_pos rfl, if_pos rfl]
  · rw [if_neg fun eo => e (rawOffset_inj h hc hb eo), if_neg e, r c hc]

theorem refines_writes {α : Type} {l : Layout} (h : l.WF) (ws : List (Bin × α)) :
    ∀ {σ : Store α} {m : Spec α}, Refines l σ m → (∀ w ∈ ws, InRange l w.1) →
      Refines l (writeAddrs σ (ws.map fun w => (rawOffset l w.1, w.2))) (writeBins m ws) := by
  induction ws with
  | nil => exact fun r _ => r
  | cons w t ih =>
    intro σ m r hw
    exact ih (refines_write h r (hw w List.mem_cons_self) w.2) (fun x hx => hw x (List.mem_cons_of_mem _ hx))

/-- value of the last write to `b` in a write list (the rest of the list is asked first: later writes win) -/
def lastWrite {α : Type} : List (Bin × α) → Bin → Option α
  | [], _ => none
  | (c, v) :: rest, b => match lastWrite rest b with
    | some x => some x
    | none => if c = b then some v else none

theorem writeBins_apply {α : Type} (ws : List (Bin × α)) : ∀ (m : Spec α) (b : Bin),
    writeBins m ws b = (lastWrite ws b).getD (m b) := by
  induction ws with
  | nil => exact fun _ _ => rfl
  | cons w t ih =>
    intro m b
    obtain ⟨c, v⟩ := w
    rw [writeBins, lastWrite, ih]
    cases lastWrite t b with
    | some x => rfl
    | none =>
      unfold Spec.write
      by_cases e : b = c
      · rw [if_pos e, if_pos e.symm]
        rfl
      · rw [if_neg e, if_neg (Ne.symm e)]

theorem lastWrite_none_of_not_mem {α : Type} (ws : List (Bin × α)) (b : Bin) (h : ∀ w ∈ ws, w.1 ≠ b) :
    lastWrite ws b = none := by
  induction ws with
  | nil => rfl
  | cons w t ih =>
    obtain ⟨c, v⟩ := w
    rw [lastWrite, ih (fun x hx => h x (List.mem_cons_of_mem _ hx)), if_neg (h (c, v) List.mem_cons_self)]

/-- a write request through one of the access paths, with the values in container element order -/
inductive Op (α : Type) where
  | setBin (b : Bin) (v : α)
  | setViewgram (seg view tof : Int) (vals : List α)
  | setSinogram (seg ax tof : Int) (vals : List α)
  | setSegBySino (seg tof : Int) (vals : List α)
  | setSegByView (seg tof : Int) (vals : List α)
  | setRelated (pairs : List (Int × Int)) (tof : Int) (vals : List α)
  | fill (v : α)
  | fillFrom (vals : List α)
  /-- one pass of `ProjData::xapyb` / `apply_func` (`sapyb`, `xapyb`, `operator+=` …): the new values, in the order
      the generic code writes them (TOF, segments increasing, `SegmentBySinogram`) -/
  | bulk (vals : List α)
  /-- `ProjData::fill(const ProjData&)` (also behind `ProjDataInMemory(const ProjData&)`, `write_to_file`): the
      source's values in the order they are written (segments increasing, TOF, `SegmentByView`) -/
  | fillPd (vals : List α)

def Op.addrs {α : Type} (l : Layout) : Op α → Except Err (List Int)
  | .setBin b _ => addrsBin l b
  | .setViewgram s v k _ => addrsViewgram l s v k
  | .setSinogram s a k _ => addrsSinogram l s a k
  | .setSegBySino s k _ => addrsSegBySino l s k
  | .setSegByView s k _ => addrsSegByView l s k
  | .setRelated ps k _ => addrsRelated l ps k
  | .fill _ => addrsFill l
  | .fillFrom _ => addrsAll l
  | .bulk _ => addrsBulk l
  | .fillPd _ => addrsFillPd l

def Op.bins {α : Type} (l : Layout) : Op α → List Bin
  | .setBin b _ => [b]
  | .setViewgram s v k _ => binsViewgram l s v k
  | .setSinogram s a k _ => binsSinogram l s a k
  | .setSegBySino s k _ => binsSegBySino l s k
  | .setSegByView s k _ => binsSegByView l s k
  | .setRelated ps k _ => binsRelated l ps k
  | .fill _ => binsFill l
  | .fillFrom _ => binsAll l
  | .bulk _ => binsBulk l
  | .fillPd _ => binsFillPd l

def Op.vals {α : Type} (l : Layout) : Op α → List α
  | .setBin _ v => [v]
  | .setViewgram _ _ _ vs => vs
  | .setSinogram _ _ _ vs => vs
  | .setSegBySino _ _ vs => vs
  | .setSegByView _ _ vs => vs
  | .setRelated _ _ vs => vs
  | .fill v => List.replicate (binsFill l).length v
  | .fillFrom vs => vs
  | .bulk vs => vs
  | .fillPd vs => vs

/-- the request is inside the index ranges.  `fill_from` / `copy_to` run over `standard_segment_sequence`, which starts at segment 0 and
    lists the segment range only if 0 lies in it -/
def Op.Valid {α : Type} (l : Layout) : Op α → Prop
  | .setBin b _ => InRange l b
  | .setViewgram s v k _ => SegOK l s ∧ ViewOK l v ∧ TofOK l k
  | .setSinogram s a k _ => SegOK l s ∧ AxOK l s a ∧ TofOK l k
  | .setSegBySino s k _ => SegOK l s ∧ TofOK l k
  | .setSegByView s k _ => SegOK l s ∧ TofOK l k
  | .setRelated ps k _ => (∀ q ∈ ps, ViewOK l q.1 ∧ SegOK l q.2) ∧ TofOK l k
  | .fill _ => True
  | .fillFrom _ => l.minSeg ≤ 0 ∧ 0 ≤ l.maxSeg
  | .bulk _ => True
  | .fillPd _ => True

theorem Op.addrs_eq {α : Type} {l : Layout} (p : l.Pos) (op : Op α) (hv : op.Valid l) :
    op.addrs l = .ok ((op.bins l).map (rawOffset l)) := by
  cases op with
  | setBin b v =>
    show addrsBin l b = _
    unfold addrsBin
    rw [offsetOf_ok hv]
    rfl
  | setViewgram s v k vs => exact viewgram_addrs p hv.1 hv.2.1 hv.2.2
  | setSinogram s a k vs => exact sinogram_addrs p hv.1 hv.2.1 hv.2.2
  | setSegBySino s k vs => exact segBySino_addrs p hv.1 hv.2
  | setSegByView s k vs => exact segByView_addrs p hv.1 hv.2
  | setRelated ps k vs => exact mapM_flatten_ok fun q hq => viewgram_addrs p (hv.1 q hq).2 (hv.1 q hq).1 hv.2
  | fill v =>
    exact mapM_flatten_ok fun _ hk => mapM_flatten_ok fun _ hs =>
      segByView_addrs p ((mem_segRange_iff l _).1 hs) ((mem_tofRange_iff l _).1 hk)
  | fillFrom vs =>
    exact mapM_flatten_ok fun _ hk => mapM_flatten_ok fun s hs =>
      segBySino_addrs p ((mem_standardSegmentSequence _ _ s hv.1 hv.2).1 hs) ((mem_tofRange_iff l _).1 hk)
  | bulk vs =>
    exact mapM_flatten_ok fun _ hk => mapM_flatten_ok fun _ hs =>
      segBySino_addrs p ((mem_segRange_iff l _).1 hs) ((mem_tofRange_iff l _).1 hk)
  | fillPd vs => exact fillPd_addrs p

theorem Op.bins_inRange {α : Type} {l : Layout} (op : Op α) (hv : op.Valid l) :
    ∀ b ∈ op.bins l, InRange l b := by
  cases op with
  | setBin b v =>
    intro c hc
    rw [List.mem_singleton.1 hc]
    exact hv
  | setViewgram s v k vs => exact fun _ hb => ((mem_binsViewgram hv.1 hv.2.1 hv.2.2).1 hb).1.1
  | setSinogram s a k vs => exact fun _ hb => ((mem_binsSinogram hv.1 hv.2.1 hv.2.2).1 hb).1.1
  | setSegBySino s k vs => exact fun _ hb => ((mem_binsSegBySino hv.1 hv.2).1 hb).1
  | setSegByView s k vs => exact fun _ hb => ((mem_binsSegByView hv.1 hv.2).1 hb).1
  | setRelated ps k vs =>
    intro b hb
    obtain ⟨q, hq, hb⟩ := List.mem_flatMap.mp hb
    exact ((mem_binsViewgram (hv.1 q hq).2 (hv.1 q hq).1 hv.2).1 hb).1.1
  | fill v => exact fun _ => mem_binsFill.1
  | fillFrom vs => exact fun _ => (mem_binsAll hv.1 hv.2).1
  | bulk vs => exact fun _ => mem_binsBulk.1
  | fillPd vs => exact fun _ => mem_binsFillPd.1

/-- what the code does to the stream: values are laid down at the addresses of the path, in order;
    a rejected request (`error()`) leaves the stream alone -/
def stepStore {α : Type} (l : Layout) (σ : Store α) (op : Op α) : Store α :=
  match op.addrs l with
  | .ok as => writeAddrs σ (as.zip (op.vals l))
  | .error _ => σ

def stepSpec {α : Type} (l : Layout) (m : Spec α) (op : Op α) : Spec α :=
  writeBins m ((op.bins l).zip (op.vals l))

theorem refines_step {α : Type} {l : Layout} (h : l.WF) (p : l.Pos) {σ : Store α} {m : Spec α}
    (r : Refines l σ m) (op : Op α) (hv : op.Valid l) : Refines l (stepStore l σ op) (stepSpec l m op) := by
  unfold stepStore stepSpec
  rw [Op.addrs_eq p op hv]
  simp only
  rw [List.zip_map_left]
  exact refines_writes h _ r fun w hw => Op.bins_inRange op hv w.1 (List.of_mem_zip hw).1

def readPath {α : Type} (σ : Store α) (addrs : Except Err (List Int)) : Except Err (List α) :=
  addrs.map fun as => as.map σ

theorem read_refines {α : Type} {l : Layout} (p : l.Pos) {σ : Store α} {m : Spec α}
    (r : Refines l σ m) (op : Op α) (hv : op.Valid l) :
    readPath σ (op.addrs l) = .ok ((op.bins l).map m) := by
  unfold readPath
  rw [Op.addrs_eq p op hv]
  refine congrArg Except.ok ?_
  show List.map σ (List.map (rawOffset l) (op.bins l)) = _
  rw [List.map_map]
  exact List.map_congr_left fun b hb => r b (Op.bins_inRange op hv b hb)

end StirVerif.C02
