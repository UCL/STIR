/-
C02 — executable model of the projection-data layout ("one coherent array").

* `offsetOf` transcribes `ProjDataFromStream::get_offset` (src/buildblock/ProjDataFromStream.cxx:414) and,
  with element size 1 / stream offset 0 / storage order `savt`, `ProjDataInMemory::get_index`
  (src/buildblock/ProjDataInMemory.cxx:176; transcribed separately as `getIndex`, equality is a theorem):
  the range checks that exist (segment, axial position, TOF index — **not** view, **not** tangential position;
  the two flags `checkView/checkTang` switch the missing checks on, see harness `cfg` line), the `std::find`
  in `segment_sequence` that yields `size()` for a missing segment, the prefix sum of axial sizes, the TOF
  block stride `offset_3d_data`, and the two storage-order branches.
* `stdOffset3d` transcribes `ProjDataFromStream::activate_TOF` (ProjDataFromStream.cxx:122) /
  the constructor of `ProjDataInMemory` (ProjDataInMemory.cxx:54).
* `addrs…` transcribe the seek + contiguous `write_data`/`read_data` pattern of
  `get/set_bin_value`, `get/set_viewgram` (l.179/309), `get/set_sinogram` (l.501/572),
  `get_segment_by_sinogram/by_view`, `set_segment` (l.660-905, including the
  `SegmentByView <-> SegmentBySinogram` conversion constructors of SegmentByView.cxx:69 / SegmentBySinogram.cxx:76
  when the storage order does not match), `ProjData::set/get_related_viewgrams` (ProjData.cxx:256/295),
  `ProjData::fill(float)` (ProjData.cxx:361), `ProjData::fill_from/copy_to` (ProjData.h:281/314) and
  `ProjData::standard_segment_sequence` (ProjData.cxx:640).  Each returns the stream addresses in the
  element order of the STIR container that is written/read (Viewgram [ax][tang], Sinogram [view][tang],
  SegmentByView [view][ax][tang], SegmentBySinogram [ax][view][tang]).
* `bins…` are the same paths as lists of bins (their *meaning*); `Store`/`Spec` and `writeAddrs`/`writeBins`
  are the two sides of the refinement theorem.

* `toDisk`/`fromDisk`/`writeScale` transcribe the treatment of the stream's `scale_factor`: every `set_*` but
  `set_bin_value` passes `scale_factor` to `write_data` (→ `convert_range`: `round(value / scale)`,
  convert_range.inl:139-185, `stir::round` round.inl:59), `set_bin_value` passes 1 (ProjDataFromStream.cxx:300),
  every `get_*` multiplies by `scale_factor` (l.241, 279, 566, 707, 757).
* `addrsBulk`/`binsBulk` transcribe the iteration of `ProjData::xapyb` (ProjData.cxx:425-470) and `apply_func`
  (ProjData.cxx:557-585: `operator+=,-=,*=,/=`), `bulkResult` the element-wise arithmetic; `addrsFillPd`/`binsFillPd`
  the iteration of `ProjData::fill(const ProjData&)` (ProjData.cxx:375-393); `memLayout`, `copyIntoMemory`
  `ProjDataInMemory(const ProjData&)` (ProjDataInMemory.cxx:332) and `subsetCopy` `ProjData::get_subset`
  (ProjData.cxx:165-188); `padOdd` the `make_num_tangential_poss_odd` branch of `get_viewgram`/`get_sinogram`
  (ProjDataFromStream.cxx:243, 567; ProjDataInMemory.cxx:127, 242); `addrsSegOversized` what
  `set_segment` does with a segment container that has more axial positions than the segment (no size check in the
  pinned source: ProjDataFromStream.cxx:777-838, ProjDataInMemory.cxx:287-309); `setterAccepts` the checks every
  container setter (`set_viewgram`, `set_sinogram`, `set_segment` x2, `set_related_viewgrams`) makes on the index ranges
  of the container it is given (`CRange`) before it writes.

Not modelled: the byte encoding of a value (numeric type, byte order: the harness decodes bytes itself),
`fstream` buffering (only *where* `flush()` is called: `flushes`), Interfile header text, `find_scale_factor`
enlarging the scale for data that does not fit the on-disk type (the `set_*` then fail), float on-disk data with a
scale factor other than 1 (every `set_*` but `set_bin_value` fails).
Core Lean only.  All index quantities are `Int` (32/64-bit overflow not modelled), values are `Rat`.
-/
namespace StirVerif.C02

structure Bin where
  seg : Int
  view : Int
  ax : Int
  tang : Int
  tof : Int
  deriving DecidableEq, Repr, Inhabited

/-- the two supported orders (`Timing_…` variants are the same with the TOF index outermost) -/
inductive Order where
  | savt   -- Segment_AxialPos_View_TangPos
  | svat   -- Segment_View_AxialPos_TangPos
  deriving DecidableEq, Repr

inductive Err where
  | segRange | axRange | tofRange | viewRange | tangRange
  deriving DecidableEq, Repr

structure Layout where
  segSeq : List Int          -- segment_sequence (any list)
  tofSeq : List Int          -- timing_poss_sequence
  minSeg : Int
  maxSeg : Int
  minAx : Int → Int          -- get_min_axial_pos_num(segment)
  numAx : Int → Int          -- get_num_axial_poss(segment)  (max = min + num - 1)
  minView : Int
  numViews : Int
  minTang : Int
  numTang : Int
  minTof : Int
  maxTof : Int
  numTof : Int               -- get_num_tof_poss()
  order : Order
  elemSize : Int             -- on_disk_data_type.size_in_bytes()   (1 for ProjDataInMemory)
  offset : Int               -- offset of the data in the stream    (0 for ProjDataInMemory)
  offset3d : Int             -- offset_3d_data
  checkView : Bool           -- false in the pinned source
  checkTang : Bool           -- false in the pinned source

/-- `std::find(v.begin(), v.end(), a) - v.begin()`: the length of the list when `a` is missing -/
def findIdx : List Int → Int → Nat
  | [], _ => 0
  | x :: xs, a => if x = a then 0 else findIdx xs a + 1

/-- `for (i = 0; i < index; i++) num_axial_pos_offset += get_num_axial_poss(segment_sequence[i])` -/
def axBefore (l : Layout) (idx : Nat) : Int := ((l.segSeq.take idx).map l.numAx).sum

def Layout.maxAx (l : Layout) (seg : Int) : Int := l.minAx seg + l.numAx seg - 1
def Layout.maxView (l : Layout) : Int := l.minView + l.numViews - 1
def Layout.maxTang (l : Layout) : Int := l.minTang + l.numTang - 1

/-- the list `min_segment_num, …, max_segment_num` -/
def Layout.segRange (l : Layout) : List Int :=
  (List.range (l.maxSeg - l.minSeg + 1).toNat).map fun (i : Nat) => l.minSeg + (i : Int)

def Layout.tofRange (l : Layout) : List Int :=
  (List.range (l.maxTof - l.minTof + 1).toNat).map fun (i : Nat) => l.minTof + (i : Int)

/-- `activate_TOF`: `sum over segments of num_axial_poss * num_views * num_tangential_poss`, times the element size -/
def stdOffset3d (l : Layout) : Int :=
  ((l.segRange.map fun s => l.numAx s * l.numViews * l.numTang).sum) * l.elemSize

/-- the arithmetic of `get_offset` after the range checks -/
def rawOffset (l : Layout) (b : Bin) : Int :=
  let index := findIdx l.segSeq b.seg
  let numAxialPosOffset := axBefore l index
  let segmentOffset := l.offset + numAxialPosOffset * l.numTang * l.numViews * l.elemSize
  let segmentOffset :=
    if l.numTof > 1 then segmentOffset + (findIdx l.tofSeq b.tof : Int) * l.offset3d else segmentOffset
  match l.order with
  | .savt =>
    let axPosOffset := (b.ax - l.minAx b.seg) * l.numViews * l.numTang * l.elemSize
    let viewOffset := (b.view - l.minView) * l.numTang * l.elemSize
    let tangOffset := (b.tang - l.minTang) * l.elemSize
    segmentOffset + axPosOffset + viewOffset + tangOffset
  | .svat =>
    let viewOffset := (b.view - l.minView) * l.numAx b.seg * l.numTang * l.elemSize
    let axPosOffset := (b.ax - l.minAx b.seg) * l.numTang * l.elemSize
    let tangOffset := (b.tang - l.minTang) * l.elemSize
    segmentOffset + axPosOffset + viewOffset + tangOffset

/-- `ProjDataFromStream::get_offset` : range checks (in the order of the source), then `rawOffset` -/
def offsetOf (l : Layout) (b : Bin) : Except Err Int :=
  if ¬ (l.minSeg ≤ b.seg ∧ b.seg ≤ l.maxSeg) then .error .segRange
  else if ¬ (l.minAx b.seg ≤ b.ax ∧ b.ax ≤ l.maxAx b.seg) then .error .axRange
  else if ¬ (l.minTof ≤ b.tof ∧ b.tof ≤ l.maxTof) then .error .tofRange
  else if l.checkView = true ∧ ¬ (l.minView ≤ b.view ∧ b.view ≤ l.maxView) then .error .viewRange
  else if l.checkTang = true ∧ ¬ (l.minTang ≤ b.tang ∧ b.tang ≤ l.maxTang) then .error .tangRange
  else .ok (rawOffset l b)

/-- `ProjDataInMemory::get_index`, transcribed on its own (no element size, no stream offset, one order) -/
def getIndex (l : Layout) (b : Bin) : Except Err Int :=
  if ¬ (l.minSeg ≤ b.seg ∧ b.seg ≤ l.maxSeg) then .error .segRange
  else if ¬ (l.minAx b.seg ≤ b.ax ∧ b.ax ≤ l.maxAx b.seg) then .error .axRange
  else if ¬ (l.minTof ≤ b.tof ∧ b.tof ≤ l.maxTof) then .error .tofRange
  else if l.checkView = true ∧ ¬ (l.minView ≤ b.view ∧ b.view ≤ l.maxView) then .error .viewRange
  else if l.checkTang = true ∧ ¬ (l.minTang ≤ b.tang ∧ b.tang ≤ l.maxTang) then .error .tangRange
  else
    let index := findIdx l.segSeq b.seg
    let numAxialPosOffset := axBefore l index
    let segmentOffset := numAxialPosOffset * l.numTang * l.numViews
    let segmentOffset :=
      if l.numTof > 1 then segmentOffset + (findIdx l.tofSeq b.tof : Int) * l.offset3d else segmentOffset
    let axPosOffset := (b.ax - l.minAx b.seg) * l.numViews * l.numTang
    let viewOffset := (b.view - l.minView) * l.numTang
    let tangOffset := b.tang - l.minTang
    .ok (segmentOffset + axPosOffset + viewOffset + tangOffset)

/-- the layout `ProjDataInMemory` uses, as a `Layout` -/
def Layout.inMemory (l : Layout) : Layout := { l with order := .savt, elemSize := 1, offset := 0 }

/-- `ProjData::standard_segment_sequence`: 0, 1, -1, 2, -2, … restricted to valid segment numbers
    (`n` bounds the `while` loop: `max(|min|,|max|)` steps suffice) -/
def standardSegmentSequence (minSeg maxSeg : Int) : List Int :=
  if maxSeg < minSeg then []
  else
    let n := (max minSeg.natAbs maxSeg.natAbs)
    [0] ++ (List.range n).flatMap fun (k : Nat) =>
      let s : Int := (k : Int) + 1
      (if s ≤ maxSeg then [s] else []) ++ (if -s ≥ minSeg then [-s] else [])

/-! ### sizes -/

def Layout.V (l : Layout) : Nat := l.numViews.toNat
def Layout.T (l : Layout) : Nat := l.numTang.toNat
def Layout.A (l : Layout) (seg : Int) : Nat := (l.numAx seg).toNat

/-- `ProjDataInfo::size_all()` -/
def sizeAll (l : Layout) : Int :=
  (l.segRange.map fun s => l.numAx s * l.numViews * l.numTang).sum * (l.maxTof - l.minTof + 1)

/-! ### access paths as lists of bins (container element order) -/

def rowBins (l : Layout) (seg view ax tof : Int) : List Bin :=
  (List.range l.T).map fun (k : Nat) => ⟨seg, view, ax, l.minTang + (k : Int), tof⟩

def binsViewgram (l : Layout) (seg view tof : Int) : List Bin :=
  (List.range (l.A seg)).flatMap fun (i : Nat) => rowBins l seg view (l.minAx seg + (i : Int)) tof

def binsSinogram (l : Layout) (seg ax tof : Int) : List Bin :=
  (List.range l.V).flatMap fun (j : Nat) => rowBins l seg (l.minView + (j : Int)) ax tof

def binsSegBySino (l : Layout) (seg tof : Int) : List Bin :=
  (List.range (l.A seg)).flatMap fun (i : Nat) => binsSinogram l seg (l.minAx seg + (i : Int)) tof

def binsSegByView (l : Layout) (seg tof : Int) : List Bin :=
  (List.range l.V).flatMap fun (j : Nat) => binsViewgram l seg (l.minView + (j : Int)) tof

/-- related viewgrams: the (view, segment) pairs come from the symmetries object (C06) -/
def binsRelated (l : Layout) (pairs : List (Int × Int)) (tof : Int) : List Bin :=
  pairs.flatMap fun p => binsViewgram l p.2 p.1 tof

/-- `ProjData::fill(float)`: TOF outermost, segments in increasing order, `SegmentByView` -/
def binsFill (l : Layout) : List Bin :=
  l.tofRange.flatMap fun k => l.segRange.flatMap fun s => binsSegByView l s k

/-- `ProjData::fill_from` / `copy_to`: TOF outermost, standard segment sequence, `SegmentBySinogram` -/
def binsAll (l : Layout) : List Bin :=
  l.tofRange.flatMap fun k => (standardSegmentSequence l.minSeg l.maxSeg).flatMap fun s => binsSegBySino l s k

/-! ### access paths as the code performs them: seek to `get_offset(first bin)`, then a contiguous run -/

/-- `n` consecutive elements starting at stream address `base` -/
def block (base size : Int) (n : Nat) : List Int := (List.range n).map fun (k : Nat) => base + (k : Int) * size

/-- `get_bin_value` / `set_bin_value` -/
def addrsBin (l : Layout) (b : Bin) : Except Err (List Int) := do
  let o ← offsetOf l b
  pure [o]

/-- one tangential row starting at the given bin -/
def addrsRow (l : Layout) (seg view ax tof : Int) : Except Err (List Int) := do
  let o ← offsetOf l ⟨seg, view, ax, l.minTang, tof⟩
  pure (block o l.elemSize l.T)

/-- `get_viewgram` / `set_viewgram`: row by row (savt), in one go (svat) -/
def addrsViewgram (l : Layout) (seg view tof : Int) : Except Err (List Int) :=
  match l.order with
  | .savt => do
    let rows ← (List.range (l.A seg)).mapM fun (i : Nat) => addrsRow l seg view (l.minAx seg + (i : Int)) tof
    pure rows.flatten
  | .svat => do
    let o ← offsetOf l ⟨seg, view, l.minAx seg, l.minTang, tof⟩
    pure (block o l.elemSize (l.A seg * l.T))

/-- `get_sinogram` / `set_sinogram`: in one go (savt), row by row (svat) -/
def addrsSinogram (l : Layout) (seg ax tof : Int) : Except Err (List Int) :=
  match l.order with
  | .savt => do
    let o ← offsetOf l ⟨seg, l.minView, ax, l.minTang, tof⟩
    pure (block o l.elemSize (l.V * l.T))
  | .svat => do
    let rows ← (List.range l.V).mapM fun (j : Nat) => addrsRow l seg (l.minView + (j : Int)) ax tof
    pure rows.flatten

/-- `set_segment(SegmentBySinogram)` / `get_segment_by_sinogram`, addresses in [ax][view][tang] order.
    savt: one contiguous run.  svat: converted to a `SegmentByView` (element (a,v,t) ↦ (v,a,t)), which is
    written as one contiguous run in [view][ax][tang] order. -/
def addrsSegBySino (l : Layout) (seg tof : Int) : Except Err (List Int) := do
  let o ← offsetOf l ⟨seg, l.minView, l.minAx seg, l.minTang, tof⟩
  match l.order with
  | .savt => pure (block o l.elemSize (l.A seg * (l.V * l.T)))
  | .svat =>
    pure ((List.range (l.A seg)).flatMap fun (i : Nat) => (List.range l.V).flatMap fun (j : Nat) => (List.range l.T).map fun (k : Nat) =>
      o + ((((j * l.A seg + i) * l.T + k : Nat) : Int)) * l.elemSize)

/-- `set_segment(SegmentByView)` / `get_segment_by_view`, addresses in [view][ax][tang] order -/
def addrsSegByView (l : Layout) (seg tof : Int) : Except Err (List Int) := do
  let o ← offsetOf l ⟨seg, l.minView, l.minAx seg, l.minTang, tof⟩
  match l.order with
  | .svat => pure (block o l.elemSize (l.V * (l.A seg * l.T)))
  | .savt =>
    pure ((List.range l.V).flatMap fun (j : Nat) => (List.range (l.A seg)).flatMap fun (i : Nat) => (List.range l.T).map fun (k : Nat) =>
      o + ((((i * l.V + j) * l.T + k : Nat) : Int)) * l.elemSize)

/-- `set_related_viewgrams` / `get_related_viewgrams`: one `set/get_viewgram` per related pair -/
def addrsRelated (l : Layout) (pairs : List (Int × Int)) (tof : Int) : Except Err (List Int) := do
  let vs ← pairs.mapM fun p => addrsViewgram l p.2 p.1 tof
  pure vs.flatten

/-- `ProjData::fill(float)` -/
def addrsFill (l : Layout) : Except Err (List Int) := do
  let xs ← l.tofRange.mapM fun k => do
    let ys ← l.segRange.mapM fun s => addrsSegByView l s k
    pure ys.flatten
  pure xs.flatten

/-- `ProjData::fill_from` / `copy_to` -/
def addrsAll (l : Layout) : Except Err (List Int) := do
  let xs ← l.tofRange.mapM fun k => do
    let ys ← (standardSegmentSequence l.minSeg l.maxSeg).mapM fun s => addrsSegBySino l s k
    pure ys.flatten
  pure xs.flatten

/-- which `set_*` end with `sino_stream->flush()` in the source: all but `set_bin_value` -/
inductive WriteKind where
  | bin | viewgram | sinogram | segment | related | fill
  deriving DecidableEq, Repr

def flushes : WriteKind → Bool
  | .bin => false
  | _ => true

/-! ### values: on-disk number type and scale factor -/

inductive NumType where
  | float | short | ushort | int
  deriving DecidableEq, Repr

/-- `stir::round(float)` (round.inl:59): half away from zero -/
def stirRound (x : Rat) : Int := if x ≥ 0 then (x + 1/2).floor else -((-x + 1/2).floor)

/-- `write_data` with the given scale: same type (float → float) is copied (write_data.inl:125-131),
    otherwise `convert_range`: negatives are truncated to 0 for unsigned types, else `round(value / scale)` -/
def toDisk (ty : NumType) (scale : Rat) (v : Rat) : Rat :=
  match ty with
  | .float => v
  | .ushort => if v < 0 then 0 else (stirRound (v / scale) : Rat)
  | _ => (stirRound (v / scale) : Rat)

/-- `… *= scale_factor` at the end of every `get_*` -/
def fromDisk (scale : Rat) (d : Rat) : Rat := d * scale

/-- the scale a write passes to `write_data`: `scale_factor`, except `set_bin_value` (`float scale = float(1)`);
    `binScaled` is what the harness probes (true once `set_bin_value` uses the scale factor too) -/
def writeScale (binScaled : Bool) (k : WriteKind) (scale : Rat) : Rat :=
  if k = .bin ∧ binScaled = false then 1 else scale

/-- what a reader gets back for a value written through a path of kind `k` -/
def writeThenRead (ty : NumType) (binScaled : Bool) (k : WriteKind) (scale : Rat) (v : Rat) : Rat :=
  fromDisk scale (toDisk ty (writeScale binScaled k scale) v)

/-! ### bulk paths -/

/-- `ProjData::xapyb`, `apply_func` (`operator+=` …), `sum`, …: TOF outermost, segments in increasing order,
    one `SegmentBySinogram` each (`get_segment_by_sinogram` … `set_segment`) -/
def binsBulk (l : Layout) : List Bin :=
  l.tofRange.flatMap fun k => l.segRange.flatMap fun s => binsSegBySino l s k

def addrsBulk (l : Layout) : Except Err (List Int) := do
  let xs ← l.tofRange.mapM fun k => do
    let ys ← l.segRange.mapM fun s => addrsSegBySino l s k
    pure ys.flatten
  pure xs.flatten

/-- `ProjData::fill(const ProjData&)`: segments in increasing order, TOF inside, `SegmentByView` -/
def binsFillPd (l : Layout) : List Bin :=
  l.segRange.flatMap fun s => l.tofRange.flatMap fun k => binsSegByView l s k

def addrsFillPd (l : Layout) : Except Err (List Int) := do
  let xs ← l.segRange.mapM fun s => do
    let ys ← l.tofRange.mapM fun k => addrsSegByView l s k
    pure ys.flatten
  pure xs.flatten

/-- element-wise arithmetic of the bulk operations (`Array::xapyb`, `operator+=` … on segments / on the buffer) -/
inductive BulkKind where
  | sapyb | xapyb | sapybv | xapybv | add | sub | mul | div | addf | subf | mulf | divf
  deriving DecidableEq, Repr

/-- new value of one element: `o` old value, `x y` operands, `a b` scalars, `A B` element-wise coefficients -/
def bulkResult (k : BulkKind) (o x y a b A B : Rat) : Rat :=
  match k with
  | .sapyb => a * o + b * y
  | .xapyb => a * x + b * y
  | .sapybv => A * o + B * y
  | .xapybv => A * x + B * y
  | .add => o + y
  | .sub => o - y
  | .mul => o * y
  | .div => o / y
  | .addf => o + a
  | .subf => o - a
  | .mulf => o * a
  | .divf => o / a

/-- the layout of the `ProjDataInMemory` created for the same geometry (constructor, ProjDataInMemory.cxx:54):
    standard segment sequence, natural TOF order, `offset_3d_data` = one data set -/
def memLayout (l : Layout) : Layout :=
  let m : Layout := { l with order := .savt, elemSize := 1, offset := 0,
                             segSeq := standardSegmentSequence l.minSeg l.maxSeg, tofSeq := l.tofRange, offset3d := 0 }
  { m with offset3d := stdOffset3d m }

/-- `ProjDataInMemory(const ProjData&)` → `ProjData::fill(const ProjData&)` on the new object: for every
    (segment, TOF) the source addresses read (`get_segment_by_view`) paired with the buffer indices written -/
def copyIntoMemory (l : Layout) : Except Err (List (Int × Int)) := do
  let src ← addrsFillPd l
  let dst ← addrsFillPd (memLayout l)
  pure (src.zip dst)

/-- geometry of the subset: `ProjDataInfoSubsetByView` keeps everything but the views (`views.size()` of them, numbered from 0) -/
def subsetLayout (l : Layout) (n : Nat) : Layout :=
  memLayout { l with minView := 0, numViews := (n : Int) }

/-- `ProjData::get_subset`: for TOF, segment, subset view `j`: `get_viewgram(views[j])` → `set_viewgram` of view `j`
    of the new `ProjDataInMemory`: (source address, buffer index) pairs -/
def subsetCopy (l : Layout) (views : List Int) : Except Err (List (Int × Int)) := do
  let sl := subsetLayout l views.length
  let xs ← l.tofRange.mapM fun k => do
    let ys ← l.segRange.mapM fun s => do
      let zs ← ((List.range views.length).zip views).mapM fun (jv : Nat × Int) => do
        let src ← addrsViewgram l s jv.2 k
        let dst ← addrsViewgram sl s (jv.1 : Int) k
        pure (src.zip dst)
      pure zs.flatten
    pure ys.flatten
  pure xs.flatten

/-- `make_num_tangential_poss_odd`: with an even number of tangential positions every row grows by one zero element -/
def padOdd (l : Layout) (vals : List Rat) : List Rat :=
  if l.numTang % 2 = 0 ∧ l.T > 0 then
    (List.range (vals.length / l.T)).flatMap fun (r : Nat) => ((vals.drop (r * l.T)).take l.T) ++ [0]
  else vals

/-- a viewgram obtained with `make_num_tangential_poss_odd` has another `ProjDataInfo` / number of tangential
    positions when that number is even: `set_viewgram` returns `Succeeded::no` -/
def oddViewgramAccepted (l : Layout) : Bool := l.numTang % 2 ≠ 0

/-- `set_segment` with a container holding `extra` axial positions more than the segment: the whole container is
    written as one contiguous run from the start of the segment (after the conversion to the matching container
    type when needed) — unless the size is checked (`checked`, probed by the harness; false in the pinned source) -/
def addrsSegOversized (l : Layout) (checked : Bool) (seg tof : Int) (extra : Nat) : Except Err (List Int) := do
  let o ← offsetOf l ⟨seg, l.minView, l.minAx seg, l.minTang, tof⟩
  if checked then .error .axRange
  else pure (block o l.elemSize ((l.A seg + extra) * (l.V * l.T)))

/-! ### acceptance checks of the container setters (containers whose own index ranges differ from the data's) -/

/-- the index ranges of a container handed to a setter, as its own `ProjDataInfo` describes them: axial range of the
    container's segment, number of views (`min_view_num` is 0 for every `ProjDataInfo`), tangential range -/
structure CRange where
  minAx : Int
  maxAx : Int
  numViews : Int
  minTang : Int
  maxTang : Int
  deriving DecidableEq, Repr

inductive Setter where
  | viewgram | sinogram | segBySino | segByView | related
  deriving DecidableEq, Repr

def CRange.numAx (c : CRange) : Int := c.maxAx - c.minAx + 1
def CRange.numTang (c : CRange) : Int := c.maxTang - c.minTang + 1

/-- `ProjDataInfo::operator==` → `blindly_equals` (ProjDataInfo.cxx:716-731) between the data's `ProjDataInfo` and a clone of
    it whose ranges were edited for segment `seg` (segment, TOF, scanner, bed position are those of the clone's origin):
    min/max view, min/max tangential position, min/max axial position per segment -/
def infoEquals (l : Layout) (seg : Int) (c : CRange) : Bool :=
  c.numViews == l.numViews && c.minTang == l.minTang && c.maxTang == l.maxTang
    && c.minAx == l.minAx seg && c.maxAx == l.maxAx seg

/-- the checks each container setter performs before it writes (everything else it does is `addrs…` above):
    * `set_viewgram` (ProjDataFromStream.cxx:333-355): number of tangential positions, number of axial positions of the
      viewgram's segment, then `ProjDataInfo !=`; `ProjDataInMemory::set_viewgram` (ProjDataInMemory.cxx:150): `ProjDataInfo !=`;
    * `set_sinogram` (ProjDataFromStream.cxx:601, ProjDataInMemory.cxx:253): `ProjDataInfo !=`;
    * `ProjData::set_related_viewgrams` (ProjData.cxx:295): `set_viewgram` of each member, stops at the first refusal
      (all members share one `ProjDataInfo`, so the first one decides);
    * `set_segment`, both overloads, `ProjDataFromStream` and `ProjDataInMemory` (ProjDataFromStream.cxx:778-803, 864-889,
      ProjDataInMemory.cxx:295-317): NUMBER of tangential positions, NUMBER of views, segment number in range, min AND max
      axial position.  The minimum tangential position is not compared: `tangChecked` (probed by the harness) is false
      in the pinned source. -/
def setterAccepts (l : Layout) (tangChecked : Bool) (s : Setter) (seg : Int) (c : CRange) : Bool :=
  match s with
  | .viewgram | .related =>
    c.numTang == l.numTang && c.numAx == l.numAx seg && infoEquals l seg c
  | .sinogram => infoEquals l seg c
  | .segBySino | .segByView =>
    c.numTang == l.numTang && c.numViews == l.numViews && decide (l.minSeg ≤ seg ∧ seg ≤ l.maxSeg)
      && c.minAx == l.minAx seg && c.maxAx == l.maxAx seg && (!tangChecked || c.minTang == l.minTang)

/-- the data's own ranges for segment `seg` -/
def Layout.crange (l : Layout) (seg : Int) : CRange :=
  { minAx := l.minAx seg, maxAx := l.maxAx seg, numViews := l.numViews, minTang := l.minTang, maxTang := l.maxTang }

/-! ### the two sides of the refinement -/

/-- the stream: address ↦ element -/
abbrev Store (α : Type) := Int → α
/-- the abstract array: bin ↦ element -/
abbrev Spec (α : Type) := Bin → α

def Store.write {α : Type} (σ : Store α) (a : Int) (v : α) : Store α := fun x => if x = a then v else σ x
def Spec.write {α : Type} (m : Spec α) (b : Bin) (v : α) : Spec α := fun x => if x = b then v else m x

/-- writing a list of (address, value) pairs in order -/
def writeAddrs {α : Type} (σ : Store α) : List (Int × α) → Store α
  | [] => σ
  | (a, v) :: rest => writeAddrs (σ.write a v) rest

def writeBins {α : Type} (m : Spec α) : List (Bin × α) → Spec α
  | [] => m
  | (b, v) :: rest => writeBins (m.write b v) rest

end StirVerif.C02
