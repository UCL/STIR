/-
C02 — the scale factor of the stream: `round(value / scale)` on the way to the disk, `number * scale` on the way back.
-/
import StirVerif.C02.Model
import Mathlib.Data.Rat.Floor

namespace StirVerif.C02

theorem stirRound_intCast (n : Int) : stirRound (n : Rat) = n := by
  have hf : ∀ m : Int, ((m : Rat) + 1 / 2).floor = m := fun m => (round_eq (m : ℚ)).symm.trans (round_intCast m)
  unfold stirRound
  split
  · exact hf n
  · rw [← Int.cast_neg, hf, Int.neg_neg]

theorem toDisk_of_div_eq {ty : NumType} (hty : ty ≠ .float) {scale v : Rat} {n : Int} (h : v / scale = n)
    (hv : ty = .ushort → 0 ≤ v) : toDisk ty scale v = n := by
  cases ty with
  | float => exact absurd rfl hty
  | ushort => simp only [toDisk, h, stirRound_intCast, if_neg (not_lt.mpr (hv rfl))]
  | short => simp only [toDisk, h, stirRound_intCast]
  | int => simp only [toDisk, h, stirRound_intCast]

/-- the pinned `set_bin_value` (scale 1 passed to `write_data`): an integer value `m` is stored as `m` and read back as
    `m · scale` -/
theorem writeThenRead_bin_unscaled (ty : NumType) (hty : ty ≠ .float) (scale : Rat) (m : Int)
    (hm : ty = .ushort → 0 ≤ m) : writeThenRead ty false .bin scale (m : Rat) = (m : Rat) * scale := by
  have hw : writeScale false .bin scale = 1 := by simp [writeScale]
  unfold writeThenRead fromDisk
  rw [hw, toDisk_of_div_eq hty (div_one _) fun h => Int.cast_nonneg (hm h)]

end StirVerif.C02
