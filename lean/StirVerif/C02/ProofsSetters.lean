import StirVerif.C02.Model

namespace StirVerif.C02

theorem infoEquals_iff (l : Layout) (seg : Int) (c : CRange) : infoEquals l seg c = true ↔ c = l.crange seg := by
  obtain ⟨a0, a1, nv, t0, t1⟩ := c
  simp only [infoEquals, Layout.crange, Bool.and_eq_true, beq_iff_eq, CRange.mk.injEq]
  constructor
  · rintro ⟨⟨⟨⟨h1, h2⟩, h3⟩, h4⟩, h5⟩
    exact ⟨h4, h5, h1, h2, h3⟩
  · rintro ⟨h4, h5, h1, h2, h3⟩
    exact ⟨⟨⟨⟨h1, h2⟩, h3⟩, h4⟩, h5⟩

theorem setterAccepts_own_ranges (l : Layout) (t : Bool) (s : Setter) (seg : Int) (hs : l.minSeg ≤ seg ∧ seg ≤ l.maxSeg) :
    setterAccepts l t s seg (l.crange seg) = true := by
  have hi := (infoEquals_iff l seg _).2 rfl
  obtain ⟨hT, hA⟩ : (l.crange seg).numTang = l.numTang ∧ (l.crange seg).numAx = l.numAx seg := by
    unfold CRange.numTang CRange.numAx Layout.crange Layout.maxTang Layout.maxAx
    simp only
    omega
  have hf : (l.crange seg).numViews = l.numViews ∧ (l.crange seg).minAx = l.minAx seg
      ∧ (l.crange seg).maxAx = l.maxAx seg ∧ (l.crange seg).minTang = l.minTang := ⟨rfl, rfl, rfl, rfl⟩
  cases s with
  | viewgram => simp [setterAccepts, hi, hT, hA]
  | related => simp [setterAccepts, hi, hT, hA]
  | sinogram => exact hi
  | segBySino => simp [setterAccepts, hT, hs, hf]
  | segByView => simp [setterAccepts, hT, hs, hf]

end StirVerif.C02
