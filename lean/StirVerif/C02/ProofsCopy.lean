/-
C02 — copies into a fresh `ProjDataInMemory`: `ProjDataInMemory(const ProjData&)` (= `ProjData::fill(const ProjData&)`
on the new object) and `ProjData::get_subset`.  Both write every in-range bin of the new object with the value of a
source bin; `copy_refines_of_cover` says what the new object then holds.
-/
import StirVerif.C02.ProofsRefine

namespace StirVerif.C02

theorem memLayout_Pos {l : Layout} (p : l.Pos) : (memLayout l).Pos :=
  ⟨p.views, p.tang, fun s hs => p.ax s hs⟩

theorem inRange_memLayout {l : Layout} {b : Bin} : InRange (memLayout l) b ↔ InRange l b :=
  ⟨fun r => ⟨r.seg, r.ax, r.view, r.tang, r.tof⟩, fun r => ⟨r.seg, r.ax, r.view, r.tang, r.tof⟩⟩

theorem memLayout_WF {l : Layout} (p : l.Pos) (h0 : l.minSeg ≤ 0) (h1 : 0 ≤ l.maxSeg)
    (htof : ¬ l.numTof > 1 → l.minTof = l.maxTof) : (memLayout l).WF where
  segNodup := standardSegmentSequence_nodup _ _
  segMem := fun s => mem_standardSegmentSequence _ _ s h0 h1
  tofMem := fun _ k => mem_tofRange_iff l k
  tofOne := htof
  numAxNonneg := fun s hs => le_of_lt (p.ax s ((mem_standardSegmentSequence _ _ s h0 h1).1 hs))
  viewsNonneg := le_of_lt p.views
  tangNonneg := le_of_lt p.tang
  sizePos := Int.one_pos
  off3d := fun _ =>
    stdOffset3d_eq (standardSegmentSequence_nodup _ _) (fun s => mem_standardSegmentSequence _ _ s h0 h1)

theorem subsetLayout_Pos {l : Layout} (p : l.Pos) {n : Nat} (hn : 0 < n) : (subsetLayout l n).Pos :=
  ⟨Int.natCast_pos.2 hn, p.tang, fun s hs => p.ax s hs⟩

theorem subsetLayout_WF {l : Layout} (p : l.Pos) {n : Nat} (hn : 0 < n) (h0 : l.minSeg ≤ 0) (h1 : 0 ≤ l.maxSeg)
    (htof : ¬ l.numTof > 1 → l.minTof = l.maxTof) : (subsetLayout l n).WF :=
  memLayout_WF (l := { l with minView := 0, numViews := (n : Int) }) ⟨Int.natCast_pos.2 hn, p.tang, p.ax⟩ h0 h1 htof

def copyStore {α : Type} (σ τ : Store α) (pairs : List (Int × Int)) : Store α :=
  writeAddrs τ (pairs.map fun p => (p.2, σ p.1))

theorem lastWrite_map_of_mem {α : Type} (f : Bin → α) {b : Bin} :
    ∀ (cs : List Bin), b ∈ cs → lastWrite (cs.map fun c => (c, f c)) b = some (f b) := by
  intro cs
  induction cs with
  | nil => exact fun h => nomatch h
  | cons c t ih =>
    intro h
    simp only [List.map_cons, lastWrite]
    by_cases ht : b ∈ t
    · rw [ih ht]
    · have hbc : c = b := ((List.mem_cons.1 h).resolve_right ht).symm
      rw [lastWrite_none_of_not_mem _ _ (List.forall_mem_map.2 fun c' hc' (e : c' = b) => ht (e ▸ hc')), if_pos hbc, hbc]

theorem copy_refines_of_cover {α : Type} {l l' : Layout} (hm : l'.WF) (cs : List Bin) (src : Bin → Bin)
    (hmem : ∀ c, c ∈ cs ↔ InRange l' c) (hsrc : ∀ c, InRange l' c → InRange l (src c))
    {σ τ : Store α} {m : Spec α} (r : Refines l σ m) :
    Refines l' (copyStore σ τ (cs.map fun c => (rawOffset l (src c), rawOffset l' c))) (fun c => m (src c)) := by
  intro b hb
  have := refines_writes hm (cs.map fun c => (c, σ (rawOffset l (src c)))) (σ := τ) (fun _ _ => rfl)
    (List.forall_mem_map.2 fun c hc => (hmem c).1 hc) b hb
  rw [List.map_map, writeBins_apply, lastWrite_map_of_mem _ _ ((hmem b).2 hb)] at this
  rw [copyStore, List.map_map]
  exact this.trans (r _ (hsrc b hb))

def subsetSrc (views : List Int) (c : Bin) : Bin := { c with view := views.getD c.view.toNat 0 }

/-- the bins of the subset object in the order `get_subset` writes them -/
def subsetDst (l : Layout) (views : List Int) : List Bin :=
  l.tofRange.flatMap fun k => l.segRange.flatMap fun s =>
    ((List.range views.length).zip views).flatMap fun jv => binsViewgram (subsetLayout l views.length) s (jv.1 : Int) k

theorem getD_of_mem_zip_range {xs : List Int} {j : Nat} {v : Int} (h : (j, v) ∈ (List.range xs.length).zip xs) :
    xs.getD j 0 = v := by
  obtain ⟨i, hi, e⟩ := List.mem_iff_getElem.1 h
  rw [List.getElem_zip, List.getElem_range, Prod.mk.injEq] at e
  rw [← e.1, ← e.2, List.getElem_eq_getD 0]

theorem getD_mem {xs : List Int} {j : Nat} (hj : j < xs.length) : xs.getD j 0 ∈ xs :=
  List.getElem_eq_getD (h := hj) 0 ▸ List.getElem_mem hj

theorem viewOK_subsetLayout {l : Layout} {n : Nat} {j : Int} : ViewOK (subsetLayout l n) j ↔ 0 ≤ j ∧ j < n := by
  show (0 : Int) ≤ j ∧ j ≤ 0 + (n : Int) - 1 ↔ _
  omega

/-- `binsViewgram` reads only the axial and tangential ranges, which `subsetLayout` keeps -/
theorem binsViewgram_eq_map_subsetSrc (l : Layout) {views : List Int} (n : Nat) {j : Nat} {v : Int} (hv : views.getD j 0 = v)
    (s k : Int) : binsViewgram l s v k = (binsViewgram (subsetLayout l n) s (j : Int) k).map (subsetSrc views) := by
  simp only [binsViewgram, rowBins, List.map_flatMap, List.map_map, Function.comp_def, subsetSrc, Int.toNat_natCast, hv]
  rfl

theorem subsetDst_eq (l : Layout) (views : List Int) : subsetDst l views = binsFill (subsetLayout l views.length) := by
  unfold subsetDst binsFill binsSegByView
  refine List.flatMap_congr fun k _ => List.flatMap_congr fun s _ => ?_
  -- the view numbers of the subset are the first components of the zipped pairs, counted from `min_view_num = 0`
  refine (List.flatMap_congr fun jv _ => congrArg (binsViewgram _ s · k) (Int.zero_add _).symm).trans ?_
  exact (List.flatMap_map (f := Prod.fst)
      (g := fun (j : Nat) => binsViewgram (subsetLayout l views.length) s (0 + (j : Int)) k) _).symm.trans
    (congrArg (List.flatMap _) (List.map_fst_zip (by rw [List.length_range])))

theorem mem_subsetDst {l : Layout} {views : List Int} {c : Bin} :
    c ∈ subsetDst l views ↔ InRange (subsetLayout l views.length) c := by
  rw [subsetDst_eq]
  exact mem_binsFill

theorem subsetSrc_inRange {l : Layout} {views : List Int} (hv : ∀ v ∈ views, ViewOK l v) {c : Bin}
    (r : InRange (subsetLayout l views.length) c) : InRange l (subsetSrc views c) := by
  have h := viewOK_subsetLayout.1 r.view
  exact ⟨r.seg, r.ax, hv _ (getD_mem (by omega)), r.tang, r.tof⟩

end StirVerif.C02
