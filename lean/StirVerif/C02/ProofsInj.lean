/-
C02 — the offset map: every in-range bin has a slot `0 ≤ k < totalSlots`, its offset is `offset + k · elemSize`, and
different bins have different slots.  A slot is a mixed-radix number: TOF block, then the segment's block (blocks of
unequal size, found by `std::find` and a prefix sum), then three digits in the order of the storage order.
-/
import StirVerif.C02.ProofsFind
import Mathlib.Tactic.Ring
import Mathlib.Algebra.BigOperators.Group.List.Basic
import Mathlib.Algebra.Order.BigOperators.Group.List

namespace StirVerif.C02

theorem radix_bound {x X y Y : Int} (hx : 0 ≤ x ∧ x < X) (hy : 0 ≤ y ∧ y < Y) :
    0 ≤ x * Y + y ∧ x * Y + y < X * Y := by
  have hY : 0 ≤ Y := by omega
  have h0 := Int.mul_nonneg hx.1 hY
  have h1 : (x + 1) * Y ≤ X * Y := Int.mul_le_mul_of_nonneg_right (by omega) hY
  rw [Int.add_mul, Int.one_mul] at h1
  omega

/-- an element `y` of the block of `n` rows of width `Y` that starts at row `x` lies before everything from row `x' ≥ x + n` on -/
theorem block_lt {x n Y y x' y' : Int} (hY : 0 ≤ Y) (hy : y < n * Y) (hx : x + n ≤ x') (hy' : 0 ≤ y') :
    x * Y + y < x' * Y + y' := by
  have h1 := Int.mul_le_mul_of_nonneg_right hx hY
  rw [Int.add_mul] at h1
  omega

theorem radix_unique {M a a' r r' : Int} (hr : 0 ≤ r ∧ r < M) (hr' : 0 ≤ r' ∧ r' < M)
    (h : a * M + r = a' * M + r') : a = a' ∧ r = r' := by
  have hM : 0 < M := by omega
  have e := (Int.ediv_emod_unique hM).2 ⟨show r + M * a = a * M + r by ring, hr⟩
  have e' := (Int.ediv_emod_unique hM).2 ⟨show r' + M * a' = a * M + r by
    rw [h]
    ring, hr'⟩
  exact ⟨e.1.symm.trans e'.1, e.2.symm.trans e'.2⟩

theorem findIdx_lt_length {xs : List Int} {a : Int} (h : a ∈ xs) : findIdx xs a < xs.length := by
  rw [findIdx_eq_idxOf]
  exact List.idxOf_lt_length_iff.2 h

theorem findIdx_eq_length {xs : List Int} {a : Int} (h : a ∉ xs) : findIdx xs a = xs.length := by
  rw [findIdx_eq_idxOf]
  exact List.idxOf_eq_length_iff.2 h

theorem getElem_findIdx {xs : List Int} {a : Int} (h : a ∈ xs) :
    xs[findIdx xs a]'(findIdx_lt_length h) = a := by
  simp only [findIdx_eq_idxOf]
  exact List.getElem_idxOf _

theorem findIdx_inj {xs : List Int} {a b : Int} (ha : a ∈ xs) (h : findIdx xs a = findIdx xs b) : a = b := by
  rw [findIdx_eq_idxOf, findIdx_eq_idxOf] at h
  exact (List.idxOf_inj ha).1 h

def totalAx (l : Layout) : Int := (l.segSeq.map l.numAx).sum

/-- well-formed layout: the segment sequence is a permutation of the segment range (no assumption on the
    order), the TOF sequence lists exactly the TOF bins of the range (when there is more than one; it is not asked to list each
    once), sizes are non-negative, and `offset_3d_data` is the size of one complete non-TOF data set (what `activate_TOF` computes). -/
structure Layout.WF (l : Layout) : Prop where
  segNodup : l.segSeq.Nodup
  segMem : ∀ s, s ∈ l.segSeq ↔ (l.minSeg ≤ s ∧ s ≤ l.maxSeg)
  tofMem : l.numTof > 1 → ∀ k, k ∈ l.tofSeq ↔ (l.minTof ≤ k ∧ k ≤ l.maxTof)
  tofOne : ¬ l.numTof > 1 → l.minTof = l.maxTof
  numAxNonneg : ∀ s, s ∈ l.segSeq → 0 ≤ l.numAx s
  viewsNonneg : 0 ≤ l.numViews
  tangNonneg : 0 ≤ l.numTang
  sizePos : 0 < l.elemSize
  off3d : l.numTof > 1 → l.offset3d = totalAx l * (l.numViews * l.numTang) * l.elemSize

def SegOK (l : Layout) (seg : Int) : Prop := l.minSeg ≤ seg ∧ seg ≤ l.maxSeg
def AxOK (l : Layout) (seg ax : Int) : Prop := l.minAx seg ≤ ax ∧ ax ≤ l.maxAx seg
def ViewOK (l : Layout) (view : Int) : Prop := l.minView ≤ view ∧ view ≤ l.maxView
def TofOK (l : Layout) (tof : Int) : Prop := l.minTof ≤ tof ∧ tof ≤ l.maxTof

instance (l : Layout) (s : Int) : Decidable (SegOK l s) := by unfold SegOK; infer_instance
instance (l : Layout) (s a : Int) : Decidable (AxOK l s a) := by unfold AxOK; infer_instance
instance (l : Layout) (v : Int) : Decidable (ViewOK l v) := by unfold ViewOK; infer_instance
instance (l : Layout) (k : Int) : Decidable (TofOK l k) := by unfold TofOK; infer_instance

structure InRange (l : Layout) (b : Bin) : Prop where
  seg : l.minSeg ≤ b.seg ∧ b.seg ≤ l.maxSeg
  ax : l.minAx b.seg ≤ b.ax ∧ b.ax ≤ l.maxAx b.seg
  view : l.minView ≤ b.view ∧ b.view ≤ l.maxView
  tang : l.minTang ≤ b.tang ∧ b.tang ≤ l.maxTang
  tof : l.minTof ≤ b.tof ∧ b.tof ≤ l.maxTof

theorem offsetOf_ok {l : Layout} {b : Bin} (r : InRange l b) : offsetOf l b = .ok (rawOffset l b) := by
  simp [offsetOf, r.seg, r.ax, r.tof, r.view, r.tang]

theorem offsetOf_error_of_not {l : Layout} {b : Bin}
    (h : ¬(SegOK l b.seg ∧ AxOK l b.seg b.ax ∧ TofOK l b.tof ∧ (l.checkView = true → ViewOK l b.view)
      ∧ (l.checkTang = true → l.minTang ≤ b.tang ∧ b.tang ≤ l.maxTang))) : ∃ e, offsetOf l b = .error e := by
  cases ho : offsetOf l b with
  | error e => exact ⟨e, rfl⟩
  | ok o =>
    simp only [offsetOf, ite_error_eq_ok] at ho
    obtain ⟨h1, h2, h3, h4, h5, _⟩ := ho
    exact absurd ⟨Decidable.not_not.1 h1, Decidable.not_not.1 h2, Decidable.not_not.1 h3,
      fun hv => Decidable.not_not.1 fun hn => h4 ⟨hv, hn⟩, fun ht => Decidable.not_not.1 fun hn => h5 ⟨ht, hn⟩⟩ h

theorem InRange.digits {l : Layout} {b : Bin} (r : InRange l b) :
    (0 ≤ b.ax - l.minAx b.seg ∧ b.ax - l.minAx b.seg < l.numAx b.seg)
      ∧ (0 ≤ b.view - l.minView ∧ b.view - l.minView < l.numViews)
      ∧ (0 ≤ b.tang - l.minTang ∧ b.tang - l.minTang < l.numTang) := by
  have ha := r.ax
  have hv := r.view
  have ht := r.tang
  unfold Layout.maxAx at ha
  unfold Layout.maxView at hv
  unfold Layout.maxTang at ht
  omega

theorem InRange.seg_mem {l : Layout} (h : l.WF) {b : Bin} (r : InRange l b) : b.seg ∈ l.segSeq :=
  (h.segMem _).2 r.seg

theorem axBefore_length (l : Layout) : axBefore l l.segSeq.length = totalAx l := by
  rw [axBefore, List.take_length, totalAx]

theorem axBefore_mono {l : Layout} (h : l.WF) {m n : Nat} (hmn : m ≤ n) : axBefore l m ≤ axBefore l n :=
  ((List.take_sublist_take_left hmn).map l.numAx).sum_le_sum
    (List.forall_mem_map.2 fun s hs => h.numAxNonneg s (List.mem_of_mem_take hs))

theorem axBefore_block_le {l : Layout} (h : l.WF) {s : Int} (hs : s ∈ l.segSeq) {j : Nat} (hj : findIdx l.segSeq s < j) :
    axBefore l (findIdx l.segSeq s) + l.numAx s ≤ axBefore l j := by
  have e : axBefore l (findIdx l.segSeq s + 1) = axBefore l (findIdx l.segSeq s) + l.numAx s := by
    unfold axBefore
    rw [List.map_take, List.map_take, List.sum_take_succ _ _ (by simpa using findIdx_lt_length hs), List.getElem_map,
      getElem_findIdx hs]
  exact e ▸ axBefore_mono h hj

def tofIdx (l : Layout) (b : Bin) : Int := if l.numTof > 1 then (findIdx l.tofSeq b.tof : Int) else 0

def segStart (l : Layout) (b : Bin) : Int := axBefore l (findIdx l.segSeq b.seg)

/-- element index inside the segment's block: the digits (axial, view, tangential) in the order of the storage order -/
def within (l : Layout) (b : Bin) : Int :=
  match l.order with
  | .savt => ((b.ax - l.minAx b.seg) * l.numViews + (b.view - l.minView)) * l.numTang + (b.tang - l.minTang)
  | .svat => ((b.view - l.minView) * l.numAx b.seg + (b.ax - l.minAx b.seg)) * l.numTang + (b.tang - l.minTang)

def inner (l : Layout) (b : Bin) : Int := segStart l b * (l.numViews * l.numTang) + within l b

def slot (l : Layout) (b : Bin) : Int := tofIdx l b * (totalAx l * (l.numViews * l.numTang)) + inner l b

theorem rawOffset_eq_slot {l : Layout} (h : l.WF) (b : Bin) :
    rawOffset l b = l.offset + slot l b * l.elemSize := by
  have hite : ∀ x : Int, (if l.numTof > 1 then x + (findIdx l.tofSeq b.tof : Int) * l.offset3d else x)
      = x + tofIdx l b * (totalAx l * (l.numViews * l.numTang) * l.elemSize) := by
    intro x
    unfold tofIdx
    split
    · rw [h.off3d ‹_›]
    · rw [Int.zero_mul, Int.add_zero]
  unfold rawOffset
  simp only [hite]
  unfold slot inner segStart within
  cases l.order
  · ring
  · ring

theorem within_bounds {l : Layout} {b : Bin} (r : InRange l b) :
    0 ≤ within l b ∧ within l b < l.numAx b.seg * (l.numViews * l.numTang) := by
  obtain ⟨da, dv, dt⟩ := r.digits
  unfold within
  cases l.order
  · have := radix_bound (radix_bound da dv) dt
    rwa [Int.mul_assoc] at this
  · have := radix_bound (radix_bound dv da) dt
    rwa [Int.mul_comm l.numViews, Int.mul_assoc] at this

theorem within_inj {l : Layout} {b1 b2 : Bin} (r1 : InRange l b1) (r2 : InRange l b2) (hseg : b1.seg = b2.seg)
    (e : within l b1 = within l b2) : b1.ax = b2.ax ∧ b1.view = b2.view ∧ b1.tang = b2.tang := by
  obtain ⟨da, dv, dt⟩ := r1.digits
  obtain ⟨da', dv', dt'⟩ := r2.digits
  unfold within at e
  rw [hseg] at e da
  cases ho : l.order
  · simp only [ho] at e
    obtain ⟨e, et⟩ := radix_unique dt dt' e
    obtain ⟨ea, ev⟩ := radix_unique dv dv' e
    exact ⟨sub_left_injective ea, sub_left_injective ev, sub_left_injective et⟩
  · simp only [ho] at e
    obtain ⟨e, et⟩ := radix_unique dt dt' e
    obtain ⟨ev, ea⟩ := radix_unique da da' e
    exact ⟨sub_left_injective ea, sub_left_injective ev, sub_left_injective et⟩

theorem inner_lt_of_findIdx_lt {l : Layout} (h : l.WF) {b1 b2 : Bin} (r1 : InRange l b1) (r2 : InRange l b2)
    (hlt : findIdx l.segSeq b1.seg < findIdx l.segSeq b2.seg) : inner l b1 < inner l b2 :=
  block_lt (Int.mul_nonneg h.viewsNonneg h.tangNonneg) (within_bounds r1).2 (axBefore_block_le h (r1.seg_mem h) hlt)
    (within_bounds r2).1

theorem inner_bounds {l : Layout} (h : l.WF) {b : Bin} (r : InRange l b) :
    0 ≤ inner l b ∧ inner l b < totalAx l * (l.numViews * l.numTang) := by
  have hVT : 0 ≤ l.numViews * l.numTang := Int.mul_nonneg h.viewsNonneg h.tangNonneg
  have h0 : 0 ≤ segStart l b := axBefore_mono h (Nat.zero_le _)
  have hend : segStart l b + l.numAx b.seg ≤ totalAx l :=
    axBefore_length l ▸ axBefore_block_le h (r.seg_mem h) (findIdx_lt_length (r.seg_mem h))
  constructor
  · exact Int.add_nonneg (Int.mul_nonneg h0 hVT) (within_bounds r).1
  · exact (block_lt hVT (within_bounds r).2 hend (le_refl 0)).trans_eq (Int.add_zero _)

/-- the number of TOF blocks the offsets range over: the positions of the TOF sequence (`std::find` returns one of them; as many as there
    are TOF bins when the sequence lists each once, which `Layout.WF` does not ask) -/
def numTofBlocks (l : Layout) : Int := if l.numTof > 1 then (l.tofSeq.length : Int) else 1

def totalSlots (l : Layout) : Int := numTofBlocks l * (totalAx l * (l.numViews * l.numTang))

theorem tofIdx_bounds {l : Layout} (h : l.WF) {b : Bin} (r : InRange l b) :
    0 ≤ tofIdx l b ∧ tofIdx l b < numTofBlocks l := by
  unfold tofIdx numTofBlocks
  split
  · have := findIdx_lt_length ((h.tofMem ‹_› _).2 r.tof)
    omega
  · exact ⟨le_refl 0, Int.one_pos⟩

theorem slot_bounds {l : Layout} (h : l.WF) {b : Bin} (r : InRange l b) : 0 ≤ slot l b ∧ slot l b < totalSlots l :=
  radix_bound (tofIdx_bounds h r) (inner_bounds h r)

/-- the slot determines the bin: TOF block, then segment block, then the digits -/
theorem slot_inj {l : Layout} (h : l.WF) {b1 b2 : Bin} (r1 : InRange l b1) (r2 : InRange l b2)
    (e : slot l b1 = slot l b2) : b1 = b2 := by
  obtain ⟨etof, einner⟩ := radix_unique (inner_bounds h r1) (inner_bounds h r2) e
  have htof : b1.tof = b2.tof := by
    by_cases ht : l.numTof > 1
    · unfold tofIdx at etof
      simp only [ht, if_true, Int.natCast_inj] at etof
      exact findIdx_inj ((h.tofMem ht _).2 r1.tof) etof
    · have := h.tofOne ht
      have := r1.tof
      have := r2.tof
      omega
  have hseg : b1.seg = b2.seg := by
    apply findIdx_inj (r1.seg_mem h)
    rcases Nat.lt_trichotomy (findIdx l.segSeq b1.seg) (findIdx l.segSeq b2.seg) with hlt | heq | hgt
    · exact absurd einner (ne_of_lt (inner_lt_of_findIdx_lt h r1 r2 hlt))
    · exact heq
    · exact absurd einner (ne_of_gt (inner_lt_of_findIdx_lt h r2 r1 hgt))
  have ew : within l b1 = within l b2 := by
    unfold inner segStart at einner
    rw [hseg] at einner
    exact Int.add_left_cancel einner
  obtain ⟨hax, hview, htang⟩ := within_inj r1 r2 hseg ew
  cases b1
  cases b2
  rw [Bin.mk.injEq]
  exact ⟨hseg, hview, hax, htang, htof⟩

theorem rawOffset_inj {l : Layout} (h : l.WF) {b1 b2 : Bin} (r1 : InRange l b1) (r2 : InRange l b2)
    (e : rawOffset l b1 = rawOffset l b2) : b1 = b2 := by
  rw [rawOffset_eq_slot h, rawOffset_eq_slot h] at e
  have : slot l b1 * l.elemSize = slot l b2 * l.elemSize := Int.add_left_cancel e
  exact slot_inj h r1 r2 (Int.eq_of_mul_eq_mul_right (ne_of_gt h.sizePos) this)

end StirVerif.C02
