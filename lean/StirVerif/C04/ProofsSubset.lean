/-
C04 — whole data sets and subsets (`fwdSubset`, `bckSubset`) as a sequence of steps "zero the related viewgrams, forward
project the bins of the branch into them" / "back project the bins of the branch".
-/
import StirVerif.C04.ProofsBins

set_option linter.unusedSectionVars false

namespace StirVerif.C04

variable {K : Type} [CommRing K] [DecidableEq K]
variable (rows : Bin → Row K) (ig : ImgGeom) (idx : Bin → Nat)

section Steps
variable {σ : Type} (Z P : σ → List Bin)

/-- one step: the bins `Z q` are zeroed, then the bins `P q` receive their forward projection -/
def fwdStep (img : Array K) (d : Array K) (q : σ) : Array K := fwdBins rows ig idx img (P q) (zeroBins idx (Z q) d)

def fwdSteps (img : Array K) (L : List σ) (d : Array K) : Array K := L.foldl (fwdStep rows ig idx Z P img) d

theorem fwdSteps_cons (img d : Array K) (q : σ) (L : List σ) :
    fwdSteps rows ig idx Z P img (q :: L) d = fwdSteps rows ig idx Z P img L (fwdStep rows ig idx Z P img d q) := rfl

theorem size_fwdStep (img d : Array K) (q : σ) : (fwdStep rows ig idx Z P img d q).size = d.size := by
  unfold fwdStep
  rw [size_fwdBins, zeroBins_eq ig img, size_fwdBins]

theorem size_fwdSteps (img d : Array K) (L : List σ) : (fwdSteps rows ig idx Z P img L d).size = d.size := by
  induction L generalizing d with
  | nil => rfl
  | cons q L ih => rw [fwdSteps_cons, ih, size_fwdStep]

def touched (L : List σ) : List Nat := L.flatMap fun q => (Z q ++ P q).map idx

def stepBins (L : List σ) : List Bin := L.flatMap fun q => Z q ++ P q

/-- no bin is written by two steps.  (Within one step `P q ⊆ Z q` is not assumed: a projected bin need not be among the zeroed ones, which
    is why what a step leaves is stated for both kinds of bin.) -/
def StepsDisjoint (L : List σ) : Prop := L.Pairwise fun q q' => ∀ b ∈ Z q ++ P q, b ∉ Z q' ++ P q'

variable {rows} {ig} {idx} {Z} {P}

theorem touched_eq (L : List σ) : touched idx Z P L = (stepBins Z P L).map idx :=
  List.map_flatMap.symm

theorem stepBins_cons (q : σ) (L : List σ) : stepBins Z P (q :: L) = (Z q ++ P q) ++ stepBins Z P L :=
  List.flatMap_cons

theorem mem_stepBins {L : List σ} {b : Bin} : b ∈ stepBins Z P L ↔ ∃ q ∈ L, b ∈ Z q ++ P q :=
  List.mem_flatMap

theorem getD_fwdStep_not_mem {img d : Array K} {q : σ} {j : Nat} (hj : j ∉ (Z q ++ P q).map idx) :
    (fwdStep rows ig idx Z P img d q).getD j 0 = d.getD j 0 := by
  rw [List.map_append, List.mem_append, not_or] at hj
  unfold fwdStep
  rw [getD_fwdBins_not_mem hj.2, zeroBins_eq ig img, getD_fwdBins_not_mem hj.1]

theorem getD_fwdSteps_not_mem {img d : Array K} {L : List σ} {j : Nat} (hj : j ∉ touched idx Z P L) :
    (fwdSteps rows ig idx Z P img L d).getD j 0 = d.getD j 0 := by
  induction L generalizing d with
  | nil => rfl
  | cons q L ih =>
    rw [touched, List.flatMap_cons, List.mem_append, not_or] at hj
    rw [fwdSteps_cons, ih hj.2, getD_fwdStep_not_mem hj.1]

/-- a step leaves, at the place of each of its bins, the forward projection of the bin's row if the branch processes the bin, and
    the zero of `get_empty_related_viewgrams` otherwise -/
theorem getD_fwdStep_mem {img d : Array K} {q : σ} (hinj : InjOn idx (Z q ++ P q))
    (hsz : ∀ b ∈ Z q ++ P q, idx b < d.size) {b : Bin} (hb : b ∈ Z q ++ P q) :
    (fwdStep rows ig idx Z P img d q).getD (idx b) 0 = if b ∈ P q then fwdRow ig (rows b) img 0 else 0 := by
  unfold fwdStep
  rw [zeroBins_eq ig img]
  by_cases hbP : b ∈ P q
  · rw [if_pos hbP]
    exact getD_fwdBins_mem (hinj.subset (List.subset_append_right _ _)) hbP ((hsz b hb).trans_eq size_fwdBins.symm)
  · have hbZ : b ∈ Z q := (List.mem_append.mp hb).resolve_right hbP
    rw [if_neg hbP, getD_fwdBins_not_mem (hinj.idx_not_mem hb (List.subset_append_right _ _) hbP)]
    exact getD_fwdBins_of_forall (List.mem_map_of_mem hbZ) (hsz b hb) fun _ _ _ => rfl

theorem getD_fwdSteps_mem {img d : Array K} {L : List σ} (hinj : InjOn idx (stepBins Z P L)) (hdis : StepsDisjoint Z P L)
    (hsz : ∀ b ∈ stepBins Z P L, idx b < d.size) {q : σ} (hq : q ∈ L) {b : Bin} (hb : b ∈ Z q ++ P q) :
    (fwdSteps rows ig idx Z P img L d).getD (idx b) 0 = if b ∈ P q then fwdRow ig (rows b) img 0 else 0 := by
  induction L generalizing d with
  | nil => cases hq
  | cons q0 L ih =>
    rw [stepBins_cons] at hinj hsz
    obtain ⟨hdis0, hdisL⟩ := List.pairwise_cons.mp hdis
    rw [fwdSteps_cons]
    rcases List.mem_cons.mp hq with rfl | hqL
    · have later : idx b ∉ touched idx Z P L := by
        rw [touched_eq]
        refine hinj.idx_not_mem (List.mem_append_left _ hb) (List.subset_append_right _ _) fun hbL => ?_
        obtain ⟨q', hq', hbq'⟩ := mem_stepBins.mp hbL
        exact hdis0 q' hq' b hb hbq'
      rw [getD_fwdSteps_not_mem later]
      exact getD_fwdStep_mem (hinj.subset (List.subset_append_left _ _))
        (fun b hb => hsz b (List.mem_append_left _ hb)) hb
    · exact ih (hinj.subset (List.subset_append_right _ _)) hdisL
        (fun b hb => (hsz b (List.mem_append_right _ hb)).trans_eq (size_fwdStep ..).symm) hqL

end Steps

variable {rows} {ig} {idx} (G : PDGeom) (S : Syms)

/-- the (basic view, basic segment, timing position) triples in the order of the double loop -/
def subsetSteps (i n : Int) : List (Int × Int × Int) :=
  (vsInSubset G S i n).flatMap fun vs => (irange G.minTof G.maxTof).map fun k => (vs.1, vs.2, k)

/-- the bins of the related viewgrams of a step (they are written back whole) -/
def stepZ (q : Int × Int × Int) : List Bin := (S.vgs q.1 q.2.1 q.2.2).flatMap G.viewgramBins

def stepP (cache : Bool) (q : Int × Int × Int) : List Bin :=
  branchBins cache (S.rel q.1 q.2.1 q.2.2) (S.vgs q.1 q.2.1 q.2.2) (G.fullRange q.2.1)

theorem foldl_subsetSteps {α : Type} (f : α → Int × Int × Int → α) (a : α) (i n : Int) :
    (vsInSubset G S i n).foldl (fun a vs => (irange G.minTof G.maxTof).foldl (fun a k => f a (vs.1, vs.2, k)) a) a
      = (subsetSteps G S i n).foldl f a := by
  unfold subsetSteps
  rw [List.foldl_flatMap]
  simp only [List.foldl_map]

/-- the data the projection of a subset starts from: `if (zero && num_subsets > 1) proj_data.fill(0)` -/
def startData (zero : Bool) (n : Int) (d : Array K) : Array K := if zero && decide (n > 1) then fillZero d else d

theorem size_startData (zero : Bool) (n : Int) (d : Array K) : (startData zero n d).size = d.size := by
  unfold startData
  split
  · rw [fillZero_eq, size_zeroImg]
  · rfl

theorem getD_startData (zero : Bool) (n : Int) (d : Array K) (j : Nat) :
    (startData zero n d).getD j 0 = if zero && decide (n > 1) then 0 else d.getD j 0 := by
  rw [startData, apply_ite (Array.getD · j 0), fillZero_eq, getD_zeroImg]

theorem fwdSubset_eq (cache : Bool) (img d : Array K) (i n : Int) (zero : Bool) :
    fwdSubset rows ig idx G S cache img d i n zero =
      if i < 0 ∨ i > n - 1 then none
      else some (fwdSteps rows ig idx (stepZ G S) (stepP G S cache) img (subsetSteps G S i n) (startData zero n d)) := by
  unfold fwdSubset
  -- the two refusals merge (`ite_or`); the model's start data are `startData` by `rfl`; what is left is the double loop as one
  rw [ite_or]
  exact congrArg (ite _ none) (congrArg (ite _ none) (congrArg some
    (foldl_subsetSteps G S (fwdStep rows ig idx (stepZ G S) (stepP G S cache) img) _ i n)))

variable {G} {S}

theorem fwdSubset_some {cache : Bool} {img d out : Array K} {i n : Int} {zero : Bool}
    (h : fwdSubset rows ig idx G S cache img d i n zero = some out) :
    fwdSteps rows ig idx (stepZ G S) (stepP G S cache) img (subsetSteps G S i n) (startData zero n d) = out := by
  rw [fwdSubset_eq] at h
  exact Option.some.inj (Option.ite_none_left_eq_some.1 h).2

theorem bckSubset_eq (cache : Bool) (y im : Array K) (i n : Int) :
    bckSubset rows ig idx G S cache y i n im
      = bckBins rows ig idx y ((subsetSteps G S i n).flatMap (stepP G S cache)) im := by
  rw [List.flatMap_def, ← bckPieces_eq, List.foldl_map]
  exact foldl_subsetSteps G S (fun im q => bckBins rows ig idx y (stepP G S cache q) im) im i n

end StirVerif.C04
