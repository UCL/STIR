/-
C04 — the matrix object (`MatrixObj`): after any history of `set_up`s and row requests the cache
only holds rows of the geometry of the last `set_up`, so a re-used matrix returns the rows of a fresh one.
-/
import StirVerif.C04.Model

namespace StirVerif.C04

variable {G K : Type}

/-- what the symmetries have to satisfy for the cache to be coherent: the basic bin of a basic bin is itself, and the
    operation that belongs to a basic bin leaves the row alone (`TrivialSymmetryOperation`) -/
structure MatrixData.Coherent (D : MatrixData G K) : Prop where
  idem : ∀ g b, D.basicOf g (D.basicOf g b) = D.basicOf g b
  trivial : ∀ g b r, D.basicOf g b = b → D.transform g b r = r

/-- the cache holds rows of the current geometry only: in "only basic bins" mode the computed row of the key, otherwise
    the finished row of the key -/
def MatrixObj.Inv (D : MatrixData G K) (m : MatrixObj G K) : Prop :=
  ∀ g, m.geom = some g → ∀ b r, m.cache.lookup b = some r →
    (m.onlyBasic = true → r = D.compute g b) ∧ (m.onlyBasic = false → r = D.rowOf g b)

theorem MatrixObj.inv_new {D : MatrixData G K} {ce ob : Bool} : (MatrixObj.new ce ob : MatrixObj G K).Inv D :=
  fun g (hg : none = some g) => nomatch hg

theorem MatrixObj.inv_setUp {D : MatrixData G K} {m : MatrixObj G K} {g : G} : (m.setUp g).Inv D :=
  fun _ _ b r (h : List.lookup b [] = some r) => nomatch h

theorem MatrixObj.inv_setUpRT [DecidableEq G] {D : MatrixData G K} {m : MatrixObj G K} (h : m.Inv D) {g : G} :
    (m.setUpRT g).Inv D := by
  unfold MatrixObj.setUpRT
  split
  · exact h
  · exact MatrixObj.inv_setUp

theorem MatrixObj.geom_setUp (m : MatrixObj G K) (g : G) : (m.setUp g).geom = some g := rfl

theorem MatrixObj.geom_setUpRT [DecidableEq G] {m : MatrixObj G K} {g : G} : (m.setUpRT g).geom = some g := by
  unfold MatrixObj.setUpRT
  split
  · assumption
  · rfl

theorem MatrixObj.flags_setUp (m : MatrixObj G K) (g : G) :
    (m.setUp g).cacheEnabled = m.cacheEnabled ∧ (m.setUp g).onlyBasic = m.onlyBasic := ⟨rfl, rfl⟩

theorem MatrixObj.flags_setUpRT [DecidableEq G] (m : MatrixObj G K) (g : G) :
    (m.setUpRT g).cacheEnabled = m.cacheEnabled ∧ (m.setUpRT g).onlyBasic = m.onlyBasic := by
  unfold MatrixObj.setUpRT
  split
  · exact ⟨rfl, rfl⟩
  · exact ⟨rfl, rfl⟩

theorem MatrixObj.find_some {m : MatrixObj G K} {b : Bin} {r : Row K} (h : m.find b = some r) :
    m.cache.lookup b = some r :=
  (Option.ite_none_right_eq_some.1 h).2

theorem MatrixObj.store_cases (m : MatrixObj G K) (b : Bin) (r : Row K) :
    m.store b r = m ∨ m.store b r = { m with cache := (b, r) :: m.cache } := by
  unfold MatrixObj.store
  split
  · split
    · exact Or.inl rfl
    · exact Or.inr rfl
  · exact Or.inl rfl

theorem MatrixObj.store_spec {D : MatrixData G K} {m : MatrixObj G K} (h : m.Inv D) {g : G} (hg : m.geom = some g)
    (b : Bin) (r : Row K) (hr : r = if m.onlyBasic then D.compute g b else D.rowOf g b) :
    (m.store b r).Inv D ∧ (m.store b r).geom = some g := by
  rcases m.store_cases b r with e | e
  · rw [e]
    exact ⟨h, hg⟩
  · rw [e]
    refine ⟨?_, hg⟩
    intro g' hg' b' r' hl
    obtain rfl : g = g' := Option.some.inj (hg.symm.trans hg')
    simp only [List.lookup] at hl
    split at hl
    · rename_i heq
      obtain rfl : b' = b := eq_of_beq heq
      cases hl
      exact ⟨fun ho => hr.trans (if_pos ho), fun ho => hr.trans (if_neg (ho ▸ Bool.false_ne_true))⟩
    · exact h g hg b' r' hl

theorem MatrixObj.getRow_spec {D : MatrixData G K} (hD : D.Coherent) {m : MatrixObj G K} (h : m.Inv D) {g : G}
    (hg : m.geom = some g) (bin : Bin) :
    ∃ m', m.getRow D bin = some (D.rowOf g bin, m') ∧ m'.Inv D ∧ m'.geom = some g := by
  unfold MatrixObj.getRow
  rw [hg]
  cases hob : m.onlyBasic
  · -- every bin is cached
    simp only [Bool.false_eq_true, if_false]
    cases hf : m.find bin with
    | some r =>
      rw [(h g hg bin r (MatrixObj.find_some hf)).2 hob]
      exact ⟨m, rfl, h, hg⟩
    | none =>
      -- a cached row of the basic bin is the computed one: its own basic bin is itself, its operation the identity
      have hr0 : m.basicRow D g (D.basicOf g bin) = D.compute g (D.basicOf g bin) := by
        unfold MatrixObj.basicRow
        cases hfb : m.find (D.basicOf g bin) with
        | none => rfl
        | some r =>
          rw [(h g hg _ r (MatrixObj.find_some hfb)).2 hob, MatrixData.rowOf, hD.idem, hD.trivial g _ _ (hD.idem g bin)]
      simp only [hr0]
      refine ⟨_, rfl, MatrixObj.store_spec h hg bin (D.rowOf g bin) ?_⟩
      rw [hob]
      rfl
  · -- only basic bins are cached
    simp only [if_true]
    cases hf : m.find (D.basicOf g bin) with
    | some r =>
      rw [(h g hg _ r (MatrixObj.find_some hf)).1 hob]
      exact ⟨m, rfl, h, hg⟩
    | none =>
      refine ⟨_, rfl, MatrixObj.store_spec h hg (D.basicOf g bin) _ ?_⟩
      rw [hob]
      rfl

theorem MatrixObj.rowNow_eq {D : MatrixData G K} (hD : D.Coherent) {m : MatrixObj G K} (h : m.Inv D) {g : G}
    (hg : m.geom = some g) (bin : Bin) : m.rowNow D bin = some (D.rowOf g bin) := by
  obtain ⟨m', hrow, _⟩ := MatrixObj.getRow_spec hD h hg bin
  unfold MatrixObj.rowNow
  rw [hrow]
  rfl

theorem MatrixObj.step_get [DecidableEq G] {D : MatrixData G K} (hD : D.Coherent) {m : MatrixObj G K} (h : m.Inv D) {g : G}
    (hg : m.geom = some g) (b : Bin) : (m.step D (MOp.get b)).Inv D ∧ (m.step D (MOp.get b)).geom = some g := by
  obtain ⟨m', hrow, hinv, hg'⟩ := MatrixObj.getRow_spec hD h hg b
  have : m.step D (MOp.get b) = m' := by
    simp only [MatrixObj.step, hrow]
  rw [this]
  exact ⟨hinv, hg'⟩

theorem MatrixObj.inv_step [DecidableEq G] (D : MatrixData G K) (hD : D.Coherent) (m : MatrixObj G K) (h : m.Inv D)
    (op : MOp G) : (m.step D op).Inv D := by
  cases op with
  | setUp g => exact MatrixObj.inv_setUp
  | setUpRT g => exact MatrixObj.inv_setUpRT h
  | get b =>
    cases hgm : m.geom with
    | none =>
      have : m.step D (MOp.get b) = m := by
        simp only [MatrixObj.step, MatrixObj.getRow, hgm]
      rw [this]
      exact h
    | some g => exact (MatrixObj.step_get hD h hgm b).1

theorem MatrixObj.inv_exec [DecidableEq G] {D : MatrixData G K} (hD : D.Coherent) (ops : List (MOp G))
    {m : MatrixObj G K} (h : m.Inv D) : (m.exec D ops).Inv D :=
  List.foldlRecOn ops _ h fun m hm op _ => MatrixObj.inv_step D hD m hm op

theorem MatrixObj.geom_exec_gets [DecidableEq G] {D : MatrixData G K} (hD : D.Coherent) (bs : List Bin) :
    ∀ {m : MatrixObj G K} {g : G}, m.Inv D → m.geom = some g →
      (m.exec D (bs.map MOp.get)).Inv D ∧ (m.exec D (bs.map MOp.get)).geom = some g := by
  induction bs with
  | nil => exact fun h hg => ⟨h, hg⟩
  | cons b rest ih =>
    intro m g h hg
    obtain ⟨h', hg'⟩ := MatrixObj.step_get hD h hg b
    exact ih h' hg'

theorem MatrixObj.exec_append [DecidableEq G] (D : MatrixData G K) (m : MatrixObj G K) (a b : List (MOp G)) :
    m.exec D (a ++ b) = (m.exec D a).exec D b :=
  List.foldl_append

end StirVerif.C04
