/-
C04 — the two branches of `actual_forward_project` / `actual_back_project`.
The `already_processed` loop of the explicit-symmetries branch visits every position of the requested range exactly
once, provided the related-position lists handed out by the symmetries partition the range.
-/
import StirVerif.C04.Model
import StirVerif.Common.IntRange
import StirVerif.Common.ListNodup
import Mathlib.Data.List.Perm.Basic
import Mathlib.Algebra.Order.Group.Abs
import Mathlib.Algebra.Order.Group.Int

namespace StirVerif.C04

theorem mem_irange (lo hi x : Int) : x ∈ irange lo hi ↔ lo ≤ x ∧ x ≤ hi := by
  rw [irange, Common.mem_map_range_add]
  omega

theorem nodup_irange (lo hi : Int) : (irange lo hi).Nodup :=
  Common.nodup_map_range_add lo _

/-- the positions of a range in the order of the loops `for tang_pos … for ax_pos …` -/
def rangePositions (r : Range) : List (Int × Int) :=
  (irange r.minT r.maxT).flatMap fun t => (irange r.minA r.maxA).map fun a => (a, t)

theorem mem_rangePositions {r : Range} {p : Int × Int} : p ∈ rangePositions r ↔ r.contains p = true := by
  unfold rangePositions Range.contains
  simp only [List.mem_flatMap, List.mem_map, mem_irange, Bool.and_eq_true, decide_eq_true_eq]
  constructor
  · rintro ⟨t, ⟨ht1, ht2⟩, a, ⟨ha1, ha2⟩, rfl⟩
    exact ⟨⟨⟨ha1, ha2⟩, ht1⟩, ht2⟩
  · rintro ⟨⟨⟨ha1, ha2⟩, ht1⟩, ht2⟩
    exact ⟨p.2, ⟨ht1, ht2⟩, p.1, ⟨ha1, ha2⟩, rfl⟩

theorem nodup_rangePositions (r : Range) : (rangePositions r).Nodup :=
  Common.nodup_flatMap_map (nodup_irange _ _) (fun _ _ => nodup_irange _ _)
    fun _ _ _ _ h => ⟨(Prod.mk.inj h).2, (Prod.mk.inj h).1⟩

def cls (rel : Int → Int → List (Int × Int)) (r : Range) (p : Int × Int) : List (Int × Int) :=
  (rel p.1 p.2).filter r.contains

/-- what the symmetries have to guarantee about `get_related_bins_factorised` for the loop to be right:
    every position is related to itself, no position is listed twice, and related positions have the same list
    (as a set) -/
structure RelPartition (rel : Int → Int → List (Int × Int)) (r : Range) : Prop where
  refl : ∀ p, r.contains p = true → p ∈ cls rel r p
  nodup : ∀ p, r.contains p = true → (cls rel r p).Nodup
  closed : ∀ p q, r.contains p = true → q ∈ cls rel r p → ∀ q', q' ∈ cls rel r q ↔ q' ∈ cls rel r p

/-- body of the `already_processed` loop -/
def explicitStep (rel : Int → Int → List (Int × Int)) (r : Range) (processed : List (Int × Int)) (p : Int × Int) :
    List (Int × Int) :=
  if processed.contains p then processed else processed ++ cls rel r p

theorem explicitPositions_eq (rel : Int → Int → List (Int × Int)) (r : Range) :
    explicitPositions rel r = (rangePositions r).foldl (explicitStep rel r) [] := rfl

/-- what holds of the positions processed so far: each once, all in range, and whole classes only -/
structure LoopInv (rel : Int → Int → List (Int × Int)) (r : Range) (processed : List (Int × Int)) : Prop where
  nodup : processed.Nodup
  inRange : ∀ q ∈ processed, r.contains q = true
  closed : ∀ q ∈ processed, ∀ q' ∈ cls rel r q, q' ∈ processed

theorem LoopInv.step {rel : Int → Int → List (Int × Int)} {r : Range} (H : RelPartition rel r) {processed : List (Int × Int)}
    (inv : LoopInv rel r processed) (p : Int × Int) (hp : r.contains p = true) :
    LoopInv rel r (explicitStep rel r processed p) ∧ p ∈ explicitStep rel r processed p
      ∧ ∀ q ∈ processed, q ∈ explicitStep rel r processed p := by
  unfold explicitStep
  by_cases hc : processed.contains p = true
  · rw [if_pos hc]
    exact ⟨inv, List.contains_iff_mem.mp hc, fun q hq => hq⟩
  · rw [if_neg hc]
    have hpn : p ∉ processed := fun h => hc (List.contains_iff_mem.mpr h)
    refine ⟨⟨?_, ?_, ?_⟩, List.mem_append_right _ (H.refl p hp), fun q hq => List.mem_append_left _ hq⟩
    · refine List.Nodup.append inv.nodup (H.nodup p hp) ?_
      intro q hq hq'
      -- q processed and related to p: then p would already be processed
      have h1 : p ∈ cls rel r q := (H.closed p q hp hq' p).mpr (H.refl p hp)
      exact hpn (inv.closed q hq p h1)
    · exact List.forall_mem_append.mpr ⟨inv.inRange, fun q h => (List.mem_filter.mp h).2⟩
    · exact List.forall_mem_append.mpr ⟨fun q h q' hq' => List.mem_append_left _ (inv.closed q h q' hq'),
        fun q h q' hq' => List.mem_append_right _ ((H.closed p q hp h q').mp hq')⟩

theorem LoopInv.foldl {rel : Int → Int → List (Int × Int)} {r : Range} (H : RelPartition rel r) (l : List (Int × Int))
    (hl : ∀ p ∈ l, r.contains p = true) (processed : List (Int × Int)) (inv : LoopInv rel r processed) :
    LoopInv rel r (l.foldl (explicitStep rel r) processed)
      ∧ (∀ q ∈ processed, q ∈ l.foldl (explicitStep rel r) processed)
      ∧ ∀ p ∈ l, p ∈ l.foldl (explicitStep rel r) processed := by
  induction l generalizing processed with
  | nil => exact ⟨inv, fun q hq => hq, fun p hp => by cases hp⟩
  | cons a l ih =>
    obtain ⟨ha', hl'⟩ := List.forall_mem_cons.mp hl
    obtain ⟨inv', ha, hmono⟩ := inv.step H a ha'
    obtain ⟨inv'', hmono', hall⟩ := ih hl' _ inv'
    exact ⟨inv'', fun q hq => hmono' q (hmono q hq), List.forall_mem_cons.mpr ⟨hmono' _ ha, hall⟩⟩

theorem explicitPositions_perm {rel : Int → Int → List (Int × Int)} {r : Range} (H : RelPartition rel r) :
    (explicitPositions rel r).Perm (rangePositions r) := by
  rw [explicitPositions_eq]
  obtain ⟨inv, _, hall⟩ := LoopInv.foldl H (rangePositions r) (fun _ hp => mem_rangePositions.mp hp) []
    ⟨List.nodup_nil, (fun q hq => by cases hq), (fun q hq => by cases hq)⟩
  rw [List.perm_ext_iff_of_nodup inv.nodup (nodup_rangePositions r)]
  intro p
  exact ⟨fun h => mem_rangePositions.mpr (inv.inRange p h), hall p⟩

theorem binsPerBin_eq (vgs : List VG) (r : Range) :
    binsPerBin vgs r = vgs.flatMap fun vg => (rangePositions r).map fun p => vg.bin p.1 p.2 := by
  unfold binsPerBin rangePositions
  congr 1
  funext vg
  rw [List.map_flatMap]
  simp only [List.map_map, Function.comp_def]

theorem flatMap_transpose_perm {α β γ : Type} (R : List α) (V : List β) (g : α → β → γ) :
    (R.flatMap fun p => V.map (g p)).Perm (V.flatMap fun v => R.map fun p => g p v) := by
  induction R with
  | nil => simp
  | cons p R ih =>
    simp only [List.flatMap_cons, List.map_cons]
    exact (List.Perm.append_left _ ih).trans (List.map_append_flatMap_perm V (g p) fun v => R.map fun p => g p v)

theorem binsExplicit_perm {rel : Int → Int → List (Int × Int)} {r : Range} (H : RelPartition rel r) (vgs : List VG) :
    (binsExplicit rel vgs r).Perm (binsPerBin vgs r) := by
  rw [binsPerBin_eq]
  unfold binsExplicit
  refine (List.Perm.flatMap_right _ (explicitPositions_perm H)).trans ?_
  exact flatMap_transpose_perm (rangePositions r) vgs (fun p vg => vg.bin p.1 p.2)

/-- a `Bool` test that implies `RelPartition` (`relPartition_of_check`) -/
def relPartitionCheck (rel : Int → Int → List (Int × Int)) (r : Range) : Bool :=
  (rangePositions r).all fun p =>
    (cls rel r p).contains p && decide (cls rel r p).Nodup &&
      (cls rel r p).all fun q => (cls rel r q).all (fun q' => (cls rel r p).contains q') && (cls rel r p).all fun q' => (cls rel r q).contains q'

theorem relPartition_of_check (rel : Int → Int → List (Int × Int)) (r : Range) (h : relPartitionCheck rel r = true) :
    RelPartition rel r := by
  have key : ∀ p, r.contains p = true → (p ∈ cls rel r p ∧ (cls rel r p).Nodup) ∧
      ∀ q ∈ cls rel r p, (∀ q' ∈ cls rel r q, q' ∈ cls rel r p) ∧ ∀ q' ∈ cls rel r p, q' ∈ cls rel r q := by
    intro p hp
    have := List.all_eq_true.mp h p (mem_rangePositions.mpr hp)
    simpa only [Bool.and_eq_true, List.all_eq_true, List.contains_iff_mem, decide_eq_true_eq] using this
  refine ⟨fun p hp => (key p hp).1.1, fun p hp => (key p hp).1.2, fun p q hp hq q' => ?_⟩
  obtain ⟨hsub, hsup⟩ := (key p hp).2 q hq
  exact ⟨hsub q', hsup q'⟩

/-- the related-position lists of a cylindrical scanner with `do_symmetry_shift_z` and `do_symmetry_swap_s`
    (`get_related_bins_factorised`: every axial position of the range, tangential positions `t` and `-t`) -/
def relCyl (r : Range) : Int → Int → List (Int × Int) := fun _ t =>
  (irange r.minA r.maxA).flatMap fun a => if t = 0 then [(a, t)] else [(a, |t|), (a, -|t|)]

/-- the positions `get_related_bins_factorised` makes for one axial position: `t` and `-t`, once if they coincide -/
theorem mem_relCyl_at (a t : Int) (q : Int × Int) :
    q ∈ (if t = 0 then [(a, t)] else [(a, |t|), (a, -|t|)]) ↔ q.1 = a ∧ |q.2| = |t| := by
  split
  · rename_i ht
    rw [List.mem_singleton, Prod.mk.injEq, ht, abs_zero, abs_eq_zero]
  · rw [List.mem_pair, Prod.mk.injEq, Prod.mk.injEq, ← and_or_left, abs_eq (abs_nonneg t)]

theorem mem_relCyl (r : Range) (a t : Int) (q : Int × Int) :
    q ∈ relCyl r a t ↔ (r.minA ≤ q.1 ∧ q.1 ≤ r.maxA) ∧ |q.2| = |t| := by
  unfold relCyl
  simp only [List.mem_flatMap, mem_irange, mem_relCyl_at]
  exact ⟨fun ⟨a', ha', h1, h2⟩ => ⟨h1 ▸ ha', h2⟩, fun ⟨ha, h2⟩ => ⟨q.1, ha, rfl, h2⟩⟩

theorem nodup_relCyl (r : Range) (a t : Int) : (relCyl r a t).Nodup := by
  unfold relCyl
  -- every position made for the axial position `a'` has `a'` as its first component
  refine Common.nodup_flatMap_of_tag id Prod.fst ((List.map_id _).symm ▸ nodup_irange r.minA r.maxA) (fun a' _ => ?_)
    fun a' _ q hq => ((mem_relCyl_at a' t q).1 hq).1
  split
  · exact List.nodup_singleton _
  · rename_i ht
    refine List.nodup_cons.mpr ⟨fun h => ht ?_, List.nodup_singleton _⟩
    have := (Prod.mk.inj (List.mem_singleton.mp h)).2
    exact abs_eq_zero.mp (self_eq_neg.mp this)

theorem relPartition_relCyl (r r' : Range) (hmin : r.minA ≤ r'.minA) (hmax : r'.maxA ≤ r.maxA) :
    RelPartition (relCyl r) r' := by
  have mem : ∀ p q, q ∈ cls (relCyl r) r' p ↔
      ((r.minA ≤ q.1 ∧ q.1 ≤ r.maxA) ∧ |q.2| = |p.2|) ∧ r'.contains q = true := by
    intro p q
    unfold cls
    rw [List.mem_filter, mem_relCyl]
  constructor
  · intro p hp
    have hp' := hp
    unfold Range.contains at hp'
    simp only [Bool.and_eq_true, decide_eq_true_eq] at hp'
    exact (mem p p).mpr ⟨⟨⟨by omega, by omega⟩, rfl⟩, hp⟩
  · intro p _
    exact (nodup_relCyl r p.1 p.2).filter _
  · intro p q _ hq q'
    rw [mem, mem, ((mem p q).mp hq).1.2]

end StirVerif.C04
