/-
C04 — "Matched projector pairs are linear, adjoint and additive over pieces".

Property theorems over the model of `Model.lean`.  `K` is an arbitrary commutative ring with decidable equality (the
driver runs the same definitions at `K = Rat`); `rows : Bin → Row K` is an **arbitrary** family of sparse rows, `ig` an
arbitrary image grid/layout (`ig.zmin`, `ig.zmax` are `density.get_min_index()` / `get_max_index()` whatever they are), `idx`
the layout of the projection data, `G`/`S` arbitrary index ranges and symmetry tables: nothing is assumed about what the rows
are, how long they are, how many bins, views, subsets or voxels there are.  Hypotheses that do appear are explicit:
* `InjOn idx bins` — the layout does not store two different bins of the list at the same place (property C02);
* `idx b < d.size` — the bin is inside the data array (the model's `setIfInBounds` ignores writes outside);
* `RelPartition rel r` — the related-position lists of the symmetries partition the requested range (what
  `get_related_bins_factorised` has to deliver for the `already_processed` loop to be right; it does **not** for
  BlocksOnCylindrical/Generic TOF data, see `C04_explicit_branch_needs_reflexive_rel_fails`);
* `StepsDisjoint` — the related-viewgram sets processed for a subset are disjoint (property C06).
Each is shown satisfiable by a concrete instance in the `example`s.

`G`, `idx` (and the related-position lists inside `S`) describe the projection data **passed to the call**; `rows` belongs to
the geometry the projectors were set up with.  Nothing is assumed about how the two are related, so every theorem about
`fwdSubset` / `bckSubset` / `fwdRelated` / `bckRelated` also covers projection data smaller than the set-up geometry (fewer
segments, trimmed axial and tangential ranges); `C04_fwd_smaller_data_is_restriction` states what connects the two.  The data
processors of `set_input` / `get_output` are arbitrary functions on the voxel array (`Proc`).

Which rows an object that has been `set_up` several times returns is decided by the cache state machine `MatrixObj`;
`C04_reused_matrix_*` say: those of the last `set_up`, i.e. those of a fresh object.

Which voxels a row of `ProjMatrixByBinUsingRayTracing` contains is decided by the end points `min_a`, `max_a` that
`ray_trace_one_lor` computes on the border of the cylindrical or the square field of view.  With the view symmetries in use
only views of 0..45 degrees reach that code; with them switched off (by option, or automatically for TOF data, view mashing,
a view offset, `use_actual_detector_boundaries`) every view does, with `cos φ < 0` beyond 90 degrees.  `squareChord` /
`cylChordSq` transcribe that code; `C04_square_fov_*`, `C04_cylindrical_fov_chord_exact` say that, for every sign of `cos φ`
and `sin φ`, the end points bound exactly the part of the LOR inside the field of view.

Tied to the code (`harness/c04_projectors.cxx`, `checks/c04.py`): the real projectors and the model run on the same rows, for
the set-up geometry and for smaller data (`fwd`/`bsub`, `fwd2`/`bsub2`), on image grids whose first plane is negative, positive
or straddles 0 and whose x/y ranges have extra columns, on objects kept alive through histories of `set_up`s (the model fed
with the rows of a fresh matrix), and every ray of {cylindrical, square} x {32 symmetry settings} x {1, 2, 3 rays} x {detector
boundaries} goes to the model (`sqchord`).

Not modelled: `ForwardProjectorByBinUsingRayTracing`, hence the last clause of the property ("the on-the-fly ray-tracing
forward projector gives the same data as forward projection through the ray-tracing matrix"); it is evaluated on the
implementation by the oracle of the harness only; one disagreement is a known finding: `forward_project(RelatedViewgrams&)` of that
projector adds to the viewgrams instead of overwriting them.
-/
import StirVerif.C04.ProofsSubset
import StirVerif.C04.ProofsBranch
import StirVerif.C04.ProofsMatrix
import StirVerif.C04.ProofsChord

set_option linter.unusedSectionVars false

namespace StirVerif.C04

variable {K : Type} [CommRing K] [DecidableEq K]
variable (rows : Bin → Row K) (ig : ImgGeom) (idx : Bin → Nat) (G : PDGeom) (S : Syms)

/-- "projection is linear" — one row (`ProjMatrixElemsForOneBin::forward_project`): `A(c·x + x') = c·A x + A x'`,
    also in the value the bin comes in with. -/
theorem C04_fwd_row_linear (row : Row K) (c : K) (x x' : Array K) (h : x.size = x'.size) (a a' : K) :
    fwdRow ig row (axpy c x x') (c * a + a') = c * fwdRow ig row x a + fwdRow ig row x' a' := by
  rw [fwdRow_eq, fwdRow_eq, fwdRow_eq, dotTerms_axpy h]
  ring

/-- "projection is linear" — forward projection of any sequence of bins (viewgram, related viewgrams, subset,
    sub-range), read at any processed bin. -/
theorem C04_fwd_linear (c : K) (x x' d : Array K) (hx : x.size = x'.size) (bins : List Bin) (hinj : InjOn idx bins)
    (hsz : ∀ b ∈ bins, idx b < d.size) (b : Bin) (hb : b ∈ bins) :
    (fwdBins rows ig idx (axpy c x x') bins d).getD (idx b) 0
      = c * (fwdBins rows ig idx x bins d).getD (idx b) 0 + (fwdBins rows ig idx x' bins d).getD (idx b) 0 := by
  simp only [getD_fwdBins_mem hinj hb (hsz b hb)]
  have := C04_fwd_row_linear ig (rows b) c x x' hx 0 0
  rwa [mul_zero, add_zero] at this

/-- "projection is linear" — back projection of any sequence of bins is linear in the data, at every voxel
    (the `data == 0` short cuts do not break it). -/
theorem C04_bck_linear (c : K) (y y' : Array K) (hy : y.size = y'.size) (bins : List Bin) (n i : Nat) (hi : i < n) :
    (bckBins rows ig idx (axpy c y y') bins (zeroImg n)).getD i 0
      = c * (bckBins rows ig idx y bins (zeroImg n)).getD i 0 + (bckBins rows ig idx y' bins (zeroImg n)).getD i 0 := by
  simp only [getD_bckBins_zeroImg hi]
  exact bckSum_axpy hy bins i

/-- "the two operations are adjoint, ⟨A x, y⟩ = ⟨x, Aᵀ y⟩ for all images x and data y" — for the rows of **any** finite
    sequence of bins, hence for the full data set, every subset, every symmetry group of viewgrams and every axial or
    tangential sub-range (they are all sequences of bins): the forward projection written into the data `d` by the model
    and read back at the bins, against the back projection accumulated by the model into a zero image. -/
theorem C04_adjoint (x y d : Array K) (bins : List Bin) (hinj : InjOn idx bins) (hsz : ∀ b ∈ bins, idx b < d.size) :
    dotBins idx (fwdBins rows ig idx x bins d) y bins = dotImg x (bckBins rows ig idx y bins (zeroImg x.size)) :=
  dotBins_of_rowSums x y fun b hb => getD_fwdBins_mem hinj hb (hsz b hb)

/-- … "for every symmetry group of viewgrams and axial or tangential sub-range that can be requested": the same for
    `actual_forward_project` / `actual_back_project` on related viewgrams `vgs` over the range `r`, in **either** branch
    (cache enabled / explicit symmetries), whatever the related-position lists `rel` are. -/
theorem C04_adjoint_related (cache : Bool) (rel : Int → Int → List (Int × Int)) (vgs : List VG) (r : Range) (x y d : Array K)
    (hinj : InjOn idx (branchBins cache rel vgs r)) (hsz : ∀ b ∈ branchBins cache rel vgs r, idx b < d.size) :
    dotBins idx (fwdRelated rows ig idx cache rel vgs r x d) y (branchBins cache rel vgs r)
      = dotImg x (bckRelated rows ig idx cache rel vgs r y (zeroImg x.size)) :=
  C04_adjoint rows ig idx x y d _ hinj hsz

/-- … "for the full data set and for every subset": `ForwardProjectorByBin::forward_project(proj_data, subset_num,
    num_subsets, zero)` against `BackProjectorByBin::back_project(proj_data, subset_num, num_subsets)`, for every
    `0 ≤ subset_num < num_subsets`, both values of `zero`, either branch — the inner product taken over the bins the
    projectors process for that subset.  (`G`, `idx` are those of `proj_data`: the statement is the same whether
    `proj_data` has the set-up geometry or a smaller one; the driver executes `fwdSubset`/`bckSubset` for both.) -/
theorem C04_adjoint_subset (cache : Bool) (x y d : Array K) (i n : Int) (zero : Bool) (hi : 0 ≤ i) (hin : i ≤ n - 1)
    (hinj : InjOn idx (stepBins (stepZ G S) (stepP G S cache) (subsetSteps G S i n)))
    (hdis : StepsDisjoint (stepZ G S) (stepP G S cache) (subsetSteps G S i n))
    (hsz : ∀ b ∈ stepBins (stepZ G S) (stepP G S cache) (subsetSteps G S i n), idx b < d.size) :
    ∃ out, fwdSubset rows ig idx G S cache x d i n zero = some out ∧
      dotBins idx out y ((subsetSteps G S i n).flatMap (stepP G S cache))
        = dotImg x (bckSubset rows ig idx G S cache y i n (zeroImg x.size)) := by
  rw [fwdSubset_eq, if_neg (not_or.mpr ⟨not_lt.mpr hi, not_lt.mpr hin⟩), bckSubset_eq]
  rw [← size_startData zero n d] at hsz
  -- at the bins the branch processes, the steps leave the row sums
  refine ⟨_, rfl, dotBins_of_rowSums x y fun b hb => ?_⟩
  obtain ⟨q, hq, hbq⟩ := List.mem_flatMap.mp hb
  rw [getD_fwdSteps_mem hinj hdis hsz hq (List.mem_append_right _ hbq), if_pos hbq]

/-- "projecting piecewise and adding the pieces equals projecting at once" — back projection: for any split of a
    sequence of bins `whole` into pieces (in any order: `pieces.flatten` is a permutation of `whole`), the sum of the
    back projections of the pieces is the back projection of the whole, at every voxel. -/
theorem C04_additive_over_pieces_bck (y : Array K) (pieces : List (List Bin)) (whole : List Bin)
    (hp : pieces.flatten.Perm whole) (n i : Nat) (hi : i < n) :
    (pieces.map fun p => (bckBins rows ig idx y p (zeroImg n)).getD i 0).sum
      = (bckBins rows ig idx y whole (zeroImg n)).getD i 0 := by
  rw [getD_bckBins_zeroImg hi, ← bckSum_perm hp]
  unfold bckSum
  rw [List.map_flatten, List.sum_flatten, List.map_map]
  exact congrArg List.sum (List.map_congr_left fun p _ => getD_bckBins_zeroImg hi)

/-- … forward projection: projecting the pieces one after the other into the same data gives, at every place of the
    data, what projecting the whole at once gives (for a layout that keeps the bins of `whole` apart). -/
theorem C04_additive_over_pieces_fwd (x d : Array K) (pieces : List (List Bin)) (whole : List Bin)
    (hp : pieces.flatten.Perm whole) (hinj : InjOn idx whole) (hsz : ∀ b ∈ whole, idx b < d.size) (j : Nat) :
    (pieces.foldl (fun d p => fwdBins rows ig idx x p d) d).getD j 0 = (fwdBins rows ig idx x whole d).getD j 0 := by
  rw [fwdPieces_eq]
  exact getD_fwdBins_perm hp hinj hsz j

/-- … "for every subset": if the bins processed for the `n` subsets together are exactly the bins processed for the whole
    data (each once — the bin-level form of C06's partition theorem), the back projections of the subsets add up to the back
    projection of the whole data, at every voxel. -/
theorem C04_additive_over_subsets_bck (cache : Bool) (y : Array K) (n : Nat)
    (hp : ((List.range n).map fun (i : Nat) => (subsetSteps G S i n).flatMap (stepP G S cache)).flatten.Perm
      ((subsetSteps G S 0 1).flatMap (stepP G S cache))) (m v : Nat) (hv : v < m) :
    ((List.range n).map fun (i : Nat) => (bckSubset rows ig idx G S cache y i n (zeroImg m)).getD v 0).sum
      = (bckSubset rows ig idx G S cache y 0 1 (zeroImg m)).getD v 0 := by
  simp only [bckSubset_eq]
  rw [← C04_additive_over_pieces_bck rows ig idx y _ _ hp m v hv, List.map_map, Function.comp_def]

/-- `forward_project(proj_data, subset_num, num_subsets, zero)` is an error exactly for `subset_num < 0` or
    `subset_num > num_subsets - 1` (so in particular for every `num_subsets ≤ 0`). -/
theorem C04_fwd_subset_error_iff (cache : Bool) (x d : Array K) (i n : Int) (zero : Bool) :
    fwdSubset rows ig idx G S cache x d i n zero = none ↔ (i < 0 ∨ i > n - 1) := by
  rw [fwdSubset_eq]
  exact ite_none_some_eq_none

/-- "Forward projecting a subset of a data set leaves all other bins unchanged, or sets them to zero when zeroing is
    requested": every place of the data that does not belong to a related viewgram processed for the subset keeps its value
    when `zero = false`, and is 0 when `zero = true ∧ num_subsets > 1`.  The `num_subsets = 1` corner is as in the code:
    with `zero = true` nothing is zeroed either (`if (zero && num_subsets > 1) proj_data.fill(0)`), a place that no related
    viewgram covers keeps its old value. -/
theorem C04_fwd_subset_frame (cache : Bool) (x d out : Array K) (i n : Int) (zero : Bool)
    (h : fwdSubset rows ig idx G S cache x d i n zero = some out) (j : Nat)
    (hj : j ∉ touched idx (stepZ G S) (stepP G S cache) (subsetSteps G S i n)) :
    out.getD j 0 = if zero && decide (n > 1) then 0 else d.getD j 0 := by
  rw [← fwdSubset_some h, getD_fwdSteps_not_mem hj, getD_startData]

/-- … and inside the subset: every bin the branch processes holds the forward projection of its row, every other bin of
    the related viewgrams (written back whole from `get_empty_related_viewgrams`) holds 0 — given disjoint related sets
    (C06) and an injective layout (C02). -/
theorem C04_fwd_subset_value (cache : Bool) (x d out : Array K) (i n : Int) (zero : Bool)
    (h : fwdSubset rows ig idx G S cache x d i n zero = some out)
    (hinj : InjOn idx (stepBins (stepZ G S) (stepP G S cache) (subsetSteps G S i n)))
    (hdis : StepsDisjoint (stepZ G S) (stepP G S cache) (subsetSteps G S i n))
    (hsz : ∀ b ∈ stepBins (stepZ G S) (stepP G S cache) (subsetSteps G S i n), idx b < d.size)
    (q : Int × Int × Int) (hq : q ∈ subsetSteps G S i n) (b : Bin) :
    (b ∈ stepP G S cache q → out.getD (idx b) 0 = fwdRow ig (rows b) x 0)
    ∧ (b ∈ stepZ G S q → b ∉ stepP G S cache q → out.getD (idx b) 0 = 0) := by
  rw [← size_startData zero n d] at hsz
  rw [← fwdSubset_some h]
  exact ⟨fun hbP => (getD_fwdSteps_mem hinj hdis hsz hq (List.mem_append_right _ hbP)).trans (if_pos hbP),
    fun hbZ hbP => (getD_fwdSteps_mem hinj hdis hsz hq (List.mem_append_left _ hbZ)).trans (if_neg hbP)⟩

/-- the forward projection of bins (any sequence) never touches a place that is not the place of one of them, and writes
    the row sum at the place of each of them: frame + value for viewgrams, related viewgrams and sub-ranges. -/
theorem C04_fwd_bins_frame_and_value (x d : Array K) (bins : List Bin) :
    (∀ j, j ∉ bins.map idx → (fwdBins rows ig idx x bins d).getD j 0 = d.getD j 0)
    ∧ (InjOn idx bins → ∀ b ∈ bins, idx b < d.size → (fwdBins rows ig idx x bins d).getD (idx b) 0 = fwdRow ig (rows b) x 0) :=
  ⟨fun _ hj => getD_fwdBins_not_mem hj, fun hinj _ hb hs => getD_fwdBins_mem hinj hb hs⟩

/-- "back projection accumulates without disturbing earlier contributions": back projecting any sequence of bins into a
    target that already holds `im` gives, at every voxel, `im` plus what the same back projection gives from zero. -/
theorem C04_bck_accumulates (y im : Array K) (bins : List Bin) (i : Nat) (hi : i < im.size) :
    (bckBins rows ig idx y bins im).getD i 0 = im.getD i 0 + (bckBins rows ig idx y bins (zeroImg im.size)).getD i 0 := by
  rw [getD_bckBins hi, getD_bckBins_zeroImg hi]

/-- … at the level of the projector's state: after `start_accumulating_in_new_target`, two successive
    `back_project(proj_data, subset, num_subsets)` calls (any data, any subsets) leave the sum of the two separate back
    projections in the target; the values the target had before `start_accumulating_in_new_target` play no role. -/
theorem C04_backproj_two_calls (cache : Bool) (s : BackProj K) (y1 y2 : Array K) (i1 n1 i2 n2 : Int) (v : Nat)
    (hv : v < s.density.size) :
    (BackProj.backSubset rows ig idx G S cache (BackProj.backSubset rows ig idx G S cache s.start y1 i1 n1) y2 i2 n2).getOutput.getD v 0
      = (bckSubset rows ig idx G S cache y1 i1 n1 (zeroImg s.density.size)).getD v 0
        + (bckSubset rows ig idx G S cache y2 i2 n2 (zeroImg s.density.size)).getD v 0 := by
  simp only [BackProj.backSubset, BackProj.getOutput, BackProj.start, bckSubset_eq, fillZero_eq]
  rw [C04_bck_accumulates rows ig idx y2 _ _ v (hv.trans_eq (size_bckBins.trans (size_zeroImg _)).symm),
    size_bckBins, size_zeroImg]

/-- `back_project(image, proj_data, subset, num_subsets)` (= start; back_project; get_output) returns the back projection
    from zero: neither the previous contents of the target nor those of `image` enter. -/
theorem C04_backproj_backInto (cache : Bool) (s : BackProj K) (y : Array K) (i n : Int) :
    (BackProj.backInto rows ig idx G S cache s y i n).2 = bckSubset rows ig idx G S cache y i n (zeroImg s.density.size) := by
  show bckSubset rows ig idx G S cache y i n (fillZero s.density) = _
  rw [fillZero_eq]

/-- without a pre-data-processor `forward_project(proj_data, image, subset_num, num_subsets, zero)` (= `set_input(image)`
    followed by `forward_project(proj_data, subset_num, num_subsets, zero)`) is `fwdSubset` on the image itself: all theorems
    about `fwdSubset` are theorems about that overload. -/
theorem C04_fwd_project_no_processor (cache : Bool) (x d : Array K) (i n : Int) (zero : Bool) :
    fwdProject rows ig idx G S none cache x d i n zero = fwdSubset rows ig idx G S cache x d i n zero :=
  rfl

/-- with a pre-data-processor the projector works on the processed copy; a processor that fails is an error of
    `set_input` (`throw`), whatever the subset arguments are. -/
theorem C04_fwd_project_processor (p : Proc K) (cache : Bool) (x d : Array K) (i n : Int) (zero : Bool) :
    fwdProject rows ig idx G S (some p) cache x d i n zero
      = match p x with
        | none => none
        | some x' => fwdSubset rows ig idx G S cache x' d i n zero := by
  show (p x).bind _ = _
  cases p x with
  | none => rfl
  | some x' => rfl

/-- `get_output` without a post-data-processor hands out the accumulation target; with one it hands out the processed copy
    and — the function returning no new state — leaves the target as it was: a later `back_project` accumulates on the
    unprocessed sum. -/
theorem C04_get_output_post (s : BackProj K) (q : Proc K) :
    s.getOutputPost none = some s.getOutput ∧ s.getOutputPost (some q) = q s.getOutput :=
  ⟨rfl, rfl⟩

/-- "the two operations are adjoint" **through the data processors**: if the post-processor `q` of the back projector is the
    adjoint of the pre-processor `p` of the forward projector (`⟨p u, v⟩ = ⟨u, q v⟩`; in particular `p = q` self-adjoint) and
    `p` keeps the image size, then `⟨A (p x), y⟩ = ⟨x, q (Aᵀ y)⟩` for the rows of any sequence of bins: `set_input` with
    `p`, forward projection, against back projection into a fresh target and `get_output` with `q`. -/
theorem C04_adjoint_with_processors (p q : Array K → Array K) (hp : ∀ u, (p u).size = u.size)
    (hadj : ∀ u v : Array K, u.size = v.size → dotImg (p u) v = dotImg u (q v))
    (x y d : Array K) (bins : List Bin) (hinj : InjOn idx bins) (hsz : ∀ b ∈ bins, idx b < d.size) :
    ∃ x' out, setInput (some fun u => some (p u)) x = some x'
      ∧ (BackProj.mk (bckBins rows ig idx y bins (zeroImg x.size))).getOutputPost (some fun v => some (q v)) = some out
      ∧ dotBins idx (fwdBins rows ig idx x' bins d) y bins = dotImg x out := by
  refine ⟨p x, q (bckBins rows ig idx y bins (zeroImg x.size)), rfl, rfl, ?_⟩
  rw [C04_adjoint rows ig idx (p x) y d bins hinj hsz, hp x]
  exact hadj x _ (by rw [size_bckBins, size_zeroImg])

/-- "with a scaling processor results scale": forward projection after `set_input` with the processor `image *= c` is `c`
    times the unprocessed forward projection at every processed bin, and `get_output` with it is `c` times the target. -/
theorem C04_scaling_processor_scales (c : K) (x d : Array K) (bins : List Bin) (hinj : InjOn idx bins)
    (hsz : ∀ b ∈ bins, idx b < d.size) (s : BackProj K) :
    (∃ x', setInput (some (procScale c)) x = some x' ∧
      ∀ b ∈ bins, (fwdBins rows ig idx x' bins d).getD (idx b) 0 = c * (fwdBins rows ig idx x bins d).getD (idx b) 0)
    ∧ (∃ out, s.getOutputPost (some (procScale c)) = some out ∧ ∀ v, out.getD v 0 = c * s.getOutput.getD v 0) := by
  constructor
  · refine ⟨x.map fun v => c * v, rfl, fun b hb => ?_⟩
    rw [getD_fwdBins_mem hinj hb (hsz b hb), getD_fwdBins_mem hinj hb (hsz b hb)]
    rw [fwdRow_eq, fwdRow_eq, dotTerms_map_mul, zero_add, zero_add]
  · exact ⟨s.density.map fun v => c * v, rfl, getD_map_mul c s.density⟩

/-- the scaling processor satisfies the hypotheses of `C04_adjoint_with_processors` (it is self-adjoint) -/
theorem C04_scaling_processor_self_adjoint (c : K) :
    (∀ u : Array K, (u.map fun a => c * a).size = u.size)
    ∧ (∀ u v : Array K, u.size = v.size → dotImg (u.map fun a => c * a) v = dotImg u (v.map fun a => c * a)) := by
  refine ⟨fun u => Array.size_map, fun u v _ => ?_⟩
  rw [dotImg_eq, dotImg_eq, Array.size_map]
  refine congrArg List.sum (List.map_congr_left fun i _ => ?_)
  rw [getD_map_mul, getD_map_mul, mul_assoc, mul_left_comm]

/-- "projecting piecewise … equals projecting at once", for a piece that is a **smaller projection-data object**: the same
    projector (same `rows`) called once with data of geometry `G`, layout `idx` and once with data of geometry `G'`, layout
    `idx'`, related-position lists `S'.rel` for the ranges of the smaller data (any subset arguments, any `zero`, either
    branch in either call) writes the same value for every bin that both calls process — the projection of the smaller data
    is the restriction of the projection of the larger. -/
theorem C04_fwd_smaller_data_is_restriction (x : Array K)
    (cache : Bool) (d out : Array K) (i n : Int) (zero : Bool)
    (h : fwdSubset rows ig idx G S cache x d i n zero = some out)
    (hinj : InjOn idx (stepBins (stepZ G S) (stepP G S cache) (subsetSteps G S i n)))
    (hdis : StepsDisjoint (stepZ G S) (stepP G S cache) (subsetSteps G S i n))
    (hsz : ∀ b ∈ stepBins (stepZ G S) (stepP G S cache) (subsetSteps G S i n), idx b < d.size)
    (G' : PDGeom) (S' : Syms) (idx' : Bin → Nat) (cache' : Bool) (d' out' : Array K) (i' n' : Int) (zero' : Bool)
    (h' : fwdSubset rows ig idx' G' S' cache' x d' i' n' zero' = some out')
    (hinj' : InjOn idx' (stepBins (stepZ G' S') (stepP G' S' cache') (subsetSteps G' S' i' n')))
    (hdis' : StepsDisjoint (stepZ G' S') (stepP G' S' cache') (subsetSteps G' S' i' n'))
    (hsz' : ∀ b ∈ stepBins (stepZ G' S') (stepP G' S' cache') (subsetSteps G' S' i' n'), idx' b < d'.size)
    (q : Int × Int × Int) (hq : q ∈ subsetSteps G S i n) (q' : Int × Int × Int) (hq' : q' ∈ subsetSteps G' S' i' n')
    (b : Bin) (hb : b ∈ stepP G S cache q) (hb' : b ∈ stepP G' S' cache' q') :
    out'.getD (idx' b) 0 = out.getD (idx b) 0 := by
  rw [(C04_fwd_subset_value rows ig idx G S cache x d out i n zero h hinj hdis hsz q hq b).1 hb,
    (C04_fwd_subset_value rows ig idx' G' S' cache' x d' out' i' n' zero' h' hinj' hdis' hsz' q' hq' b).1 hb']

/-- the `already_processed` loop of the explicit-symmetries branch visits every position of the requested range exactly
    once, if the related-position lists partition the range. -/
theorem C04_explicit_branch_visits_once (rel : Int → Int → List (Int × Int)) (r : Range) (H : RelPartition rel r) :
    (explicitPositions rel r).Perm (rangePositions r) :=
  explicitPositions_perm H

/-- then the explicit-symmetries branch back projects exactly what the per-bin (cache enabled) branch back projects … -/
theorem C04_branches_agree_bck (rel : Int → Int → List (Int × Int)) (r : Range) (H : RelPartition rel r) (vgs : List VG)
    (y im : Array K) (i : Nat) (hi : i < im.size) :
    (bckRelated rows ig idx false rel vgs r y im).getD i 0 = (bckRelated rows ig idx true rel vgs r y im).getD i 0 := by
  show (bckBins rows ig idx y (binsExplicit rel vgs r) im).getD i 0 = (bckBins rows ig idx y (binsPerBin vgs r) im).getD i 0
  rw [getD_bckBins hi, getD_bckBins hi, bckSum_perm (binsExplicit_perm H vgs)]

/-- … and forward projects the same values into the same places (and leaves the same places alone). -/
theorem C04_branches_agree_fwd (rel : Int → Int → List (Int × Int)) (r : Range) (H : RelPartition rel r) (vgs : List VG)
    (x d : Array K) (hinj : InjOn idx (binsPerBin vgs r)) (hsz : ∀ b ∈ binsPerBin vgs r, idx b < d.size) (j : Nat) :
    (fwdRelated rows ig idx false rel vgs r x d).getD j 0 = (fwdRelated rows ig idx true rel vgs r x d).getD j 0 :=
  getD_fwdBins_perm (binsExplicit_perm H vgs) hinj hsz j

/-- **negative witness** (replayed on the implementation by the harness, reported as known candidate
    `explicit-symmetries-branch-skips-bins-with-nonzero-timing-pos:BlocksOnCylindrical:cache-disabled`): without the
    hypothesis the statement is false.  If the symmetries hand out an empty related-position list — which is what
    `DataSymmetriesForBins_PET_CartesianGrid::get_related_bins_factorised` does for BlocksOnCylindrical and Generic
    scanners whenever the timing position is not 0 (it compares against a bin built without the timing position) — the
    explicit-symmetries branch processes no bin at all, while the per-bin branch processes the whole range. -/
theorem C04_explicit_branch_needs_reflexive_rel_fails :
    ¬ (∀ (rel : Int → Int → List (Int × Int)) (vgs : List VG) (r : Range), (binsExplicit rel vgs r).Perm (binsPerBin vgs r)) := by
  intro h
  have h1 := (h (fun _ _ => []) [⟨0, 0, 1⟩] ⟨0, 1, -1, 1⟩).length_eq
  revert h1
  decide

/-- the hypothesis of the branch theorems holds for the cylindrical symmetries, on a full and on a clipped range -/
example : RelPartition (relCyl ⟨0, 2, -2, 2⟩) ⟨0, 2, -2, 2⟩ := relPartition_relCyl _ _ (by decide) (by decide)
example : RelPartition (relCyl ⟨0, 2, -2, 2⟩) ⟨1, 2, -1, 2⟩ := relPartition_relCyl _ _ (by decide) (by decide)

example : (explicitPositions (relCyl ⟨0, 2, -2, 2⟩) ⟨0, 2, -2, 2⟩).length = 15 := by decide +kernel

/-- a small projection-data layout: 2 views × 3 axial × 5 tangential positions, segment 0, no TOF -/
def exIdx (b : Bin) : Nat := ((b.view * 3 + b.ax) * 5 + (b.tang + 2)).toNat

/-- the layout hypothesis holds for two related viewgrams over the full range, in both branches -/
example : InjOn exIdx (branchBins true (relCyl ⟨0, 2, -2, 2⟩) [⟨0, 0, 0⟩, ⟨0, 1, 0⟩] ⟨0, 2, -2, 2⟩) :=
  InjOn.of_leftInverse (fun j => ⟨0, j / 15, j / 5 % 3, j % 5 - 2, 0⟩) (by decide +kernel)
example : InjOn exIdx (branchBins false (relCyl ⟨0, 2, -2, 2⟩) [⟨0, 0, 0⟩, ⟨0, 1, 0⟩] ⟨0, 2, -2, 2⟩) :=
  InjOn.of_leftInverse (fun j => ⟨0, j / 15, j / 5 % 3, j % 5 - 2, 0⟩) (by decide +kernel)

/-- a small data set: 4 views, segment 0, 2 axial × 3 tangential positions; views 0,1 basic, view v+2 related to v -/
def exG : PDGeom := ⟨0, 0, 0, 3, -1, 1, 0, 0, fun _ => 0, fun _ => 1⟩
def exS : Syms := ⟨fun v _ => decide (v < 2), fun v s => [(v, s), (v + 2, s)], fun _ _ _ => relCyl ⟨0, 1, -1, 1⟩⟩
def exIdx2 (b : Bin) : Nat := ((b.view * 2 + b.ax) * 3 + (b.tang + 1)).toNat

/-- the hypotheses of `C04_adjoint_subset` / `C04_fwd_subset_value` hold for subset 1 of 2 of that data set (it consists of
    the related viewgrams {1, 3}), in both branches -/
example : InjOn exIdx2 (stepBins (stepZ exG exS) (stepP exG exS false) (subsetSteps exG exS 1 2))
    ∧ StepsDisjoint (stepZ exG exS) (stepP exG exS false) (subsetSteps exG exS 1 2)
    ∧ (∀ b ∈ stepBins (stepZ exG exS) (stepP exG exS false) (subsetSteps exG exS 1 2), exIdx2 b < 24)
    ∧ subsetSteps exG exS 1 2 = [(1, 0, 0)] := by
  refine ⟨InjOn.of_leftInverse (fun j => ⟨0, j / 6, j / 3 % 2, j % 3 - 1, 0⟩) (by decide), ?_, by decide, rfl⟩
  unfold StepsDisjoint
  decide

/-- … and for the whole data (1 subset): two disjoint steps -/
example : InjOn exIdx2 (stepBins (stepZ exG exS) (stepP exG exS true) (subsetSteps exG exS 0 1))
    ∧ StepsDisjoint (stepZ exG exS) (stepP exG exS true) (subsetSteps exG exS 0 1)
    ∧ subsetSteps exG exS 0 1 = [(0, 0, 0), (1, 0, 0)] := by
  refine ⟨InjOn.of_leftInverse (fun j => ⟨0, j / 6, j / 3 % 2, j % 3 - 1, 0⟩) (by decide +kernel), ?_, rfl⟩
  unfold StepsDisjoint
  decide +kernel

/-- the hypothesis of `C04_additive_over_subsets_bck` holds for that data set and 2 subsets -/
example : ((List.range 2).map fun (i : Nat) => (subsetSteps exG exS i 2).flatMap (stepP exG exS false)).flatten.Perm
    ((subsetSteps exG exS 0 1).flatMap (stepP exG exS false)) := by decide +kernel

/-- frame: the places of views 0 and 2 are not touched when subset 1 of 2 is projected -/
example : (5 : Nat) ∉ touched exIdx2 (stepZ exG exS) (stepP exG exS true) (subsetSteps exG exS 1 2)
    ∧ (12 : Nat) ∉ touched exIdx2 (stepZ exG exS) (stepP exG exS true) (subsetSteps exG exS 1 2)
    ∧ (6 : Nat) ∈ touched exIdx2 (stepZ exG exS) (stepP exG exS true) (subsetSteps exG exS 1 2) := by decide +kernel

/-- a smaller data set inside `exG`: the same 4 views, tangential positions 0..1 only, axial position 1 only; its layout -/
def exG' : PDGeom := ⟨0, 0, 0, 3, 0, 1, 0, 0, fun _ => 1, fun _ => 1⟩
def exS' : Syms := ⟨fun v _ => decide (v < 2), fun v s => [(v, s), (v + 2, s)], fun _ _ _ => relCyl ⟨1, 1, 0, 1⟩⟩
def exIdx2' (b : Bin) : Nat := (b.view * 2 + b.tang).toNat

/-- the hypotheses of `C04_fwd_smaller_data_is_restriction` hold for the whole of `exG` and subset 1 of 2 of the smaller
    `exG'`, and the bin (view 3, axial 1, tangential 1) is processed by both calls (in step (1,0,0) of either) -/
example : InjOn exIdx2' (stepBins (stepZ exG' exS') (stepP exG' exS' false) (subsetSteps exG' exS' 1 2))
    ∧ StepsDisjoint (stepZ exG' exS') (stepP exG' exS' false) (subsetSteps exG' exS' 1 2)
    ∧ (∀ b ∈ stepBins (stepZ exG' exS') (stepP exG' exS' false) (subsetSteps exG' exS' 1 2), exIdx2' b < 8)
    ∧ (1, 0, 0) ∈ subsetSteps exG' exS' 1 2 ∧ (1, 0, 0) ∈ subsetSteps exG exS 0 1
    ∧ (⟨0, 3, 1, 1, 0⟩ : Bin) ∈ stepP exG' exS' false (1, 0, 0) ∧ (⟨0, 3, 1, 1, 0⟩ : Bin) ∈ stepP exG exS true (1, 0, 0) := by
  refine ⟨InjOn.of_leftInverse (fun j => ⟨0, j / 2, 1, j % 2, 0⟩) (by decide), ?_, by decide⟩
  unfold StepsDisjoint
  decide

example : setInput (some (procScale (3 : Int))) #[1, -2] = some #[3, -6]
    ∧ setInput (some fun _ => none) #[(1 : Int), -2] = none
    ∧ setInput none #[(1 : Int), -2] = some #[1, -2]
    ∧ (BackProj.mk #[(1 : Int), 2]).getOutputPost (some (procScale 2)) = some #[2, 4] := by
  simp [setInput, procScale, BackProj.getOutputPost]

section Matrix
variable {G R : Type} [DecidableEq G]

/-- "For every matched forward/back projector pair … ⟨A x, y⟩ = ⟨x, Aᵀ y⟩ … for the full data set and for every subset …"
    is a statement about the pair *as it is when it is used*, whatever it was used for before.  For the matrix object behind
    the pair: after **any** history `pre` of `set_up`s (base-class or ray-tracing version, for any geometries) and row
    requests, a `set_up` for `g` followed by any row requests `bs` leaves an object whose
    `get_proj_matrix_elems_for_one_bin(bin)` returns the row of `bin` for `g` — in every cache mode.  `K` plays no role
    (`R` is any type of rows' values).  Hypothesis: the symmetries are coherent (the basic bin of a basic bin is itself and
    its operation is the identity — `find_symmetry_operation_from_basic_bin` returns a `TrivialSymmetryOperation`). -/
theorem C04_reused_matrix_gives_rows_of_last_set_up (D : MatrixData G R) (hD : D.Coherent) (cacheEnabled onlyBasic : Bool)
    (pre : List (MOp G)) (rayTracing : Bool) (g : G) (bs : List Bin) (bin : Bin) :
    ((MatrixObj.new cacheEnabled onlyBasic).exec D
        (pre ++ [if rayTracing then MOp.setUpRT g else MOp.setUp g] ++ bs.map MOp.get)).rowNow D bin
      = some (D.rowOf g bin) := by
  have hg : ((MatrixObj.new cacheEnabled onlyBasic).exec D
      (pre ++ [if rayTracing then MOp.setUpRT g else MOp.setUp g])).geom = some g := by
    rw [MatrixObj.exec_append]
    cases rayTracing
    · rfl
    · exact MatrixObj.geom_setUpRT
  rw [MatrixObj.exec_append]
  obtain ⟨h2, hg2⟩ := MatrixObj.geom_exec_gets hD bs (MatrixObj.inv_exec hD _ MatrixObj.inv_new) hg
  exact MatrixObj.rowNow_eq hD h2 hg2 bin

/-- … hence **a re-used matrix = a fresh matrix**: the object with the history returns what an object that was constructed
    with the same flags and set up for `g` only returns. -/
theorem C04_reused_matrix_eq_fresh_matrix (D : MatrixData G R) (hD : D.Coherent) (cacheEnabled onlyBasic : Bool)
    (pre : List (MOp G)) (rayTracing : Bool) (g : G) (bs : List Bin) (bin : Bin) :
    ((MatrixObj.new cacheEnabled onlyBasic).exec D
        (pre ++ [if rayTracing then MOp.setUpRT g else MOp.setUp g] ++ bs.map MOp.get)).rowNow D bin
      = ((MatrixObj.new cacheEnabled onlyBasic).exec D [MOp.setUp g]).rowNow D bin := by
  rw [C04_reused_matrix_gives_rows_of_last_set_up D hD]
  exact (C04_reused_matrix_gives_rows_of_last_set_up D hD cacheEnabled onlyBasic [] false g [] bin).symm

/-- two geometries `0`, `1` whose rows differ, every bin basic -/
def exD : MatrixData Nat Int := ⟨fun g b => [((0, 0, 0), (g : Int) + b.ax)], fun _ b => b, fun _ _ r => r⟩

example : exD.Coherent := ⟨fun _ _ => rfl, fun _ _ _ _ => rfl⟩

def exA : Bin := ⟨0, 0, 5, 0, 0⟩

/-- non-vacuity: the history "set up for 0, request bin a, set up for 1, request bin a" on `exD` — the second request returns
    the row of geometry 1 although the row of geometry 0 was cached, in all four cache modes and with either `set_up`;
    with the ray-tracing shortcut a second `set_up` for the *same* geometry keeps the cached row (still the right one) -/
example (ce ob rt : Bool) :
    ((MatrixObj.new ce ob).exec exD [MOp.setUp 0, MOp.get exA, if rt then MOp.setUpRT 1 else MOp.setUp 1]).rowNow exD exA
        = some [((0, 0, 0), 6)] := by
  revert ce ob rt
  decide

example :
    ((MatrixObj.new true true).exec exD [MOp.setUp 0, MOp.get exA] : MatrixObj Nat Int).cache.lookup exA = some [((0, 0, 0), 5)]
    ∧ ((MatrixObj.new true true).exec exD [MOp.setUp 0, MOp.get exA, MOp.setUpRT 0] : MatrixObj Nat Int).cache.lookup exA = some [((0, 0, 0), 5)]
    ∧ ((MatrixObj.new true true).exec exD [MOp.setUp 0, MOp.get exA, MOp.setUp 0] : MatrixObj Nat Int).cache.length = 0 := by
  decide

/-- **negative witness**: the cache is what makes this a property — a `set_up` that only replaces the geometry and keeps
    the cache (`recycle()` / `clear_cache()` dropped) returns the stale row of the previous geometry (5 instead of 6) -/
theorem C04_set_up_keeping_the_cache_fails :
    ({ (MatrixObj.new true true).exec exD [MOp.setUp 0, MOp.get exA] with geom := some 1 } : MatrixObj Nat Int).rowNow exD exA
        = some [((0, 0, 0), 5)]
      ∧ exD.rowOf 1 exA = [((0, 0, 0), 6)] := by
  decide

end Matrix

example : fwdRow ⟨0, 0, fun v => v.2.2.toNat⟩ [((0, 0, 0), (2 : Int)), ((0, 0, 1), 3), ((5, 0, 1), 7)] #[10, 100] 0 = 320
    ∧ bckRow ⟨0, 0, fun v => v.2.2.toNat⟩ [((0, 0, 0), (2 : Int)), ((0, 0, 1), 3), ((5, 0, 1), 7)] 4 #[1, 1] = #[9, 13] := by
  decide


/-! "The on-the-fly ray-tracing forward projector gives the same data as forward projection through the ray-tracing matrix
with the same settings": both trace the LOR `X = s cos φ + a sin φ`, `Y = s sin φ − a cos φ` between the points where it
enters and leaves the field of view; for the matrix these are `min_a`, `max_a` of `ray_trace_one_lor`
(`squareEnds`, `squareChord`, `cylChordSq`). -/

/-- the point `a` of the LOR lies in the square field of view `|X| ≤ F`, `|Y| ≤ F` -/
def InSquare (fov s c sn a : Rat) : Prop := |s * c + a * sn| ≤ fov ∧ |s * sn - a * c| ≤ fov

/-- the point `a` of the LOR lies in the cylindrical field of view `X² + Y² ≤ F²` -/
def InCylinder (fov s c sn a : Rat) : Prop :=
  (s * c + a * sn) * (s * c + a * sn) + (s * sn - a * c) * (s * sn - a * c) ≤ fov * fov

/-- Square field of view, general case (`ray_trace_one_lor`, :519-521): `[min_a, max_a]` is EXACTLY the set of points of
    the LOR inside the square, whatever the signs of `cos φ` and `sin φ` (all four quadrants of view angles), the size of
    the field of view and the position `s` of the LOR (empty interval = the LOR misses the square). -/
theorem C04_square_fov_ends_are_exact (fov s c sn : Rat) (hc : c ≠ 0) (hs : sn ≠ 0) (a : Rat) :
    ((squareEnds fov s c sn).1 ≤ a ∧ a ≤ (squareEnds fov s c sn).2) ↔ InSquare fov s c sn a := by
  unfold InSquare
  -- the X condition is an interval for `a` with slope `sin φ`, the Y condition one with slope `cos φ`
  have hy : |s * sn - a * c| = |-(s * sn) + a * c| := by
    rw [abs_sub_comm, neg_add_eq_sub]
  rw [squareEnds_eq, hy, abs_affine_le fov _ a hs, abs_affine_le fov _ a hc, sub_neg_eq_add, sub_neg_eq_add]
  simp only [max_le_iff, le_min_iff]
  exact and_and_and_comm

/-- Square field of view, the function as a whole away from the multiples of 90 degrees: when it returns end points, the
    points of the LOR between them are exactly those inside the square. -/
theorem C04_square_fov_chord_exact (fov s c sn vx lo hi : Rat) (hgen : ¬(rabs c < milli ∨ rabs sn < milli))
    (h : squareChord fov s c sn vx = some (lo, hi)) (a : Rat) :
    (lo ≤ a ∧ a ≤ hi) ↔ InSquare fov s c sn a := by
  rw [squareChord_general hgen] at h
  rw [← C04_square_fov_ends_are_exact fov s c sn (ne_zero_of_general hgen).1 (ne_zero_of_general hgen).2 a,
    Option.some.inj (Option.ite_none_left_eq_some.1 h).2]

/-- ... and when it returns without end points (`none`: the bin gets no element from this ray), the part of the LOR inside
    the square is shorter than a thousandth of a voxel (`1.E-3 * voxel_size.x()`): empty rows only for LORs that miss the
    field of view or graze a corner. -/
theorem C04_square_fov_none_only_if_shorter_than_a_milli_voxel (fov s c sn vx : Rat)
    (hgen : ¬(rabs c < milli ∨ rabs sn < milli)) (h : squareChord fov s c sn vx = none) (a a' : Rat)
    (ha : InSquare fov s c sn a) (ha' : InSquare fov s c sn a') : a' - a < milli * vx := by
  obtain ⟨hc, hs⟩ := ne_zero_of_general hgen
  rw [squareChord_general hgen] at h
  have h2 := (C04_square_fov_ends_are_exact fov s c sn hc hs a).mpr ha
  have h3 := (C04_square_fov_ends_are_exact fov s c sn hc hs a').mpr ha'
  exact (sub_le_sub h3.2 h2.1).trans_lt (sub_lt_comm.mp (ite_none_some_eq_none.1 h))

/-- Square field of view, views at 0 or 180 degrees exactly (`sin φ = 0`, `cos φ = ±1`; the code takes this branch
    for `|sin φ| < 1.E-3`): end points `∓F` iff `|s| ≤ F`, and then the points between them are exactly those inside. -/
theorem C04_square_fov_axis_parallel (fov s c vx : Rat) (hc : c * c = 1) :
    (squareChord fov s c 0 vx = none ↔ fov < |s|) ∧
      (squareChord fov s c 0 vx ≠ none → squareChord fov s c 0 vx = some (-fov, fov) ∧
        ∀ a, (-fov ≤ a ∧ a ≤ fov) ↔ InSquare fov s c 0 a) := by
  rw [squareChord_axis (Or.inr rabs_zero_lt_milli)]
  refine ⟨ite_none_some_eq_none, fun hne => ?_⟩
  have h : ¬ fov < |s| := fun h => hne (if_pos h)
  have habs : |c| = 1 := by
    rcases mul_self_eq_one_iff.mp hc with rfl | rfl
    · exact abs_one
    · exact (abs_neg 1).trans abs_one
  refine ⟨if_neg h, fun a => ?_⟩
  unfold InSquare
  -- X = s cos φ and Y = −a cos φ, with |cos φ| = 1
  rw [mul_zero, add_zero, mul_zero, zero_sub, abs_neg]
  rw [abs_mul, abs_mul, habs, mul_one, mul_one, ← abs_le]
  exact (and_iff_right (not_lt.mp h)).symm

/-- Cylindrical field of view (:481-500), `cos²φ + sin²φ = 1`: the code returns without end points exactly when no point
    of the LOR is inside (`|s| > F`), otherwise `max_a² = F² − s²` and the points with `a² ≤ max_a²` (`−max_a ≤ a ≤ max_a`)
    are exactly those inside — for every pair `(cos φ, sin φ)` on the unit circle.  `h1` is taken exactly: over `Rat` it holds of the
    rational points of the circle (e.g. `(−3/5, 4/5)`), and of pairs of `float`s (dyadic rationals) only of `(±1, 0)`, `(0, ±1)`; for
    the rounded values the code computes at other angles the theorem says nothing — `cylChordSq` does not read them anyway. -/
theorem C04_cylindrical_fov_chord_exact (fov s c sn : Rat) (hfov : 0 ≤ fov) (h1 : c * c + sn * sn = 1) :
    (cylChordSq fov s = none → ∀ a, ¬InCylinder fov s c sn a) ∧
      (∀ m, cylChordSq fov s = some m → ∀ a, a * a ≤ m ↔ InCylinder fov s c sn a) := by
  unfold InCylinder
  rw [cylChordSq_eq]
  refine ⟨fun h a => ?_, fun m h a => ?_⟩
  · have h3 : fov * fov < s * s := by
      rw [← abs_mul_abs_self s]
      exact mul_self_lt_mul_self hfov (ite_none_some_eq_none.1 h)
    rw [lor_radius_sq s c sn a h1]
    exact not_le.mpr (h3.trans_le (le_add_of_nonneg_right (mul_self_nonneg a)))
  · rw [lor_radius_sq s c sn a h1, ← Option.some.inj (Option.ite_none_left_eq_some.1 h).2]
    exact le_sub_iff_add_le'

/-- non-vacuity, a view beyond 90 degrees (`cos φ = −3/5 < 0 < sin φ = 4/5`, field of view 3, `s = 1`): the LOR crosses the
    square between `a = −3` and `a = 11/3`; with `s = 5` it misses it; a view at 180 degrees; the cylinder -/
example : squareChord 3 1 (-3/5) (4/5) 1 = some (-3, 11/3) := by
  decide +kernel
example : squareChord 3 5 (-3/5) (4/5) 1 = none := by
  decide +kernel
example : InSquare 3 1 (-3/5) (4/5) 2 ∧ ¬InSquare 3 1 (-3/5) (4/5) 4 := by
  unfold InSquare
  norm_num [abs_le]
example : squareChord 3 1 (-1) 0 1 = some (-3, 3) ∧ squareChord 3 4 (-1) 0 1 = none := by
  decide +kernel
example : cylChordSq 3 1 = some 8 ∧ cylChordSq 3 4 = none := by
  unfold cylChordSq rabs
  norm_num
example : ¬(rabs (-3/5 : Rat) < milli ∨ rabs (4/5 : Rat) < milli) := by
  decide +kernel

end StirVerif.C04
