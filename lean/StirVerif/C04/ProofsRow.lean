/-
C04 — one row of the matrix (`fwdRow`, `bckRow`) as finite sums over its (storage index, weight) terms.
-/
import StirVerif.C04.Model
import StirVerif.Common.ArrayFold
import StirVerif.Common.ListNodup
import Mathlib.Tactic.Ring
import Mathlib.Algebra.BigOperators.Group.List.Basic
import Mathlib.Algebra.BigOperators.Ring.List

set_option linter.unusedSectionVars false

namespace StirVerif.C04

variable {K : Type} [CommRing K] [DecidableEq K]

theorem getD_of_lt (a : Array K) {i : Nat} (h : i < a.size) : a.getD i 0 = a[i] := by
  simp [Array.getD, h]

theorem getD_of_ge {a : Array K} {i : Nat} (h : a.size ≤ i) : a.getD i 0 = 0 := by
  simp [Array.getD, Nat.not_lt.mpr h]

theorem getD_setIfInBounds (a : Array K) (j i : Nat) (v : K) :
    (a.setIfInBounds j v).getD i 0 = if j = i ∧ i < a.size then v else a.getD i 0 := by
  rw [Array.getD_eq_getD_getElem?, Array.getElem?_setIfInBounds, Array.getD_eq_getD_getElem?]
  by_cases hji : j = i
  · subst hji
    by_cases h : j < a.size
    · simp [h]
    · simp [h]
  · simp [hji]

theorem size_zeroImg (n : Nat) : (zeroImg n : Array K).size = n := Array.size_replicate

theorem getD_zeroImg (n i : Nat) : (zeroImg n : Array K).getD i 0 = 0 := by
  unfold zeroImg
  rw [Array.getD_eq_getD_getElem?, Array.getElem?_replicate]
  split
  · rfl
  · rfl

theorem fillZero_eq (d : Array K) : fillZero d = zeroImg d.size := Array.map_const'

theorem size_axpy (c : K) (x x' : Array K) (h : x.size = x'.size) : (axpy c x x').size = x.size := by
  simp [axpy, h]

theorem getD_axpy {c : K} {x x' : Array K} (h : x.size = x'.size) (i : Nat) :
    (axpy c x x').getD i 0 = c * x.getD i 0 + x'.getD i 0 := by
  unfold axpy
  rw [Array.getD_eq_getD_getElem?, Array.getElem?_zipWith, Array.getD_eq_getD_getElem?, Array.getD_eq_getD_getElem?]
  by_cases hi : i < x.size
  · simp [hi, h ▸ hi]
  · simp [hi, h ▸ hi]

theorem getD_map_mul (c : K) (x : Array K) (i : Nat) : (x.map fun v => c * v).getD i 0 = c * x.getD i 0 := by
  rw [Array.getD_eq_getD_getElem?, Array.getElem?_map, Array.getD_eq_getD_getElem?]
  cases x[i]? with
  | none => exact (mul_zero c).symm
  | some _ => rfl

def rowTerms (ig : ImgGeom) (row : Row K) : List (Nat × K) :=
  (row.filter fun e => guardZ ig e.1).map fun e => (ig.lin e.1, e.2)

theorem rowTerms_nil (ig : ImgGeom) : rowTerms ig ([] : Row K) = [] := rfl

theorem rowTerms_cons (ig : ImgGeom) (e : Vox × K) (row : Row K) :
    rowTerms ig (e :: row) = if guardZ ig e.1 then (ig.lin e.1, e.2) :: rowTerms ig row else rowTerms ig row := by
  unfold rowTerms
  rw [List.filter_cons]
  split
  · rfl
  · rfl

def dotTerms (l : List (Nat × K)) (img : Array K) : K := (l.map fun p => img.getD p.1 0 * p.2).sum

/-- `Σ_{terms with index i} weight`: column `i` of the row -/
def colTerms (l : List (Nat × K)) (i : Nat) : K := (l.map fun p => if p.1 = i then p.2 else 0).sum

theorem dotTerms_nil (img : Array K) : dotTerms ([] : List (Nat × K)) img = 0 := rfl

theorem dotTerms_cons (p : Nat × K) (l : List (Nat × K)) (img : Array K) :
    dotTerms (p :: l) img = img.getD p.1 0 * p.2 + dotTerms l img := List.sum_cons

theorem colTerms_nil (i : Nat) : colTerms ([] : List (Nat × K)) i = 0 := rfl

theorem colTerms_cons (p : Nat × K) (l : List (Nat × K)) (i : Nat) :
    colTerms (p :: l) i = (if p.1 = i then p.2 else 0) + colTerms l i := List.sum_cons

theorem foldl_rowTerms {β : Type} (ig : ImgGeom) (f : β → Nat × K → β) (row : Row K) (b : β) :
    row.foldl (fun s e => if guardZ ig e.1 then f s (ig.lin e.1, e.2) else s) b = (rowTerms ig row).foldl f b := by
  rw [rowTerms, List.foldl_map, List.foldl_filter]

theorem fwdRow_eq (ig : ImgGeom) (row : Row K) (img : Array K) (acc : K) :
    fwdRow ig row img acc = acc + dotTerms (rowTerms ig row) img :=
  (foldl_rowTerms ig (fun s p => s + img.getD p.1 0 * p.2) row acc).trans (Common.foldl_add_eq_sum _ _ acc)

theorem bckRow_of_ne {ig : ImgGeom} {row : Row K} {y : K} (hy : y ≠ 0) {img : Array K} :
    bckRow ig row y img
      = ((rowTerms ig row).map fun p => (p.1, p.2 * y)).foldl (fun im e => im.modify e.1 (fun s => s + e.2)) img := by
  unfold bckRow
  rw [if_neg hy, List.foldl_map]
  exact foldl_rowTerms ig (fun im p => im.modify p.1 (· + p.2 * y)) row img

theorem size_bckRow {ig : ImgGeom} {row : Row K} {y : K} {img : Array K} : (bckRow ig row y img).size = img.size := by
  by_cases hy : y = 0
  · unfold bckRow
    rw [if_pos hy]
  · rw [bckRow_of_ne hy]
    exact List.foldlRecOn (motive := fun a : Array K => a.size = img.size) _ _ rfl fun im h e _ => Array.size_modify.trans h

/-- `ProjMatrixElemsForOneBin::back_project` adds `column · data` to every voxel (the `data == 0` early return
    included: in a ring `column · 0 = 0`) -/
theorem getD_bckRow {ig : ImgGeom} {row : Row K} {y : K} {img : Array K} {i : Nat} (hi : i < img.size) :
    (bckRow ig row y img).getD i 0 = img.getD i 0 + colTerms (rowTerms ig row) i * y := by
  by_cases hy : y = 0
  · unfold bckRow
    rw [if_pos hy, hy, mul_zero, add_zero]
  · rw [bckRow_of_ne hy, Common.getD_foldl_modify_add _ _ hi, List.map_map, colTerms, ← List.sum_map_mul_right]
    refine congrArg (img.getD i 0 + List.sum ·) (List.map_congr_left fun p _ => ?_)
    show (if p.1 = i then p.2 * y else 0) = (if p.1 = i then p.2 else 0) * y
    rw [ite_mul, zero_mul]

theorem dotTerms_axpy {l : List (Nat × K)} {c : K} {x x' : Array K} (h : x.size = x'.size) :
    dotTerms l (axpy c x x') = c * dotTerms l x + dotTerms l x' := by
  unfold dotTerms
  rw [← List.sum_map_mul_left, ← List.sum_map_add]
  refine congrArg List.sum (List.map_congr_left fun p _ => ?_)
  rw [getD_axpy h]
  ring

theorem dotTerms_map_mul (l : List (Nat × K)) (c : K) (x : Array K) :
    dotTerms l (x.map fun v => c * v) = c * dotTerms l x := by
  unfold dotTerms
  rw [← List.sum_map_mul_left]
  refine congrArg List.sum (List.map_congr_left fun p _ => ?_)
  rw [getD_map_mul, mul_assoc]

theorem dotImg_eq (x x' : Array K) : dotImg x x' = ((List.range x.size).map fun i => x.getD i 0 * x'.getD i 0).sum :=
  (Common.foldl_add_eq_sum _ _ 0).trans (zero_add _)

theorem sum_range_indicator (n j : Nat) (f : Nat → K) (w : K) :
    ((List.range n).map fun i => f i * (if j = i then w else 0)).sum = if j < n then f j * w else 0 := by
  -- only the term `i = j` is not zero, and `j` occurs in `range n` once or not at all
  rw [List.sum_map_eq_nsmul_single j _ fun i hi _ => by rw [if_neg (Ne.symm hi), mul_zero],
    Common.count_of_nodup List.nodup_range List.mem_range, if_pos rfl]
  split
  · exact one_nsmul _
  · exact zero_nsmul _

/-- adjointness for one row: `Σ_voxels x[i] · column(i) = Σ_terms x[index]·w` -/
theorem sum_range_colTerms (l : List (Nat × K)) (x : Array K) :
    ((List.range x.size).map fun i => x.getD i 0 * colTerms l i).sum = dotTerms l x := by
  induction l with
  | nil => simp [colTerms_nil, dotTerms_nil]
  | cons p l ih =>
    simp only [colTerms_cons, dotTerms_cons, mul_add]
    rw [List.sum_map_add, ih, sum_range_indicator]
    by_cases hp : p.1 < x.size
    · rw [if_pos hp]
    · rw [if_neg hp, getD_of_ge (Nat.not_lt.mp hp), zero_mul]

end StirVerif.C04
