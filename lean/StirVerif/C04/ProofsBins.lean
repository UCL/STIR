/-
C04 — a sequence of bins: the forward projection writes each bin's row sum at the bin's place and nothing elsewhere, the
back projection adds `Σ_b column_b · y_b` to every voxel; adjointness is the exchange of the sums over voxels and over bins.
-/
import StirVerif.C04.ProofsRow
import Mathlib.Data.List.Perm.Basic

set_option linter.unusedSectionVars false

namespace StirVerif.C04

variable {K : Type} [CommRing K] [DecidableEq K]
variable (rows : Bin → Row K) (ig : ImgGeom) (idx : Bin → Nat)

def InjOn (idx : Bin → Nat) (bins : List Bin) : Prop := ∀ b ∈ bins, ∀ b' ∈ bins, idx b = idx b' → b = b'

theorem InjOn.subset {idx : Bin → Nat} {l l' : List Bin} (h : InjOn idx l) (hs : l' ⊆ l) : InjOn idx l' :=
  fun b hb b' hb' e => h b (hs hb) b' (hs hb') e

theorem InjOn.perm {idx : Bin → Nat} {l l' : List Bin} (h : InjOn idx l) (hp : l'.Perm l) : InjOn idx l' :=
  h.subset hp.subset

theorem InjOn.of_leftInverse {idx : Bin → Nat} {l : List Bin} (inv : Nat → Bin) (h : ∀ b ∈ l, inv (idx b) = b) :
    InjOn idx l := by
  intro b hb b' hb' e
  rw [← h b hb, e, h b' hb']

theorem InjOn.idx_not_mem {idx : Bin → Nat} {l l' : List Bin} (h : InjOn idx l) {b : Bin} (hb : b ∈ l)
    (hs : l' ⊆ l) (hn : b ∉ l') : idx b ∉ l'.map idx := by
  intro hm
  obtain ⟨b', hb', e⟩ := List.mem_map.mp hm
  exact hn (h b' (hs hb') b hb e ▸ hb')

theorem fwdBins_nil (img d : Array K) : fwdBins rows ig idx img [] d = d := rfl

theorem bckBins_nil (y im : Array K) : bckBins rows ig idx y [] im = im := rfl

theorem fwdPieces_eq (img d : Array K) (pieces : List (List Bin)) :
    pieces.foldl (fun d p => fwdBins rows ig idx img p d) d = fwdBins rows ig idx img pieces.flatten d :=
  List.foldl_flatten.symm

theorem bckPieces_eq (y im : Array K) (pieces : List (List Bin)) :
    pieces.foldl (fun im p => bckBins rows ig idx y p im) im = bckBins rows ig idx y pieces.flatten im :=
  List.foldl_flatten.symm

variable {rows} {ig} {idx}

theorem fwdBins_cons (img d : Array K) (a : Bin) (l : List Bin) :
    fwdBins rows ig idx img (a :: l) d = fwdBins rows ig idx img l (d.setIfInBounds (idx a) (fwdRow ig (rows a) img 0)) := rfl

/-- `get_empty_related_viewgrams` written back: zeroing is forward projection with empty rows -/
theorem zeroBins_eq (ig : ImgGeom) (img d : Array K) (bins : List Bin) :
    zeroBins idx bins d = fwdBins (fun _ => []) ig idx img bins d := rfl

theorem size_fwdBins {img d : Array K} {bins : List Bin} : (fwdBins rows ig idx img bins d).size = d.size := by
  induction bins generalizing d with
  | nil => rfl
  | cons a l ih => rw [fwdBins_cons, ih, Array.size_setIfInBounds]

theorem getD_fwdBins_not_mem {img d : Array K} {bins : List Bin} {j : Nat} (hj : j ∉ bins.map idx) :
    (fwdBins rows ig idx img bins d).getD j 0 = d.getD j 0 := by
  induction bins generalizing d with
  | nil => rfl
  | cons a l ih =>
    rw [List.map_cons, List.mem_cons, not_or] at hj
    rw [fwdBins_cons, ih hj.2, getD_setIfInBounds, if_neg fun h => hj.1 h.1.symm]

theorem getD_fwdBins_of_forall {img d : Array K} {bins : List Bin} {j : Nat} {v : K} (hj : j ∈ bins.map idx)
    (hsz : j < d.size) (hv : ∀ b ∈ bins, idx b = j → fwdRow ig (rows b) img 0 = v) :
    (fwdBins rows ig idx img bins d).getD j 0 = v := by
  induction bins generalizing d with
  | nil => cases hj
  | cons a l ih =>
    rw [fwdBins_cons]
    by_cases hl : j ∈ l.map idx
    · exact ih hl (hsz.trans_eq Array.size_setIfInBounds.symm) fun b hb => hv b (List.mem_cons_of_mem _ hb)
    · have hja : idx a = j := ((List.mem_cons.mp hj).resolve_right hl).symm
      rw [getD_fwdBins_not_mem hl, getD_setIfInBounds, if_pos ⟨hja, hsz⟩]
      exact hv a List.mem_cons_self hja

theorem getD_fwdBins_mem {img d : Array K} {bins : List Bin} (hinj : InjOn idx bins) {b : Bin} (hb : b ∈ bins)
    (hsz : idx b < d.size) :
    (fwdBins rows ig idx img bins d).getD (idx b) 0 = fwdRow ig (rows b) img 0 :=
  getD_fwdBins_of_forall (List.mem_map_of_mem hb) hsz
    fun b' hb' e => by rw [hinj b' hb' b hb e]

theorem getD_fwdBins_perm {img d : Array K} {l l' : List Bin} (hp : l.Perm l') (hinj : InjOn idx l')
    (hsz : ∀ b ∈ l', idx b < d.size) (j : Nat) :
    (fwdBins rows ig idx img l d).getD j 0 = (fwdBins rows ig idx img l' d).getD j 0 := by
  by_cases hj : j ∈ l'.map idx
  · obtain ⟨b, hb, rfl⟩ := List.mem_map.mp hj
    rw [getD_fwdBins_mem hinj hb (hsz b hb), getD_fwdBins_mem (hinj.perm hp) (hp.mem_iff.mpr hb) (hsz b hb)]
  · rw [getD_fwdBins_not_mem hj, getD_fwdBins_not_mem fun h => hj ((hp.map idx).mem_iff.mp h)]

theorem bckBins_cons (y im : Array K) (a : Bin) (l : List Bin) :
    bckBins rows ig idx y (a :: l) im = bckBins rows ig idx y l (bckRow ig (rows a) (y.getD (idx a) 0) im) := rfl

theorem size_bckBins {y im : Array K} {bins : List Bin} : (bckBins rows ig idx y bins im).size = im.size := by
  induction bins generalizing im with
  | nil => rfl
  | cons a l ih => rw [bckBins_cons, ih, size_bckRow]

/-- contribution of the bins of a list to voxel `i`: `Σ_b column_b(i) · y_b` -/
def bckSum (rows : Bin → Row K) (ig : ImgGeom) (idx : Bin → Nat) (y : Array K) (bins : List Bin) (i : Nat) : K :=
  (bins.map fun b => colTerms (rowTerms ig (rows b)) i * y.getD (idx b) 0).sum

theorem bckSum_cons (y : Array K) (a : Bin) (l : List Bin) (i : Nat) :
    bckSum rows ig idx y (a :: l) i
      = colTerms (rowTerms ig (rows a)) i * y.getD (idx a) 0 + bckSum rows ig idx y l i := List.sum_cons

theorem getD_bckBins {y im : Array K} {bins : List Bin} {i : Nat} (hi : i < im.size) :
    (bckBins rows ig idx y bins im).getD i 0 = im.getD i 0 + bckSum rows ig idx y bins i := by
  induction bins generalizing im with
  | nil => exact (add_zero _).symm
  | cons a l ih =>
    rw [bckBins_cons, ih (hi.trans_eq size_bckRow.symm), getD_bckRow hi, bckSum_cons, add_assoc]

theorem getD_bckBins_zeroImg {y : Array K} {bins : List Bin} {n i : Nat} (hi : i < n) :
    (bckBins rows ig idx y bins (zeroImg n)).getD i 0 = bckSum rows ig idx y bins i := by
  rw [getD_bckBins (hi.trans_eq (size_zeroImg n).symm), getD_zeroImg, zero_add]

theorem bckSum_perm {y : Array K} {l l' : List Bin} (h : l.Perm l') (i : Nat) :
    bckSum rows ig idx y l i = bckSum rows ig idx y l' i :=
  (h.map _).sum_eq

theorem bckSum_axpy {c : K} {y y' : Array K} (h : y.size = y'.size) (bins : List Bin) (i : Nat) :
    bckSum rows ig idx (axpy c y y') bins i = c * bckSum rows ig idx y bins i + bckSum rows ig idx y' bins i := by
  unfold bckSum
  rw [← List.sum_map_mul_left, ← List.sum_map_add]
  refine congrArg List.sum (List.map_congr_left fun b _ => ?_)
  rw [getD_axpy h]
  ring

theorem dotBins_eq (u v : Array K) (bins : List Bin) :
    dotBins idx u v bins = (bins.map fun b => u.getD (idx b) 0 * v.getD (idx b) 0).sum :=
  (Common.foldl_add_eq_sum _ _ 0).trans (zero_add _)

/-- the two sums of `⟨x, Aᵀ y⟩` exchanged: `Σ_voxels x[i] · Σ_b column_b(i)·y_b = Σ_b (Σ_terms of row b x[index]·w) · y_b` -/
theorem sum_range_bckSum (x y : Array K) (bins : List Bin) :
    ((List.range x.size).map fun i => x.getD i 0 * bckSum rows ig idx y bins i).sum
      = (bins.map fun b => dotTerms (rowTerms ig (rows b)) x * y.getD (idx b) 0).sum := by
  induction bins with
  | nil => simp [bckSum]
  | cons a l ih =>
    simp only [bckSum_cons, mul_add, ← mul_assoc]
    rw [List.sum_map_add, ih, List.sum_map_mul_right, sum_range_colTerms, List.map_cons, List.sum_cons]

/-- `⟨A x, y⟩ = ⟨x, Aᵀ y⟩` for any data `u` that hold the row sum of each bin at the bin's place, whichever way they were written -/
theorem dotBins_of_rowSums (x y : Array K) {u : Array K} {bins : List Bin}
    (hu : ∀ b ∈ bins, u.getD (idx b) 0 = fwdRow ig (rows b) x 0) :
    dotBins idx u y bins = dotImg x (bckBins rows ig idx y bins (zeroImg x.size)) := by
  rw [dotBins_eq, dotImg_eq]
  have hfwd : ∀ b ∈ bins, u.getD (idx b) 0 * y.getD (idx b) 0
      = dotTerms (rowTerms ig (rows b)) x * y.getD (idx b) 0 := by
    intro b hb
    rw [hu b hb, fwdRow_eq, zero_add]
  have hbck : ∀ i ∈ List.range x.size, x.getD i 0 * (bckBins rows ig idx y bins (zeroImg x.size)).getD i 0
      = x.getD i 0 * bckSum rows ig idx y bins i := by
    intro i hi
    rw [getD_bckBins_zeroImg (List.mem_range.mp hi)]
  rw [List.map_congr_left hfwd, List.map_congr_left hbck, sum_range_bckSum]

end StirVerif.C04
