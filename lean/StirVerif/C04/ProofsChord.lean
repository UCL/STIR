/-
C04 — the end points between which `ray_trace_one_lor` traces (`squareEnds`, `squareChord`, `cylChordSq`) bound exactly
the part of the LOR inside the field of view, for every sign of `cos φ` and `sin φ` (i.e. for the views beyond 90 degrees
as well as for those that the view symmetries would otherwise supply).
-/
import StirVerif.C04.Model
import Mathlib.Algebra.Order.Field.Rat
import Mathlib.Algebra.Order.Field.Basic
import Mathlib.Algebra.Order.Ring.Abs
import Mathlib.Tactic.Ring
import Mathlib.Tactic.NormNum

namespace StirVerif.C04

theorem rabs_eq_abs (t : Rat) : rabs t = |t| := by
  unfold rabs
  split
  · exact (abs_of_neg ‹_›).symm
  · exact (abs_of_nonneg (not_lt.mp ‹_›)).symm

theorem rabs_zero_lt_milli : rabs 0 < milli := by
  unfold rabs milli
  norm_num

/-- the general case of `squareChord` divides by `cos φ` and `sin φ`: both are at least `1.E-3` in size there -/
theorem ne_zero_of_general {c sn : Rat} (hgen : ¬(rabs c < milli ∨ rabs sn < milli)) : c ≠ 0 ∧ sn ≠ 0 :=
  ⟨fun h => hgen (Or.inl (h ▸ rabs_zero_lt_milli)), fun h => hgen (Or.inr (h ▸ rabs_zero_lt_milli))⟩

theorem squareEnds_eq (fov s c sn : Rat) :
    squareEnds fov s c sn =
      (max ((-fov * sgn sn - s * c) / sn) ((-fov * sgn c + s * sn) / c),
       min ((fov * sgn sn - s * c) / sn) ((fov * sgn c + s * sn) / c)) := by
  unfold squareEnds
  simp only [max_def, min_def]

/-- `|p + a d| ≤ F` as an interval for `a`; for `d < 0` the two borders change places, which is what `sign(d)` in the
    code is for -/
theorem abs_affine_le (F p a : Rat) {d : Rat} (hd : d ≠ 0) :
    |p + a * d| ≤ F ↔ ((-F * sgn d - p) / d ≤ a ∧ a ≤ (F * sgn d - p) / d) := by
  unfold sgn
  rcases lt_or_gt_of_ne hd with h | h
  · rw [if_pos h, neg_mul_neg, mul_one, mul_neg_one]
    rw [div_le_iff_of_neg h, le_div_iff_of_neg h]
    rw [le_sub_iff_add_le', sub_le_iff_le_add', abs_le]
    exact and_comm
  · rw [if_neg (not_lt.mpr h.le), mul_one, mul_one]
    rw [div_le_iff₀ h, le_div_iff₀ h]
    rw [sub_le_iff_le_add', le_sub_iff_add_le', abs_le]

theorem ite_none_some_eq_none {α : Type} {c : Prop} [Decidable c] {a : α} : (if c then none else some a) = none ↔ c := by
  split
  · exact iff_of_true rfl ‹c›
  · exact iff_of_false (fun e => nomatch e) ‹¬c›

theorem squareChord_general {fov s vx c sn : Rat} (hgen : ¬(rabs c < milli ∨ rabs sn < milli)) :
    squareChord fov s c sn vx =
      if (squareEnds fov s c sn).1 > (squareEnds fov s c sn).2 - milli * vx then none else some (squareEnds fov s c sn) := by
  unfold squareChord
  rw [if_neg hgen]

theorem squareChord_axis {fov s vx c sn : Rat} (hnear : rabs c < milli ∨ rabs sn < milli) :
    squareChord fov s c sn vx = if fov < |s| then none else some (-fov, fov) := by
  unfold squareChord
  rw [if_pos hnear, rabs_eq_abs]

theorem cylChordSq_eq (fov s : Rat) : cylChordSq fov s = if fov < |s| then none else some (fov * fov - s * s) := by
  unfold cylChordSq
  rw [rabs_eq_abs]

theorem lor_radius_sq (s c sn a : Rat) (h1 : c * c + sn * sn = 1) :
    (s * c + a * sn) * (s * c + a * sn) + (s * sn - a * c) * (s * sn - a * c) = s * s + a * a := by
  calc _ = (s * s + a * a) * (c * c + sn * sn) := by ring
    _ = _ := by rw [h1, mul_one]

end StirVerif.C04
