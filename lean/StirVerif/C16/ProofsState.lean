import StirVerif.C16.Model
/-! C16 — the set-up / cache state machine: an invariant ("every derived datum that can be read was computed from
the current settings") that every guarded operation preserves, and its consequence for `process`. Core Lean only.

Every operation is a record update and every clause of `Inv` reads a few members only. So a preservation proof is a
structure update of the proof `h : Inv W s`: the clauses that read nothing the operation writes carry over by unfolding
the update; only the others are listed — `nofun` where the operation has just removed the datum the clause speaks of or
has reset `_already_set_up`. -/
namespace StirVerif.C16

structure Inv (W : World) (s : St) : Prop where
  gTmpl : s.gTmpl = s.tmpl
  dsOff : s.dsBool = false
  gSp : s.gSp = match s.spImage with | some (.given i) => some i | _ => none
  spDown : ∀ m z, s.spImage = some (.down m z) → s.att = some m ∧ s.zoom = some z
  scatt : ∀ p, s.spImage = some p → s.scatt = some ⟨p, s.thr, s.rnd⟩
  actCache : ∀ p c a t, s.spImage = some p → s.actCache = some c → s.act = some a → s.tmpl = some t →
      c.rows = W.nsp ⟨p, s.thr, s.rnd⟩ ∧ c.cols = t.totalDetectors ∧ (c.stamps = [] ∨ c.stamps = [⟨a, ⟨p, s.thr, s.rnd⟩, t⟩])
  attCache : ∀ p c m t, s.spImage = some p → s.attCache = some c → s.att = some m → s.tmpl = some t →
      c.rows = W.nsp ⟨p, s.thr, s.rnd⟩ ∧ c.cols = t.totalDetectors ∧ (c.stamps = [] ∨ c.stamps = [⟨m, ⟨p, s.thr, s.rnd⟩, t⟩])
  eff : ∀ x e t, s.effNoScatter = some x → s.exam = some e → s.tmpl = some t → x = ⟨e, t⟩
  maxCos : ∀ x e t, s.alreadySetUp = true → s.maxCos = some x → s.exam = some e → s.tmpl = some t → x = ⟨e, t⟩
  detPts : ∀ t, s.tmpl = some t → s.detPts = [] ∨ s.detPts = [t]
  ready : s.alreadySetUp = true →
      ∃ t e a m p, s.tmpl = some t ∧ s.exam = some e ∧ s.act = some a ∧ s.att = some m ∧ s.spImage = some p ∧ W.zOk a = true ∧
        (s.useCache = true → ∃ ca cm, s.actCache = some ca ∧ s.attCache = some cm)
  spAuto : ∀ m c, s.spImage = some (.auto m c) → s.att = some m ∧ s.zoom = none ∧ ∃ z, s.autoZ = some (c, z)
  autoZ : ∀ c z m t, s.zoom = none → s.autoZ = some (c, z) → s.att = some m → s.tmpl = some t → c = W.autoClass m t

theorem inv_init (W : World) : Inv W init := by
  constructor <;> simp [init]

variable {W : World} {s : St}

/-- what `set_up` has checked (`zOk`: `check_z_to_middle_consistent`), stated over the members it reads, so that it carries
    over to every state that agrees on them -/
structure InputsOf (W : World) (tmpl : Option Tmpl) (exam act att : Option Nat) (t : Tmpl) (e a m : Nat) : Prop where
  tmpl : tmpl = some t
  exam : exam = some e
  act : act = some a
  att : att = some m
  zOk : W.zOk a = true

abbrev Inputs (W : World) (s : St) (t : Tmpl) (e a m : Nat) : Prop :=
  InputsOf W s.tmpl s.exam s.act s.att t e a m

theorem Inv.inputs (h : Inv W s) (hs : s.alreadySetUp = true) : ∃ t e a m p, Inputs W s t e a m ∧ s.spImage = some p :=
  let ⟨t, e, a, m, p, ht, he, ha, hm, hp, hz, _⟩ := h.ready hs
  ⟨t, e, a, m, p, ⟨ht, he, ha, hm, hz⟩, hp⟩

theorem Inv.caches (h : Inv W s) (hs : s.alreadySetUp = true) (hu : s.useCache = true) :
    ∃ ca cm, s.actCache = some ca ∧ s.attCache = some cm :=
  let ⟨_, _, _, _, _, _, _, _, _, _, _, hc⟩ := h.ready hs
  hc hu

/-- the first six conjuncts of the clause `ready` do not mention the cache flag or the caches: they carry over to a state that differs in
    these only, with whatever is proved of them there -/
theorem Inv.ready_of (h : Inv W s) (hs : s.alreadySetUp = true) {P : Prop} (hc : P) :
    ∃ t e a m p, s.tmpl = some t ∧ s.exam = some e ∧ s.act = some a ∧ s.att = some m ∧ s.spImage = some p ∧ W.zOk a = true ∧ P :=
  let ⟨t, e, a, m, p, ht, he, ha, hm, hp, hz, _⟩ := h.ready hs
  ⟨t, e, a, m, p, ht, he, ha, hm, hp, hz, hc⟩

theorem autoAttOk_spec (W : World) (s : St) (m : Nat) (g : autoAttOk W s (some m) = true) :
    ∀ c z t, s.zoom = none → s.autoZ = some (c, z) → s.tmpl = some t → c = W.autoClass m t := by
  intro c z t hz ha ht
  simp [autoAttOk, hz, ha, ht] at g
  exact g

theorem autoTmplOk_spec (W : World) (s : St) (t : Tmpl) (g : autoTmplOk W s t = true) :
    ∀ c z m, s.zoom = none → s.autoZ = some (c, z) → s.att = some m → c = W.autoClass m t := by
  intro c z m hz ha hm
  simp [autoTmplOk, hz, ha, hm] at g
  exact g

theorem setZoomOk_spec (W : World) (s : St) (z : Nat) (g : opOk W s (.setZoom z) = true) :
    (∀ m z', s.spImage = some (.down m z') → s.zoom = some z) ∧ ∀ m c, s.spImage ≠ some (.auto m c) := by
  simp only [opOk] at g
  split at g <;> simp_all

/-- the guard of the two operations that enable the cache, `opOk W s (.setCacheEnabled b)` and `opOk W s (.setUseCache b)`, in the
    form both unfold to -/
theorem enableOk_spec (s : St) (b : Bool) (g : (!(b && !s.useCache && s.alreadySetUp)) = true)
    (hs : s.alreadySetUp = true) (hb : b = true) : s.useCache = true := by
  cases hu : s.useCache <;> simp_all

/-- requiring a `set_up` never hurts, and no clause reads `downsample_scanner_rings` / `downsample_scanner_dets`
    (given its old value where a setter leaves one of them alone) -/
theorem Inv.needSetUp (h : Inv W s) (r d : Int) :
    Inv W { s with alreadySetUp := false, dsRings := r, dsDets := d } :=
  { h with
    maxCos := nofun
    ready := nofun }

/-- the sampling parameters may change while there is no scatter-point image to sample from; a setter that writes the value a
    parameter has only requires a `set_up` (the old value for the parameter a setter leaves alone) -/
theorem Inv.withSampling (h : Inv W s) (thr : Nat) (rnd : Bool) (g : s.spImage = none ∨ s.thr = thr ∧ s.rnd = rnd) :
    Inv W { s with thr := thr, rnd := rnd, alreadySetUp := false } := by
  rcases g with g | ⟨rfl, rfl⟩
  · exact { h with
      scatt := fun _ hp => nomatch g.symm.trans hp
      actCache := fun _ _ _ _ hp => nomatch g.symm.trans hp
      attCache := fun _ _ _ _ hp => nomatch g.symm.trans hp
      maxCos := nofun
      ready := nofun }
  · exact h.needSetUp s.dsRings s.dsDets

theorem inv_setActivity (k : Option Nat) (h : Inv W s) : Inv W (setActivity k s).1 := by
  cases k with
  | none => exact h
  | some a =>
    exact { h with
      actCache := nofun
      maxCos := nofun
      ready := nofun }

theorem inv_setDensity (k : Option Nat) (h : Inv W s) (g : autoAttOk W s k = true) :
    Inv W (setDensity k s).1 := by
  cases k with
  | none => exact h
  | some m =>
    exact { h with
      gSp := rfl
      spDown := nofun
      scatt := nofun
      actCache := nofun
      attCache := nofun
      maxCos := nofun
      ready := nofun
      spAuto := nofun
      autoZ := fun c z m' t hz ha hm ht => Option.some.inj hm ▸ autoAttOk_spec W s m g c z t hz ha ht }

/-- the template setter resets everything that is derived from the exam info as well
    (`detector_efficiency_no_scatter`; `max_single_scatter_cos_angle` through `_already_set_up`), so the exam info may
    change in the same call without a guard: this is `set_template_proj_data_info(filename)` -/
theorem inv_setTemplate_exam (e : Option Nat) (t : Tmpl) (h : Inv W s)
    (g : ∀ c z m, s.zoom = none → s.autoZ = some (c, z) → s.att = some m → c = W.autoClass m t) :
    Inv W (setTemplate t { s with exam := e }) :=
  { h with
    gTmpl := rfl
    actCache := nofun
    attCache := nofun
    eff := nofun
    maxCos := nofun
    detPts := fun _ _ => Or.inl rfl
    ready := nofun
    autoZ := fun c z m _ hz ha hm ht => Option.some.inj ht ▸ g c z m hz ha hm }

theorem inv_setTemplate (t : Tmpl) (h : Inv W s) (g : autoTmplOk W s t = true) :
    Inv W (setTemplate t s) :=
  inv_setTemplate_exam s.exam t h (autoTmplOk_spec W s t g)

theorem inv_setTemplateFile (e : Nat) (t : Tmpl) (h : Inv W s) (g : autoTmplOk W s t = true) :
    Inv W (setTemplateFile e t s) :=
  inv_setTemplate_exam (some e) t h (autoTmplOk_spec W s t g)

theorem inv_setSpImage (k : Option Nat) (h : Inv W s) : Inv W (setSpImage k s).1 := by
  cases k with
  | none => exact h
  | some i =>
    exact { h with
      gSp := rfl
      spDown := nofun
      scatt := fun p hp => Option.some.inj hp ▸ rfl
      actCache := nofun
      attCache := nofun
      maxCos := nofun
      ready := nofun
      spAuto := nofun }

/-- the setters do not look at the pointer / the values they already hold: an in-place change followed by the setter with
    the same pointer is the setter with a new image -/
theorem setActivityInPlace_eq (a : Nat) (s : St) : setActivityInPlace a s = setActivity (some a) s := rfl

theorem setDensityInPlace_eq (m : Nat) (s : St) : setDensityInPlace m s = setDensity (some m) s := rfl

theorem setSpImageInPlace_eq (i : Nat) (s : St) : setSpImageInPlace i s = setSpImage (some i) s := rfl

theorem inv_setExam (e : Nat) (h : Inv W s) (g : opOk W s (.setExam e) = true) : Inv W (setExam e s) := by
  have g : s.effNoScatter = none ∨ s.exam = some e := by simpa [opOk] using g
  exact { h with
    eff := fun x e' t hx he ht =>
      g.elim (fun g => nomatch g.symm.trans hx) (fun g => h.eff x e' t hx (g.trans he) ht)
    maxCos := nofun
    ready := nofun }

theorem inv_setZoom (z : Nat) (h : Inv W s) (g : opOk W s (.setZoom z) = true) : Inv W (setZoom z s) :=
  { h with
    spDown := fun m z' hp => ⟨(h.spDown m z' hp).1, ((setZoomOk_spec W s z g).1 m z' hp).symm.trans (h.spDown m z' hp).2⟩
    maxCos := nofun
    ready := nofun
    spAuto := fun m c hp => absurd hp ((setZoomOk_spec W s z g).2 m c)
    autoZ := nofun }

theorem inv_setThr (t : Nat) (h : Inv W s) (g : opOk W s (.setThr t) = true) : Inv W (setThr t s) :=
  h.withSampling t s.rnd (by simpa [opOk] using g)

theorem inv_setRndPlace (b : Bool) (h : Inv W s) (g : opOk W s (.setRndPlace b) = true) :
    Inv W (setRndPlace b s) :=
  h.withSampling s.thr b (by simpa [opOk] using g)

theorem inv_setCacheEnabled (b : Bool) (h : Inv W s) (g : opOk W s (.setCacheEnabled b) = true) :
    Inv W (setCacheEnabled b s) :=
  { h with
    ready := fun hs => h.ready_of hs fun hb => h.caches hs (enableOk_spec s b g hs hb) }

theorem inv_setUseCache (b : Bool) (h : Inv W s) (g : opOk W s (.setUseCache b) = true) :
    Inv W (setUseCache b s) :=
  iteInduction (fun _ => h) fun hb =>
    { h with
      actCache := nofun
      attCache := nofun
      ready := fun hs => h.ready_of hs fun hb' => absurd (hb'.trans (enableOk_spec s b g hs hb').symm) hb }

theorem inv_setDsBool (b : Bool) (h : Inv W s) (g : opOk W s (.setDsBool b) = true) :
    Inv W (setDsBool b s) := by
  have hb : b = s.dsBool := by simpa [opOk, h.dsOff] using g
  simpa [setDsBool, hb] using h

theorem inv_setDsRings (n : Int) (h : Inv W s) : Inv W (setDsRings n s) :=
  iteInduction (fun _ => h.needSetUp n s.dsDets) fun _ => h

theorem inv_setDsDets (n : Int) (h : Inv W s) : Inv W (setDsDets n s) :=
  iteInduction (fun _ => h.needSetUp s.dsRings n) fun _ => h

theorem downsampleScanner_of_tmpl_none (W : World) (r d : Int) (s : St) (ht : s.tmpl = none) : (downsampleScanner W r d s).1 = s := by
  simp only [downsampleScanner, downsampleScannerCore, ht]
  split <;> rfl

theorem downsampleScanner_of_tmpl_some (W : World) (r d : Int) (s : St) (t : Tmpl) (ht : s.tmpl = some t) :
    (downsampleScanner W r d s).1 = setTemplate (downsampledTmpl t (dsRingsUsed W s t r) (dsDetsUsed W s t d)) s := by
  simp only [downsampleScanner, downsampleScannerCore, ht]
  rfl

theorem inv_downsampleScanner (r d : Int) (h : Inv W s)
    (g : opOk W s (.downsampleScanner r d) = true) : Inv W (downsampleScanner W r d s).1 := by
  cases ht : s.tmpl with
  | none =>
    rw [downsampleScanner_of_tmpl_none W r d s ht]
    exact h
  | some t =>
    rw [downsampleScanner_of_tmpl_some W r d s t ht]
    -- no automatic factors are stored: nothing to compare the new template with
    exact inv_setTemplate_exam s.exam _ h fun c z m hz ha => by simp [opOk, hz, ha] at g

/-- the members `downsample_density_image_for_scatter_points` writes when it succeeds: the derived image `p`, the
    automatic factors `az` it stores, the scatter points sampled from `p`; both caches removed, `set_up` required -/
abbrev St.withDerivedSp (s : St) (p : SpProv) (az : Option (Nat × Nat)) : St :=
  { s with spImage := some p, autoZ := az, alreadySetUp := false, gSp := none, scatt := some ⟨p, s.thr, s.rnd⟩,
           actCache := none, attCache := none }

/-- `p` is a scatter-point image derived from the attenuation image of `s` that fits its zoom members, `az` being the automatic
    factors stored with it: what the clauses `gSp`, `spDown`, `spAuto` ask of `s.withDerivedSp p az` -/
def St.Derives (s : St) (p : SpProv) (az : Option (Nat × Nat)) : Prop :=
  match p with
  | .given _ => False
  | .down m z => s.att = some m ∧ s.zoom = some z
  | .auto m c => s.att = some m ∧ s.zoom = none ∧ ∃ z, az = some (c, z)

theorem downsampleSp_spec (W : World) (s : St) :
    ((downsampleSp W s).1 = s ∧ (downsampleSp W s).2 ≠ .ok) ∨
    ∃ p az, downsampleSp W s = (s.withDerivedSp p az, .ok) ∧ s.Derives p az ∧
      (az = s.autoZ ∨ ∃ m t, s.att = some m ∧ s.tmpl = some t ∧ az = some (W.autoClass m t, t.rings)) := by
  cases hm : s.att with
  | none => exact Or.inl (by simp [downsampleSp, hm])
  | some m =>
    cases hz : s.zoom with
    | some z =>
      refine Or.inr ⟨.down m z, s.autoZ, ?_, ⟨hm, hz⟩, Or.inl rfl⟩
      simp [downsampleSp, sampleScatterPoints, hm, hz]
    | none =>
      cases ha : s.autoZ with
      | some ck =>
        refine Or.inr ⟨.auto m ck.1, some ck, ?_, ⟨hm, hz, ck.2, rfl⟩, Or.inl rfl⟩
        simp [downsampleSp, sampleScatterPoints, hm, hz, ha]
      | none =>
        cases ht : s.tmpl with
        | none => exact Or.inl (by simp [downsampleSp, hm, hz, ha, ht])
        | some t =>
          refine Or.inr ⟨.auto m (W.autoClass m t), _, ?_, ⟨hm, hz, _, rfl⟩, Or.inr ⟨m, t, rfl, rfl, rfl⟩⟩
          simp [downsampleSp, sampleScatterPoints, hm, hz, ha, ht]

theorem Inv.withDerivedSp (h : Inv W s) {p : SpProv} {az : Option (Nat × Nat)} (hp : s.Derives p az)
    (hz : az = s.autoZ ∨ ∃ m t, s.att = some m ∧ s.tmpl = some t ∧ az = some (W.autoClass m t, t.rings)) :
    Inv W (s.withDerivedSp p az) :=
  { h with
    gSp := match p, hp with
      | .down _ _, _ => rfl
      | .auto _ _, _ => rfl
    spDown := fun _ _ e => Option.some.inj e ▸ hp
    scatt := fun _ e => Option.some.inj e ▸ rfl
    actCache := nofun
    attCache := nofun
    maxCos := nofun
    ready := nofun
    spAuto := fun _ _ e => Option.some.inj e ▸ hp
    autoZ := by
      rcases hz with rfl | ⟨m, t, hm, ht, rfl⟩
      · exact h.autoZ
      · intro c z m' t' _ haz hm' ht'
        cases haz
        cases hm.symm.trans hm'
        cases ht.symm.trans ht'
        rfl }

theorem inv_downsampleSp (h : Inv W s) : Inv W (downsampleSp W s).1 := by
  rcases downsampleSp_spec W s with ⟨he, _⟩ | ⟨p, az, he, hp, hz⟩
  · rw [he]
    exact h
  · rw [he]
    exact h.withDerivedSp hp hz

theorem initialiseCache_eq_some {σ : Type} (u : Bool) (rows cols : Nat) (c : Option (Cache σ)) (c' : Cache σ)
    (h : initialiseCache u rows cols c = some c') : c = some c' ∨ c' = ⟨rows, cols, []⟩ := by
  unfold initialiseCache at h
  split at h
  · exact Or.inl h
  · split at h
    · split at h
      · exact Or.inl h
      · exact Or.inr (Option.some.inj h).symm
    · exact Or.inr (Option.some.inj h).symm

theorem initialiseCache_on {σ : Type} {u : Bool} (hu : u = true) (rows cols : Nat) (c : Option (Cache σ)) :
    ∃ c', initialiseCache u rows cols c = some c' := by
  subst hu
  unfold initialiseCache
  cases c with
  | none => exact ⟨_, rfl⟩
  | some c =>
    by_cases h : c.rows = rows ∧ c.cols = cols
    · exact ⟨c, by simp [h]⟩
    · exact ⟨⟨rows, cols, []⟩, by simp [h]⟩

section SetUp
variable {t : Tmpl} {e a m : Nat} (hi : Inputs W s t e a m)
include hi

theorem inv_finishSetUp {p : SpProv} (h : Inv W s) (hp : s.spImage = some p) (hmc : s.maxCos = none) :
    Inv W (finishSetUp W s t) := by
  have hn : nspOf W s = W.nsp ⟨p, s.thr, s.rnd⟩ := by simp [nspOf, h.scatt p hp]
  exact { h with
    actCache := fun p' c a' t' hp' hc ha' ht' => by
      cases hp.symm.trans hp'
      cases hi.tmpl.symm.trans ht'
      rcases initialiseCache_eq_some _ _ _ _ _ hc with hc | rfl
      · exact h.actCache p c a' t hp hc ha' hi.tmpl
      · exact ⟨hn, rfl, Or.inl rfl⟩
    attCache := fun p' c m' t' hp' hc hm' ht' => by
      cases hp.symm.trans hp'
      cases hi.tmpl.symm.trans ht'
      rcases initialiseCache_eq_some _ _ _ _ _ hc with hc | rfl
      · exact h.attCache p c m' t hp hc hm' hi.tmpl
      · exact ⟨hn, rfl, Or.inl rfl⟩
    maxCos := fun x _ _ _ hx => nomatch hmc.symm.trans hx
    ready := fun _ => ⟨t, e, a, m, p, hi.tmpl, hi.exam, hi.act, hi.att, hp, hi.zOk, fun hu =>
      let ⟨ca, hca⟩ := initialiseCache_on hu _ _ s.actCache
      let ⟨cm, hcm⟩ := initialiseCache_on hu _ _ s.attCache
      ⟨ca, cm, hca, hcm⟩⟩ }

theorem setUp_of_spImage_some {p : SpProv} (hp : s.spImage = some p) (hds : s.dsBool = false) :
    setUp W s = (finishSetUp W { s with maxCos := none } t, .ok) := by
  unfold setUp
  simp [hi.tmpl, hi.exam, hi.act, hi.att, hi.zOk, hp, hds]

theorem setUp_of_spImage_none {z : Nat} (hp : s.spImage = none) (hzo : s.zoom = some z) (hsu : s.alreadySetUp = false)
    (hds : s.dsBool = false) :
    setUp W s = (finishSetUp W ({ s with maxCos := none }.withDerivedSp (.down m z) s.autoZ) t, .ok) := by
  unfold setUp
  simp [hi.tmpl, hi.exam, hi.act, hi.att, hi.zOk, hp, hds, hzo, hsu, downsampleSp, sampleScatterPoints]

theorem setUp_of_spImage_none_auto (hp : s.spImage = none) (hzo : s.zoom = none) (haz : s.autoZ = none)
    (hsu : s.alreadySetUp = false) (hds : s.dsBool = false) :
    setUp W s = (finishSetUp W ({ s with maxCos := none }.withDerivedSp (.auto m (W.autoClass m t))
      (some (W.autoClass m t, t.rings))) t, .ok) := by
  unfold setUp
  simp [hi.tmpl, hi.exam, hi.act, hi.att, hi.zOk, hp, hds, hzo, haz, hsu, downsampleSp, sampleScatterPoints]

end SetUp

/-- `set_up` stops in a state for which the invariant is known already (the input with `max_single_scatter_cos_angle` reset, or that
    after `downsampleSp`: `inv_downsampleSp`), or it ends in `finishSetUp` of such a state (`inv_finishSetUp`) -/
theorem inv_setUp {s0 : St} (h0 : Inv W s0) : Inv W (setUp W s0).1 := by
  have h : Inv W { s0 with maxCos := none } := { h0 with maxCos := nofun }
  unfold setUp
  generalize hs : ({ s0 with maxCos := none } : St) = s at h
  have hmc : s.maxCos = none := by rw [← hs]
  simp only
  split
  · next t e a m ht he ha hm =>
    simp only [h.dsOff, Bool.false_eq_true, if_false, ne_eq, not_true_eq_false]
    cases hp : s.spImage with
    | some p =>
      simp only [Option.isNone_some, Bool.false_eq_true, if_false, not_true_eq_false]
      by_cases hz : W.zOk a = true
      · simp only [hz, Bool.not_true, Bool.false_eq_true, if_false, ht]
        exact inv_finishSetUp ⟨ht, he, ha, hm, hz⟩ h hp hmc
      · simp only [hz, Bool.not_false, if_true]
        exact h
    | none =>
      simp only [Option.isNone_none, if_true]
      -- a set-up object is left as it is; otherwise the image is derived now
      split
      · exact h
      have hd := inv_downsampleSp h
      rcases downsampleSp_spec W s with ⟨he', hr⟩ | ⟨p, az, he', _⟩
      · simp only [hr, not_false_eq_true, if_true]
        exact hd
      · rw [he'] at hd ⊢
        by_cases hz : W.zOk a = true
        · simp only [hz, not_true_eq_false, Bool.not_true, Bool.false_eq_true, if_false, ht]
          exact inv_finishSetUp (s := s.withDerivedSp p az) ⟨ht, he, ha, hm, hz⟩ hd rfl hmc
        · simp only [hz, not_true_eq_false, Bool.not_false, if_false, if_true]
          exact hd
  · exact h

/-- the `Out` in which every stamp is the current one: the template's detection points, the scatter points sampled from
    `p` with the current threshold and placement flag, and — unless there are no scatter points — the integrals of the
    current images over them and the energy stamps of the current exam info and template -/
def expectedOut (W : World) (t : Tmpl) (e a m : Nat) (p : SpProv) (thr : Nat) (rnd : Bool) : Out :=
  let sc : ScattProv := ⟨p, thr, rnd⟩
  if W.nsp sc = 0 then
    { tmpl := t, detPts := [t], scatt := some sc, emis := [], atten := [], maxCos := none, eff := ⟨e, t⟩ }
  else
    { tmpl := t, detPts := [t], scatt := some sc, emis := [⟨a, sc, t⟩], atten := [⟨m, sc, t⟩], maxCos := some ⟨e, t⟩, eff := ⟨e, t⟩ }

theorem insertNew_of_nil_or_singleton {σ : Type} [DecidableEq σ] (x : σ) (l : List σ) (h : l = [] ∨ l = [x]) : insertNew x l = [x] := by
  rcases h with h | h <;> simp [insertNew, h]

section Process
variable (h : Inv W s) {t : Tmpl} {e a m : Nat} (hi : Inputs W s t e a m)
include h hi

theorem Inv.withEnergy (mc : Option EnergyStamp) (hmc : ∀ x, mc = some x → x = ⟨e, t⟩) :
    Inv W { s with effNoScatter := some ⟨e, t⟩, detPts := [t], maxCos := mc } :=
  { h with
    eff := fun x e' t' hx he' ht' => by
      cases hx
      cases hi.exam.symm.trans he'
      cases hi.tmpl.symm.trans ht'
      rfl
    maxCos := fun x e' t' _ hx he' ht' => by
      cases hi.exam.symm.trans he'
      cases hi.tmpl.symm.trans ht'
      exact hmc x hx
    detPts := fun t' ht' => by
      cases hi.tmpl.symm.trans ht'
      exact Or.inr rfl }

theorem Inv.withStamps {p : SpProv} {ca : Cache ActStamp} {cm : Cache AttStamp} (hp : s.spImage = some p)
    (hca : s.actCache = some ca) (hcm : s.attCache = some cm) :
    Inv W { s with actCache := some { ca with stamps := [⟨a, ⟨p, s.thr, s.rnd⟩, t⟩] },
                   attCache := some { cm with stamps := [⟨m, ⟨p, s.thr, s.rnd⟩, t⟩] } } :=
  { h with
    actCache := fun p' c a' t' hp' hc ha' ht' => by
      cases hc
      cases hp.symm.trans hp'
      cases hi.act.symm.trans ha'
      cases hi.tmpl.symm.trans ht'
      obtain ⟨hr, hcl, _⟩ := h.actCache p ca a t hp hca hi.act hi.tmpl
      exact ⟨hr, hcl, Or.inr rfl⟩
    attCache := fun p' c m' t' hp' hc hm' ht' => by
      cases hc
      cases hp.symm.trans hp'
      cases hi.att.symm.trans hm'
      cases hi.tmpl.symm.trans ht'
      obtain ⟨hr, hcl, _⟩ := h.attCache p cm m t hp hcm hi.att hi.tmpl
      exact ⟨hr, hcl, Or.inr rfl⟩
    ready := fun hs => h.ready_of hs fun _ => ⟨_, _, rfl, rfl⟩ }

theorem Inv.effGetD : s.effNoScatter.getD ⟨e, t⟩ = ⟨e, t⟩ := by
  cases hx : s.effNoScatter with
  | none => rfl
  | some x => exact (h.eff x e t hx hi.exam hi.tmpl).symm ▸ rfl

theorem Inv.maxCosGetD (hs : s.alreadySetUp = true) : s.maxCos.getD ⟨e, t⟩ = ⟨e, t⟩ := by
  cases hx : s.maxCos with
  | none => rfl
  | some x => exact (h.maxCos x e t hs hx hi.exam hi.tmpl).symm ▸ rfl

variable (hs : s.alreadySetUp = true) {p : SpProv} (hp : s.spImage = some p)
include hs hp

theorem process_noPoints (hn : W.nsp ⟨p, s.thr, s.rnd⟩ = 0) :
    process W s = ({ s with effNoScatter := some ⟨e, t⟩, detPts := [t] }, .ok,
      some (expectedOut W t e a m p s.thr s.rnd)) := by
  simp only [process, expectedOut, hs, Bool.not_true, Bool.false_eq_true, if_false, hi.tmpl, hi.exam, hi.act, hi.att, h.scatt p hp, nspOf,
    insertNew_of_nil_or_singleton t s.detPts (h.detPts t hi.tmpl), h.effGetD hi, hn, if_true]

theorem process_direct (hn : W.nsp ⟨p, s.thr, s.rnd⟩ ≠ 0) (hu : s.useCache = false) :
    process W s = ({ s with effNoScatter := some ⟨e, t⟩, detPts := [t], maxCos := some ⟨e, t⟩ }, .ok,
      some (expectedOut W t e a m p s.thr s.rnd)) := by
  simp only [process, expectedOut, hs, Bool.not_true, Bool.false_eq_true, if_false, hi.tmpl, hi.exam, hi.act, hi.att, h.scatt p hp, nspOf,
    insertNew_of_nil_or_singleton t s.detPts (h.detPts t hi.tmpl), h.effGetD hi, h.maxCosGetD hi hs, hn, hu]

theorem process_cached (hn : W.nsp ⟨p, s.thr, s.rnd⟩ ≠ 0) {ca : Cache ActStamp} {cm : Cache AttStamp} (hu : s.useCache = true)
    (hca : s.actCache = some ca) (hcm : s.attCache = some cm) :
    process W s = ({ s with effNoScatter := some ⟨e, t⟩, detPts := [t], maxCos := some ⟨e, t⟩,
                            actCache := some { ca with stamps := [⟨a, ⟨p, s.thr, s.rnd⟩, t⟩] },
                            attCache := some { cm with stamps := [⟨m, ⟨p, s.thr, s.rnd⟩, t⟩] } }, .ok,
      some (expectedOut W t e a m p s.thr s.rnd)) := by
  obtain ⟨r1, c1, st1⟩ := h.actCache p ca a t hp hca hi.act hi.tmpl
  obtain ⟨r2, c2, st2⟩ := h.attCache p cm m t hp hcm hi.att hi.tmpl
  simp only [process, expectedOut, hs, Bool.not_true, Bool.false_eq_true, if_false, hi.tmpl, hi.exam, hi.act, hi.att, h.scatt p hp, nspOf,
    insertNew_of_nil_or_singleton t s.detPts (h.detPts t hi.tmpl), h.effGetD hi, h.maxCosGetD hi hs, hn, hu,
    hca, hcm, cacheUsable, r1, c1, r2, c2, insertNew_of_nil_or_singleton _ _ st1, insertNew_of_nil_or_singleton _ _ st2, beq_self_eq_true, Bool.and_self,
    if_true, Option.map_some, Option.getD_some]

theorem process_spec :
    (process W s).2 = (.ok, some (expectedOut W t e a m p s.thr s.rnd)) ∧ Inv W (process W s).1 := by
  by_cases hn : W.nsp ⟨p, s.thr, s.rnd⟩ = 0
  · rw [process_noPoints h hi hs hp hn]
    exact ⟨rfl, h.withEnergy hi s.maxCos fun x hx => h.maxCos x e t hs hx hi.exam hi.tmpl⟩
  · cases hu : s.useCache with
    | false =>
      rw [process_direct h hi hs hp hn hu]
      exact ⟨rfl, h.withEnergy hi _ fun x hx => (Option.some.inj hx).symm⟩
    | true =>
      obtain ⟨ca, cm, hca, hcm⟩ := h.caches hs hu
      rw [process_cached h hi hs hp hn hu hca hcm]
      exact ⟨rfl, (h.withEnergy hi _ fun x hx => (Option.some.inj hx).symm).withStamps
        hi hp hca hcm⟩

end Process

theorem process_notSetUp (W : World) (s : St) (hs : s.alreadySetUp = false) : process W s = (s, .err, none) := by
  simp [process, hs]

theorem inv_process (h : Inv W s) : Inv W (process W s).1 := by
  cases hs : s.alreadySetUp with
  | true =>
    obtain ⟨_, _, _, _, _, hi, hp⟩ := h.inputs hs
    exact (process_spec h hi hs hp).2
  | false =>
    rw [process_notSetUp W s hs]
    exact h

theorem setDsBool_eq (b : Bool) (s : St) :
    setDsBool b s = { s with dsBool := b, alreadySetUp := if b ≠ s.dsBool then false else s.alreadySetUp } := by
  unfold setDsBool
  split
  · simp
  · cases s
    simp_all

theorem setDsRings_eq (n : Int) (s : St) :
    setDsRings n s = { s with dsRings := n, alreadySetUp := if n ≠ s.dsRings then false else s.alreadySetUp } := by
  unfold setDsRings
  split
  · simp
  · cases s
    simp_all

theorem setDsDets_eq (n : Int) (s : St) :
    setDsDets n s = { s with dsDets := n, alreadySetUp := if n ≠ s.dsDets then false else s.alreadySetUp } := by
  unfold setDsDets
  split
  · simp
  · cases s
    simp_all

theorem setUseCache_eq (b : Bool) (s : St) :
    setUseCache b s = { s with useCache := b, actCache := if b = s.useCache then s.actCache else none,
                               attCache := if b = s.useCache then s.attCache else none } := by
  unfold setUseCache
  split
  · cases s
    simp_all
  · simp

theorem configure_eq (c : St) (t : Tmpl) (e a m : Nat)
    (hg : c.gTmpl = some t) (he : c.exam = some e) (ha : c.act = some a) (hm : c.att = some m) :
    configure c =
      { init with rnd := c.rnd, thr := c.thr, useCache := c.useCache, tmpl := some t, gTmpl := some t, exam := some e,
                  act := some a, att := some m, zoom := c.zoom, dsBool := c.dsBool, dsRings := c.dsRings, dsDets := c.dsDets,
                  gSp := c.gSp, spImage := c.gSp.map .given, scatt := c.gSp.map fun i => ⟨.given i, c.thr, c.rnd⟩ } := by
  unfold configure
  simp only [hg, he, ha, hm, setDsBool_eq, setDsRings_eq, setDsDets_eq, setUseCache_eq]
  -- the setters that are left assign unconditionally: unfolding them on `init` gives the record, case by case of the two options
  cases hz : c.zoom <;> cases hs : c.gSp <;>
    simp [setSpImage, sampleScatterPoints, setZoom, setDensity, setActivity, setExam, setTemplate, setTemplateVal, setThr,
      setRndPlace, init]

theorem inv_configure (W : World) (c : St) (t : Tmpl) (e a m : Nat)
    (hg : c.gTmpl = some t) (he : c.exam = some e) (ha : c.act = some a) (hm : c.att = some m) (hds : c.dsBool = false) :
    Inv W (configure c) := by
  rw [configure_eq c t e a m hg he ha hm]
  cases c.gSp with
  | none =>
    exact { gTmpl := rfl, dsOff := hds, gSp := rfl, spDown := nofun, scatt := nofun, actCache := nofun, attCache := nofun,
            eff := nofun, maxCos := nofun, detPts := fun _ _ => Or.inl rfl, ready := nofun, spAuto := nofun, autoZ := nofun }
  | some i =>
    exact { gTmpl := rfl, dsOff := hds, gSp := rfl, spDown := nofun, scatt := fun _ hp => Option.some.inj hp ▸ rfl,
            actCache := nofun, attCache := nofun, eff := nofun, maxCos := nofun, detPts := fun _ _ => Or.inl rfl,
            ready := nofun, spAuto := nofun, autoZ := nofun }

theorem freshOut_eq (W : World) (c : St) (h : Inv W c) {t : Tmpl} {e a m : Nat} {p : SpProv}
    (hi : Inputs W c t e a m) (hp : c.spImage = some p) :
    freshOut W c = (.ok, some (expectedOut W t e a m p c.thr c.rnd)) := by
  have hg : c.gTmpl = some t := h.gTmpl.trans hi.tmpl
  have hsu := inv_setUp (inv_configure W c t e a m hg hi.exam hi.act hi.att h.dsOff)
  have hgs := h.gSp
  rw [hp] at hgs
  -- the fresh object has the inputs of `c` …
  have hi' : InputsOf W (some t) (some e) (some a) (some m) t e a m := ⟨rfl, rfl, rfl, rfl, hi.zOk⟩
  -- … and `set_up` leaves it with the scatter-point image `p` of `c`
  have hset : ∃ s1, setUp W (configure c) = (s1, .ok) ∧ s1.alreadySetUp = true ∧ Inputs W s1 t e a m ∧
      s1.spImage = some p ∧ s1.thr = c.thr ∧ s1.rnd = c.rnd := by
    rw [configure_eq c t e a m hg hi.exam hi.act hi.att, hgs]
    cases p with
    | given i => exact ⟨_, setUp_of_spImage_some hi' rfl h.dsOff, rfl, hi', rfl, rfl, rfl⟩
    | down m' z =>
      obtain ⟨hm', hzo⟩ := h.spDown m' z hp
      cases hi.att.symm.trans hm'
      exact ⟨_, setUp_of_spImage_none hi' rfl hzo rfl h.dsOff, rfl, hi', rfl, rfl, rfl⟩
    | auto m' k =>
      obtain ⟨hm', hzo, z, haz⟩ := h.spAuto m' k hp
      cases hi.att.symm.trans hm'
      cases h.autoZ k z m t hzo haz hi.att hi.tmpl
      exact ⟨_, setUp_of_spImage_none_auto hi' rfl hzo rfl rfl h.dsOff, rfl, hi', rfl, rfl, rfl⟩
  obtain ⟨s1, hset, hs1, hi1, hp1, hthr, hrnd⟩ := hset
  rw [hset] at hsu
  have hres := (process_spec hsu hi1 hs1 hp1).1
  rw [hthr, hrnd] at hres
  unfold freshOut
  rw [hset]
  exact hres

theorem process_eq_fresh (W : World) (s : St) (h : Inv W s) :
    (process W s).2.1 ≠ .crash ∧ ∀ o, (process W s).2 = (.ok, some o) → freshOut W s = (.ok, some o) := by
  cases hs : s.alreadySetUp with
  | true =>
    obtain ⟨_, _, _, _, _, hi, hp⟩ := h.inputs hs
    rw [(process_spec h hi hs hp).1]
    exact ⟨nofun, fun o ho => Option.some.inj (Prod.mk.inj ho).2 ▸ freshOut_eq W s h hi hp⟩
  | false =>
    rw [process_notSetUp W s hs]
    exact ⟨nofun, nofun⟩

theorem inv_step (W : World) (s : St) (op : Op) (h : Inv W s) (g : opOk W s op = true) : Inv W (step W s op).1 := by
  cases op with
  | setTemplate t => exact inv_setTemplate t h g
  | setActivity k => exact inv_setActivity k h
  | setDensity k => exact inv_setDensity k h g
  | setSpImage k => exact inv_setSpImage k h
  | setActivityInPlace a => exact inv_setActivity (s := s) (some a) h
  | setDensityInPlace m => exact inv_setDensity (s := s) (some m) h g
  | setSpImageInPlace i => exact inv_setSpImage (some i) h
  | setExam e => exact inv_setExam e h g
  | setZoom z => exact inv_setZoom z h g
  | setThr t => exact inv_setThr t h g
  | setCacheEnabled b => exact inv_setCacheEnabled b h g
  | setUseCache b => exact inv_setUseCache b h g
  | setRndPlace b => exact inv_setRndPlace b h g
  | setTemplateFile e t => exact inv_setTemplateFile e t h g
  | setDsBool b => exact inv_setDsBool b h g
  | setDsRings n => exact inv_setDsRings n h
  | setDsDets n => exact inv_setDsDets n h
  | downsampleScanner r d => exact inv_downsampleScanner r d h g
  | downsampleSp => exact inv_downsampleSp h
  | setUp => exact inv_setUp h
  | process => exact inv_process h

/-- `set_cache_enabled(true)` writes the flag only, `set_use_cache(true)` also removes both arrays -/
theorem not_opOk_enable (W : World) (s : St) (op : Op) (g : ¬ opOk W s op = true) (he : isEnable op = true) :
    s.alreadySetUp = true ∧ ((step W s op).1 = { s with useCache := true } ∨
      (step W s op).1 = { s with actCache := none, attCache := none, useCache := true }) := by
  cases op with
  | setCacheEnabled b => cases b <;> simp_all [isEnable, opOk, step, setCacheEnabled]
  | setUseCache b => cases b <;> simp_all [isEnable, opOk, step, setUseCache]
  | _ => simp [isEnable] at he

/-- `set_up` on an object with inputs and a scatter-point image succeeds and establishes the invariant if it holds but for the flag
    `_already_set_up` (which `finishSetUp` overwrites): `initialise_cache_…` allocates what is missing and keeps an array of the
    right size, which can only hold current values (every setter removed "its" array whether or not the cache was enabled) -/
theorem setUp_of_inv_reset {t : Tmpl} {e a m : Nat} {p : SpProv} (h : Inv W { s with alreadySetUp := false })
    (hi : Inputs W s t e a m) (hp : s.spImage = some p) : (setUp W s).2 = .ok ∧ Inv W (setUp W s).1 := by
  rw [setUp_of_spImage_some hi hp h.dsOff]
  exact ⟨rfl, inv_finishSetUp (s := { s with alreadySetUp := false, maxCos := none }) hi { h with maxCos := nofun } hp rfl⟩

/-- enabling the cache on an object that was set up without it breaks the invariant only in that the arrays are not allocated;
    the `set_up` that follows restores it -/
theorem inv_enable_setUp (W : World) (s : St) (op : Op) (h : Inv W s) (g : ¬ opOk W s op = true) (he : isEnable op = true) :
    (setUp W (step W s op).1).2 = .ok ∧ Inv W (setUp W (step W s op).1).1 := by
  obtain ⟨hs, hst⟩ := not_opOk_enable W s op g he
  obtain ⟨t, e, a, m, p, hi, hp⟩ := h.inputs hs
  rcases hst with hst | hst <;> rw [hst]
  · exact setUp_of_inv_reset { h with maxCos := nofun, ready := nofun } hi hp
  · exact setUp_of_inv_reset { h with actCache := nofun, attCache := nofun, maxCos := nofun, ready := nofun } hi hp

theorem runGuarded_cons (W : World) (s s' : St) (op : Op) (rest : List Op) :
    runGuarded W s (op :: rest) = some s' ↔
      opOk W s op = true ∧ (step W s op).2.1 ≠ .crash ∧ runGuarded W (step W s op).1 rest = some s' := by
  rw [runGuarded]
  generalize step W s op = x
  obtain ⟨s1, r, o⟩ := x
  cases opOk W s op <;> cases r <;> simp

theorem runGuarded2_cons (W : World) (s s' : St) (op : Op) (rest : List Op) :
    runGuarded2 W s (op :: rest) = some s' ↔
      (opOk W s op = true ∨ isEnable op = true ∧ nextIsSetUp rest = true) ∧ (step W s op).2.1 ≠ .crash ∧
        runGuarded2 W (step W s op).1 rest = some s' := by
  rw [runGuarded2, ← Bool.and_eq_true, ← Bool.or_eq_true]
  generalize step W s op = x
  obtain ⟨s1, r, o⟩ := x
  cases (opOk W s op || isEnable op && nextIsSetUp rest) <;> cases r <;> simp

theorem inv_runGuarded2 (W : World) : ∀ (ops : List Op) (s s' : St), Inv W s → runGuarded2 W s ops = some s' → Inv W s'
  | [], _, _, h, hr => Option.some.inj hr ▸ h
  | op :: rest, s, s', h, hr => by
    obtain ⟨hg, _, hr⟩ := (runGuarded2_cons W s s' op rest).mp hr
    by_cases g : opOk W s op = true
    · exact inv_runGuarded2 W rest _ _ (inv_step W s op h g) hr
    · -- only enabling the cache is admitted without `opOk`, and then `set_up` is next: the two steps together
      obtain ⟨he, hn⟩ := hg.resolve_left g
      match rest, hn, hr with
      | .setUp :: rest', _, hr =>
        obtain ⟨_, _, hr⟩ := (runGuarded2_cons W _ s' .setUp rest').mp hr
        exact inv_runGuarded2 W rest' _ _ (inv_enable_setUp W s op h g he).2 hr

theorem eq_fresh_of_runGuarded2 (W : World) (ops : List Op) (s0 s : St) (h0 : Inv W s0)
    (hrun : runGuarded2 W s0 ops = some s) :
    (process W s).2.1 ≠ .crash ∧ ∀ o, (process W s).2 = (.ok, some o) → freshOut W s = (.ok, some o) :=
  process_eq_fresh W s (inv_runGuarded2 W ops s0 s h0 hrun)

end StirVerif.C16
