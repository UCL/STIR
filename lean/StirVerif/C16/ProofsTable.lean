import StirVerif.C16.ProofsState
/-! C16 — the setter table describes the setter functions of the state machine: what a row does not list as
modified / cleared / recomputed is left alone by the function, what it lists as cleared is cleared, and
`_already_set_up` is reset exactly when the row says so. (So the finite checks on the table are checks on the
functions that the correspondence run compares with the C++.) And the rows that pass both finite checks. -/
namespace StirVerif.C16

/-- one type for the values of all settings, so that "setting `c` is unchanged" can be said uniformly over `Comp` -/
inductive CVal where
  | optNat (v : Option Nat) | nat (v : Nat) | bool (v : Bool) | int (v : Int) | tmpl (v : Option Tmpl) | notModelled
  /-- the four members `zoom_xy`, `zoom_z`, `zoom_size_xy`, `zoom_size_z`: a parameter set, or what the automatic call stored -/
  | zoomMem (z : Option Nat) (a : Option (Nat × Nat))
  deriving DecidableEq

/-- the value of a setting.  Two choices matter: the user's scatter-point image is the ghost `gSp` (the object holds only the
    image, given or derived), and the zoom setting is the parameter set together with the stored automatic factors (`autoZ`) -/
def St.comp (s : St) : Comp → CVal
  | .act => .optNat s.act
  | .att => .optNat s.att
  | .spGiven => .optNat s.gSp
  | .tmpl => .tmpl s.tmpl
  | .exam => .optNat s.exam
  | .thr => .nat s.thr
  | .rndPlace => .bool s.rnd
  | .zoom => .zoomMem s.zoom s.autoZ
  | .useCache => .bool s.useCache
  | .dsFlag => .bool s.dsBool
  | .dsRings => .int s.dsRings
  | .dsDets => .int s.dsDets

inductive DVal where
  | sp (v : Option SpProv) | sc (v : Option ScattProv) | dp (v : List Tmpl)
  | ac (v : Option (Cache ActStamp)) | tc (v : Option (Cache AttStamp)) | en (v : Option EnergyStamp)
  deriving DecidableEq

def St.datum (s : St) : Datum → DVal
  | .spImage => .sp s.spImage
  | .scatt => .sc s.scatt
  | .detPts => .dp s.detPts
  | .actCache => .ac s.actCache
  | .attCache => .tc s.attCache
  | .effNoScatter => .en s.effNoScatter
  | .maxCos => .en s.maxCos

def DVal.isCleared : DVal → Bool
  | .sp none | .sc none | .dp [] | .ac none | .tc none | .en none => true
  | _ => false

def rowName : Op → Option String
  | .setTemplate _ => some "set_template_proj_data_info"
  | .setActivity _ => some "set_activity_image_sptr"
  | .setDensity _ => some "set_density_image_sptr"
  | .setSpImage _ => some "set_density_image_for_scatter_points_sptr"
  | .setActivityInPlace _ => some "set_activity_image_sptr"
  | .setDensityInPlace _ => some "set_density_image_sptr"
  | .setSpImageInPlace _ => some "set_density_image_for_scatter_points_sptr"
  | .setExam _ => some "set_exam_info"
  | .setZoom _ => some "set_image_downsample_factors"
  | .setThr _ => some "set_attenuation_threshold"
  | .setCacheEnabled _ => some "set_cache_enabled"
  | .setUseCache _ => some "set_use_cache"
  | .setRndPlace _ => some "set_randomly_place_scatter_points"
  | .setTemplateFile _ _ => some "set_template_proj_data_info(filename)"
  | .setDsBool _ => some "set_downsample_scanner_bool"
  | .setDsRings _ => some "set_num_downsample_scanner_rings"
  | .setDsDets _ => some "set_num_downsample_scanner_dets"
  | .downsampleScanner _ _ => some "downsample_scanner"
  | .downsampleSp => some "downsample_density_image_for_scatter_points"
  | .setUp => none
  | .process => none

def rowOf (op : Op) : Option SetterRow :=
  match rowName op with
  | none => none
  | some n => setterTable.find? (·.name == n)

/-- what "the row describes the function" means for one operation on one state; `s' = s`: the setter returned without
    effect (null pointer, value already held) -/
def Faithful (W : World) (s : St) (op : Op) (f : SetterRow) : Prop :=
  let s' := (step W s op).1
  (∀ c, c ∉ f.modifies → s'.comp c = s.comp c) ∧
  (∀ d, d ∉ f.clears → d ∉ f.recomputes → s'.datum d = s.datum d) ∧
  (s' = s ∨ ((∀ d ∈ f.clears, (s'.datum d).isCleared = true) ∧ (f.resetsSetUp = true → s'.alreadySetUp = false))) ∧
  (f.resetsSetUp = false → s'.alreadySetUp = s.alreadySetUp)

theorem Faithful.of_unchanged {W : World} {s : St} {op : Op} (f : SetterRow) (h : (step W s op).1 = s) :
    Faithful W s op f := by
  unfold Faithful
  rw [h]
  exact ⟨fun _ _ => rfl, fun _ _ _ => rfl, Or.inl rfl, fun _ => rfl⟩

def allComps : List Comp := [.act, .att, .spGiven, .tmpl, .exam, .thr, .rndPlace, .zoom, .useCache, .dsFlag, .dsRings, .dsDets]

theorem allComps_complete : ∀ c : Comp, c ∈ allComps := by
  intro c
  cases c <;> decide

theorem allData_complete : ∀ d : Datum, d ∈ allData := by
  intro d
  cases d <;> decide

/-- the new state `s'` as row `f` lets it be seen from `s`: the settings and the derived members, each one that the row lists
    as written put back to its old value; whether what the row lists as cleared is cleared; `_already_set_up` -/
def St.through (f : SetterRow) (s s' : St) : List CVal × List DVal × Bool × Bool :=
  (allComps.map fun c => bif f.modifies.contains c then s.comp c else s'.comp c,
   allData.map fun d => bif (f.clears ++ f.recomputes).contains d then s.datum d else s'.datum d,
   f.clears.all fun d => (s'.datum d).isCleared,
   s'.alreadySetUp)

/-- the same for an operation that takes `s` to `s'`, as one equation that evaluation checks (for a concrete row and a record
    update of a variable `s` it holds by `rfl`): seen through the row, `s'` is `s` with the listed members cleared and
    `_already_set_up` reset if the row says so -/
theorem Faithful.of_through {W : World} {s : St} {op : Op} {f : SetterRow} {s' : St} (hs' : (step W s op).1 = s')
    (h : s.through f s' = (allComps.map s.comp, allData.map s.datum, true, bif f.resetsSetUp then false else s.alreadySetUp)) :
    Faithful W s op f := by
  subst hs'
  simp only [St.through, Prod.mk.injEq] at h
  obtain ⟨hc, hd, hclr, hsu⟩ := h
  refine ⟨fun c hc' => ?_, fun d h1 h2 => ?_, Or.inr ⟨List.all_eq_true.mp hclr, fun h => ?_⟩, fun h => ?_⟩
  · simpa [hc'] using List.map_inj_left.mp hc c (allComps_complete c)
  · simpa [h1, h2] using List.map_inj_left.mp hd d (allData_complete d)
  · rw [hsu, h, cond_true]
  · rw [hsu, h, cond_false]

/-- row names are keys: a row is found under its own name. With this, which row an operation has is a matter of two equal name
    literals; looking the row up by unfolding `List.find?` instead leaves the ~170 string comparisons to the unifier, which makes
    them silently inside whatever step first needs the row. -/
theorem find_row : ∀ f ∈ setterTable, setterTable.find? (·.name == f.name) = some f := by
  decide +kernel

/-- the row of an operation is row `i` of the table if the names agree (`hn` holds by `rfl`) -/
theorem rowOf_eq_getElem? {op : Op} {f : SetterRow} (hf : rowOf op = some f) (i : Nat)
    (hn : rowName op = setterTable[i]?.map (·.name)) : setterTable[i]? = some f := by
  unfold rowOf at hf
  cases hg : setterTable[i]? with
  | none =>
    rw [hn, hg] at hf
    cases hf
  | some g =>
    rw [hn, hg] at hf
    exact congrArg some (Option.some.inj ((find_row g (List.mem_of_getElem? hg)).symm.trans hf))

theorem mem_invalidationFailures {tab : List SetterRow} {n : String} {d : Datum}
    (h : (n, d) ∈ invalidationFailures tab) : ∃ f ∈ tab, invalidationOK f d = false := by
  simp only [invalidationFailures, List.mem_flatten, List.mem_map] at h
  obtain ⟨_, ⟨f, hf, rfl⟩, h⟩ := h
  simp only [List.mem_map, List.mem_filter, Prod.mk.injEq] at h
  obtain ⟨d', ⟨_, hd⟩, _, rfl⟩ := h
  exact ⟨f, hf, by simpa using hd⟩

/-- the rows of the table that pass both checks -/
def goodRows : List String :=
  ["set_template_proj_data_info", "set_template_proj_data_info(filename)", "set_activity_image_sptr", "set_density_image_sptr",
   "set_density_image_for_scatter_points_sptr", "set_downsample_scanner_bool", "set_num_downsample_scanner_rings",
   "set_num_downsample_scanner_dets", "downsample_scanner", "downsample_density_image_for_scatter_points"]

/-- every row that `goodRows` names passes both checks for every derived member ("complete" is the invalidation, not the list; the
    other eight rows of the table are the ones `C16_invalidation_failures` lists) -/
theorem goodRows_complete :
    ∀ f ∈ setterTable, f.name ∈ goodRows → (∀ d ∈ allData, invalidationOK f d = true) ∧ setUpForcedOK f = true := by
  decide +kernel

end StirVerif.C16
