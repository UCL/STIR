/-
C16 — executable model of the single-scatter simulation
(`stir::ScatterSimulation`, `stir::SingleScatterSimulation`).

Three parts, each a transcription of code that exists in /repo/src:

 (i)   *Formula*: `simulate_for_one_scatter_point`, `actual_scatter_estimate`,
       `detection_efficiency_no_scatter`, `integral_between_2_points` — the arithmetic structure
       (which factor multiplies which) over any type with `+ * /`, with the physics
       (line integrals, Compton cross sections, detection efficiencies, cosines, `pow`) as
       *inputs*.
 (ii)  *Sentinel cache*: `cached_integral_over_activity_image_between_scattpoint_det` /
       `cached_exp_integral_over_attenuation_image_between_scattpoint_det`
       (`value != cache_init_value ⇒ reuse`).
 (iii) *Set-up / cache state machine*: every public setter of `ScatterSimulation` (by object, by file name, and the
       parsed keyword `use cache`), `set_up`, `process_data`, over abstract value identities (image number 3,
       template number 1, …).
       Derived members carry the identities of the inputs they were computed from (a *stamp*),
       so that "the result equals the result of a freshly configured simulation" is the
       statement that every stamp that is read is the current one.
       The same information, row by row, is the *setter table* `setterTable`.

Scanner geometry: the formula takes the incidence cosine of EACH detector of a pair as a separate input
(`detectionEfficiencyNoScatter … cosA cosB`, `PD.cosInc`), so it is the formula of cylindrical and of
BlocksOnCylindrical scanners alike (on a cylinder the two cosines of a pair happen to coincide); the state
machine knows which templates are BlocksOnCylindrical (`World.blocksBase`) because `downsample_scanner`
chooses its default number of detectors differently there.
Pointers: images are identified by their VALUES. "The owner overwrites the voxels of an image in place and
hands the same `shared_ptr` to the setter again" is the event `setActivityInPlace` / `setDensityInPlace` /
`setSpImageInPlace`: the value behind the pointer the object already holds changes (no STIR code runs), then the
setter runs; the C++ setters do not compare the new pointer with the old one, so neither do these.

What is not modelled: the values of line integrals / cross sections (inputs of (i); the detection
efficiency and the solid-angle factor of the activity integral ARE transcribed, section (i-b)),
`set_output_proj_data*` (the harness always provides a matching output, through one of the three public ways),
the VALUES of the default (negative) zoom factors of `downsample_density_image_for_scatter_points` (the
state machine has the members the call stores — `autoZ`: which of `zoom_xy`, `zoom_z`, `zoom_size_xy`, `zoom_size_z` stop
being -1 — and the factors computed for an (attenuation image, template) pair as a class `World.autoClass`),
`downsample_images_to_scanner_size` (table row only; oracle-only in the
harness), the *positions* drawn by random placement of scatter points (the flag `randomly_place_scatter_points` is a
setting of the state machine and part of the stamp of the scatter points: points sampled with the flag off are not
the points a fresh object with the flag on would sample), the other parsed keywords (the parsing constructor is
compared with the setter route by an oracle in the harness), 32-bit overflow.
Setters by file name (`set_activity_image`, `set_density_image`, `set_density_image_for_scatter_points`:
ScatterSimulation.cxx:442,462,506) read the file and call the `_sptr` setter: they are the operations
`setActivity` / `setDensity` / `setSpImage`; `set_exam_info_sptr` (:764) has the body of `set_exam_info` (:757): both
are `setExam`; the parsed keyword `use cache` (:274) writes the member like `set_cache_enabled` (:993): both are
`setCacheEnabled`.

Core Lean only (no Mathlib): this file is linked into the `stirdriver` executable.
-/
namespace StirVerif.C16

/-! ## (i) The formula -/

/-- what `simulate_for_one_scatter_point` reads for one (scatter point, detector) -/
structure PD (K : Type) where
  /-- `cached_integral_over_activity_image_between_scattpoint_det(sp, det)` -/
  emis : K
  /-- `cached_exp_integral_over_attenuation_image_between_scattpoint_det(sp, det)` -/
  att : K
  /-- `pow(att, total_Compton_cross_section_relative_to_511keV(new_energy) - 1)` -/
  attPow : K
  /-- `norm_squared(scatter_point - detector_coord)` -/
  r2 : K
  /-- `cos_angle(scatter_point - detector_coord, det_to_ring_center)` -/
  cosInc : K
  deriving Repr

/-- what `simulate_for_one_scatter_point` reads for one (scatter point, detector pair); every one
    of these is computed in the C++ from an expression that does not distinguish A from B -/
structure PC (K : Type) where
  /-- `max_single_scatter_cos_angle` -/
  maxCos : K
  /-- `costheta = -cos_angle(detA - sp, detB - sp)` -/
  cosTheta : K
  /-- `detection_efficiency(new_energy)` -/
  effScatter : K
  /-- `dif_Compton_cross_section(costheta, 511)` -/
  dsigma : K
  /-- `scatt_points_vector[sp].mu_value` -/
  mu : K
  deriving Repr

/-- the same (scatter point, detector) with another activity integral (another activity image) -/
def PD.withEmis {K : Type} (a : PD K) (e : K) : PD K := { a with emis := e }

section Formula
variable {K : Type} [Add K] [Mul K] [Div K] [OfNat K 0] [OfNat K 1] [OfNat K 2] [OfNat K 3] [OfNat K 4]
  [LT K] [DecidableEq K] [DecidableLT K]

/-- the arithmetic at the end of `SingleScatterSimulation::simulate_for_one_scatter_point`
    (scatter_estimate_for_one_scatter_point.cxx:93-105), parenthesised as C++ parses it -/
def scatterRatioFormula (c : PC K) (a b : PD K) : K :=
  (a.emis * (1 / b.r2) * b.attPow + b.emis * (1 / a.r2) * a.attPow) * b.att * a.att * c.mu * c.effScatter
    * a.cosInc * b.cosInc * c.dsigma

/-- `SingleScatterSimulation::simulate_for_one_scatter_point`
    (scatter_estimate_for_one_scatter_point.cxx:39), including its three early `return 0`s -/
def simulateForOneScatterPoint (c : PC K) (a b : PD K) : K :=
  if c.cosTheta < c.maxCos then 0            -- `if (max_single_scatter_cos_angle > costheta) return 0;`
  else if c.effScatter = 0 then 0            -- `if (detection_efficiency_scatter == 0) return 0;`
  else if a.emis = 0 ∧ b.emis = 0 then 0     -- `if (emiss_to_detA == 0 && emiss_to_detB == 0) return 0;`
  else scatterRatioFormula c a b

/-- `ScatterSimulation::detection_efficiency_no_scatter(det_num_A, det_num_B)`
    (scatter_detection_modelling.cxx:155): `1. / (0.75 / 2. / _PI * rAB_squared / eff / (cosA * cosB))` -/
def detectionEfficiencyNoScatter (rAB2 eff511 cosA cosB pi : K) : K :=
  1 / ((3 : K) / 4 / 2 / pi * rAB2 / eff511 / (cosA * cosB))

/-- the sum over scatter points in `actual_scatter_estimate` (single_scatter_estimate.cxx:45) -/
def sumOverScatterPoints (pts : List (PC K × PD K × PD K)) : K :=
  pts.foldl (fun acc p => acc + simulateForOneScatterPoint p.1 p.2.1 p.2.2) 0

/-- `SingleScatterSimulation::actual_scatter_estimate` (single_scatter_estimate.cxx:39):
    `sum * (1 / detection_efficiency_no_scatter(A,B) * scatter_volume / total_Compton_cross_section_511keV)` -/
def actualScatterEstimate (pts : List (PC K × PD K × PD K)) (effNoScatterAB scatterVolume sigma511 : K) : K :=
  sumOverScatterPoints pts * (1 / effNoScatterAB * scatterVolume / sigma511)

/-- exchange of the two detectors -/
def swapPts (pts : List (PC K × PD K × PD K)) : List (PC K × PD K × PD K) :=
  pts.map fun p => (p.1, p.2.2, p.2.1)

/-- the list of per-scatter-point ingredients for one detector pair, with the activity integrals `eA i`, `eB i`
    of some activity image put in -/
def ptsOf {ι : Type} (l : List ι) (c : ι → PC K) (a b : ι → PD K) (eA eB : ι → K) : List (PC K × PD K × PD K) :=
  l.map fun i => (c i, (a i).withEmis (eA i), (b i).withEmis (eB i))

/-- the summation loop of `ScatterSimulation::integral_between_2_points` (single_scatter_integrals.cxx:91):
    `lor` is the sorted output of `RayTraceVoxelsOnCartesianGrid` (voxel, intersection length),
    `inImage` the index-range test, `image` the voxel values -/
def integralBetween2Points {V : Type} (image : V → K) (inImage : V → Bool) (lor : List (V × K)) : K :=
  lor.foldl (fun sum e => if inImage e.1 then sum + image e.1 * e.2 else sum) 0

/-- `integral_over_activity_image_between_scattpoint_det`: `solid_angle_factor * integral_between_2_points(activity)` -/
def integralOverActivity {V : Type} (solidAngleFactor : K) (image : V → K) (inImage : V → Bool) (lor : List (V × K)) : K :=
  solidAngleFactor * integralBetween2Points image inImage lor

end Formula

/-! ### (i-b) detection efficiency and the capped solid-angle factor

`detection_efficiency` is not only an input of the formula: it is transcribed, over any type with `+ - * /`, with
the two transcendental functions it calls (`erf`, `sqrt`) as parameters, so that its sign / bound are theorems for
EVERY energy window (also windows that do not contain 511 keV) under the hypotheses "erf is monotone / bounded by 1";
the driver instantiates the parameters with `erfFloat` / `Float.sqrt` (binary64). -/

section Detection
variable {K : Type} [Add K] [Sub K] [Mul K] [Div K] [OfNat K 0] [OfNat K 1] [OfNat K 2] [LT K] [DecidableLT K]

/-- `sigma_times_sqrt2` of `ScatterSimulation::detection_efficiency` (scatter_detection_modelling.cxx:124):
    `sqrt(2. * energy * reference_energy) * energy_resolution / 2.35482f` -/
def sigmaTimesSqrt2 (sqrt : K → K) (energy eRef res fwhmToSigma : K) : K :=
  sqrt (2 * energy * eRef) * res / fwhmToSigma

/-- `ScatterSimulation::detection_efficiency(energy)` (scatter_detection_modelling.cxx:104,130):
    `0.5f * (erf((high - energy) / sigma_times_sqrt2) - erf((low - energy) / sigma_times_sqrt2))` -/
def detectionEfficiency (erf : K → K) (sigma lo hi energy : K) : K :=
  1 / 2 * (erf ((hi - energy) / sigma) - erf ((lo - energy) / sigma))

/-- the value `detection_efficiency_no_scatter` stores in `detector_efficiency_no_scatter`
    (scatter_detection_modelling.cxx:163-168): `detection_efficiency(511) > 0 ? detection_efficiency(511) : 1` -/
def detEff511OrOne (eff511 : K) : K := if 0 < eff511 then eff511 else 1

/-- `std::min(static_cast<float>(_PI / 2), 1.F / dist_sp1_det_squared)` in
    `integral_over_activity_image_between_scattpoint_det` (single_scatter_integrals.cxx:56);
    `std::min(a, b)` is `(b < a) ? b : a` -/
def solidAngleFactor (halfPi r2 : K) : K := if 1 / r2 < halfPi then 1 / r2 else halfPi

/-- `ScatterSimulation::integral_over_activity_image_between_scattpoint_det` (single_scatter_integrals.cxx:48):
    the capped solid-angle factor — a function of the GEOMETRY only — times the line integral -/
def integralOverActivityScattDet {V : Type} (halfPi r2 : K) (image : V → K) (inImage : V → Bool) (lor : List (V × K)) : K :=
  integralOverActivity (solidAngleFactor halfPi r2) image inImage lor

/-- what the cap must NOT be applied to: `min(pi/2, integral / r²)` (the cap then limits a quantity proportional to the
    activity; used for the negative example in `Props.lean` only) -/
def integralOverActivityFoldedCap {V : Type} (halfPi r2 : K) (image : V → K) (inImage : V → Bool) (lor : List (V × K)) : K :=
  let q := integralBetween2Points image inImage lor / r2
  if q < halfPi then q else halfPi

end Detection

/-! binary64 instances of the two transcendental parameters -/

/-- `Σ_{n ≥ 0} 2ⁿ x^{2n+1} / (2n+1)!!` (all terms positive for `x ≥ 0`: no cancellation);
    `erf x = 2/√π · exp(-x²) · series x` -/
def erfSeriesAux (x2 : Float) : Nat → Float → Float → Float → Float
  | 0, _, _, sum => sum
  | fuel + 1, n, term, sum =>
    let term' := term * 2 * x2 / (2 * n + 3)
    let sum' := sum + term'
    if term' < 1e-19 * sum' then sum' else erfSeriesAux x2 fuel (n + 1) term' sum'

/-- continued fraction `x + (1/2)/(x + 1/(x + (3/2)/(x + …)))` evaluated from depth `k` upwards -/
def erfcContFracAux (x : Float) : Nat → Float → Float
  | 0, acc => acc
  | k + 1, acc => erfcContFracAux x k (x + (Float.ofNat (k + 1)) / 2 / acc)

def sqrtPiFloat : Float := Float.sqrt 3.14159265358979323846

/-- `erfc x` for `x ≥ 0`: `1 - erf` from the series below 1.5, the continued fraction above (relative accuracy
    ~1e-14 in the tail, so that `1 - erfc` has absolute accuracy ~1e-16 where STIR's `erf` returns `1 - z`) -/
def erfcFloatPos (x : Float) : Float :=
  if x < 1.5 then 1 - 2 / sqrtPiFloat * Float.exp (-(x * x)) * erfSeriesAux (x * x) 200 0 x x
  else if x > 27 then 0
  else Float.exp (-(x * x)) / (sqrtPiFloat * erfcContFracAux x 300 x)

/-- the error function in binary64 (the mathematical function, NOT a transcription of stir/numerics/erf.inl: the
    implementation's rational approximations are compared with it) -/
def erfFloat (x : Float) : Float :=
  let ax := x.abs
  let v := if ax < 1.5 then 2 / sqrtPiFloat * Float.exp (-(ax * ax)) * erfSeriesAux (ax * ax) 200 0 ax ax
           else 1 - erfcFloatPos ax
  if x < 0 then -v else v

/-- `(2/√π)·|t|·exp(-t²)`: the sensitivity of `erf t` to a RELATIVE perturbation of `t` (for the derived tolerance) -/
def erfSensitivity (t : Float) : Float := 2 / sqrtPiFloat * t.abs * Float.exp (-(t * t))

/-! ## (ii) The sentinel cache -/

section Cache
variable {K : Type} [DecidableEq K]

/-- `Array<2,float> cached_*_integral_scattpoint_det` as a function of (scatter point, detector) -/
abbrev CacheArr (K : Type) := Nat → Nat → K

def CacheArr.set (c : CacheArr K) (i j : Nat) (v : K) : CacheArr K :=
  fun i' j' => if i' = i ∧ j' = j then v else c i' j'

/-- `cached_integral_over_activity_image_between_scattpoint_det` /
    `cached_exp_integral_over_attenuation_image_between_scattpoint_det`
    (cached_single_scatter_integrals.cxx:73,124): returns the value and the cache afterwards.
    `direct i j` is the uncached integral. -/
def cachedLookup (useCache : Bool) (sentinel : K) (direct : Nat → Nat → K) (c : CacheArr K) (i j : Nat) :
    K × CacheArr K :=
  if useCache ∧ c i j ≠ sentinel then (c i j, c)
  else (direct i j, if useCache then c.set i j (direct i j) else c)

/-- any sequence of look-ups, threading the cache; returns the values read -/
def cachedLookups (useCache : Bool) (sentinel : K) (direct : Nat → Nat → K) :
    CacheArr K → List (Nat × Nat) → List K × CacheArr K
  | c, [] => ([], c)
  | c, (i, j) :: rest =>
    let (v, c') := cachedLookup useCache sentinel direct c i j
    let (vs, c'') := cachedLookups useCache sentinel direct c' rest
    (v :: vs, c'')

/-- `initialise_cache_for_scattpoint_det_integrals_over_*`: `fill(cache_init_value)` -/
def CacheArr.fresh (sentinel : K) : CacheArr K := fun _ _ => sentinel

end Cache

/-! ## (iii) The set-up / cache state machine -/

/-- a template `ProjDataInfo` as far as the simulation looks at it: which physical scanner
    (`base`: radius, length, energy resolution) and the integers that size the output and the caches -/
structure Tmpl where
  base : Nat
  dets : Nat
  rings : Nat
  ntang : Nat
  nseg : Nat
  deriving DecidableEq, Repr, Inhabited

/-- `total_detectors = num_rings * num_detectors_per_ring` (ScatterSimulation.cxx:740) -/
def Tmpl.totalDetectors (t : Tmpl) : Nat := t.rings * t.dets

/-- where `density_image_for_scatter_points_sptr` came from -/
inductive SpProv where
  /-- `set_density_image_for_scatter_points_sptr(image s)` -/
  | given (s : Nat)
  /-- `downsample_density_image_for_scatter_points` of attenuation image `att` with zoom parameter set `zoom` -/
  | down (att : Nat) (zoom : Nat)
  /-- `downsample_density_image_for_scatter_points` of attenuation image `att` with the factors `zoom_xy`, `zoom_z`,
      `zoom_size_z` of class `cls` that the function computed from the defaults (-1) and `zoom_size_xy = -1`: the x/y size is
      derived from the attenuation image at every call -/
  | auto (att : Nat) (cls : Nat)
  deriving DecidableEq, Repr

/-- what `scatt_points_vector` was sampled from (`sample_scatter_points`) -/
structure ScattProv where
  sp : SpProv
  thr : Nat
  /-- `randomly_place_scatter_points` when the points were sampled -/
  rnd : Bool
  deriving DecidableEq, Repr

/-- what an entry of `cached_activity_integral_scattpoint_det` was computed from -/
structure ActStamp where
  act : Nat
  scatt : ScattProv
  tmpl : Tmpl
  deriving DecidableEq, Repr

/-- what an entry of `cached_attenuation_integral_scattpoint_det` was computed from -/
structure AttStamp where
  att : Nat
  scatt : ScattProv
  tmpl : Tmpl
  deriving DecidableEq, Repr

/-- what `max_single_scatter_cos_angle` / `detector_efficiency_no_scatter` were computed from
    (energy window of the exam info, energy resolution of the template's scanner) -/
structure EnergyStamp where
  exam : Nat
  tmpl : Tmpl
  deriving DecidableEq, Repr

/-- a cache array: its index range and the stamps of its non-sentinel entries (no duplicates) -/
structure Cache (σ : Type) where
  rows : Nat
  cols : Nat
  stamps : List σ
  deriving DecidableEq, Repr

/-- the part of the configuration the model cannot compute: given by `cfg` lines of the protocol -/
structure World where
  /-- template pool -/
  tmpl : Nat → Tmpl
  /-- number of voxels of the scatter-point image at or above the threshold -/
  nsp : ScattProv → Nat
  /-- `round(total_axial_length / 20 + 0.5)` clamped to ≥ 2 in `downsample_scanner` -/
  defaultDsRings : Tmpl → Nat
  /-- is the physical scanner `base` a BlocksOnCylindrical one (`get_scanner_geometry() != "Cylindrical"`)? -/
  blocksBase : Nat → Bool
  /-- `check_z_to_middle_consistent` of the attenuation / scatter-point images against this activity image -/
  zOk : Nat → Bool
  /-- the factors `downsample_density_image_for_scatter_points(-1, -1, -1, -1)` computes for attenuation image `att` under
      template `t` (`zoom_xy = att voxel size / voxel size of the template's default image`, `zoom_z`, `zoom_size_z`), as a
      class: two (image, template) pairs are in the same class iff the three stored numbers coincide -/
  autoClass : Nat → Tmpl → Nat

/-- `Succeeded::yes` / `error()` thrown / memory-unsafe access / outside the model -/
inductive Res where
  | ok | err | crash | unmodelled
  deriving DecidableEq, Repr

structure St where
  /-- `activity_image_sptr` -/
  act : Option Nat
  /-- `density_image_sptr` -/
  att : Option Nat
  /-- `proj_data_info_sptr` -/
  tmpl : Option Tmpl
  /-- `template_exam_info_sptr` -/
  exam : Option Nat
  /-- `attenuation_threshold` -/
  thr : Nat
  /-- `use_cache` -/
  useCache : Bool
  /-- `randomly_place_scatter_points` -/
  rnd : Bool
  /-- `zoom_xy, zoom_z, zoom_size_xy, zoom_size_z` (`none`: the defaults, all -1) -/
  zoom : Option Nat
  /-- what `downsample_density_image_for_scatter_points` stored in `zoom_xy`, `zoom_z`, `zoom_size_z` when it was called
      with the defaults (`zoom = none`): the class of the factors it computed and the z size
      `(tmpl_density.get_z_size() + 1) / 2` = number of rings; `zoom_size_xy` stays -1 (ScatterSimulation.cxx:538-562).
      `none`: still the defaults. Only read while `zoom = none`. -/
  autoZ : Option (Nat × Nat)
  /-- `downsample_scanner_bool`, `downsample_scanner_rings`, `downsample_scanner_dets` -/
  dsBool : Bool
  dsRings : Int
  dsDets : Int
  /-- `density_image_for_scatter_points_sptr` -/
  spImage : Option SpProv
  /-- `scatt_points_vector`, `scatter_volume` (`none`: the empty vector of a new object) -/
  scatt : Option ScattProv
  /-- `detection_points_vector`: the templates under which its entries were registered -/
  detPts : List Tmpl
  /-- `cached_activity_integral_scattpoint_det` (`none`: recycled, no storage) -/
  actCache : Option (Cache ActStamp)
  /-- `cached_attenuation_integral_scattpoint_det` -/
  attCache : Option (Cache AttStamp)
  /-- `detector_efficiency_no_scatter` (`none`: ≤ 0, "recompute") -/
  effNoScatter : Option EnergyStamp
  /-- `max_single_scatter_cos_angle` (`none`: ≤ 0, "recompute") -/
  maxCos : Option EnergyStamp
  /-- `_already_set_up` -/
  alreadySetUp : Bool
  /-- ghost (not a C++ member): the template the *user* supplied last (`set_template_proj_data_info`
      or an explicit `downsample_scanner` call), i.e. what a fresh object would be given -/
  gTmpl : Option Tmpl
  /-- ghost: the scatter-point image the user supplied, if it is still in effect -/
  gSp : Option Nat
  deriving DecidableEq, Repr

/-- `ScatterSimulation::set_defaults()` (ScatterSimulation.cxx:218) on a new object.
    `detector_efficiency_no_scatter` and `max_single_scatter_cos_angle` have no initialiser; they are
    assigned (-1) by `set_template_proj_data_info` / `set_up` before any use. Threshold 0 = 0.01; random placement on. -/
def init : St :=
  { act := none, att := none, tmpl := none, exam := none, thr := 0, useCache := true, rnd := true, zoom := none,
    autoZ := none, dsBool := false, dsRings := -1, dsDets := -1, spImage := none, scatt := none, detPts := [],
    actCache := none, attCache := none, effNoScatter := none, maxCos := none, alreadySetUp := false,
    gTmpl := none, gSp := none }

/-- `set_template_proj_data_info(const ProjDataInfo&)` (ScatterSimulation.cxx:725) without the ghost update -/
def setTemplateVal (t : Tmpl) (s : St) : St :=
  { s with alreadySetUp := false, tmpl := some t, detPts := [], effNoScatter := none,
           attCache := none, actCache := none }

/-- `set_template_proj_data_info` called by the user -/
def setTemplate (t : Tmpl) (s : St) : St :=
  { setTemplateVal t s with gTmpl := some t }

/-- `set_activity_image_sptr` (ScatterSimulation.cxx:431); `none` = null pointer ⇒ `error()` -/
def setActivity (k : Option Nat) (s : St) : St × Res :=
  match k with
  | none => (s, .err)
  | some a => ({ s with act := some a, actCache := none, alreadySetUp := false }, .ok)

/-- the owner of the activity image overwrites its voxel values in place. No STIR code runs: the object sees the
    new values through its `shared_ptr<const DiscretisedDensity<3,float>>` (nothing happens if it holds no image) -/
def mutateActivity (a : Nat) (s : St) : St := { s with act := s.act.map fun _ => a }

/-- in-place change of the activity image, then `set_activity_image_sptr(the same pointer)`
    (`ScatterEstimation::process_data` does this in every iteration). The setter (ScatterSimulation.cxx:431) assigns the
    pointer and removes the activity cache whether or not the pointer is the one it already holds. -/
def setActivityInPlace (a : Nat) (s : St) : St × Res := setActivity (some a) (mutateActivity a s)

/-- `set_density_image_sptr` (ScatterSimulation.cxx:450) -/
def setDensity (k : Option Nat) (s : St) : St × Res :=
  match k with
  | none => (s, .err)
  | some m => ({ s with att := some m, spImage := none, attCache := none, alreadySetUp := false, gSp := none }, .ok)

/-- the owner of the attenuation image overwrites its voxel values in place (no STIR code runs; a scatter-point image
    derived earlier is a separate object and keeps the old values) -/
def mutateDensity (m : Nat) (s : St) : St := { s with att := s.att.map fun _ => m }

/-- in-place change of the attenuation image, then `set_density_image_sptr(the same pointer)` -/
def setDensityInPlace (m : Nat) (s : St) : St × Res := setDensity (some m) (mutateDensity m s)

/-- `sample_scatter_points` (sample_scatter_points.cxx:42); with a null image the C++ dereferences null -/
def sampleScatterPoints (s : St) : St × Res :=
  match s.spImage with
  | none => (s, .crash)
  | some p => ({ s with scatt := some ⟨p, s.thr, s.rnd⟩, actCache := none, attCache := none }, .ok)

/-- `set_density_image_for_scatter_points_sptr` (ScatterSimulation.cxx:470) -/
def setSpImage (k : Option Nat) (s : St) : St × Res :=
  match k with
  | none => (s, .err)
  | some i =>
    let (s1, r) := sampleScatterPoints { s with spImage := some (.given i), gSp := some i }
    ({ s1 with attCache := none, alreadySetUp := false }, r)

/-- in-place change of a scatter-point image, then `set_density_image_for_scatter_points_sptr(the same pointer)`.
    The object holds a COPY of the image it was given (`new VoxelsOnCartesianGrid<float>(*arg)`, ScatterSimulation.cxx:474),
    so the in-place change itself is invisible to it; the setter copies and samples again. -/
def setSpImageInPlace (i : Nat) (s : St) : St × Res := setSpImage (some i) s

/-- `set_exam_info` / `set_exam_info_sptr` (ScatterSimulation.cxx:757,764) -/
def setExam (e : Nat) (s : St) : St :=
  { s with alreadySetUp := false, exam := some e }

/-- `set_template_proj_data_info(const std::string&)` (ScatterSimulation.cxx:714): reads the projection data,
    `set_exam_info(its exam info)`, then `set_template_proj_data_info(its ProjDataInfo)` -/
def setTemplateFile (e : Nat) (t : Tmpl) (s : St) : St :=
  setTemplate t (setExam e s)

/-- `set_image_downsample_factors` (ScatterSimulation.cxx:515) with non-negative zooms -/
def setZoom (z : Nat) (s : St) : St :=
  { s with zoom := some z, autoZ := none, alreadySetUp := false }

/-- `set_attenuation_threshold` (ScatterSimulation.cxx:976) -/
def setThr (t : Nat) (s : St) : St :=
  { s with thr := t, alreadySetUp := false }

/-- `set_randomly_place_scatter_points` (ScatterSimulation.cxx:986): the flag and `_already_set_up`; the scatter
    points are not sampled again -/
def setRndPlace (b : Bool) (s : St) : St :=
  { s with rnd := b, alreadySetUp := false }

/-- `set_cache_enabled` (ScatterSimulation.cxx:993), and the parsed keyword `use cache` (:274, the parser writes
    `use_cache` directly): the flag only — the cache arrays are neither removed nor allocated and
    `_already_set_up` is left alone. (What keeps this harmless: every setter removes "its" cache whether or not the
    cache is enabled — `remove_cache_for_integrals_over_*`, cached_single_scatter_integrals.cxx:33,39, have no
    `use_cache` test — so arrays that survive a period with the cache disabled only hold current values.) -/
def setCacheEnabled (b : Bool) (s : St) : St :=
  { s with useCache := b }

/-- `set_use_cache` (ScatterSimulation.cxx:71) -/
def setUseCache (b : Bool) (s : St) : St :=
  if b = s.useCache then s else { s with actCache := none, attCache := none, useCache := b }

/-- `set_downsample_scanner_bool` (ScatterSimulation.cxx:777) -/
def setDsBool (b : Bool) (s : St) : St :=
  if b ≠ s.dsBool then { s with alreadySetUp := false, dsBool := b } else s

/-- `set_num_downsample_scanner_rings` (ScatterSimulation.cxx:793) -/
def setDsRings (n : Int) (s : St) : St :=
  if n ≠ s.dsRings then { s with alreadySetUp := false, dsRings := n } else s

/-- `set_num_downsample_scanner_dets` (ScatterSimulation.cxx:809) -/
def setDsDets (n : Int) (s : St) : St :=
  if n ≠ s.dsDets then { s with alreadySetUp := false, dsDets := n } else s

/-- `ceil(num_tangential_poss * float(new_num_dets) / old_num_dets) + 1` (ScatterSimulation.cxx:900) -/
def approxNonArcCorrBins (ntang newDets oldDets : Nat) : Nat :=
  (ntang * newDets + oldDets - 1) / oldDets + 1

/-- the template that `downsample_scanner` builds (ScatterSimulation.cxx:853-856 / 899-902 and 911-926, the same in the
    cylindrical and the BlocksOnCylindrical branch):
    `ProjDataInfoCTI(new_scanner, span 1, delta_ring, new_num_dets/2 views, max_num_non_arccorrected_bins)` -/
def downsampledTmpl (t : Tmpl) (newRings newDets : Nat) : Tmpl :=
  let deltaRing := if t.nseg = 1 then 0 else newRings - 1
  { base := t.base, dets := newDets, rings := newRings,
    ntang := approxNonArcCorrBins t.ntang newDets t.dets, nseg := 2 * deltaRing + 1 }

/-- `new_num_rings` as `downsample_scanner` uses it (ScatterSimulation.cxx:821-835): the argument if positive, else the
    member `downsample_scanner_rings` if > 1, else derived from the axial length -/
def dsRingsUsed (W : World) (s : St) (t : Tmpl) (newRings : Int) : Nat :=
  if newRings ≤ 0 then (if s.dsRings > 1 then s.dsRings.toNat else W.defaultDsRings t) else newRings.toNat

/-- `new_num_dets` as `downsample_scanner` uses it: the argument if positive; else on a cylindrical scanner the member
    `downsample_scanner_dets` if > 0, else 64 (ScatterSimulation.cxx:892-898); on a BlocksOnCylindrical scanner the number
    of detectors per ring of the current scanner — the member is not consulted there (ScatterSimulation.cxx:844-847) -/
def dsDetsUsed (W : World) (s : St) (t : Tmpl) (newDets : Int) : Nat :=
  if newDets ≤ 0 then
    (if W.blocksBase t.base then t.dets else if s.dsDets > 0 then s.dsDets.toNat else 64)
  else newDets.toNat

/-- `downsample_scanner(new_num_rings, new_num_dets)` (ScatterSimulation.cxx:819), cylindrical and BlocksOnCylindrical
    scanners (both branches compute the number of tangential positions and the ring difference in the same way and end in
    `ProjDataInfoCTI` + `set_template_proj_data_info`; the blocks branch also re-spaces the crystals, which the sizes do
    not see) -/
def downsampleScannerCore (W : World) (newRings newDets : Int) (s : St) : St × Res :=
  match s.tmpl with
  | none => if newRings ≤ 0 ∧ ¬ (s.dsRings > 1) then (s, .err) else (s, .crash)
  | some t => (setTemplateVal (downsampledTmpl t (dsRingsUsed W s t newRings) (dsDetsUsed W s t newDets)) s, .ok)

/-- `downsample_scanner` called by the user: the new template is what the user wants from now on -/
def downsampleScanner (W : World) (newRings newDets : Int) (s : St) : St × Res :=
  let (s1, r) := downsampleScannerCore W newRings newDets s
  (if r = .ok then { s1 with gTmpl := s1.tmpl } else s1, r)

/-- `downsample_density_image_for_scatter_points(zoom_xy, zoom_z, zoom_size_xy, zoom_size_z)` with the
    members as arguments, as `set_up` calls it (ScatterSimulation.cxx:527).
    With a zoom parameter set (factors ≥ 0): `set_image_downsample_factors(...)` stores the same set again (the generated
    sets with sizes -1 are such that the "adjusted" `zoom_z` written back at :577 is the value given).
    With the defaults: the factors are computed from the attenuation image and the template's default
    image (:538-558; `*proj_data_info_sptr` is dereferenced) and STORED by `set_image_downsample_factors(_zoom_xy, zoom_z,
    _size_xy, _size_z)` (:562) — `zoom_xy`, `zoom_z`, `zoom_size_z` are no longer -1 afterwards, `zoom_size_xy` still is, so
    that the next call (:564-566) takes the stored factors, the stored z size, and derives the x/y size from the image it is
    given then. -/
def downsampleSp (W : World) (s : St) : St × Res :=
  match s.att with
  | none => (s, .err)
  | some m =>
    match s.zoom with
    | some z =>
      -- `set_image_downsample_factors(...)` stores the same parameter set again, `_already_set_up = false`
      let (s1, r) := sampleScatterPoints { s with spImage := some (.down m z), alreadySetUp := false, gSp := none }
      ({ s1 with attCache := none, alreadySetUp := false }, r)
    | none =>
      match s.autoZ with
      | some (c, _) =>
        -- the stored factors are ≥ 0: no template needed, the same three numbers are stored again
        let (s1, r) := sampleScatterPoints { s with spImage := some (.auto m c), alreadySetUp := false, gSp := none }
        ({ s1 with attCache := none, alreadySetUp := false }, r)
      | none =>
        match s.tmpl with
        | none => (s, .crash)
        | some t =>
          let c := W.autoClass m t
          let (s1, r) := sampleScatterPoints
            { s with spImage := some (.auto m c), autoZ := some (c, t.rings), alreadySetUp := false, gSp := none }
          ({ s1 with attCache := none, alreadySetUp := false }, r)

/-- the members `zoom_size_xy`, `zoom_size_z` and "is `zoom_xy` still the default (-1)?" — `zoomSizes z` are the sizes of
    zoom parameter set `z` -/
def zoomMembers (zoomSizes : Nat → Int × Int) (s : St) : Int × Int × Bool :=
  match s.zoom with
  | some z => ((zoomSizes z).1, (zoomSizes z).2, false)
  | none =>
    match s.autoZ with
    | some (_, sz) => (-1, sz, false)
    | none => (-1, -1, true)

/-- number of scatter points (`scatt_points_vector.size()`, `get_num_scatter_points()`) -/
def nspOf (W : World) (s : St) : Nat :=
  match s.scatt with
  | none => 0
  | some p => W.nsp p

/-- `initialise_cache_for_scattpoint_det_integrals_over_*` (cached_single_scatter_integrals.cxx:42,58):
    "keep cache if correct size", otherwise resize and fill with the sentinel -/
def initialiseCache {σ : Type} (useCache : Bool) (rows cols : Nat) (c : Option (Cache σ)) : Option (Cache σ) :=
  if !useCache then c
  else match c with
    | some c => if c.rows = rows ∧ c.cols = cols then some c else some ⟨rows, cols, []⟩
    | none => some ⟨rows, cols, []⟩

/-- the end of `ScatterSimulation::set_up` (ScatterSimulation.cxx:400-403): both caches initialised,
    `_already_set_up = true` -/
def finishSetUp (W : World) (s : St) (t : Tmpl) : St :=
  { s with attCache := initialiseCache s.useCache (nspOf W s) t.totalDetectors s.attCache,
           actCache := initialiseCache s.useCache (nspOf W s) t.totalDetectors s.actCache,
           alreadySetUp := true }

/-- `SingleScatterSimulation::set_up` + `ScatterSimulation::set_up` (SingleScatterSimulation.cxx:70,
    ScatterSimulation.cxx:300). The state is returned also when `error()` is thrown half-way. -/
def setUp (W : World) (s0 : St) : St × Res :=
  let s := { s0 with maxCos := none }
  match s.tmpl, s.exam, s.act, s.att with
  | some _, some _, some a, some _ =>
    let (s, r) := if s.dsBool then (if s.alreadySetUp then (s, Res.err) else downsampleScannerCore W (-1) (-1) s)
                  else (s, Res.ok)
    if r ≠ .ok then (s, r) else
    let (s, r) := if s.spImage.isNone then (if s.alreadySetUp then (s, Res.err) else downsampleSp W s)
                  else (s, Res.ok)
    if r ≠ .ok then (s, r) else
    if !W.zOk a then (s, .err) else
    match s.tmpl with
    | none => (s, .crash)
    | some t => (finishSetUp W s t, .ok)
  | _, _, _, _ => (s, .err)

/-- where every quantity that enters the output of `process_data` came from -/
structure Out where
  /-- the bins of the output (`proj_data_info_sptr`) -/
  tmpl : Tmpl
  /-- `detection_points_vector` -/
  detPts : List Tmpl
  /-- `scatt_points_vector` -/
  scatt : Option ScattProv
  /-- activity integrals that are read: cached entries and entries computed now -/
  emis : List ActStamp
  /-- attenuation integrals that are read -/
  atten : List AttStamp
  /-- `max_single_scatter_cos_angle` (not read if there are no scatter points) -/
  maxCos : Option EnergyStamp
  /-- `detector_efficiency_no_scatter` -/
  eff : EnergyStamp
  deriving DecidableEq, Repr

def insertNew {σ : Type} [DecidableEq σ] (x : σ) (l : List σ) : List σ := if x ∈ l then l else l ++ [x]

/-- is the array indexable by `[0,rows) × [0,cols)`? -/
def cacheUsable {σ : Type} (rows cols : Nat) (c : Option (Cache σ)) : Bool :=
  match c with
  | some c => c.rows == rows && c.cols == cols
  | none => false

/-- `ScatterSimulation::process_data` (ScatterSimulation.cxx:82) for an output that matches the template:
    every bin → `scatter_estimate` → `actual_scatter_estimate` → `simulate_for_one_scatter_point` →
    cached integrals. -/
def process (W : World) (s : St) : St × Res × Option Out :=
  if !s.alreadySetUp then (s, .err, none) else
  match s.tmpl, s.exam, s.act, s.att with
  | some t, some e, some a, some m =>
    let n := nspOf W s
    let cur : EnergyStamp := ⟨e, t⟩
    let eff := s.effNoScatter.getD cur
    let detPts := insertNew t s.detPts
    match s.scatt with
    | none =>
      -- no scatter points: no integral is read, `max_single_scatter_cos_angle` is not touched
      let s' := { s with effNoScatter := some eff, detPts := detPts }
      (s', .ok, some { tmpl := t, detPts := detPts, scatt := none, emis := [], atten := [], maxCos := none, eff := eff })
    | some sc =>
      if n = 0 then
        let s' := { s with effNoScatter := some eff, detPts := detPts }
        (s', .ok, some { tmpl := t, detPts := detPts, scatt := some sc, emis := [], atten := [], maxCos := none, eff := eff })
      else
      let maxCos := s.maxCos.getD cur
      let curAct : ActStamp := ⟨a, sc, t⟩
      let curAtt : AttStamp := ⟨m, sc, t⟩
      if s.useCache then
        if !(cacheUsable n t.totalDetectors s.actCache && cacheUsable n t.totalDetectors s.attCache) then
          (s, .crash, none)
        else
          let actC := s.actCache.map fun c => { c with stamps := insertNew curAct c.stamps }
          let attC := s.attCache.map fun c => { c with stamps := insertNew curAtt c.stamps }
          let s' := { s with effNoScatter := some eff, maxCos := some maxCos, detPts := detPts, actCache := actC, attCache := attC }
          (s', .ok, some { tmpl := t, detPts := detPts, scatt := some sc,
                           emis := (actC.map (·.stamps)).getD [], atten := (attC.map (·.stamps)).getD [],
                           maxCos := some maxCos, eff := eff })
      else
        let s' := { s with effNoScatter := some eff, maxCos := some maxCos, detPts := detPts }
        (s', .ok, some { tmpl := t, detPts := detPts, scatt := some sc, emis := [curAct], atten := [curAtt],
                         maxCos := some maxCos, eff := eff })
  | _, _, _, _ => (s, .crash, none)

/-! ### operations and histories -/

inductive Op where
  | setTemplate (t : Tmpl)
  | setActivity (k : Option Nat)
  | setDensity (k : Option Nat)
  | setSpImage (k : Option Nat)
  | setActivityInPlace (a : Nat)
  | setDensityInPlace (m : Nat)
  | setSpImageInPlace (i : Nat)
  | setExam (e : Nat)
  | setZoom (z : Nat)
  | setThr (t : Nat)
  | setCacheEnabled (b : Bool)
  | setUseCache (b : Bool)
  | setRndPlace (b : Bool)
  | setTemplateFile (e : Nat) (t : Tmpl)
  | setDsBool (b : Bool)
  | setDsRings (n : Int)
  | setDsDets (n : Int)
  | downsampleScanner (r d : Int)
  | downsampleSp
  | setUp
  | process
  deriving DecidableEq, Repr

def step (W : World) (s : St) : Op → St × Res × Option Out
  | .setTemplate t => (setTemplate t s, .ok, none)
  | .setActivity k => let (s', r) := setActivity k s; (s', r, none)
  | .setDensity k => let (s', r) := setDensity k s; (s', r, none)
  | .setSpImage k => let (s', r) := setSpImage k s; (s', r, none)
  | .setActivityInPlace a => let (s', r) := setActivityInPlace a s; (s', r, none)
  | .setDensityInPlace m => let (s', r) := setDensityInPlace m s; (s', r, none)
  | .setSpImageInPlace i => let (s', r) := setSpImageInPlace i s; (s', r, none)
  | .setExam e => (setExam e s, .ok, none)
  | .setZoom z => (setZoom z s, .ok, none)
  | .setThr t => (setThr t s, .ok, none)
  | .setCacheEnabled b => (setCacheEnabled b s, .ok, none)
  | .setUseCache b => (setUseCache b s, .ok, none)
  | .setRndPlace b => (setRndPlace b s, .ok, none)
  | .setTemplateFile e t => (setTemplateFile e t s, .ok, none)
  | .setDsBool b => (setDsBool b s, .ok, none)
  | .setDsRings n => (setDsRings n s, .ok, none)
  | .setDsDets n => (setDsDets n s, .ok, none)
  | .downsampleScanner r d => let (s', r) := downsampleScanner W r d s; (s', r, none)
  | .downsampleSp => let (s', r) := downsampleSp W s; (s', r, none)
  | .setUp => let (s', r) := setUp W s; (s', r, none)
  | .process => process W s

/-- run a history from a state; a `crash` ends the object's life (`none`) -/
def run (W : World) : St → List Op → Option St
  | s, [] => some s
  | s, op :: rest =>
    match step W s op with
    | (_, .crash, _) => none
    | (s', _, _) => run W s' rest

/-- the stored automatic zoom factors, if any, are those that would be computed for template `t` -/
def autoTmplOk (W : World) (s : St) (t : Tmpl) : Bool :=
  s.zoom.isSome || match s.autoZ, s.att with
    | some (c, _), some m => c == W.autoClass m t
    | _, _ => true

def autoAttOk (W : World) (s : St) (k : Option Nat) : Bool :=
  s.zoom.isSome || match s.autoZ, k, s.tmpl with
    | some (c, _), some m, some t => c == W.autoClass m t
    | _, _, _ => true

/-- hypotheses of the partial history theorem, operation by operation: each clause excludes exactly
    one way in which the unchanged code is known to depart from "equals a freshly configured simulation"
    (see `Props.lean` for the negative witnesses; the clauses of `downsampleScanner`, of `setDensity` / `setDensityInPlace` and of
    `setZoom` on an automatically derived image have none) -/
def opOk (W : World) (s : St) : Op → Bool
  -- the automatic zoom factors are frozen by the first call: a template / attenuation image for which other factors
  -- would be computed gets the old ones (the template classes are the KNOWN findings
  -- `automatic-zoom-…`, an attenuation image of another x/y size and the same voxel size and planes is admitted)
  | .setTemplate t => autoTmplOk W s t
  | .setTemplateFile _ t => autoTmplOk W s t
  | .downsampleScanner _ _ => s.zoom.isSome || s.autoZ.isNone
  | .setDensity k => autoAttOk W s k
  | .setDensityInPlace m => autoAttOk W s (some m)
  -- `set_exam_info` does not reset `detector_efficiency_no_scatter`
  | .setExam e => s.effNoScatter.isNone || s.exam == some e
  -- `set_attenuation_threshold` does not resample the scatter points of an existing scatter-point image
  | .setThr t => s.spImage.isNone || s.thr == t
  -- `set_image_downsample_factors` does not rebuild an existing down-sampled scatter-point image
  | .setZoom z => match s.spImage with
    | some (.down _ _) => s.zoom == some z
    | some (.auto _ _) => false
    | _ => true
  -- enabling the cache after `set_up` ran without it: nothing allocates the arrays
  | .setCacheEnabled b => !(b && !s.useCache && s.alreadySetUp)
  | .setUseCache b => !(b && !s.useCache && s.alreadySetUp)
  -- `set_randomly_place_scatter_points` does not resample the scatter points of an existing scatter-point image
  | .setRndPlace b => s.spImage.isNone || s.rnd == b
  -- `downsample_scanner_bool`: every `set_up` down-samples the template again
  | .setDsBool b => !b
  | _ => true

/-- run a history, requiring `opOk` at every step; `none` if a guard is violated or the object crashed -/
def runGuarded (W : World) : St → List Op → Option St
  | s, [] => some s
  | s, op :: rest =>
    if !opOk W s op then none else
    match step W s op with
    | (_, .crash, _) => none
    | (s', _, _) => runGuarded W s' rest

/-- `set_cache_enabled(true)` / `set_use_cache(true)` (or the parsed keyword) -/
def isEnable : Op → Bool
  | .setCacheEnabled true => true
  | .setUseCache true => true
  | _ => false

def nextIsSetUp : List Op → Bool
  | .setUp :: _ => true
  | _ => false

/-- like `runGuarded`, with a weaker guard for enabling the cache: on an object that is set up it is admitted when the
    very next operation is `set_up` (which then allocates the arrays). This is the history
    "compute with the cache on; `set_cache_enabled(false)`; change an image; `set_up`; compute;
     `set_cache_enabled(true)`; `set_up`; compute". -/
def runGuarded2 (W : World) : St → List Op → Option St
  | s, [] => some s
  | s, op :: rest =>
    if !(opOk W s op || (isEnable op && nextIsSetUp rest)) then none else
    match step W s op with
    | (_, .crash, _) => none
    | (s', _, _) => runGuarded2 W s' rest

/-! ### the freshly configured simulation -/

/-- configure a new object with the current settings of `c`, in the order a careful user would
    (sampling parameters first, then template, exam info, images): what "freshly configured" means -/
def configure (c : St) : St :=
  let s := init
  let s := setRndPlace c.rnd s
  let s := setThr c.thr s
  let s := setUseCache c.useCache s
  let s := match c.gTmpl with | some t => setTemplate t s | none => s
  let s := match c.exam with | some e => setExam e s | none => s
  let s := match c.act with | some a => (setActivity (some a) s).1 | none => s
  let s := match c.att with | some m => (setDensity (some m) s).1 | none => s
  let s := match c.zoom with | some z => setZoom z s | none => s
  let s := match c.gSp with | some i => (setSpImage (some i) s).1 | none => s
  let s := setDsDets c.dsDets (setDsRings c.dsRings (setDsBool c.dsBool s))
  s

/-- `configure; set_up; process_data` on a new object -/
def freshOut (W : World) (c : St) : Res × Option Out :=
  let (s1, r) := setUp W (configure c)
  if r ≠ .ok then (r, none) else
  let (_, r2, o) := process W s1
  (r2, o)

/-! ### the setter table (extracted by reading ScatterSimulation.cxx) -/

/-- what the user can set -/
inductive Comp where
  | act | att | spGiven | tmpl | exam | thr | rndPlace | zoom | useCache | dsFlag | dsRings | dsDets
  deriving DecidableEq, Repr

/-- what the object derives and keeps -/
inductive Datum where
  | spImage | scatt | detPts | actCache | attCache | effNoScatter | maxCos
  deriving DecidableEq, Repr

/-- the settings a derived datum is computed from (for the caches: also `use_cache`, which decides whether
    `set_up` allocates them) -/
def deps : Datum → List Comp
  | .spImage => [.spGiven, .att, .zoom]
  | .scatt => [.spGiven, .att, .zoom, .thr, .rndPlace]
  | .detPts => [.tmpl]
  | .actCache => [.act, .tmpl, .useCache, .spGiven, .att, .zoom, .thr, .rndPlace]
  | .attCache => [.att, .tmpl, .useCache, .spGiven, .zoom, .thr, .rndPlace]
  | .effNoScatter => [.exam, .tmpl]
  | .maxCos => [.exam, .tmpl]

structure SetterRow where
  name : String
  /-- settings the setter assigns -/
  modifies : List Comp
  /-- derived data the setter body resets (`reset()`, `recycle()`, `clear()`, `= -1`),
      directly or through `sample_scatter_points` / `set_template_proj_data_info` -/
  clears : List Datum
  /-- derived data the setter body recomputes from the current settings -/
  recomputes : List Datum
  /-- assigns `_already_set_up = false` -/
  resetsSetUp : Bool
  deriving DecidableEq, Repr

/-- `SingleScatterSimulation::set_up` resets `max_single_scatter_cos_angle` unconditionally -/
def resetBySetUp : List Datum := [.maxCos]

/-- `ScatterSimulation::set_up`: if `density_image_for_scatter_points_sptr` is null it is rebuilt, the scatter
    points are resampled and both caches are removed — so clearing the guard invalidates these (deferred) -/
def guardedBy : Datum → List Datum
  | .scatt => [.spImage]
  | .actCache => [.spImage]
  | .attCache => [.spImage]
  | _ => []

/-- derived data that only `set_up` (re)builds: whoever clears one of them must force a `set_up` -/
def builtBySetUp : List Datum := [.spImage, .actCache, .attCache]

def setterTable : List SetterRow :=
  [ -- ScatterSimulation.cxx:725
    { name := "set_template_proj_data_info", modifies := [.tmpl],
      clears := [.detPts, .effNoScatter, .attCache, .actCache], recomputes := [], resetsSetUp := true },
    -- :714 (by file name: set_exam_info, then the setter above)
    { name := "set_template_proj_data_info(filename)", modifies := [.tmpl, .exam],
      clears := [.detPts, .effNoScatter, .attCache, .actCache], recomputes := [], resetsSetUp := true },
    -- :431 (and :442 set_activity_image(filename): reads the file, then this setter)
    { name := "set_activity_image_sptr", modifies := [.act], clears := [.actCache], recomputes := [], resetsSetUp := true },
    -- :450 (also forgets a user-supplied scatter-point image; :462 set_density_image(filename) ends here)
    { name := "set_density_image_sptr", modifies := [.att, .spGiven], clears := [.spImage, .attCache], recomputes := [],
      resetsSetUp := true },
    -- :470 (sample_scatter_points removes both caches; :506 set_density_image_for_scatter_points(filename) ends here)
    { name := "set_density_image_for_scatter_points_sptr", modifies := [.spGiven], clears := [.actCache, .attCache],
      recomputes := [.spImage, .scatt], resetsSetUp := true },
    -- :757 set_exam_info, :764 set_exam_info_sptr (same body)
    { name := "set_exam_info", modifies := [.exam], clears := [], recomputes := [], resetsSetUp := true },
    -- :515
    { name := "set_image_downsample_factors", modifies := [.zoom], clears := [], recomputes := [], resetsSetUp := true },
    -- :976
    { name := "set_attenuation_threshold", modifies := [.thr], clears := [], recomputes := [], resetsSetUp := true },
    -- :986
    { name := "set_randomly_place_scatter_points", modifies := [.rndPlace], clears := [], recomputes := [], resetsSetUp := true },
    -- :993
    { name := "set_cache_enabled", modifies := [.useCache], clears := [], recomputes := [], resetsSetUp := false },
    -- :274 (initialise_keymap: the parser writes the member)
    { name := "parsed keyword `use cache`", modifies := [.useCache], clears := [], recomputes := [], resetsSetUp := false },
    -- :71
    { name := "set_use_cache", modifies := [.useCache], clears := [.actCache, .attCache], recomputes := [], resetsSetUp := false },
    -- :777, :793, :809
    { name := "set_downsample_scanner_bool", modifies := [.dsFlag], clears := [], recomputes := [], resetsSetUp := true },
    { name := "set_num_downsample_scanner_rings", modifies := [.dsRings], clears := [], recomputes := [], resetsSetUp := true },
    { name := "set_num_downsample_scanner_dets", modifies := [.dsDets], clears := [], recomputes := [], resetsSetUp := true },
    -- :819 (ends in set_template_proj_data_info)
    { name := "downsample_scanner", modifies := [.tmpl], clears := [.detPts, .effNoScatter, .attCache, .actCache],
      recomputes := [], resetsSetUp := true },
    -- :527
    { name := "downsample_density_image_for_scatter_points", modifies := [.spGiven, .zoom], clears := [.actCache, .attCache],
      recomputes := [.spImage, .scatt], resetsSetUp := true },
    -- :936 (assigns the images directly, not through the setters)
    { name := "downsample_images_to_scanner_size", modifies := [.act, .att], clears := [.actCache, .attCache],
      recomputes := [], resetsSetUp := true } ]

def intersects (a b : List Comp) : Bool := a.any fun x => b.contains x

/-- is the stale datum `d` dealt with when setter `f` changes something it depends on? -/
def covered (f : SetterRow) (d : Datum) : Bool :=
  f.clears.contains d || f.recomputes.contains d
    || (f.resetsSetUp && resetBySetUp.contains d)
    || (f.resetsSetUp && (guardedBy d).any fun g => f.clears.contains g)

/-- `modifies f ∩ deps d ≠ ∅ → d` is invalidated (now, or by the `set_up` that `f` forces) -/
def invalidationOK (f : SetterRow) (d : Datum) : Bool :=
  !intersects f.modifies (deps d) || covered f d

/-- whoever clears something only `set_up` rebuilds forces a `set_up` -/
def setUpForcedOK (f : SetterRow) : Bool :=
  !(f.clears.any fun d => builtBySetUp.contains d) || f.resetsSetUp

def allData : List Datum := [.spImage, .scatt, .detPts, .actCache, .attCache, .effNoScatter, .maxCos]

/-- the (setter, datum) pairs for which invalidation is missing -/
def invalidationFailures (tab : List SetterRow) : List (String × Datum) :=
  (tab.map fun f => (allData.filter fun d => !invalidationOK f d).map fun d => (f.name, d)).flatten

def setUpForcedFailures (tab : List SetterRow) : List String :=
  (tab.filter fun f => !setUpForcedOK f).map (·.name)

/-- with the DEFAULT (-1) zoom factors the scatter-point image (and the scatter points sampled from it) also
    depends on the TEMPLATE: `downsample_density_image_for_scatter_points` computes `zoom_xy`, `zoom_z` and `zoom_size_z` from the
    voxel size and the number of planes of the template's default image (ScatterSimulation.cxx:540-554) -/
def depsAuto : Datum → List Comp
  | .spImage => .tmpl :: deps .spImage
  | .scatt => .tmpl :: deps .scatt
  | d => deps d

def invalidationOKAuto (f : SetterRow) (d : Datum) : Bool :=
  !intersects f.modifies (depsAuto d) || covered f d

/-- the (setter, datum) pairs for which invalidation is missing only when the zoom factors are the defaults -/
def invalidationFailuresAutoOnly (tab : List SetterRow) : List (String × Datum) :=
  (tab.map fun f => (allData.filter fun d => invalidationOK f d && !invalidationOKAuto f d).map fun d => (f.name, d)).flatten

end StirVerif.C16
