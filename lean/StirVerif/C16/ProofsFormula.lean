import StirVerif.C16.Model
import StirVerif.Common.ArrayFold
import Mathlib.Algebra.Order.Field.Basic
import Mathlib.Tactic.Ring
import Mathlib.Tactic.Positivity
/-! C16 — the formula part of the model over any linearly ordered field: symmetry, linearity in the activity integrals and
in the image, sign. -/
namespace StirVerif.C16

-- the order instances of the file-wide `variable` line are unused by the lemmas that are pure algebra (exchange, linearity)
set_option linter.unusedSectionVars false

variable {K : Type} [Field K] [LinearOrder K] [IsStrictOrderedRing K]

theorem scatterRatioFormula_symm (c : PC K) (a b : PD K) :
    scatterRatioFormula c a b = scatterRatioFormula c b a := by
  unfold scatterRatioFormula
  ring

/-- without activity towards either detector the formula gives 0: the third early return is redundant -/
theorem formula_of_emis_zero (c : PC K) {a b : PD K} (h : a.emis = 0 ∧ b.emis = 0) : scatterRatioFormula c a b = 0 := by
  unfold scatterRatioFormula
  rw [h.1, h.2]
  ring

theorem simulate_eq_without_zero_return (c : PC K) (a b : PD K) :
    simulateForOneScatterPoint c a b =
      if c.cosTheta < c.maxCos ∨ c.effScatter = 0 then 0 else scatterRatioFormula c a b := by
  unfold simulateForOneScatterPoint
  rw [ite_or, ite_eq_right_iff.mpr fun h => (formula_of_emis_zero c h).symm]

theorem simulate_symm (c : PC K) (a b : PD K) :
    simulateForOneScatterPoint c a b = simulateForOneScatterPoint c b a := by
  rw [simulate_eq_without_zero_return, simulate_eq_without_zero_return, scatterRatioFormula_symm]

theorem sum_map_lincomb {ι : Type} (l : List ι) (α β : K) {f x y : ι → K} (h : ∀ i, f i = α * x i + β * y i) :
    (l.map f).sum = α * (l.map x).sum + β * (l.map y).sum := by
  induction l with
  | nil => simp
  | cons i is ih =>
    simp only [List.map_cons, List.sum_cons, ih, h i]
    ring

theorem sumOver_eq_sum (pts : List (PC K × PD K × PD K)) :
    sumOverScatterPoints pts = (pts.map fun p => simulateForOneScatterPoint p.1 p.2.1 p.2.2).sum :=
  (Common.foldl_add_eq_sum _ pts 0).trans (zero_add _)

theorem sumOver_nil : sumOverScatterPoints ([] : List (PC K × PD K × PD K)) = 0 := rfl

theorem sumOver_swap (pts : List (PC K × PD K × PD K)) :
    sumOverScatterPoints (swapPts pts) = sumOverScatterPoints pts := by
  rw [sumOver_eq_sum, sumOver_eq_sum, swapPts, List.map_map]
  exact congrArg List.sum (List.map_congr_left fun p _ => simulate_symm p.1 p.2.2 p.2.1)

theorem detEffNoScatter_symm (rAB2 eff511 cosA cosB pi : K) :
    detectionEfficiencyNoScatter rAB2 eff511 cosA cosB pi = detectionEfficiencyNoScatter rAB2 eff511 cosB cosA pi := by
  unfold detectionEfficiencyNoScatter
  rw [mul_comm cosA cosB]

theorem formula_linear (c : PC K) (a b : PD K) (α β e1A e1B e2A e2B : K) :
    scatterRatioFormula c (a.withEmis (α * e1A + β * e2A)) (b.withEmis (α * e1B + β * e2B)) =
      α * scatterRatioFormula c (a.withEmis e1A) (b.withEmis e1B) + β * scatterRatioFormula c (a.withEmis e2A) (b.withEmis e2B) := by
  unfold scatterRatioFormula PD.withEmis
  ring

theorem simulate_linear (c : PC K) (a b : PD K) (α β e1A e1B e2A e2B : K) :
    simulateForOneScatterPoint c (a.withEmis (α * e1A + β * e2A)) (b.withEmis (α * e1B + β * e2B)) =
      α * simulateForOneScatterPoint c (a.withEmis e1A) (b.withEmis e1B)
        + β * simulateForOneScatterPoint c (a.withEmis e2A) (b.withEmis e2B) := by
  rw [simulate_eq_without_zero_return, simulate_eq_without_zero_return, simulate_eq_without_zero_return]
  by_cases h : c.cosTheta < c.maxCos ∨ c.effScatter = 0
  · simp [h]
  · simp only [h, if_false]
    exact formula_linear c a b α β e1A e1B e2A e2B

theorem sumOver_linear {ι : Type} (l : List ι) (c : ι → PC K) (a b : ι → PD K) (α β : K) (e1A e1B e2A e2B : ι → K) :
    sumOverScatterPoints (ptsOf l c a b (fun i => α * e1A i + β * e2A i) (fun i => α * e1B i + β * e2B i)) =
      α * sumOverScatterPoints (ptsOf l c a b e1A e1B) + β * sumOverScatterPoints (ptsOf l c a b e2A e2B) := by
  simp only [sumOver_eq_sum, ptsOf, List.map_map]
  exact sum_map_lincomb l α β fun i => simulate_linear (c i) (a i) (b i) α β _ _ _ _

theorem simulate_zero (c : PC K) (a b : PD K) :
    simulateForOneScatterPoint c (a.withEmis 0) (b.withEmis 0) = 0 := by
  rw [simulate_eq_without_zero_return, formula_of_emis_zero c ⟨rfl, rfl⟩, ite_self]

/-- the factors of `scatterRatioFormula` that belong to one detector are not negative.  `0 ≤ r2` is enough (not `0 < r2`): the
    formula divides by `r2`, and in a field `1 / 0 = 0` — where the C++ would produce `inf`; this is not the float reading -/
structure PD.Nonneg (a : PD K) : Prop where
  emis : 0 ≤ a.emis
  att : 0 ≤ a.att
  attPow : 0 ≤ a.attPow
  r2 : 0 ≤ a.r2
  cosInc : 0 ≤ a.cosInc

/-- … and those that belong to the pair.  `cosTheta` and `maxCos` are absent: they are only compared, never multiplied -/
structure PC.Nonneg (c : PC K) : Prop where
  effScatter : 0 ≤ c.effScatter
  dsigma : 0 ≤ c.dsigma
  mu : 0 ≤ c.mu

theorem formula_nonneg (c : PC K) (a b : PD K) (h : c.Nonneg ∧ a.Nonneg ∧ b.Nonneg) :
    0 ≤ scatterRatioFormula c a b := by
  unfold scatterRatioFormula
  obtain ⟨⟨_, _, _⟩, ⟨_, _, _, _, _⟩, ⟨_, _, _, _, _⟩⟩ := h
  positivity

theorem simulate_nonneg (c : PC K) (a b : PD K) (h : c.Nonneg ∧ a.Nonneg ∧ b.Nonneg) :
    0 ≤ simulateForOneScatterPoint c a b := by
  rw [simulate_eq_without_zero_return]
  split
  · exact le_refl 0
  · exact formula_nonneg c a b h

theorem sumOver_nonneg (pts : List (PC K × PD K × PD K))
    (h : ∀ p ∈ pts, p.1.Nonneg ∧ p.2.1.Nonneg ∧ p.2.2.Nonneg) : 0 ≤ sumOverScatterPoints pts := by
  rw [sumOver_eq_sum]
  exact List.sum_nonneg (List.forall_mem_map.mpr fun p hp => simulate_nonneg p.1 p.2.1 p.2.2 (h p hp))

theorem detEffNoScatter_nonneg (rAB2 eff511 cosA cosB pi : K) (h1 : 0 ≤ rAB2) (h2 : 0 ≤ eff511) (h3 : 0 ≤ cosA)
    (h4 : 0 ≤ cosB) (h5 : 0 ≤ pi) : 0 ≤ detectionEfficiencyNoScatter rAB2 eff511 cosA cosB pi := by
  unfold detectionEfficiencyNoScatter
  positivity

theorem estimate_nonneg (pts : List (PC K × PD K × PD K)) (effAB vol sigma : K)
    (h : ∀ p ∈ pts, p.1.Nonneg ∧ p.2.1.Nonneg ∧ p.2.2.Nonneg) (he : 0 ≤ effAB) (hv : 0 ≤ vol) (hs : 0 ≤ sigma) :
    0 ≤ actualScatterEstimate pts effAB vol sigma := by
  unfold actualScatterEstimate
  have := sumOver_nonneg pts h
  positivity

theorem integral_eq_sum {V : Type} (image : V → K) (inImage : V → Bool) (lor : List (V × K)) :
    integralBetween2Points image inImage lor = ((lor.filter fun e => inImage e.1).map fun e => image e.1 * e.2).sum :=
  List.foldl_filter.symm.trans ((Common.foldl_add_eq_sum _ _ 0).trans (zero_add _))

theorem integral_linear {V : Type} (x y : V → K) (α β : K) (inImage : V → Bool) (lor : List (V × K)) :
    integralBetween2Points (fun v => α * x v + β * y v) inImage lor =
      α * integralBetween2Points x inImage lor + β * integralBetween2Points y inImage lor := by
  rw [integral_eq_sum, integral_eq_sum, integral_eq_sum]
  exact sum_map_lincomb _ α β fun e => by ring

theorem integralOverActivity_linear {V : Type} (sa : K) (x y : V → K) (α β : K) (inImage : V → Bool) (lor : List (V × K)) :
    integralOverActivity sa (fun v => α * x v + β * y v) inImage lor =
      α * integralOverActivity sa x inImage lor + β * integralOverActivity sa y inImage lor := by
  unfold integralOverActivity
  rw [integral_linear]
  ring

theorem solidAngleFactor_eq_min (halfPi r2 : K) : solidAngleFactor halfPi r2 = min halfPi (1 / r2) :=
  (min_def_lt' _ _).symm

end StirVerif.C16
