import StirVerif.C16.Model
/-! C16 — a concrete world and concrete histories: those on which the unchanged code departs from "equals a freshly
configured simulation" (negative witnesses, replayed on the implementation by the harness) and those that show the
guards can be met. -/
namespace StirVerif.C16

def W0 : World :=
  { tmpl := fun k => ⟨k, 12, 2, 5, 3⟩
    nsp := fun p => if p.thr = 0 then 8 else 4
    defaultDsRings := fun _ => 2
    blocksBase := fun k => k == 3
    zOk := fun _ => true
    autoClass := fun _ t => t.base }

def baseConfig : List Op :=
  [.setThr 0, .setTemplate (W0.tmpl 0), .setExam 0, .setActivity (some 0), .setDensity (some 0), .setZoom 0, .setSpImage (some 0)]

/-- after the history, `process` succeeds with a provenance that differs from a fresh object's -/
def staleAfter (W : World) (ops : List Op) : Bool :=
  match run W init ops with
  | none => false
  | some s =>
    match process W s with
    | (_, .ok, some o) => decide (freshOut W s ≠ (.ok, some o))
    | _ => false

/-- after the history, `process` succeeds and agrees with a fresh object -/
def freshAfter (W : World) (ops : List Op) : Bool :=
  match run W init ops with
  | none => false
  | some s =>
    match process W s with
    | (_, .ok, some o) => decide (freshOut W s = (.ok, some o))
    | _ => false

/-- after the history, `process` makes an invalid memory access -/
def crashAfter (W : World) (ops : List Op) : Bool :=
  match run W init ops with
  | none => false
  | some s => decide ((process W s).2.1 = .crash)

theorem staleAfter_spec (W : World) (ops : List Op) (h : staleAfter W ops = true) :
    ∃ s o, run W init ops = some s ∧ (process W s).2 = (.ok, some o) ∧ freshOut W s ≠ (.ok, some o) := by
  unfold staleAfter at h
  split at h
  · cases h
  · next s hr =>
    split at h
    · next s' o hp => exact ⟨s, o, hr, by rw [hp], of_decide_eq_true h⟩
    · cases h

def histExam : List Op := baseConfig ++ [.setUp, .process, .setExam 1, .setUp]
def histEnableCache : List Op := [.setUseCache false] ++ baseConfig ++ [.setUp, .process, .setUseCache true]
def histEnableCache' : List Op := [.setCacheEnabled false] ++ baseConfig ++ [.setUp, .process, .setCacheEnabled true]
def histDsFlag : List Op :=
  baseConfig ++ [.setDsBool true, .setDsRings 2, .setDsDets 10, .setUp, .process, .setActivity (some 1), .setUp]
def histThr : List Op := baseConfig ++ [.setThr 1, .setUp]
def histZoom : List Op :=
  [.setThr 0, .setTemplate (W0.tmpl 0), .setExam 0, .setActivity (some 0), .setDensity (some 0), .setZoom 0,
   .setUp, .process, .setZoom 1, .setUp]
/-- another scatter-point image with the same number of scatter points after a computation (the activity cache is not kept:
    `sample_scatter_points` removes both caches) -/
def histSpImage : List Op := baseConfig ++ [.setUp, .process, .setSpImage (some 1), .setUp]

/-- in-place changes of all three images, each followed by the setter with the same pointer and `set_up`, on a
    BlocksOnCylindrical template that was down-sampled explicitly -/
def histInPlace : List Op :=
  [.setThr 0, .setTemplate (W0.tmpl 3), .downsampleScanner 2 (-1), .setExam 0, .setActivityInPlace 0, .setDensityInPlace 0, .setZoom 0,
   .setSpImageInPlace 0, .setUp, .process, .setActivityInPlace 1, .setUp, .process, .setActivityInPlace 2, .setDensityInPlace 1,
   .setSpImageInPlace 1, .setUp]

/-- the three-step history around the switch `set_cache_enabled`: compute with the cache on; `set_cache_enabled(false)` and another
    activity AND attenuation image (the arrays are not cleared by the switch; the setters remove them although the cache is
    off); `set_up`, compute; `set_cache_enabled(true)`; `set_up` (allocates) -/
def histThreeStep : List Op :=
  baseConfig ++ [.setUp, .process, .setCacheEnabled false, .setActivity (some 1), .setDensityInPlace 1, .setSpImage (some 0), .setUp, .process,
    .setCacheEnabled true, .setUp]
/-- the same without `set_up` while the cache is off (this one also satisfies the stronger guard) -/
def histThreeStep' : List Op :=
  baseConfig ++ [.setUp, .process, .setCacheEnabled false, .setActivityInPlace 1, .setCacheEnabled true, .setUp]
def histFile : List Op :=
  [.setRndPlace false] ++ baseConfig ++ [.setUp, .process, .setTemplateFile 1 (W0.tmpl 1), .setUp]
def histRnd : List Op := [.setRndPlace false] ++ baseConfig ++ [.setUp, .process, .setRndPlace true, .setUp]

/-- the automatic (-1) zoom factors: `set_image_downsample_factors` is never called -/
def autoConfig : List Op :=
  [.setThr 0, .setTemplate (W0.tmpl 0), .setExam 0, .setActivity (some 0), .setDensity (some 0)]
/-- one object re-used with other attenuation images (in `W0` all attenuation images have the same voxel size and planes:
    the class of the automatic factors depends on the template only), scatter-point image derived by `set_up` and by an
    explicit `downsample_density_image_for_scatter_points` call -/
def histAutoAtt : List Op :=
  autoConfig ++ [.setUp, .process, .setDensity (some 3), .setUp, .process, .setDensityInPlace 1, .downsampleSp, .setActivity (some 1), .setUp]
/-- KNOWN `scatter-setup:automatic-zoom-scatter-point-image-kept-after-template-change` -/
def histAutoTmplKept : List Op := autoConfig ++ [.setUp, .process, .setTemplate (W0.tmpl 1), .setUp]
/-- KNOWN `scatter-setup:automatic-zoom-factors-frozen-by-first-set-up` -/
def histAutoFrozen : List Op :=
  autoConfig ++ [.setUp, .process, .setTemplate (W0.tmpl 1), .setDensity (some 0), .setUp]

theorem histAutoAtt_fresh : freshAfter W0 histAutoAtt = true := by decide +kernel
theorem histAutoAtt_guarded : (runGuarded W0 init histAutoAtt).isSome = true := by decide +kernel

/-- NOT the code: `set_activity_image_sptr` as it would be if `remove_cache_for_integrals_over_activity` returned early
    when the cache is disabled (mirroring the `if (!use_cache) return;` of `initialise_cache_…`) -/
def setActivityLazyRemoval (a : Nat) (s : St) : St :=
  if s.useCache then (setActivity (some a) s).1 else { s with act := some a, alreadySetUp := false }

/-- … then the three-step history returns the estimate of the OLD activity image -/
def lazyRemovalStale : Bool :=
  match run W0 init (baseConfig ++ [.setUp, .process, .setCacheEnabled false]) with
  | none => false
  | some s1 =>
    match run W0 (setActivityLazyRemoval 1 s1) [.setUp, .process, .setCacheEnabled true, .setUp] with
    | none => false
    | some s =>
      match process W0 s with
      | (_, .ok, some o) => decide (freshOut W0 s ≠ (.ok, some o))
      | _ => false


theorem histThreeStep_fresh : freshAfter W0 histThreeStep = true := by decide +kernel
theorem histThreeStep_guarded2 : (runGuarded2 W0 init histThreeStep).isSome = true := by decide +kernel
theorem histThreeStep_not_guarded : (runGuarded W0 init histThreeStep).isSome = false := by decide +kernel
theorem histThreeStep'_fresh : freshAfter W0 histThreeStep' = true := by decide +kernel
theorem histThreeStep'_guarded : (runGuarded W0 init histThreeStep').isSome = true := by decide +kernel
theorem histFile_fresh : freshAfter W0 histFile = true := by decide +kernel
theorem histFile_guarded : (runGuarded W0 init histFile).isSome = true := by decide +kernel

theorem histInPlace_fresh : freshAfter W0 histInPlace = true := by decide +kernel
theorem histInPlace_guarded : (runGuarded W0 init histInPlace).isSome = true := by decide +kernel

theorem histExam_first_fresh : freshAfter W0 (baseConfig ++ [.setUp]) = true := by decide +kernel

end StirVerif.C16
