import StirVerif.C16.Model
/-! C16 — the sentinel cache is transparent (core Lean only). -/
namespace StirVerif.C16


variable {K : Type} [DecidableEq K]

def Coherent (sentinel : K) (direct : Nat → Nat → K) (c : CacheArr K) : Prop :=
  ∀ i j, c i j = sentinel ∨ c i j = direct i j

omit [DecidableEq K] in
theorem fresh_coherent (sentinel : K) (direct : Nat → Nat → K) : Coherent sentinel direct (CacheArr.fresh sentinel) :=
  fun _ _ => Or.inl rfl

theorem cachedLookup_value (useCache : Bool) (sentinel : K) (direct : Nat → Nat → K) (c : CacheArr K) (i j : Nat)
    (h : Coherent sentinel direct c) : (cachedLookup useCache sentinel direct c i j).1 = direct i j := by
  unfold cachedLookup
  split
  · next hc => exact (h i j).resolve_left hc.2
  · rfl

theorem cachedLookup_coherent (useCache : Bool) (sentinel : K) (direct : Nat → Nat → K) (c : CacheArr K) (i j : Nat)
    (h : Coherent sentinel direct c) : Coherent sentinel direct (cachedLookup useCache sentinel direct c i j).2 := by
  unfold cachedLookup
  split
  · exact h
  · cases useCache with
    | false => exact h
    | true =>
      intro i' j'
      simp only [CacheArr.set, if_true]
      split
      · next hij =>
        right
        rw [hij.1, hij.2]
      · exact h i' j'

/-- an integral that was read is not computed again, unless its value equals the sentinel -/
theorem cachedLookup_stores (sentinel : K) (direct : Nat → Nat → K) (c : CacheArr K) (i j : Nat)
    (h : Coherent sentinel direct c) : (cachedLookup true sentinel direct c i j).2 i j = direct i j := by
  unfold cachedLookup
  split
  · next hc => exact (h i j).resolve_left hc.2
  · simp [CacheArr.set]

end StirVerif.C16
