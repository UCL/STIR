/-
C16 — "The simulated single-scatter estimate for a detector pair is unchanged when the two detectors are
exchanged, is linear in the activity image, zero for zero activity and never negative. It is the same with the
line-integral cache enabled or disabled, and after any sequence of changes to the activity image, attenuation
image, scatter-point image, template or energy settings followed by set-up it equals the result of a freshly
configured simulation."

Property theorems over the model of `Model.lean`. The formula theorems hold in every linearly ordered field, for
every number of scatter points; the state-machine theorems for every history (no bound on its length) and every
world. What is *not* theorem: that the C++ line integrals are the weighted sums of `integralBetween2Points`
(correspondence `actint` / oracle only), the physics functions (inputs; `detection_efficiency` is
transcribed with `erf` as a parameter, so its sign is a theorem for every energy window given that `erf` is monotone),
floating point.
-/
import StirVerif.C16.ProofsFormula
import StirVerif.C16.ProofsCache
import StirVerif.C16.ProofsState
import StirVerif.C16.ProofsHistories
import StirVerif.C16.ProofsTable
import Mathlib.Algebra.Order.Field.Rat
import Mathlib.Tactic.Linarith

namespace StirVerif.C16

section Formula
variable {K : Type} [Field K] [LinearOrder K] [IsStrictOrderedRing K]

/-- "unchanged when the two detectors are exchanged" — one scatter point
    (`simulate_for_one_scatter_point(sp, A, B) = simulate_for_one_scatter_point(sp, B, A)`) -/
theorem C16_simulate_symmetric (c : PC K) (a b : PD K) :
    simulateForOneScatterPoint c a b = simulateForOneScatterPoint c b a :=
  simulate_symm c a b

/-- "unchanged when the two detectors are exchanged" — the estimate for the pair: exchanging the per-detector
    ingredients of every scatter point and the two incidence cosines of `detection_efficiency_no_scatter`.
    The two cosines (and the per-detector `cosInc`, `r2`, … of every scatter point) are separate inputs, so this is the
    statement for BlocksOnCylindrical scanners too, where the two crystals of a pair sit at different radii and
    `cosA ≠ cosB`; the correspondence run feeds the model the cosine the implementation computed for EACH detector
    (`est` / `effns` operations on generated blocks templates). -/
theorem C16_estimate_symmetric (pts : List (PC K × PD K × PD K)) (rAB2 eff511 cosA cosB pi vol sigma : K) :
    actualScatterEstimate (swapPts pts) (detectionEfficiencyNoScatter rAB2 eff511 cosB cosA pi) vol sigma =
      actualScatterEstimate pts (detectionEfficiencyNoScatter rAB2 eff511 cosA cosB pi) vol sigma := by
  unfold actualScatterEstimate
  rw [sumOver_swap, detEffNoScatter_symm]

/-- "linear in the activity image" — in the activity integrals: if every activity integral is `α·e₁ + β·e₂` the
    estimate is `α·estimate₁ + β·estimate₂` (the early return on zero integrals does not break this) -/
theorem C16_estimate_linear_in_activity {ι : Type} (l : List ι) (c : ι → PC K) (a b : ι → PD K) (α β : K)
    (e1A e1B e2A e2B : ι → K) (effAB vol sigma : K) :
    actualScatterEstimate (ptsOf l c a b (fun i => α * e1A i + β * e2A i) (fun i => α * e1B i + β * e2B i)) effAB vol sigma =
      α * actualScatterEstimate (ptsOf l c a b e1A e1B) effAB vol sigma
        + β * actualScatterEstimate (ptsOf l c a b e2A e2B) effAB vol sigma := by
  unfold actualScatterEstimate
  rw [sumOver_linear]
  ring

/-- "linear in the activity image" — in the image itself, when the activity integrals are what
    `integral_over_activity_image_between_scattpoint_det` computes: solid-angle factor times the sum of
    (voxel value × intersection length) over the voxels of the ray that lie inside the image -/
theorem C16_estimate_linear_in_activity_image {ι V : Type} (l : List ι) (c : ι → PC K) (a b : ι → PD K)
    (saA saB : ι → K) (inImage : V → Bool) (lorA lorB : ι → List (V × K)) (x y : V → K) (α β effAB vol sigma : K) :
    actualScatterEstimate
        (ptsOf l c a b (fun i => integralOverActivity (saA i) (fun v => α * x v + β * y v) inImage (lorA i))
                       (fun i => integralOverActivity (saB i) (fun v => α * x v + β * y v) inImage (lorB i))) effAB vol sigma =
      α * actualScatterEstimate
            (ptsOf l c a b (fun i => integralOverActivity (saA i) x inImage (lorA i))
                           (fun i => integralOverActivity (saB i) x inImage (lorB i))) effAB vol sigma
      + β * actualScatterEstimate
            (ptsOf l c a b (fun i => integralOverActivity (saA i) y inImage (lorA i))
                           (fun i => integralOverActivity (saB i) y inImage (lorB i))) effAB vol sigma := by
  rw [funext fun i => integralOverActivity_linear (saA i) x y α β inImage (lorA i),
    funext fun i => integralOverActivity_linear (saB i) x y α β inImage (lorB i)]
  exact C16_estimate_linear_in_activity l c a b α β _ _ _ _ effAB vol sigma

/-- "zero for zero activity" -/
theorem C16_zero_activity_zero {ι : Type} (l : List ι) (c : ι → PC K) (a b : ι → PD K) (effAB vol sigma : K) :
    actualScatterEstimate (ptsOf l c a b (fun _ => 0) (fun _ => 0)) effAB vol sigma = 0 := by
  have h := C16_estimate_linear_in_activity l c a b (0 : K) 0 (fun _ => 0) (fun _ => 0) (fun _ => 0) (fun _ => 0) effAB vol sigma
  simp only [zero_mul, add_zero] at h
  exact h

/-- "never negative": if every factor that is read is non-negative (activity and attenuation integrals, the power
    of the attenuation factor, squared distances, incidence cosines, efficiencies, cross section, μ, volume).
    Two of these hypotheses are discharged for EVERY energy window (also windows that do not contain
    511 keV, where the efficiency at 511 keV may be 0): `0 ≤ effScatter` by `C16_detection_efficiency_nonneg` and
    `0 ≤ eff511` by `C16_normalisation_pos`; `0 ≤ emis` by `C16_activity_integral_scattdet_nonneg` (capped solid-angle
    factor included). The correspondence run feeds the model the efficiencies of such windows (`deteff`, `eff511`). -/
theorem C16_estimate_nonneg (pts : List (PC K × PD K × PD K)) (rAB2 eff511 cosA cosB pi vol sigma : K)
    (h : ∀ p ∈ pts, p.1.Nonneg ∧ p.2.1.Nonneg ∧ p.2.2.Nonneg)
    (h1 : 0 ≤ rAB2) (h2 : 0 ≤ eff511) (h3 : 0 ≤ cosA) (h4 : 0 ≤ cosB) (h5 : 0 ≤ pi) (hv : 0 ≤ vol) (hs : 0 ≤ sigma) :
    0 ≤ actualScatterEstimate pts (detectionEfficiencyNoScatter rAB2 eff511 cosA cosB pi) vol sigma :=
  estimate_nonneg pts _ vol sigma h (detEffNoScatter_nonneg rAB2 eff511 cosA cosB pi h1 h2 h3 h4 h5) hv hs

/-- the line integral of a non-negative image is non-negative (the `emis` of `C16_estimate_nonneg` is this times the capped
    solid-angle factor: `C16_activity_integral_scattdet_nonneg`) -/
theorem C16_activity_integral_nonneg {V : Type} (x : V → K) (inImage : V → Bool) (lor : List (V × K))
    (hx : ∀ v, 0 ≤ x v) (hl : ∀ e ∈ lor, 0 ≤ e.2) : 0 ≤ integralBetween2Points x inImage lor := by
  rw [integral_eq_sum]
  exact List.sum_nonneg (List.forall_mem_map.mpr fun e he => mul_nonneg (hx e.1) (hl e (List.mem_filter.mp he).1))

/-- "never negative" — the detection efficiency `detection_efficiency(E) = ½(erf((hi−E)/σ) − erf((lo−E)/σ))` is
    non-negative for EVERY energy `E` and EVERY window `lo ≤ hi` — whether or not it contains 511 keV, however narrow or
    wide — for every `σ > 0` (any energy resolution), given only that `erf` is monotone -/
theorem C16_detection_efficiency_nonneg (erf : K → K) (herf : ∀ x y, x ≤ y → erf x ≤ erf y) (sigma lo hi energy : K)
    (hs : 0 < sigma) (hw : lo ≤ hi) : 0 ≤ detectionEfficiency erf sigma lo hi energy := by
  unfold detectionEfficiency
  -- the two arguments of `erf` are ordered like the two thresholds
  have h := herf _ _ (div_le_div_of_nonneg_right (sub_le_sub_right hw energy) hs.le)
  positivity

/-- … and at most 1 (it is a probability), given that `erf` takes values in [-1, 1] -/
theorem C16_detection_efficiency_le_one (erf : K → K) (hb : ∀ x, -1 ≤ erf x ∧ erf x ≤ 1) (sigma lo hi energy : K) :
    detectionEfficiency erf sigma lo hi energy ≤ 1 := by
  unfold detectionEfficiency
  have h1 := (hb ((hi - energy) / sigma)).2
  have h2 := (hb ((lo - energy) / sigma)).1
  linarith

/-- why the ORDER of the two `erf` terms matters (a rewrite that exchanges them for the energies above the window makes the
    efficiency negative exactly for the windows below 511 keV): with the thresholds exchanged and a strictly increasing `erf`
    the value is negative -/
theorem C16_detection_efficiency_terms_exchanged_negative (erf : K → K) (herf : ∀ x y, x < y → erf x < erf y)
    (sigma lo hi energy : K) (hs : 0 < sigma) (hw : lo < hi) : detectionEfficiency erf sigma hi lo energy < 0 := by
  unfold detectionEfficiency
  have h := herf _ _ (div_lt_div_of_pos_right (sub_lt_sub_right hw energy) hs)
  linarith

/-- "never negative" — the normalisation `detector_efficiency_no_scatter = detection_efficiency(511) > 0 ?
    detection_efficiency(511) : 1` is positive whatever the window (so `0 ≤ eff511` in `C16_estimate_nonneg`), and it is the
    efficiency at 511 keV whenever that is positive -/
theorem C16_normalisation_pos (e : K) : 0 < detEff511OrOne e ∧ (0 < e → detEff511OrOne e = e) := by
  unfold detEff511OrOne
  refine ⟨?_, fun h => if_pos h⟩
  split
  · assumption
  · exact one_pos

/-- "linear in the activity image" — for the activity integral as `integral_over_activity_image_between_scattpoint_det`
    computes it, cap included: `min(π/2, 1/r²)` is a function of the geometry only and multiplies the line integral, so the
    integral of `α·x + β·y` is `α`·integral of `x` + `β`·integral of `y` for all `α`, `β` and all voxel values — with it, `C16_estimate_linear_in_activity` applies to the activity integrals the code computes -/
theorem C16_activity_integral_scattdet_linear {V : Type} (halfPi r2 : K) (x y : V → K) (α β : K) (inImage : V → Bool)
    (lor : List (V × K)) :
    integralOverActivityScattDet halfPi r2 (fun v => α * x v + β * y v) inImage lor =
      α * integralOverActivityScattDet halfPi r2 x inImage lor + β * integralOverActivityScattDet halfPi r2 y inImage lor :=
  integralOverActivity_linear _ x y α β inImage lor

/-- … and non-negative for a non-negative image (the `emis` hypothesis of `C16_estimate_nonneg`); the factor is never
    above `π/2` -/
theorem C16_activity_integral_scattdet_nonneg {V : Type} (halfPi r2 : K) (x : V → K) (inImage : V → Bool) (lor : List (V × K))
    (h1 : 0 ≤ halfPi) (h2 : 0 ≤ r2) (hx : ∀ v, 0 ≤ x v) (hl : ∀ e ∈ lor, 0 ≤ e.2) :
    0 ≤ integralOverActivityScattDet halfPi r2 x inImage lor ∧ solidAngleFactor halfPi r2 ≤ halfPi := by
  unfold integralOverActivityScattDet integralOverActivity
  rw [solidAngleFactor_eq_min]
  exact ⟨mul_nonneg (le_min h1 (by positivity)) (C16_activity_integral_nonneg x inImage lor hx hl), min_le_left _ _⟩

end Formula

/-! non-vacuity: a window below 511 keV with a piecewise-linear monotone stand-in for `erf`: the
    efficiency at an energy inside the window is positive, at 511 keV it is 0 and the normalisation falls back to 1 -/
def exErf (x : ℚ) : ℚ := if x < -1 then -1 else if 1 < x then 1 else x

example : detectionEfficiency exErf (10 : ℚ) 400 480 440 = 1 ∧ detectionEfficiency exErf (10 : ℚ) 400 480 511 = 0 ∧
    detEff511OrOne (detectionEfficiency exErf (10 : ℚ) 400 480 511) = 1 ∧ detectionEfficiency exErf (10 : ℚ) 400 480 485 = 1 / 4 := by
  decide +kernel

example : ∀ x y : ℚ, x ≤ y → exErf x ≤ exErf y := by
  intro x y h
  unfold exErf
  split_ifs <;> linarith

/-- the cap is applied to the geometry factor: far from the detector (`1/r² < π/2`) the factor is `1/r²`, next to it `π/2` -/
example : solidAngleFactor (3 / 2 : ℚ) 100 = 1 / 100 ∧ solidAngleFactor (3 / 2 : ℚ) (1 / 4) = 3 / 2 := by
  decide +kernel

/-- why the cap must not be applied to `integral / r²` (a quantity proportional to the activity): with one voxel of value 1,
    intersection length 1 and `r² = 1` the folded form gives 1 for the image and 3/2 (not 2) for twice the image, the form of
    the code 1 and 2 -/
theorem C16_folded_cap_not_homogeneous :
    integralOverActivityFoldedCap (3 / 2 : ℚ) 1 (fun _ : Unit => 2) (fun _ => true) [((), 1)] ≠
      2 * integralOverActivityFoldedCap (3 / 2 : ℚ) 1 (fun _ : Unit => 1) (fun _ => true) [((), 1)] ∧
    integralOverActivityScattDet (3 / 2 : ℚ) 1 (fun _ : Unit => 2) (fun _ => true) [((), 1)] =
      2 * integralOverActivityScattDet (3 / 2 : ℚ) 1 (fun _ : Unit => 1) (fun _ => true) [((), 1)] := by
  decide +kernel

/-! non-vacuity: a concrete point with a non-zero, asymmetric-looking contribution -/
def exC : PC ℚ := ⟨1/2, 3/4, 1, 1/8, 3/32⟩
def exA : PD ℚ := ⟨2, 1/2, 5/4, 100, 7/8⟩
def exB : PD ℚ := ⟨3/2, 3/4, 9/8, 144, 13/16⟩

example : simulateForOneScatterPoint exC exA exB = 9009/83886080 := by
  decide +kernel
example : exC.Nonneg ∧ exA.Nonneg ∧ exB.Nonneg := by
  refine ⟨⟨?_, ?_, ?_⟩, ⟨?_, ?_, ?_, ?_, ?_⟩, ⟨?_, ?_, ?_, ?_, ?_⟩⟩ <;> decide +kernel
example : actualScatterEstimate [(exC, exA, exB)] (detectionEfficiencyNoScatter 400 1 (1/2) (1/2) 3) 8 2 ≠ 0 := by
  decide +kernel

/-- why `detection_efficiency_no_scatter` needs the cosine of each detector: with the square of the cosine of the
    first detector (the same on a cylinder, not on flat blocks) the normalisation of (A,B) and of (B,A) differ -/
example : detectionEfficiencyNoScatter (400 : ℚ) 1 (1/2) (1/2) 3 ≠ detectionEfficiencyNoScatter 400 1 (1/4) (1/4) 3 := by
  decide +kernel

/-- … while with both cosines the exchange changes nothing although `cosA ≠ cosB` -/
example : detectionEfficiencyNoScatter (400 : ℚ) 1 (1/2) (1/4) 3 = detectionEfficiencyNoScatter 400 1 (1/4) (1/2) 3 := by
  decide +kernel

/-- "the same with the line-integral cache enabled or disabled": whatever sequence of integrals is read, with the
    cache enabled or not, through a cache whose entries are the sentinel or the current integral, every value read
    is the directly computed integral, and the cache stays of that kind. (A fresh cache is of that kind:
    `fresh_coherent`. No hypothesis that integrals differ from the sentinel is needed for the *values*; it only
    decides whether an entry is recomputed.) -/
theorem C16_cache_transparent {K : Type} [DecidableEq K] (useCache : Bool) (sentinel : K) (direct : Nat → Nat → K)
    (c : CacheArr K) (reads : List (Nat × Nat)) (h : Coherent sentinel direct c) :
    (cachedLookups useCache sentinel direct c reads).1 = reads.map (fun p => direct p.1 p.2) ∧
      Coherent sentinel direct (cachedLookups useCache sentinel direct c reads).2 := by
  induction reads generalizing c with
  | nil => exact ⟨rfl, h⟩
  | cons p ps ih =>
    obtain ⟨i, j⟩ := p
    have hv := cachedLookup_value useCache sentinel direct c i j h
    have := ih (cachedLookup useCache sentinel direct c i j).2 (cachedLookup_coherent useCache sentinel direct c i j h)
    simp only [cachedLookups, List.map_cons]
    exact ⟨by rw [this.1, hv], this.2⟩

/-- cache enabled = cache disabled, starting from the freshly initialised cache -/
theorem C16_cache_on_eq_off {K : Type} [DecidableEq K] (sentinel : K) (direct : Nat → Nat → K) (reads : List (Nat × Nat)) :
    (cachedLookups true sentinel direct (CacheArr.fresh sentinel) reads).1 =
      (cachedLookups false sentinel direct (CacheArr.fresh sentinel) reads).1 := by
  rw [(C16_cache_transparent true sentinel direct _ reads (fresh_coherent sentinel direct)).1,
      (C16_cache_transparent false sentinel direct _ reads (fresh_coherent sentinel direct)).1]

/-- why the caches must be removed when an input changes: an entry filled under the old inputs is returned
    although the integral is now different -/
theorem C16_cache_stale_read {K : Type} [DecidableEq K] (sentinel : K) (direct' : Nat → Nat → K) (c : CacheArr K)
    (i j : Nat) (hfilled : c i j ≠ sentinel) (hchanged : c i j ≠ direct' i j) :
    (cachedLookup true sentinel direct' c i j).1 ≠ direct' i j := by
  unfold cachedLookup
  simp [hfilled, hchanged]

example : (cachedLookups true (-1 : Int) (fun i j => 10 * i + j) (CacheArr.fresh (-1)) [(1, 2), (0, 3), (1, 2)]).1 = [12, 3, 12] := by
  decide

/-- "`modifies f ∩ deps c ≠ ∅ → c` is invalidated", the full statement — FALSE for the table extracted from the
    unchanged source (see `C16_invalidation_failures`) -/
def C16_invalidation_complete_full : Prop :=
  ∀ f ∈ setterTable, (∀ d : Datum, invalidationOK f d = true) ∧ setUpForcedOK f = true

/-- exactly which (setter, derived datum) pairs lack an invalidation, and which setter clears caches that only
    `set_up` re-allocates without forcing a `set_up`. (The row of
    `set_template_proj_data_info(filename)` passes: it sets the exam info and then resets
    `detector_efficiency_no_scatter` through the template setter; the row of the parsed keyword `use cache` fails
    like `set_cache_enabled`: the flag is written without touching the arrays.)
    The two pairs of `downsample_images_to_scanner_size` are pairs of the row as `setterTable` has it, which does not list the
    scatter-point image as cleared; ScatterSimulation.cxx:967 resets it (no operation of the state machine uses that row). -/
theorem C16_invalidation_failures :
    invalidationFailures setterTable =
      [("set_exam_info", .effNoScatter),
       ("set_image_downsample_factors", .spImage), ("set_image_downsample_factors", .scatt),
       ("set_image_downsample_factors", .actCache), ("set_image_downsample_factors", .attCache),
       ("set_attenuation_threshold", .scatt), ("set_attenuation_threshold", .actCache), ("set_attenuation_threshold", .attCache),
       ("set_randomly_place_scatter_points", .scatt), ("set_randomly_place_scatter_points", .actCache),
       ("set_randomly_place_scatter_points", .attCache),
       ("set_cache_enabled", .actCache), ("set_cache_enabled", .attCache),
       ("parsed keyword `use cache`", .actCache), ("parsed keyword `use cache`", .attCache),
       ("downsample_images_to_scanner_size", .spImage), ("downsample_images_to_scanner_size", .scatt)] ∧
    setUpForcedFailures setterTable = ["set_use_cache"] := by
  decide +kernel

/-- the table with the dependencies of the AUTOMATIC (-1) zoom factors (`depsAuto`: the scatter-point image
    then also depends on the template): exactly these additional (setter, datum) pairs lack an invalidation — the table-level
    form of the KNOWN finding `scatter-setup:automatic-zoom-scatter-point-image-kept-after-template-change` (negative witness
    history: `C16_history_eq_fresh_fails_auto_zoom`) -/
theorem C16_invalidation_failures_auto_zoom :
    invalidationFailuresAutoOnly setterTable =
      [("set_template_proj_data_info", .spImage), ("set_template_proj_data_info", .scatt),
       ("set_template_proj_data_info(filename)", .spImage), ("set_template_proj_data_info(filename)", .scatt),
       ("downsample_scanner", .spImage), ("downsample_scanner", .scatt)] := by
  decide +kernel

theorem C16_invalidation_complete_fails : ¬ C16_invalidation_complete_full := by
  intro h
  obtain ⟨f, hf, hd⟩ := mem_invalidationFailures (C16_invalidation_failures.1 ▸ List.mem_cons_self)
  exact Bool.false_ne_true (hd.symm.trans ((h f hf).1 .effNoScatter))

/-- invalidation is complete for the setters of the activity image, attenuation image, scatter-point image and
    template — by object and by file name — (and the down-sampling calls): every derived datum that depends on what they assign is cleared,
    recomputed, or rebuilt by the `set_up` they force. Missing: the rows listed in `C16_invalidation_failures`. -/
theorem C16_invalidation_complete_partial :
    ∀ f ∈ setterTable, f.name ∈ goodRows → (∀ d : Datum, invalidationOK f d = true) ∧ setUpForcedOK f = true := by
  intro f hf hn
  obtain ⟨h1, h2⟩ := goodRows_complete f hf hn
  exact ⟨fun d => h1 d (allData_complete d), h2⟩

/-- the table is a description of the setter functions of the state machine (the functions the correspondence run
    compares with the C++), for every state and every argument: a setter leaves alone every setting its row does not
    list as modified and every derived member its row does not list as cleared or recomputed; unless it returns
    without effect, it clears what the row lists as cleared and resets `_already_set_up` if the row says so; and it
    leaves `_already_set_up` alone if the row says it does not reset it.
    (`setRndPlace` = `set_randomly_place_scatter_points`: the flag is a modelled setting;
    `setTemplateFile` = `set_template_proj_data_info(filename)`; the operations of
    the correspondence run `set_exam_sptr`, `set_act_file`/`set_att_file`/`set_spimg_file` and `parse_use_cache` are the
    operations `setExam`, `setActivity`/`setDensity`/`setSpImage` and `setCacheEnabled`, see `Model.lean`.)
    Two rows of the table have no operation (`rowName` never yields them) and the theorem says nothing about them: the parsed
    keyword `use cache` (its operation `setCacheEnabled` is looked up under `set_cache_enabled`) and
    `downsample_images_to_scanner_size`. -/
theorem C16_table_faithful (W : World) (s : St) (op : Op) (f : SetterRow) (hf : rowOf op = some f) :
    Faithful W s op f := by
  -- `hf` names the concrete row (its position in `setterTable`); the operation then returns without effect or updates the
  -- record as the row says
  cases op
  case setTemplate t =>
    cases rowOf_eq_getElem? hf 0 rfl
    exact .of_through rfl rfl
  case setActivity k =>
    cases rowOf_eq_getElem? hf 2 rfl
    cases k with
    | none => exact .of_unchanged _ rfl
    | some k => exact .of_through rfl rfl
  case setDensity k =>
    cases rowOf_eq_getElem? hf 3 rfl
    cases k with
    | none => exact .of_unchanged _ rfl
    | some k => exact .of_through rfl rfl
  case setSpImage k =>
    cases rowOf_eq_getElem? hf 4 rfl
    cases k with
    | none => exact .of_unchanged _ rfl
    | some k => exact .of_through rfl rfl
  case setActivityInPlace a =>
    cases rowOf_eq_getElem? hf 2 rfl
    exact .of_through rfl rfl
  case setDensityInPlace m =>
    cases rowOf_eq_getElem? hf 3 rfl
    exact .of_through rfl rfl
  case setSpImageInPlace i =>
    cases rowOf_eq_getElem? hf 4 rfl
    exact .of_through rfl rfl
  case setExam e =>
    cases rowOf_eq_getElem? hf 5 rfl
    exact .of_through rfl rfl
  case setZoom z =>
    cases rowOf_eq_getElem? hf 6 rfl
    exact .of_through rfl rfl
  case setThr t =>
    cases rowOf_eq_getElem? hf 7 rfl
    exact .of_through rfl rfl
  case setCacheEnabled b =>
    cases rowOf_eq_getElem? hf 9 rfl
    exact .of_through rfl rfl
  case setRndPlace b =>
    cases rowOf_eq_getElem? hf 8 rfl
    exact .of_through rfl rfl
  case setTemplateFile e t =>
    cases rowOf_eq_getElem? hf 1 rfl
    exact .of_through rfl rfl
  case setUseCache b =>
    cases rowOf_eq_getElem? hf 11 rfl
    by_cases h : b = s.useCache
    · exact .of_unchanged _ (if_pos h)
    · exact .of_through (if_neg h) rfl
  case setDsBool b =>
    cases rowOf_eq_getElem? hf 12 rfl
    by_cases h : b = s.dsBool
    · exact .of_unchanged _ (if_neg (not_not_intro h))
    · exact .of_through (if_pos h) rfl
  case setDsRings n =>
    cases rowOf_eq_getElem? hf 13 rfl
    by_cases h : n = s.dsRings
    · exact .of_unchanged _ (if_neg (not_not_intro h))
    · exact .of_through (if_pos h) rfl
  case setDsDets n =>
    cases rowOf_eq_getElem? hf 14 rfl
    by_cases h : n = s.dsDets
    · exact .of_unchanged _ (if_neg (not_not_intro h))
    · exact .of_through (if_pos h) rfl
  case downsampleScanner r d =>
    cases rowOf_eq_getElem? hf 15 rfl
    cases ht : s.tmpl with
    | none => exact .of_unchanged _ (downsampleScanner_of_tmpl_none W r d s ht)
    | some t =>
      exact .of_through (downsampleScanner_of_tmpl_some W r d s t ht) rfl
  case downsampleSp =>
    cases rowOf_eq_getElem? hf 16 rfl
    rcases downsampleSp_spec W s with ⟨he, _⟩ | ⟨p, az, he, _⟩
    · exact .of_unchanged _ he
    · exact .of_through (show (downsampleSp W s).1 = _ from congrArg Prod.fst he) rfl
  case setUp => cases hf
  case process => cases hf

example : rowOf (.setExam 3) = some ⟨"set_exam_info", [.exam], [], [], true⟩ := by decide +kernel
example : rowOf (.setRndPlace true) = some ⟨"set_randomly_place_scatter_points", [.rndPlace], [], [], true⟩ := by decide +kernel
example : (rowOf (.setTemplateFile 1 (W0.tmpl 1))).map (·.modifies) = some [.tmpl, .exam] := by decide +kernel

/-- "after any sequence of changes … followed by set-up it equals the result of a freshly configured
    simulation", the full statement over all histories of modelled operations — FALSE for the unchanged code
    (negative witnesses below) -/
def C16_history_eq_fresh_full : Prop :=
  ∀ (W : World) (ops : List Op) (s : St), run W init ops = some s →
    (process W s).2.1 ≠ .crash ∧ ∀ o, (process W s).2 = (.ok, some o) → freshOut W s = (.ok, some o)

/-- "after any sequence of changes to the activity image, attenuation image, scatter-point image …" — a change made IN
    PLACE by the owner of an image, followed by the setter with the SAME pointer (what `ScatterEstimation::process_data`
    does with the activity image in every iteration), is a change like any other: the setters
    `set_activity_image_sptr` / `set_density_image_sptr` / `set_density_image_for_scatter_points_sptr` assign and
    invalidate unconditionally (they do not compare the pointer they get with the one they hold), so the event leaves the
    object in exactly the state of the setter called with a new image of those values … -/
theorem C16_inplace_same_pointer_invalidates_like_new_pointer (W : World) (s : St) (k : Nat) :
    step W s (.setActivityInPlace k) = step W s (.setActivity (some k)) ∧
    step W s (.setDensityInPlace k) = step W s (.setDensity (some k)) ∧
    step W s (.setSpImageInPlace k) = step W s (.setSpImage (some k)) :=
  ⟨rfl, rfl, rfl⟩

/-- … in particular, whatever the object held before: the new values are the current ones, the cache of activity
    integrals is gone, and a `set_up` is required (for the attenuation image: the attenuation cache and the derived
    scatter-point image are gone) -/
theorem C16_inplace_same_pointer_clears (W : World) (s : St) (k : Nat) :
    ((step W s (.setActivityInPlace k)).1.act = some k ∧ (step W s (.setActivityInPlace k)).1.actCache = none ∧
      (step W s (.setActivityInPlace k)).1.alreadySetUp = false) ∧
    ((step W s (.setDensityInPlace k)).1.att = some k ∧ (step W s (.setDensityInPlace k)).1.attCache = none ∧
      (step W s (.setDensityInPlace k)).1.spImage = none ∧ (step W s (.setDensityInPlace k)).1.alreadySetUp = false) :=
  ⟨⟨rfl, rfl, rfl⟩, ⟨rfl, rfl, rfl, rfl⟩⟩

/-- non-vacuity: a guarded history with in-place changes of all three images (on a BlocksOnCylindrical template that was
    down-sampled explicitly) at the end of which `process` succeeds and is fresh; and an object that really holds a filled
    activity cache before the in-place event -/
example : (runGuarded W0 init histInPlace).isSome = true ∧ freshAfter W0 histInPlace = true :=
  ⟨histInPlace_guarded, histInPlace_fresh⟩

example : ∃ s, run W0 init (baseConfig ++ [.setUp, .process]) = some s ∧ s.actCache ≠ none ∧
    (step W0 s (.setActivityInPlace 1)).1.actCache = none := by
  refine ⟨_, rfl, ?_, rfl⟩
  decide

theorem C16_guard2_weaker (W : World) (ops : List Op) (s0 s : St) (h : runGuarded W s0 ops = some s) :
    runGuarded2 W s0 ops = some s := by
  induction ops generalizing s0 with
  | nil => exact h
  | cons op rest ih =>
    obtain ⟨g, hc, h⟩ := (runGuarded_cons W s0 s op rest).mp h
    exact (runGuarded2_cons W s0 s op rest).mpr ⟨Or.inl g, hc, ih _ h⟩

/-- after ANY history of setters (with a new pointer or in place with the same pointer) / `set_up` / `process_data` /
    explicit down-sampling calls (cylindrical and BlocksOnCylindrical templates), of any length, in which every operation
    satisfies the guard `opOk` (no `set_exam_info` while `detector_efficiency_no_scatter` is cached,
    no threshold / zoom / random-placement change while a scatter-point image derived with the old value exists, no
    enabling of the cache on a set-up object, `downsample_scanner_bool` off): `process_data` does not touch unallocated
    cache storage, and
    if it succeeds, everything it reads — scatter points, detection points, every cached or computed activity /
    attenuation integral, `max_single_scatter_cos_angle`, `detector_efficiency_no_scatter` — was computed from exactly
    the inputs a freshly configured object would use, so the outputs are equal.
    `_partial`: the guard excludes the histories of the negative witnesses below.
    `set_template_proj_data_info(filename)` needs no guard although it calls `set_exam_info`: the template setter that
    follows resets `detector_efficiency_no_scatter`. Through the identifications of `Model.lean` the histories range over
    the setters by file name, `set_exam_info_sptr` and the parsed keyword `use cache`.
    With the AUTOMATIC (-1) zoom factors (guards `autoTmplOk` / `autoAttOk`): once the factors are stored, a new template or
    attenuation image must be one for which the same factors would be computed (admitted: an attenuation image of ANOTHER
    x/y size with the same voxel size and planes, `histAutoAtt`; excluded: a template with another default bin size,
    `C16_history_eq_fresh_fails_auto_zoom`).
    See `C16_history_eq_fresh_partial2` for the weaker guard on enabling the cache. -/
theorem C16_history_eq_fresh_partial (W : World) (ops : List Op) (s : St) (hrun : runGuarded W init ops = some s) :
    (process W s).2.1 ≠ .crash ∧ ∀ o, (process W s).2 = (.ok, some o) → freshOut W s = (.ok, some o) :=
  eq_fresh_of_runGuarded2 W ops init s (inv_init W) (C16_guard2_weaker W ops init s hrun)

/-- the same from any state that satisfies the invariant (e.g. in the middle of a history) -/
theorem C16_history_eq_fresh_from_partial (W : World) (ops : List Op) (s0 s : St) (h0 : Inv W s0)
    (hrun : runGuarded W s0 ops = some s) :
    (process W s).2.1 ≠ .crash ∧ ∀ o, (process W s).2 = (.ok, some o) → freshOut W s = (.ok, some o) :=
  eq_fresh_of_runGuarded2 W ops s0 s h0 (C16_guard2_weaker W ops s0 s hrun)

/-- "It is the same with the line-integral cache enabled or disabled, and after any sequence of changes … followed by
    set-up it equals the result of a freshly configured simulation" — for the histories around the switch
    `set_cache_enabled(bool)` (and `set_use_cache`, and the parsed keyword): the guard of
    `C16_history_eq_fresh_partial` on enabling the cache is weakened to "not on a set-up object UNLESS `set_up` is the very
    next operation". So the history  compute with the cache on; `set_cache_enabled(false)`; change the activity /
    attenuation image (new object, or in place + the same pointer); `set_up`; compute; `set_cache_enabled(true)`; `set_up`;
    compute  is covered: `set_cache_enabled` leaves the arrays alone, the setters remove "their" array although the cache
    is disabled, `set_up` with the cache disabled allocates nothing, and the final `set_up` allocates what is missing and
    keeps what has the right size — which holds values of the current inputs only.
    Every history admitted by the stronger guard is admitted by this one (`C16_guard2_weaker`). -/
theorem C16_history_eq_fresh_partial2 (W : World) (ops : List Op) (s : St) (hrun : runGuarded2 W init ops = some s) :
    (process W s).2.1 ≠ .crash ∧ ∀ o, (process W s).2 = (.ok, some o) → freshOut W s = (.ok, some o) :=
  eq_fresh_of_runGuarded2 W ops init s (inv_init W) hrun

/-- non-vacuity: the three-step history (activity image replaced by a new object, attenuation image changed in place,
    with `set_up` and a computation while the cache is off) satisfies the weaker guard, not the stronger one, and ends
    fresh; its variant without `set_up` in the middle satisfies the stronger guard as well -/
example : (runGuarded2 W0 init histThreeStep).isSome = true ∧ (runGuarded W0 init histThreeStep).isSome = false ∧
    freshAfter W0 histThreeStep = true ∧
    (runGuarded W0 init histThreeStep').isSome = true ∧ freshAfter W0 histThreeStep' = true :=
  ⟨histThreeStep_guarded2, histThreeStep_not_guarded, histThreeStep_fresh, histThreeStep'_guarded, histThreeStep'_fresh⟩

/-- non-vacuity: `set_randomly_place_scatter_points` before the scatter points exist and
    `set_template_proj_data_info(filename)` after a computation, inside the stronger guard, fresh -/
example : (runGuarded W0 init histFile).isSome = true ∧ freshAfter W0 histFile = true :=
  ⟨histFile_guarded, histFile_fresh⟩

/-- why `remove_cache_for_integrals_over_*` must not test `use_cache` (it does not: cached_single_scatter_integrals.cxx:33,39;
    `initialise_cache_…` does): in the state machine with a `set_activity_image_sptr` that leaves the array alone while the
    cache is disabled, the three-step history returns the estimate of the old activity image (the harness forces this
    history for every seed) -/
theorem C16_cache_removal_must_not_depend_on_use_cache : lazyRemovalStale = true := by
  decide +kernel

/-- negative witness outside the property's list of changes (sampling parameter, like threshold and zoom):
    `set_randomly_place_scatter_points` after the scatter points were sampled does not sample them again -/
theorem C16_history_eq_fresh_fails_rnd : staleAfter W0 histRnd = true := by
  decide +kernel

/-- non-vacuity: a guarded history with changes of activity, attenuation, scatter-point image, template and
    energy window after a computation, at the end of which `process` succeeds (and is fresh) -/
def exHistory : List Op :=
  baseConfig ++ [.setUp, .process, .setActivity (some 1), .setUp, .process, .setDensity (some 1), .setThr 1, .setSpImage (some 1),
    .setTemplate (W0.tmpl 1), .setExam 1, .setUseCache false, .setUp, .process, .setActivity (some 2), .setUseCache true, .setUp]

example : (runGuarded W0 init exHistory).isSome = true ∧ freshAfter W0 exHistory = true := by
  decide +kernel

/-- negative witness (replayed by the harness, KNOWN
    `scatter-cache:exam-info-setter-keeps-detection-efficiency-no-scatter`): `set_exam_info` after a computation — the next
    result is normalised with the efficiency of the old energy window -/
theorem C16_history_eq_fresh_fails_exam : staleAfter W0 histExam = true := by
  decide +kernel

/-- negative witness (`scatter-cache:enabling-cache-after-set-up-reads-unallocated-cache`): `set_use_cache(true)` /
    `set_cache_enabled(true)` after `set_up` ran without cache — `process_data` indexes an empty array -/
theorem C16_history_eq_fresh_fails_enable_cache :
    crashAfter W0 histEnableCache = true ∧ crashAfter W0 histEnableCache' = true := by
  decide +kernel

/-- negative witness (`scatter-setup:downsample-scanner-flag-makes-set-up-non-idempotent`): with
    `downsample_scanner_bool` the second `set_up` down-samples the down-sampled template again -/
theorem C16_history_eq_fresh_fails_ds_flag :
    staleAfter W0 histDsFlag = true ∧
      downsampledTmpl (downsampledTmpl (W0.tmpl 0) 2 10) 2 10 ≠ downsampledTmpl (W0.tmpl 0) 2 10 := by
  decide +kernel

/-- non-vacuity: one object with the automatic zoom factors re-used with two other attenuation images, the
    scatter-point image derived by `set_up` and by an explicit down-sampling call: inside the guard, fresh -/
example : (runGuarded W0 init histAutoAtt).isSome = true ∧ freshAfter W0 histAutoAtt = true :=
  ⟨histAutoAtt_guarded, histAutoAtt_fresh⟩

/-- negative witnesses (KNOWN `scatter-setup:automatic-zoom-scatter-point-image-kept-after-template-change` and
    `scatter-setup:automatic-zoom-factors-frozen-by-first-set-up`, replayed by the harness): with the automatic factors a
    template change keeps the scatter-point image derived for the old template, and after `set_density_image_sptr` the
    image is re-derived with the factors stored for the FIRST template -/
theorem C16_history_eq_fresh_fails_auto_zoom :
    staleAfter W0 histAutoTmplKept = true ∧ staleAfter W0 histAutoFrozen = true ∧
      (runGuarded W0 init histAutoTmplKept).isSome = false := by
  decide +kernel

/-- what the automatic call stores (ScatterSimulation.cxx:562): `zoom_size_xy` stays -1 — the x/y size is derived again from
    whatever attenuation image the next call sees — while `zoom_xy`, `zoom_z`, `zoom_size_z` (= number of rings) are fixed -/
theorem C16_auto_downsample_stores (W : World) (s : St) (m : Nat) (t : Tmpl) (zs : Nat → Int × Int)
    (hm : s.att = some m) (hz : s.zoom = none) (ha : s.autoZ = none) (ht : s.tmpl = some t) :
    zoomMembers zs s = (-1, -1, true) ∧ zoomMembers zs (downsampleSp W s).1 = (-1, (t.rings : Int), false) ∧
      (downsampleSp W s).1.spImage = some (.auto m (W.autoClass m t)) ∧
      ∀ m', (downsampleSp W (setDensity (some m') (downsampleSp W s).1).1).1.spImage = some (.auto m' (W.autoClass m t)) := by
  -- every conjunct by running `downsampleSp` in its automatic branch (no zoom parameter set, nothing stored, a template)
  refine ⟨?_, ?_, ?_, fun m' => ?_⟩
  · simp [zoomMembers, hz, ha]
  · simp [zoomMembers, downsampleSp, sampleScatterPoints, hm, hz, ha, ht]
  · simp [downsampleSp, sampleScatterPoints, hm, hz, ha, ht]
  · simp [downsampleSp, sampleScatterPoints, setDensity, hm, hz, ha, ht]

/-- negative witnesses outside the property's list of changes (sampling parameters): a threshold / zoom change
    after the scatter-point image exists is ignored -/
theorem C16_history_eq_fresh_fails_thr_zoom : staleAfter W0 histThr = true ∧ staleAfter W0 histZoom = true := by
  decide +kernel

theorem C16_history_eq_fresh_full_fails : ¬ C16_history_eq_fresh_full := by
  intro h
  obtain ⟨s, o, hr, hp, hne⟩ := staleAfter_spec W0 histExam C16_history_eq_fresh_fails_exam
  exact hne ((h W0 histExam s hr).2 o hp)

/-- another scatter-point image with the same number of scatter points does NOT keep the activity cache:
    `sample_scatter_points` removes both caches -/
theorem C16_spimage_setter_history_fresh : freshAfter W0 histSpImage = true := by
  decide +kernel

end StirVerif.C16
