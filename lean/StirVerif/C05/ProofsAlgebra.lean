/-
C05 — helper lemmas and proofs for the algebraic clauses: the model of `Model.lean` instantiated with an
arbitrary linearly ordered field `K` (in particular `ℚ`, which is what the driver executes, and `ℝ`).
-/
import StirVerif.C05.Model
import Mathlib.Algebra.Order.Field.Basic
import Mathlib.Tactic.Ring
import Mathlib.Algebra.BigOperators.Ring.List

namespace StirVerif.C05

section Field
variable {K : Type} [Field K]

theorem sumMap_cons {α} (f : α → K) (a : α) (l : List α) : sumMap f (a :: l) = f a + sumMap f l := rfl

theorem sumMap_eq_sum {α} (f : α → K) (l : List α) : sumMap f l = (l.map f).sum := by
  induction l with
  | nil => rfl
  | cons a l ih => rw [sumMap_cons, ih, List.map_cons, List.sum_cons]

theorem sumMap_append {α} (f : α → K) (l₁ l₂ : List α) : sumMap f (l₁ ++ l₂) = sumMap f l₁ + sumMap f l₂ := by
  simp only [sumMap_eq_sum, List.map_append, List.sum_append]

theorem sumMap_congr {α} {f g : α → K} {l : List α} (h : ∀ a ∈ l, f a = g a) : sumMap f l = sumMap g l := by
  rw [sumMap_eq_sum, sumMap_eq_sum, List.map_congr_left h]

theorem sumMap_add {α} (f g : α → K) (l : List α) : sumMap (fun a => f a + g a) l = sumMap f l + sumMap g l := by
  simp only [sumMap_eq_sum, List.sum_map_add]

theorem sumMap_sub {α} (f g : α → K) (l : List α) : sumMap (fun a => f a - g a) l = sumMap f l - sumMap g l := by
  rw [eq_sub_iff_add_eq, ← sumMap_add]
  simp only [sub_add_cancel]

theorem sumMap_mul_left {α} (c : K) (f : α → K) (l : List α) : sumMap (fun a => c * f a) l = c * sumMap f l := by
  simp only [sumMap_eq_sum, List.sum_map_mul_left]

theorem sumMap_mul_right {α} (c : K) (f : α → K) (l : List α) : sumMap (fun a => f a * c) l = sumMap f l * c := by
  simp only [sumMap_eq_sum, List.sum_map_mul_right]

theorem sumMap_const {α} (c : K) (l : List α) : sumMap (fun _ => c) l = (l.length : K) * c := by
  rw [sumMap_eq_sum, List.map_const', List.sum_replicate, nsmul_eq_mul]

theorem sumMap_perm {α} (f : α → K) {l₁ l₂ : List α} (h : l₁.Perm l₂) : sumMap f l₁ = sumMap f l₂ := by
  rw [sumMap_eq_sum, sumMap_eq_sum, (h.map f).sum_eq]

theorem sumMap_map {α β} (f : β → K) (g : α → β) (l : List α) : sumMap f (l.map g) = sumMap (fun a => f (g a)) l := by
  rw [sumMap_eq_sum, sumMap_eq_sum, List.map_map]
  rfl

theorem sumMap_flatten {α} (f : α → K) (ls : List (List α)) : sumMap f ls.flatten = sumMap (fun l => sumMap f l) ls := by
  simp only [sumMap_eq_sum, List.map_flatten, List.sum_flatten, List.map_map]
  rfl

theorem sumMap_flatMap {α β} (f : β → K) (g : α → List β) (l : List α) :
    sumMap f (l.flatMap g) = sumMap (fun a => sumMap f (g a)) l := by
  rw [List.flatMap_def, sumMap_flatten, sumMap_map]

theorem sumMap_filter {α} (f : α → K) (p : α → Bool) (l : List α) :
    sumMap f (l.filter p) = sumMap (fun a => if p a then f a else 0) l := by
  simp only [sumMap_eq_sum, List.sum_map_ite, List.sum_map_zero, add_zero, Bool.decide_eq_true]

theorem imageAt_flatMap {α} (g : α → List (Nat × K)) (l : List α) (v : Nat) :
    imageAt (l.flatMap g) v = sumMap (fun a => imageAt (g a) v) l := by
  unfold imageAt
  exact sumMap_flatMap _ _ _

/-- coefficient of voxel `v` in a row: `P_bv` (rows may list a voxel more than once) -/
def coef (row : List (Nat × K)) (v : Nat) : K := sumMap (fun e => if e.1 = v then e.2 else 0) row

theorem imageAt_row (row : List (Nat × K)) (w : K) (v : Nat) :
    imageAt (row.map fun e => (e.1, e.2 * w)) v = coef row v * w := by
  unfold imageAt coef
  rw [sumMap_map, ← sumMap_mul_right]
  exact sumMap_congr fun e _ => (ite_zero_mul _ _ _).symm

theorem imageAt_bckVg (smallF : Viewgram K → K) (w : K → Bin K → K) (vg : Viewgram K) (v : Nat) :
    imageAt (bckVg smallF w vg) v = sumMap (fun b => coef b.row v * w (smallF vg) b) vg := by
  unfold bckVg
  simp only []
  rw [imageAt_flatMap]
  apply sumMap_congr
  intro b _
  exact imageAt_row b.row _ v

theorem imageAt_flatMap_bckVg (smallF : Viewgram K → K) (w : K → Bin K → K) (S : List (Viewgram K)) (v : Nat) :
    imageAt (S.flatMap (bckVg smallF w)) v =
      sumMap (fun vg => sumMap (fun b => coef b.row v * w (smallF vg) b) vg) S := by
  rw [imageAt_flatMap]
  apply sumMap_congr
  intro vg _
  exact imageAt_bckVg smallF w vg v

theorem sumMap_range_getD {α : Type} (g : α → K) (d : α) (l : List α) :
    sumMap (fun s => g (l.getD s d)) (List.range l.length) = sumMap g l := by
  induction l with
  | nil => simp [sumMap]
  | cons a l ih =>
    rw [List.length_cons, List.range_succ_eq_map, sumMap_cons, sumMap_map, sumMap_cons]
    simp only [List.getD_cons_zero, List.getD_cons_succ]
    rw [ih]

theorem sum_over_subsets_of_additive (t : Viewgram K → K) {Ss : List (List (Viewgram K))} {All : List (Viewgram K)}
    (h : Ss.flatten.Perm All) : sumMap (fun S => sumMap t S) Ss = sumMap t All := by
  rw [← sumMap_flatten]
  exact sumMap_perm t h

theorem imageAt_flatMap_subsets (g : Viewgram K → List (Nat × K)) {Ss : List (List (Viewgram K))} {All : List (Viewgram K)}
    (h : Ss.flatten.Perm All) (v : Nat) : sumMap (fun S => imageAt (S.flatMap g) v) Ss = imageAt (All.flatMap g) v := by
  simp only [imageAt_flatMap]
  exact sum_over_subsets_of_additive _ h

theorem foldl_sub {α} (f : α → K) (l : List α) (out0 : K) : l.foldl (fun o a => o - f a) out0 = out0 - sumMap f l := by
  induction l generalizing out0 with
  | nil => simp [sumMap]
  | cons a l ih =>
    rw [List.foldl_cons, ih, sumMap_cons]
    ring

theorem penFullAccumulate_eq (prods : List K) (p nn out0 : K) :
    penFullAccumulate prods p nn out0 = out0 - sumMap id prods - (prods.length : K) * (p / nn) := by
  unfold penFullAccumulate
  -- every turn subtracts the product and the share
  simp only [penalisedHess, sub_sub]
  rw [foldl_sub (fun h => h + p / nn), sumMap_add, sumMap_const]
  rfl

theorem natCast_mul_share [CharZero K] {n : Nat} (hn : n ≠ 0) (p : K) : (n : K) * (p / (n : K)) = p :=
  mul_div_cancel₀ p (Nat.cast_ne_zero.mpr hn)

theorem penFullAccumulate_subsets [CharZero K] (g : Viewgram K → List (Nat × K)) {Ss : List (List (Viewgram K))} {All : List (Viewgram K)}
    (h : Ss.flatten.Perm All) (hn : Ss ≠ []) (p out0 : K) (v : Nat) :
    penFullAccumulate (Ss.map fun S => imageAt (S.flatMap g) v) p (Ss.length : K) out0 = out0 - imageAt (All.flatMap g) v - p := by
  rw [penFullAccumulate_eq, List.length_map, natCast_mul_share (mt List.length_eq_zero_iff.mp hn), sumMap_map]
  exact congrArg (out0 - · - p) (imageAt_flatMap_subsets g h v)

theorem mult_of_zeroed {zero : Bool} {b : Bin K} (h : zeroed zero b = true) : mult zero b = some 0 := by
  have hz : zero = true := by
    unfold zeroed at h
    simp at h
    exact h.1
  subst hz
  unfold mult
  by_cases hf : b.fac.isEmpty <;> simp [hf, h]

theorem mult_none_not_zeroed {zero : Bool} {b : Bin K} (h : mult zero b = none) : zeroed zero b = false :=
  Bool.eq_false_iff.mpr fun hz => Option.some_ne_none 0 ((mult_of_zeroed hz).symm.trans h)

/-- the efficiency `n_b` of a bin: `undo` applied to 1 (1 for the trivial normalisation) -/
def effB (b : Bin K) : K := undoNorm b.fac 1

/-- the multiplicative term of a bin of the data is its efficiency, or it is absent, and then the normalisation is trivial -/
theorem mult_of_not_zeroed {zero : Bool} {b : Bin K} (h : zeroed zero b = false) :
    mult zero b = some (effB b) ∨ mult zero b = none ∧ effB b = 1 := by
  unfold mult
  by_cases hf : b.fac.isEmpty
  · -- the trivial normalisation: efficiency 1, and the term is absent or (with `zero_seg0_end_planes`) 1
    have he : effB b = 1 := by
      unfold effB undoNorm
      simp [List.isEmpty_iff.mp hf]
    rw [he]
    cases zero <;> simp [hf, h]
  · simp [hf, h, effB]

theorem sens_eq (zero : Bool) (S : List (Viewgram K)) (v : Nat) :
    sens zero S v = sumMap (fun vg => sumMap (fun b => coef b.row v * sensW zero b) vg) S := by
  unfold sens sensContribs
  exact imageAt_flatMap_bckVg _ _ S v

end Field

variable {K : Type} [Field K] [LinearOrder K]

omit [Field K] in
theorem maxK_eq_max (a b : K) : maxK a b = max a b := (max_def_lt a b).symm

theorem smallOf_nonneg (c : Consts K) (f : Bin K → K) (vg : Viewgram K) : 0 ≤ smallOf c f vg := by
  rw [smallOf, maxK_eq_max]
  exact le_max_right _ _

theorem divTrunc_zero (c : Consts K) {small : K} (hs : 0 ≤ small) (d : K) : divTrunc c small 0 d = 0 := by
  unfold divTrunc
  simp [hs]

theorem divTrunc_on_regular (c : Consts K) {small y d : K} (h : y = 0 ∨ small < y)
    (hcap : y ≤ c.maxQuot * d) : divTrunc c small y d = y / d := by
  unfold divTrunc
  rcases h with rfl | h
  · simp [not_lt.mpr hcap]
  · simp [not_le.mpr h, not_lt.mpr hcap]

/-- what is subtracted in the gradient = what is back projected for the sensitivity -/
theorem gradW_eq_plus_sub_sensW (c : Consts K) (zero : Bool) (img : Nat → K) (small : K) (b : Bin K) :
    gradW c zero false img small b = gradW c zero true img small b - sensW zero b := by
  unfold gradW sensW
  simp only [Bool.false_eq_true, if_false, if_true]
  cases h : mult zero b with
  | some m => rfl
  | none => simp [mult_none_not_zeroed h]

theorem grad_eq (c : Consts K) (zero : Bool) (img : Nat → K) (S : List (Viewgram K)) (v : Nat) :
    grad c zero img S v =
      sumMap (fun vg => sumMap (fun b => coef b.row v * gradW c zero false img (smallOf c (yEff zero) vg) b) vg) S := by
  unfold grad gradContribs
  exact imageAt_flatMap_bckVg _ _ S v

theorem gradPlusSens_eq (c : Consts K) (zero : Bool) (img : Nat → K) (S : List (Viewgram K)) (v : Nat) :
    gradPlusSens c zero img S v =
      sumMap (fun vg => sumMap (fun b => coef b.row v * gradW c zero true img (smallOf c (yEff zero) vg) b) vg) S := by
  unfold gradPlusSens gradContribs
  exact imageAt_flatMap_bckVg _ _ S v

theorem hessTimes_eq (c : Consts K) (zero : Bool) (img x : Nat → K) (out0 : K) (S : List (Viewgram K)) (v : Nat) :
    hessTimes c zero img x out0 S v =
      out0 - sumMap (fun vg => sumMap (fun b => coef b.row v * hessW c zero img x (smallOf c (hessNum zero x) vg) b) vg) S := by
  unfold hessTimes hessContribs
  rw [imageAt_flatMap_bckVg]

theorem approxHess_eq (c : Consts K) (zero : Bool) (x : Nat → K) (out0 : K) (S : List (Viewgram K)) (v : Nat) :
    approxHess c zero x out0 S v =
      out0 - sumMap (fun vg => sumMap (fun b => coef b.row v * ahessW c zero x (smallOf c (ahessNum zero x) vg) b) vg) S := by
  unfold approxHess ahessContribs
  rw [imageAt_flatMap_bckVg]

-- stated for a linearly ordered field, like everything the property theorems speak of, though the proofs need less

section
set_option linter.unusedSectionVars false
variable [IsStrictOrderedRing K]

theorem grad_eq_gradPlusSens_sub_sens (c : Consts K) (zero : Bool) (img : Nat → K) (S : List (Viewgram K)) (v : Nat) :
    grad c zero img S v = gradPlusSens c zero img S v - sens zero S v := by
  rw [grad_eq, gradPlusSens_eq, sens_eq, ← sumMap_sub]
  apply sumMap_congr
  intro vg _
  rw [← sumMap_sub]
  apply sumMap_congr
  intro b _
  rw [gradW_eq_plus_sub_sensW]
  ring

theorem sumMap_nil {α} (f : α → K) : sumMap f [] = 0 := rfl

theorem sumMap_zero {α} (l : List α) : sumMap (fun _ => (0 : K)) l = 0 :=
  (sumMap_const 0 l).trans (mul_zero _)

theorem imageAt_append (a b : List (Nat × K)) (v : Nat) : imageAt (a ++ b) v = imageAt a v + imageAt b v := by
  unfold imageAt
  exact sumMap_append _ _ _

theorem imageAt_nil (v : Nat) : imageAt ([] : List (Nat × K)) v = 0 := rfl

theorem imageAt_perm {a b : List (Nat × K)} (h : a.Perm b) (v : Nat) : imageAt a v = imageAt b v := by
  unfold imageAt
  exact sumMap_perm _ h

end

end StirVerif.C05
