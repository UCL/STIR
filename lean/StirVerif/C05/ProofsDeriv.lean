/-
C05 — over `ℝ` with `Real.log`: on the (strict) regular region the per-bin terms of the model's value and gradient are
differentiable along every direction in image space, with the per-bin terms of the gradient resp. of the textbook Hessian
product as derivatives.
-/
import StirVerif.C05.ProofsTextbook
import Mathlib.Analysis.SpecialFunctions.Log.Deriv

namespace StirVerif.C05
open Filter Topology

def shift (img : Nat → ℝ) (v : Nat) (t : ℝ) : Nat → ℝ := fun i => img i + t * (if i = v then 1 else 0)

theorem shift_zero (img : Nat → ℝ) (v : Nat) : shift img v 0 = img := by
  funext i
  simp [shift]

def shiftX (img x : Nat → ℝ) (t : ℝ) : Nat → ℝ := fun i => img i + t * x i

theorem shift_eq_shiftX (img : Nat → ℝ) (v : Nat) (t : ℝ) : shift img v t = shiftX img (fun i => if i = v then 1 else 0) t := rfl

theorem fwd_unit (v : Nat) (row : List (Nat × ℝ)) : fwd (fun i => if i = v then 1 else 0) row = coef row v :=
  sumMap_congr fun _ _ => mul_boole _ _

theorem fwd_shiftX (img x : Nat → ℝ) (t : ℝ) (row : List (Nat × ℝ)) :
    fwd (shiftX img x t) row = fwd img row + t * fwd x row := by
  unfold fwd shiftX
  rw [← sumMap_mul_left, ← sumMap_add]
  apply sumMap_congr
  intro e _
  ring

theorem ybarTB_shiftX (img x : Nat → ℝ) (t : ℝ) (b : Bin ℝ) :
    ybarTB (shiftX img x t) b = ybarTB img b + t * fwd x b.row := by
  unfold ybarTB
  rw [fwd_shiftX]
  ring

theorem hasDerivAt_sumMap {α} (f : ℝ → α → ℝ) (f' : α → ℝ) (x : ℝ) (l : List α)
    (h : ∀ a ∈ l, HasDerivAt (fun t => f t a) (f' a) x) :
    HasDerivAt (fun t => sumMap (f t) l) (sumMap f' l) x := by
  induction l with
  | nil => exact hasDerivAt_const x (0 : ℝ)
  | cons a l ih => exact (h a (List.mem_cons_self ..)).add (ih fun b hb => h b (List.mem_cons_of_mem _ hb))

/-- chain rule along the line `λ + t·x`: `(Pλ+a)_b` moves with speed `(Px)_b` -/
theorem hasDerivAt_along {f : ℝ → ℝ} {f' : ℝ} (img x : Nat → ℝ) (b : Bin ℝ) (hf : HasDerivAt f f' (ybarTB img b)) :
    HasDerivAt (fun t => f (ybarTB (shiftX img x t) b)) (fwd x b.row * f') 0 := by
  have hin : HasDerivAt (fun t => ybarTB (shiftX img x t) b) (fwd x b.row) 0 := by
    simp only [ybarTB_shiftX]
    simpa using ((hasDerivAt_id (0 : ℝ)).mul_const (fwd x b.row)).const_add (ybarTB img b)
  have hf0 : HasDerivAt f f' (ybarTB (shiftX img x 0) b) := by rwa [ybarTB_shiftX, zero_mul, add_zero]
  rw [mul_comm]
  exact hf0.comp 0 hin

/-- a cap that is strictly inactive at the image stays inactive near it -/
theorem eventually_cap {a k : ℝ} (img x : Nat → ℝ) (b : Bin ℝ) (h : a < k * ybarTB img b) :
    ∀ᶠ t in 𝓝 (0 : ℝ), a < k * ybarTB (shiftX img x t) b := by
  have hc := ((hasDerivAt_along img x b (hasDerivAt_id _)).const_mul k).continuousAt
  exact hc.eventually (lt_mem_nhds (by simpa [ybarTB_shiftX] using h))

theorem nonneg_of_regular {y small : ℝ} (hs : 0 ≤ small) (hy : y = 0 ∨ small < y) : 0 ≤ y := by
  rcases hy with hy | hy
  · exact hy.ge
  · exact (hs.trans_lt hy).le

/-- the strict regular region: as `RegularGrad` and `RegularValue`, the cap of the value being strictly inactive -/
def StrictRegular (c : Consts ℝ) (zero : Bool) (img : Nat → ℝ) (S : List (Viewgram ℝ)) : Prop :=
  ∀ vg ∈ S, ∀ b ∈ vg, zeroed zero b = false →
    (b.y = 0 ∨ smallOf c (yEff zero) vg < b.y) ∧ b.y ≤ c.maxQuot * ybarTB img b ∧
      b.y / c.maxQuot < effB b * ybarTB img b

theorem valueTerm_hasDerivAt (c : Consts ℝ) (hq : 0 < c.maxQuot) (zero : Bool) (img x : Nat → ℝ) {small : ℝ}
    (hs : 0 ≤ small) (b : Bin ℝ)
    (h : zeroed zero b = false →
      (b.y = 0 ∨ small < b.y) ∧ b.y ≤ c.maxQuot * ybarTB img b ∧ b.y / c.maxQuot < effB b * ybarTB img b) :
    HasDerivAt (fun t => valueTerm c Real.log zero (shiftX img x t) small b)
      (fwd x b.row * gradW c zero false img small b) 0 := by
  cases hz : zeroed zero b
  · obtain ⟨hy, hcapG, hcapV⟩ := h hz
    rw [gradW_textbook c img hs fun _ => ⟨hy, hcapG⟩, hz]
    -- counts are 0 or above a nonnegative threshold, so `n (Pλ+a)` is positive: the logarithm is differentiable
    have hnY : 0 < effB b * ybarTB img b := (div_nonneg (nonneg_of_regular hs hy) hq.le).trans_lt hcapV
    have hin := (hasDerivAt_id (ybarTB img b)).const_mul (effB b)
    have hf : HasDerivAt (fun Y => b.y * Real.log (effB b * Y) - effB b * Y) (b.y / ybarTB img b - effB b) (ybarTB img b) := by
      refine (((hin.log hnY.ne').const_mul b.y).sub hin).congr_deriv ?_
      show b.y * (effB b * 1 / (effB b * ybarTB img b)) - effB b * 1 = _
      rw [mul_one, ← div_div, div_self (left_ne_zero_of_mul hnY.ne'), mul_one_div]
    -- near the image the cap of the estimate stays inactive and the term is the textbook term
    refine (hasDerivAt_along img x b hf).congr_of_eventuallyEq ?_
    filter_upwards [eventually_cap img x b hcapV] with t ht
    rw [valueTerm_textbook c Real.log _ fun _ => ⟨hy, ht.le⟩, hz]
    rfl
  · -- a cleared bin contributes nothing, whatever the image
    have h0 : (fun t => valueTerm c Real.log zero (shiftX img x t) small b) = fun _ => (0 : ℝ) :=
      funext fun t => valueTerm_zeroed c Real.log _ small hz
    rw [h0, gradW_zeroed c false img hs hz, mul_zero]
    exact hasDerivAt_const _ _

def StrictRegularGrad (c : Consts ℝ) (zero : Bool) (img : Nat → ℝ) (S : List (Viewgram ℝ)) : Prop :=
  ∀ vg ∈ S, ∀ b ∈ vg, zeroed zero b = false →
    (b.y = 0 ∨ smallOf c (yEff zero) vg < b.y) ∧ b.y < c.maxQuot * ybarTB img b

theorem gradW_hasDerivAt (c : Consts ℝ) (hq : 0 < c.maxQuot) (zero : Bool) (img x : Nat → ℝ) {small : ℝ}
    (hs : 0 ≤ small) (b : Bin ℝ)
    (h : zeroed zero b = false → (b.y = 0 ∨ small < b.y) ∧ b.y < c.maxQuot * ybarTB img b) :
    HasDerivAt (fun t => gradW c zero false (shiftX img x t) small b)
      (if zeroed zero b then 0 else -(b.y * fwd x b.row / (ybarTB img b * ybarTB img b))) 0 := by
  cases hz : zeroed zero b
  · obtain ⟨hy, hcap⟩ := h hz
    have hY : 0 < ybarTB img b := (mul_pos_iff_of_pos_left hq).mp ((nonneg_of_regular hs hy).trans_lt hcap)
    have hf : HasDerivAt (fun Y => b.y / Y - effB b) (-(b.y / (ybarTB img b * ybarTB img b))) (ybarTB img b) := by
      refine (((hasDerivAt_const _ b.y).div (hasDerivAt_id (ybarTB img b)) hY.ne').sub_const (effB b)).congr_deriv ?_
      show (0 * ybarTB img b - b.y * 1) / ybarTB img b ^ 2 = _
      rw [zero_mul, mul_one, zero_sub, neg_div, pow_two]
    rw [if_neg Bool.false_ne_true]
    refine ((hasDerivAt_along img x b hf).congr_of_eventuallyEq ?_).congr_deriv (by ring)
    filter_upwards [eventually_cap img x b hcap] with t ht
    rw [gradW_textbook c _ hs fun _ => ⟨hy, ht.le⟩, hz]
    rfl
  · have h0 : (fun t => gradW c zero false (shiftX img x t) small b) = fun _ => (0 : ℝ) :=
      funext fun t => gradW_zeroed c false _ hs hz
    rw [h0]
    exact hasDerivAt_const _ _

end StirVerif.C05
