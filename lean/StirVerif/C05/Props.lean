/-
C05 — "Poisson log-likelihood quantities equal their textbook definition".
Property theorems over the model of `Model.lean` (a transcription of
`PoissonLogLikelihoodWithLinearModelForMeanAndProjData` and the functions it calls), for an arbitrary
linearly ordered field `K` (so in particular for `ℚ`, at which the driver executes the same definitions, and
for `ℝ`), every image, every data set, every number of viewgrams / bins / voxels, every subset scheme and
every request history.  Floating point rounding is not part of the model.
-/
import StirVerif.C05.Proofs
import StirVerif.Common.ArrayFold
import Mathlib.Tactic.NormNum

-- every statement is for a linearly ordered field (the section variables), though few proofs use the order
set_option linter.unusedSectionVars false

namespace StirVerif.C05
variable {K : Type} [Field K] [LinearOrder K] [IsStrictOrderedRing K]

/-! ## "The 'gradient plus sensitivity' quantity exceeds the gradient by exactly the sensitivity" -/

/-- the subset gradient is the "subset gradient plus sensitivity" minus the subset sensitivity, voxel by voxel,
    exactly (thresholds, end-plane clearing, trivial / non-trivial normalisation included), when the sensitivity is
    computed with the same projector on the same viewgrams (i.e. not for TOF data with a non-TOF sensitivity projector).
    A `Bin` carries its own chain of factors, so this covers normalisation factors that differ from TOF bin to TOF bin
    (`BinNormalisationFromProjData` on TOF data, cxx:134/:145) — the configurations in which the library itself switches to
    the same projector, `C05_tof_norm_uses_same_projector` below.
    The harness evaluates this identity also on objects whose setters were called AFTER `set_up` without a new `set_up`
    (whatever such an object still answers: gradient-plus-sensitivity minus gradient against `get_subset_sensitivity`),
    which is where a flag that is not reset shows — `C05_answered_after_setters_is_fresh` below -/
theorem C05_grad_eq_gradPlusSens_sub_sens (c : Consts K) (zero : Bool) (img : Nat → K) (S : List (Viewgram K)) (v : Nat) :
    grad c zero img S v = gradPlusSens c zero img S v - sens zero S v :=
  grad_eq_gradPlusSens_sub_sens c zero img S v

/-! ## "each quantity summed over all subsets equals its full-data counterpart"
Hypothesis: the viewgrams of the subsets together are a rearrangement of the viewgrams of the data
(`Ss.flatten.Perm All`; that the library's subset scheme has this property is C06). -/

theorem C05_sum_over_subsets_grad (c : Consts K) (zero : Bool) (img : Nat → K) (Ss : List (List (Viewgram K)))
    (All : List (Viewgram K)) (h : Ss.flatten.Perm All) (v : Nat) :
    sumMap (fun S => grad c zero img S v) Ss = grad c zero img All v :=
  imageAt_flatMap_subsets _ h v

theorem C05_sum_over_subsets_gradPlusSens (c : Consts K) (zero : Bool) (img : Nat → K) (Ss : List (List (Viewgram K)))
    (All : List (Viewgram K)) (h : Ss.flatten.Perm All) (v : Nat) :
    sumMap (fun S => gradPlusSens c zero img S v) Ss = gradPlusSens c zero img All v :=
  imageAt_flatMap_subsets _ h v

/-- the harness asks for the subset sensitivities and the total not only of newly constructed objects but after every one of
    up to five `set_up`s of one object (`C05_resetup_sensitivities_textbook` below: the total such an object holds is this sum) -/
theorem C05_sum_over_subsets_sens (zero : Bool) (Ss : List (List (Viewgram K)))
    (All : List (Viewgram K)) (h : Ss.flatten.Perm All) (v : Nat) :
    sumMap (fun S => sens zero S v) Ss = sens zero All v :=
  imageAt_flatMap_subsets _ h v

theorem C05_sum_over_subsets_value (c : Consts K) (log : K → K) (zero : Bool) (img : Nat → K) (Ss : List (List (Viewgram K)))
    (All : List (Viewgram K)) (h : Ss.flatten.Perm All) :
    sumMap (fun S => value c log zero img S) Ss = value c log zero img All :=
  sum_over_subsets_of_additive _ h

/-- Hessian times input, accumulated subset after subset into the same output (`accumulate_Hessian_times_input`),
    is the Hessian times input of the full data -/
theorem C05_sum_over_subsets_hessTimes (c : Consts K) (zero : Bool) (img x : Nat → K) (Ss : List (List (Viewgram K)))
    (All : List (Viewgram K)) (h : Ss.flatten.Perm All) (out0 : K) (v : Nat) :
    Ss.foldl (fun o S => hessTimes c zero img x o S v) out0 = hessTimes c zero img x out0 All v := by
  unfold hessTimes hessContribs
  rw [foldl_sub, imageAt_flatMap_subsets _ h v]

theorem C05_sum_over_subsets_approxHess (c : Consts K) (zero : Bool) (x : Nat → K) (Ss : List (List (Viewgram K)))
    (All : List (Viewgram K)) (h : Ss.flatten.Perm All) (out0 : K) (v : Nat) :
    Ss.foldl (fun o S => approxHess c zero x o S v) out0 = approxHess c zero x out0 All v := by
  unfold approxHess ahessContribs
  rw [foldl_sub, imageAt_flatMap_subsets _ h v]

/-- when `use_subset_sensitivities` is off every subset reports the total divided by the number of subsets:
    these shares again add up to the total (the harness also checks it on the sensitivity file a later `set_up` of a re-used
    object writes: file = `get_sensitivity()` = sum of the shares) -/
theorem C05_sum_over_subsets_sensShare (total : K) (n : Nat) (hn : n ≠ 0) :
    sumMap (fun _ => sensShare total (n : K)) (List.range n) = total := by
  unfold sensShare
  rw [sumMap_const, List.length_range, natCast_mul_share hn]

/-! ## "with a prior the penalised quantities are the unpenalised ones minus the prior's share" -/

/-- this is the definition, transcribed from `GeneralisedObjectiveFunction` (cxx:121-160, :240) -/
theorem C05_penalised_eq (q p n : K) : penalised q p n = q - p / n := rfl

theorem C05_penalised_sum_over_subsets {α} (q : α → K) (p : K) (Ss : List α) (hn : Ss ≠ []) :
    sumMap (fun S => penalised (q S) p (Ss.length : K)) Ss = sumMap q Ss - p := by
  unfold penalised
  rw [sumMap_sub, sumMap_const, natCast_mul_share (mt List.length_eq_zero_iff.mp hn)]

/-- the Hessian products (`accumulate_sub_Hessian_times_input`, `add_multiplication_with_approximate_sub_Hessian`): the share
    subtracted is the prior's Hessian applied to the *input*, divided by the number of subsets
    (GeneralisedObjectiveFunction.cxx:295, :397 since 119733357; the harness oracle checks on the implementation that it
    is not the prior's Hessian applied to the output) -/
theorem C05_penalised_hessian (q priorOfInput n : K) : penalisedHess q priorOfInput n = penalised q priorOfInput n := rfl

theorem C05_penalised_hessian_sum_over_subsets {α} (q : α → K) (priorOfInput : K) (Ss : List α) (hn : Ss ≠ []) :
    sumMap (fun S => penalisedHess (q S) priorOfInput (Ss.length : K)) Ss = sumMap q Ss - priorOfInput :=
  C05_penalised_sum_over_subsets q priorOfInput Ss hn

/-- the full-data functions on an object with a prior (`compute_objective_function(image)`, `compute_gradient`): the
    unpenalised full-data quantity minus the whole prior term — which is what the penalised subset quantities add up to -/
theorem C05_penalised_full_eq_sum_over_subsets {α} (q : α → K) (p : K) (Ss : List α) (hn : Ss ≠ []) :
    penalisedFull (sumMap q Ss) p = sumMap (fun S => penalised (q S) p (Ss.length : K)) Ss :=
  (C05_penalised_sum_over_subsets q p Ss hn).symm

/-- the loop the driver executes on the per-subset products at one voxel is the model's full-data penalised Hessian product -/
theorem C05_penFullAccumulate_is_hessTimesPenFull (c : Consts K) (zero : Bool) (img x : Nat → K) (priorOfInput nn out0 : K)
    (Ss : List (List (Viewgram K))) (v : Nat) :
    penFullAccumulate (Ss.map fun S => imageAt (hessContribs c zero img x S) v) priorOfInput nn out0
      = hessTimesPenFull c zero img x priorOfInput nn out0 Ss v := by
  unfold penFullAccumulate hessTimesPenFull hessTimes
  rw [List.foldl_map]

theorem C05_penFullAccumulate_is_approxHessPenFull (c : Consts K) (zero : Bool) (x : Nat → K) (priorOfInput nn out0 : K)
    (Ss : List (List (Viewgram K))) (v : Nat) :
    penFullAccumulate (Ss.map fun S => imageAt (ahessContribs c zero x S) v) priorOfInput nn out0
      = approxHessPenFull c zero x priorOfInput nn out0 Ss v := by
  unfold penFullAccumulate approxHessPenFull approxHess
  rw [List.foldl_map]

/-- `accumulate_Hessian_times_input` on an object with a prior (the subsets accumulated one after the other into the same
    output, every step penalised with the share `H_prior·input / num_subsets`) is the unpenalised full-data Hessian product
    minus the whole prior term `H_prior·input` -/
theorem C05_penalised_full_hessTimes (c : Consts K) (zero : Bool) (img x : Nat → K) (Ss : List (List (Viewgram K)))
    (All : List (Viewgram K)) (h : Ss.flatten.Perm All) (hn : Ss ≠ []) (priorOfInput out0 : K) (v : Nat) :
    hessTimesPenFull c zero img x priorOfInput (Ss.length : K) out0 Ss v
      = penalisedFull (hessTimes c zero img x out0 All v) priorOfInput := by
  rw [← C05_penFullAccumulate_is_hessTimesPenFull]
  exact penFullAccumulate_subsets _ h hn priorOfInput out0 v

/-- likewise `add_multiplication_with_approximate_Hessian` -/
theorem C05_penalised_full_approxHess (c : Consts K) (zero : Bool) (x : Nat → K) (Ss : List (List (Viewgram K)))
    (All : List (Viewgram K)) (h : Ss.flatten.Perm All) (hn : Ss ≠ []) (priorOfInput out0 : K) (v : Nat) :
    approxHessPenFull c zero x priorOfInput (Ss.length : K) out0 Ss v
      = penalisedFull (approxHess c zero x out0 All v) priorOfInput := by
  rw [← C05_penFullAccumulate_is_approxHessPenFull]
  exact penFullAccumulate_subsets _ h hn priorOfInput out0 v

/-! ## "every legal number of subsets", "maximum segment … range", "TOF and non-TOF … with … proj-data … normalisation":
what `set_up` makes of the configuration -/

/-- `set_up` accepts a number of subsets exactly when subset sensitivities are used or all subsets contain the same number
    of viewgrams (the counts are those of `actual_subsets_are_approximately_balanced`; the harness compares the refusal of
    the implementation with this function on counts it obtains independently) -/
theorem C05_setUp_accepts_iff (useSubsetSens : Bool) (counts : List Nat) :
    setUpAcceptsSubsets useSubsetSens counts = true ↔ (useSubsetSens = true ∨ ∀ a ∈ counts, ∀ b ∈ counts, a = b) := by
  rw [← subsetsBalanced_iff]
  unfold setUpAcceptsSubsets
  cases useSubsetSens <;> cases subsetsBalanced counts <;> simp

/-- the segment range after `set_up`: the maximum of the data for the setting `-1`, the setting itself otherwise; refused
    exactly when the setting exceeds the data.  `setting` is the value of the member when `set_up` starts: for the first `set_up`
    of an object what the caller set; for a later one `-1` again if the value came from the default (the mark `maxSegDefault` that
    `suSeg` of Model.lean sets and tests; `C05_default_range_kept_when_set_up_again_fails` is the behaviour before that repair) -/
theorem C05_segRange (setting dataMax : Int) :
    (segRangeAfterSetUp setting dataMax = none ↔ (setting ≠ -1 ∧ dataMax < setting)) ∧
    ∀ m, segRangeAfterSetUp setting dataMax = some m → m ≤ dataMax ∧ (setting = -1 → m = dataMax) ∧ (setting ≠ -1 → m = setting) := by
  unfold segRangeAfterSetUp
  by_cases hs : setting = -1
  · subst hs
    simp
  · by_cases hgt : dataMax < setting
    · simp [hs, hgt]
    · simp [hs, hgt]
      omega

/-- the TOF range after `set_up` ("maximum … TOF range"): the maximum TOF bin of the data for the default `-1`, the setting
    itself otherwise; refused exactly when the setting exceeds the data.  Value, gradient, sensitivity and both Hessian
    products are those of the TOF bins `-m … m` (the harness hands exactly these viewgrams to the model and to the textbook oracle) -/
theorem C05_tofRange (setting dataMax : Int) :
    (tofRangeAfterSetUp setting dataMax = none ↔ (setting ≠ -1 ∧ dataMax < setting)) ∧
    ∀ m, tofRangeAfterSetUp setting dataMax = some m → m ≤ dataMax ∧ (setting = -1 → m = dataMax) ∧ (setting ≠ -1 → m = setting) :=
  -- `tofRangeAfterSetUp` has the body of `segRangeAfterSetUp`
  C05_segRange setting dataMax

/-- TOF data with normalisation factors per TOF bin: when `set_up` computes the sensitivities it does so with the same (TOF)
    projector as the gradient — whatever `use_tofsens` was — so that `C05_grad_eq_gradPlusSens_sub_sens` applies to what the
    library computes -/
theorem C05_tof_norm_uses_same_projector (useTofsens tofData restricted : Bool) (links : List Bool) (h : true ∈ links) :
    sensUsesSameProjector tofData (useTofsensAfterSetUp true useTofsens tofData (isTofOnlyNorm links) restricted) = true := by
  rw [(isTofOnlyNorm_iff links).mpr h]
  cases useTofsens <;> cases tofData <;> cases restricted <;> rfl

/-- a TOF range below the maximum of the data: the sensitivity computed by `set_up` is the one of the same TOF bins with the
    same projector (a non-TOF sensitivity would be the sum over all TOF bins), so that gradient-plus-sensitivity minus
    gradient is that sensitivity -/
theorem C05_restricted_tof_range_uses_same_projector (useTofsens tofData normTof : Bool) :
    sensUsesSameProjector tofData (useTofsensAfterSetUp true useTofsens tofData normTof true) = true := by
  cases useTofsens <;> cases tofData <;> cases normTof <;> rfl

/-- without TOF factors and with the full TOF range — or when `set_up` does not compute the sensitivities — the switch is left
    as the user set it -/
theorem C05_tofsens_unchanged_without_tof_norm (recompute useTofsens tofData : Bool) (links : List Bool) (h : true ∉ links) :
    useTofsensAfterSetUp recompute useTofsens tofData (isTofOnlyNorm links) false = useTofsens ∧
    ∀ normTof restricted, useTofsensAfterSetUp false useTofsens tofData normTof restricted = useTofsens := by
  rw [Bool.eq_false_iff.mpr (mt (isTofOnlyNorm_iff links).mp h)]
  refine ⟨?_, ?_⟩
  · cases recompute <;> cases useTofsens <;> cases tofData <;> rfl
  · intro normTof restricted
    cases useTofsens <;> cases tofData <;> cases normTof <;> cases restricted <;> rfl

/-- non-vacuity: 4 views in 3 subsets (2, 1, 1 viewgrams) are refused without subset sensitivities and accepted with them;
    a chain `table × FromProjData(TOF)` switches the TOF sensitivity on; segment settings -1, 1, 3 on data with maximum 2 -/
example : setUpAcceptsSubsets false [2, 1, 1] = false ∧ setUpAcceptsSubsets true [2, 1, 1] = true ∧
    setUpAcceptsSubsets false [2, 2] = true := by decide

example : useTofsensAfterSetUp true false true (isTofOnlyNorm [false, true]) false = true ∧
    useTofsensAfterSetUp false false true (isTofOnlyNorm [false, true]) false = false ∧
    useTofsensAfterSetUp true false true (isTofOnlyNorm [false]) true = true ∧
    useTofsensAfterSetUp true false true (isTofOnlyNorm [false]) false = false := by decide

example : tofRangeAfterSetUp (-1) 2 = some 2 ∧ tofRangeAfterSetUp 0 2 = some 0 ∧ tofRangeAfterSetUp 3 2 = none := by decide

example : segRangeAfterSetUp (-1) 2 = some 2 ∧ segRangeAfterSetUp 1 2 = some 1 ∧ segRangeAfterSetUp 3 2 = none := by decide

/-- **regression witness (histories)**: before 21399bd07 `set_up` stored the range it derived from the default `-1` in the member
    itself and did not remember that (cxx:590-591, :599-600 of cf0311315), so a second `set_up` of the same object started from the
    FIRST data's maximum instead of `-1` — the compositions below: first data with maximum 0 (non-TOF), then data with maximum 2
    (5 TOF bins) → range 0 instead of 2; first maximum 2, then maximum 0 → `set_up` refused; a newly constructed object gives 2 resp. 0.
    Since the fix the object remembers that the value came from the default and a later `set_up` starts from `-1` again
    (`segRangeAfterSetUp (-1) dataMax` for every `set_up`; harness: re-use histories with change `data-and-projectors`). -/
theorem C05_default_range_kept_when_set_up_again_fails :
    ((tofRangeAfterSetUp (-1) 0).bind fun member => tofRangeAfterSetUp member 2) = some 0 ∧ tofRangeAfterSetUp (-1) 2 = some 2 ∧
    ((tofRangeAfterSetUp (-1) 2).bind fun member => tofRangeAfterSetUp member 0) = none ∧ tofRangeAfterSetUp (-1) 0 = some 0 ∧
    ((segRangeAfterSetUp (-1) 1).bind fun member => segRangeAfterSetUp member 2) = some 1 ∧ segRangeAfterSetUp (-1) 2 = some 2 := by
  decide

/-! ## "… equal the expressions derived from L = Σ_b [y_b log(ybar_b) − ybar_b] with ybar = n(Pλ + a) … wherever ybar_b > 0"
The code's thresholds appear as the regular regions `RegularGrad`, `RegularValue`, `RegularHess` (ProofsTextbook.lean). -/

theorem C05_textbook_on_regular_value (c : Consts K) (log : K → K) (zero : Bool) (img : Nat → K) (S : List (Viewgram K))
    (h : RegularValue c zero img S) : value c log zero img S = tbValue log img (dataBins zero S) :=
  sumMap_eq_dataBins zero S _ _ fun vg hvg b hb => valueTerm_textbook c log img (h vg hvg b hb)

theorem C05_textbook_on_regular_grad (c : Consts K) (zero : Bool) (img : Nat → K) (S : List (Viewgram K)) (v : Nat)
    (h : RegularGrad c zero img S) : grad c zero img S v = tbGrad img (dataBins zero S) v := by
  rw [grad_eq]
  exact bck_eq_dataBins zero S v _ _ fun vg hvg b hb => gradW_textbook c img (smallOf_nonneg c (yEff zero) vg) (h vg hvg b hb)

theorem C05_textbook_on_regular_gradPlusSens (c : Consts K) (zero : Bool) (img : Nat → K) (S : List (Viewgram K)) (v : Nat)
    (h : RegularGrad c zero img S) : gradPlusSens c zero img S v = tbGradPlusSens img (dataBins zero S) v := by
  rw [gradPlusSens_eq]
  exact bck_eq_dataBins zero S v _ _ fun vg hvg b hb => gradW_plus_textbook c img (smallOf_nonneg c (yEff zero) vg) (h vg hvg b hb)

/-- the sensitivity needs no regularity -/
theorem C05_textbook_sens (zero : Bool) (S : List (Viewgram K)) (v : Nat) :
    sens zero S v = tbSens (dataBins zero S) v := by
  rw [sens_eq]
  exact bck_eq_dataBins zero S v _ _ fun _ _ b _ => sensW_eq zero b

/-- the Hessian product: over the bins of the data — end planes of segment 0 removed when `zero_seg0_end_planes` is set, as for
    value and gradient (since edcd88182 both Hessian functions clear them; before, they did not look at the flag, see
    `C05_hessTimes_before_edcd88182_not_textbook`) -/
theorem C05_textbook_on_regular_hessTimes (c : Consts K) (zero : Bool) (img x : Nat → K) (out0 : K) (S : List (Viewgram K)) (v : Nat)
    (h : RegularHess c zero img x S) : hessTimes c zero img x out0 S v = out0 + tbHessTimes img x (dataBins zero S) v := by
  rw [hessTimes_eq, sub_eq_add_neg]
  exact congrArg (out0 + -·) (bck_eq_dataBins zero S v _ _ fun vg hvg b hb =>
    hessW_textbook c img x (smallOf_nonneg c (hessNum zero x) vg) (h vg hvg b hb))

def exC : Consts ℚ := { smallNum := 1 / 1000000, maxQuot := 10000, tiny := 1 / 100000000000000000000 }
def exB1 : Bin ℚ := { endPlane := false, y := 3, a := some (1 / 2), fac := [.normFactor 2], row := [(0, 1), (1, 2)] }
def exB2 : Bin ℚ := { endPlane := true, y := 2, a := some (1 / 4), fac := [.normFactor 2, .eff (1 / 2)], row := [(1, 1)] }
def exB3 : Bin ℚ := { endPlane := false, y := 0, a := none, fac := [], row := [(0, 3)] }
def exS : List (Viewgram ℚ) := [[exB1, exB2], [exB3]]
def exImg : Nat → ℚ := fun i => if i = 0 then 1 else 2
def exX : Nat → ℚ := fun i => if i = 0 then 1 / 2 else 1

/-- the hypotheses are satisfiable by a non-trivial instance (additive term, chained normalisation, a bin without counts,
    a cleared end plane) -/
example : RegularGrad exC true exImg exS ∧ RegularValue exC true exImg exS ∧ RegularHess exC true exImg exX exS ∧
    RegularHess exC false exImg exX exS := by
  unfold RegularGrad RegularValue RegularHess
  decide +kernel

/-- the subsets hypothesis is satisfiable with subsets in an order different from the data -/
example : ([[[exB3]], [[exB1, exB2]]] : List (List (Viewgram ℚ))).flatten.Perm exS := by
  simp only [List.flatten_cons, List.flatten_nil, List.append_nil, List.singleton_append, exS]
  exact List.Perm.swap _ _ _

/-- non-vacuity of `C05_penalised_full_hessTimes`: two subsets in an order different from the data, a prior term 3/2, output
    filled with 1/4: both sides are the same number, and it differs from the unpenalised product -/
example : hessTimesPenFull exC true exImg exX (3 / 2) 2 (1 / 4) [[[exB3]], [[exB1, exB2]]] 1
      = penalisedFull (hessTimes exC true exImg exX (1 / 4) exS 1) (3 / 2) ∧
    hessTimesPenFull exC true exImg exX (3 / 2) 2 (1 / 4) [[[exB3]], [[exB1, exB2]]] 1 ≠ hessTimes exC true exImg exX (1 / 4) exS 1 := by
  decide +kernel

/-- regression witness: what the code before edcd88182 computed with `zero_seg0_end_planes = true` — the Hessian product
    without looking at the flag, i.e. `hessTimes … false …` — still contains the end-plane bin `exB2` and is not the textbook
    expression over the bins of the data, whereas the product with the flag is (replayed on the implementation by the
    harness oracle: a result that contains the end planes is a plain failure) -/
theorem C05_hessTimes_before_edcd88182_not_textbook :
    hessTimes exC false exImg exX 0 exS 1 ≠ 0 + tbHessTimes exImg exX (dataBins true exS) 1 ∧
    hessTimes exC true exImg exX 0 exS 1 = 0 + tbHessTimes exImg exX (dataBins true exS) 1 := by
  decide +kernel

/-! ## "… the (subset) gradient … and Hessian-times-vector … equal the expressions derived from L":
the derivatives themselves, over `ℝ` with `Real.log` (Mathlib `HasDerivAt`) -/

/-- **the gradient is the derivative of the value**: on the strict regular region (counts 0 or above the
    "really zero" threshold; neither the cap of the quotient nor, strictly, the cap of the estimate active) the model's value
    is differentiable along every coordinate direction `v` and its derivative is the model's gradient at `v` -/
theorem C05_grad_is_derivative (c : Consts ℝ) (hq : 0 < c.maxQuot) (zero : Bool) (img : Nat → ℝ) (S : List (Viewgram ℝ)) (v : Nat)
    (h : StrictRegular c zero img S) :
    HasDerivAt (fun t => value c Real.log zero (shift img v t) S) (grad c zero img S v) 0 := by
  rw [grad_eq]
  refine hasDerivAt_sumMap _ _ 0 S fun vg hvg => hasDerivAt_sumMap _ _ 0 vg fun b hb => ?_
  -- `shift img v` moves the image along the unit image of voxel `v`, whose forward projection is `P_bv`
  simp only [shift_eq_shiftX]
  rw [← fwd_unit]
  exact valueTerm_hasDerivAt c hq zero img _ (smallOf_nonneg c (yEff zero) vg) b (h vg hvg b hb)

/-- **the textbook Hessian product is the derivative of the gradient**: along any direction `x` the model's gradient is
    differentiable and its derivative is `−Σ_b P_bv y_b (Px)_b / (Pλ+a)_b²` over the bins of the data
    (end planes of segment 0 removed when requested) -/
theorem C05_textbook_hessian_is_derivative_of_grad (c : Consts ℝ) (hq : 0 < c.maxQuot) (zero : Bool) (img x : Nat → ℝ)
    (S : List (Viewgram ℝ)) (v : Nat) (h : StrictRegularGrad c zero img S) :
    HasDerivAt (fun t => grad c zero (shiftX img x t) S v) (tbHessTimes img x (dataBins zero S) v) 0 := by
  have hval : tbHessTimes img x (dataBins zero S) v =
      sumMap (fun vg => sumMap (fun b => coef b.row v *
        (if zeroed zero b then 0 else -(b.y * fwd x b.row / (ybarTB img b * ybarTB img b)))) vg) S := by
    unfold tbHessTimes
    rw [← neg_one_mul, ← sumMap_mul_left]
    refine (sumMap_eq_dataBins zero S _ _ fun vg _ b _ => ?_).symm
    cases zeroed zero b <;> simp
  simp only [grad_eq]
  rw [hval]
  refine hasDerivAt_sumMap _ _ 0 S fun vg hvg => hasDerivAt_sumMap _ _ 0 vg fun b hb => ?_
  exact (gradW_hasDerivAt c hq zero img x (smallOf_nonneg c (yEff zero) vg) b (h vg hvg b hb)).const_mul _

/-- **what `accumulate_sub_Hessian_times_input` adds to a zero output is the derivative of the subset gradient** along the
    input, for both values of `zero_seg0_end_planes` (since edcd88182; before, only for `false`) -/
theorem C05_hess_is_derivative_of_grad (c : Consts ℝ) (hq : 0 < c.maxQuot) (zero : Bool) (img x : Nat → ℝ)
    (S : List (Viewgram ℝ)) (v : Nat) (h : StrictRegularGrad c zero img S) (hH : RegularHess c zero img x S) :
    HasDerivAt (fun t => grad c zero (shiftX img x t) S v) (hessTimes c zero img x 0 S v) 0 := by
  rw [C05_textbook_on_regular_hessTimes c zero img x 0 S v hH, zero_add]
  exact C05_textbook_hessian_is_derivative_of_grad c hq zero img x S v h

noncomputable def exCR : Consts ℝ := { smallNum := 1 / 1000000, maxQuot := 10000, tiny := 1 / 100000000000000000000 }
noncomputable def exR1 : Bin ℝ := { endPlane := false, y := 3, a := some (1 / 2), fac := [.normFactor 2], row := [(0, 1), (1, 2)] }
noncomputable def exR2 : Bin ℝ := { endPlane := true, y := 2, a := some (1 / 4), fac := [.normFactor 2, .eff (1 / 2)], row := [(1, 1)] }
noncomputable def exR3 : Bin ℝ := { endPlane := false, y := 0, a := none, fac := [], row := [(0, 3)] }
noncomputable def exSR : List (Viewgram ℝ) := [[exR1, exR2], [exR3]]
noncomputable def exImgR : Nat → ℝ := fun i => if i = 0 then 1 else 2

/-- the strict regular regions are inhabited by a non-trivial instance -/
example : 0 < exCR.maxQuot ∧ StrictRegular exCR true exImgR exSR ∧ StrictRegularGrad exCR false exImgR exSR := by
  unfold StrictRegular StrictRegularGrad
  simp only [exSR, List.forall_mem_cons, List.not_mem_nil, false_imp_iff, implies_true, and_true]
  norm_num [exR1, exR2, exR3, exCR, exImgR, smallOf, vgMax, maxK, yEff, zeroed, ybarTB, fwd, sumMap, effB, undoNorm]

noncomputable def exXR : Nat → ℝ := fun i => if i = 0 then 1 / 2 else 1

/-- the hypotheses of `C05_hess_is_derivative_of_grad` with `zero_seg0_end_planes = true` are satisfiable (an end-plane bin
    with counts is present) -/
example : StrictRegularGrad exCR true exImgR exSR ∧ RegularHess exCR true exImgR exXR exSR := by
  unfold StrictRegularGrad RegularHess
  simp only [exSR, List.forall_mem_cons, List.not_mem_nil, false_imp_iff, implies_true, and_true]
  norm_num [exR1, exR2, exR3, exCR, exImgR, exXR, smallOf, vgMax, maxK, yEff, hessNum, zeroed, ybarTB, fwd, sumMap]

/-! ## histories: ONE object set up several times — the cached (subset) sensitivities
"… the (subset) sensitivity … returned by the Poisson log-likelihood … equal the expressions derived from L …" and
"each quantity summed over all subsets equals its full-data counterpart", quantified over *histories*: the members
`subsensitivity_sptrs` / `sensitivity_sptr` survive from one `set_up` to the next (`SensObj`: a heap of images and the
pointers into it, `setUpSens` = the sensitivity part of `PoissonLogLikelihoodWithLinearModelForMean::set_up`,
`compute_sensitivities`, `set_total_or_subset_sensitivities`, reading and writing the sensitivity files).  The harness
drives one real object through 2–5 `set_up`s with changed configurations and compares `get_subset_sensitivity` /
`get_sensitivity` with the state of the model object after every one (`hsetup` / `hsub` / `htot` lines). -/

/-- **a `set_up` that computes the sensitivities forgets the past**: `o` is ANY state of the object (whatever earlier
    `set_up`s, with whatever data, normalisation, number of subsets, `use_subset_sensitivities`, left in
    `subsensitivity_sptrs` / `sensitivity_sptr`, dangling or shared pointers included); `willCompute`: the member
    `recompute_sensitivity` is on, or there is nothing to read; `0 + inc s`: an image of zeroes to which
    `add_subset_sensitivity(·, s)` was applied once.  Nothing on the right-hand sides mentions `o`: the result is that of a
    newly constructed object (next theorem). -/
theorem C05_resetup_sensitivities {I : Type} (ops : ImgOps I) (c : SensCfg) (inc : Nat → I) (o : SensObj I) (files : SensFiles I)
    (hn : 0 < c.n) (hacc : c.accepted = true) (hw : willCompute c o = true) :
    (setUpSens ops c inc o files).1 = true ∧
    (c.useSub = true →
      (∀ t, t < c.n → (setUpSens ops c inc o files).2.1.getSub t = some (ops.add ops.zero (inc t))) ∧
      (setUpSens ops c inc o files).2.1.getTot = some (sumSubs ops (fun t => ops.add ops.zero (inc t)) (c.n - 1))) ∧
    (c.useSub = false →
      (∀ t, t < c.n → (setUpSens ops c inc o files).2.1.getSub t = some (ops.divN (accSens ops inc c.n) c.n)) ∧
      (setUpSens ops c inc o files).2.1.getTot = some (accSens ops inc c.n)) ∧
    (setUpSens ops c inc o files).2.1.recompute = true ∧
    (setUpSens ops c inc o files).2.2 = writeSens c (setUpSens ops c inc o files).2.1 files := by
  obtain ⟨o3, heq, hr, hH⟩ := setUpSens_computes ops c inc o files hn hacc hw
  rw [heq]
  refine ⟨rfl, fun hu => ?_, fun hu => ?_, hr, rfl⟩
  · rw [hu] at hH
    exact hH
  · rw [hu] at hH
    exact hH

/-- **re-used object = fresh object**: after a computing `set_up`, every subset sensitivity and the total sensitivity of an object
    in ANY earlier state are those of a newly constructed object given the same configuration (whose `recompute_sensitivity` the
    caller switched on), and the same files are written -/
theorem C05_resetup_same_as_fresh {I : Type} (ops : ImgOps I) (c : SensCfg) (inc : Nat → I) (o : SensObj I) (files : SensFiles I)
    (hn : 0 < c.n) (hacc : c.accepted = true) (hw : willCompute c o = true) :
    (∀ t, t < c.n → (setUpSens ops c inc o files).2.1.getSub t =
        (setUpSens ops c inc { (SensObj.fresh : SensObj I) with recompute := true } files).2.1.getSub t) ∧
    (setUpSens ops c inc o files).2.1.getTot =
        (setUpSens ops c inc { (SensObj.fresh : SensObj I) with recompute := true } files).2.1.getTot ∧
    (∀ t, t < c.n → (setUpSens ops c inc o files).2.2.sub t =
        (setUpSens ops c inc { (SensObj.fresh : SensObj I) with recompute := true } files).2.2.sub t) ∧
    ((c.useSub = false ∧ c.totName = true) → (setUpSens ops c inc o files).2.2.tot =
        (setUpSens ops c inc { (SensObj.fresh : SensObj I) with recompute := true } files).2.2.tot) := by
  have hwf : willCompute c { (SensObj.fresh : SensObj I) with recompute := true } = true := rfl
  obtain ⟨hsub, htot, hf⟩ := setUpSens_forgets ops c inc o _ files hn hacc hw hwf
  exact ⟨hsub, htot, fun t _ => congrArg (·.sub t) hf, fun _ => congrArg (·.tot) hf⟩

/-- **the sensitivity files give the sensitivities back**: a later `set_up` with `recompute_sensitivity` off — of ANY object, the
    writer itself or a second one — that finds the files a computing `set_up` of the same configuration wrote (subset files with
    `use_subset_sensitivities`, the total otherwise), succeeds, holds the same subset sensitivities and the same total as the
    writer, and leaves the files alone -/
theorem C05_sensitivity_files_read_back {I : Type} (ops : ImgOps I) (c : SensCfg) (inc inc2 : Nat → I) (o o2 : SensObj I)
    (files : SensFiles I) (hn : 0 < c.n) (hacc : c.accepted = true) (hw : willCompute c o = true)
    (hname : (if c.useSub then c.subName else c.totName) = true) (hr2 : o2.recompute = false) :
    (setUpSens ops c inc2 o2 (setUpSens ops c inc o files).2.2).1 = true ∧
      (∀ t, t < c.n → (setUpSens ops c inc2 o2 (setUpSens ops c inc o files).2.2).2.1.getSub t
          = (setUpSens ops c inc o files).2.1.getSub t) ∧
      (setUpSens ops c inc2 o2 (setUpSens ops c inc o files).2.2).2.1.getTot = (setUpSens ops c inc o files).2.1.getTot ∧
      (setUpSens ops c inc2 o2 (setUpSens ops c inc o files).2.2).2.2 = (setUpSens ops c inc o files).2.2 := by
  obtain ⟨o3, heq, _, hH⟩ := setUpSens_computes ops c inc o files hn hacc hw
  rw [heq]
  -- the reader finds what the writer holds
  obtain ⟨heq', hH'⟩ := setUpSens_reads ops c inc2 o2 _ _ _ hn hacc hr2 (hH.written hname files)
  rw [heq']
  exact ⟨rfl, (hH'.congr hH).1, (hH'.congr hH).2, rfl⟩

/-- **after any history the sensitivities are the textbook ones** (images with values in an ordered field, voxel-wise operations;
    `Ss` = the viewgrams of the subsets, which together are a rearrangement of the viewgrams `All` of the data — C06): whatever
    state the object was in, after a computing `set_up` with `Ss.length` subsets
    * `get_sensitivity()` is the sensitivity of the whole data set, `P^T n` over `All` (`sens`: the back projection of the
      efficiencies), with and without `use_subset_sensitivities`;
    * `get_subset_sensitivity(s)` is the sensitivity of subset `s` with `use_subset_sensitivities`, the total divided by the
      number of subsets without -/
theorem C05_resetup_sensitivities_textbook (zero : Bool) (Ss : List (List (Viewgram K))) (All : List (Viewgram K))
    (h : Ss.flatten.Perm All) (c : SensCfg) (o : SensObj (Nat → K)) (files : SensFiles (Nat → K))
    (hn : c.n = Ss.length) (hpos : 0 < Ss.length) (hacc : c.accepted = true) (hw : willCompute c o = true) :
    (setUpSens (fieldOps K) c (sensInc zero Ss) o files).2.1.getTot = some (fun v => sens zero All v) ∧
    (c.useSub = true → ∀ s, s < Ss.length →
      (setUpSens (fieldOps K) c (sensInc zero Ss) o files).2.1.getSub s = some (fun v => sens zero (Ss.getD s []) v)) ∧
    (c.useSub = false → ∀ s, s < Ss.length →
      (setUpSens (fieldOps K) c (sensInc zero Ss) o files).2.1.getSub s = some (fun v => sens zero All v / (Ss.length : K))) := by
  obtain ⟨o3, heq, _, hs, ht⟩ := setUpSens_computes (fieldOps K) c (sensInc zero Ss) o files (by omega) hacc hw
  rw [heq]
  rw [hn] at hs ht
  refine ⟨?_, fun hu s hs' => ?_, fun hu s hs' => ?_⟩
  · show o3.getTot = _
    rw [ht, sumSubs_fieldOps, Nat.sub_add_cancel hpos, ite_self, accSens_sensInc zero h]
  · show o3.getSub s = _
    rw [hs s hs', if_pos hu]
    congr 1
    funext v
    simp [fieldOps, sensInc]
  · show o3.getSub s = _
    rw [hs s hs', hu, accSens_sensInc zero h]
    rfl

/-- non-vacuity: an object that two earlier `set_up`s (3 subsets with subset sensitivities, then 2 subsets without) have left
    with images in every slot is set up a third time with 2 subsets and subset sensitivities, images = rational numbers,
    `add_subset_sensitivity` adding 10 resp. 20: the subset sensitivities are 10 and 20 (not 10 + old, 20 + old), the total 30, as
    for a new object; then the files it wrote are read back by a fourth `set_up` -/
example :
    let ops : ImgOps Rat := { zero := 0, add := (· + ·), divN := fun a n => a / n }
    let c1 : SensCfg := { useSub := true, n := 3, totName := false, subName := false, accepted := true }
    let c2 : SensCfg := { useSub := false, n := 2, totName := false, subName := false, accepted := true }
    let c3 : SensCfg := { useSub := true, n := 2, totName := false, subName := true, accepted := true }
    let r1 := setUpSens ops c1 (fun s => (s + 1 : Nat)) (SensObj.fresh : SensObj Rat) SensFiles.empty
    let r2 := setUpSens ops c2 (fun s => (7 * (s + 1) : Nat)) r1.2.1 r1.2.2
    let r3 := setUpSens ops c3 (fun s => (10 * (s + 1) : Nat)) r2.2.1 r2.2.2
    let r4 := setUpSens ops c3 (fun _ => 0) { r3.2.1 with recompute := false } r3.2.2
    willCompute c3 r2.2.1 = true ∧
    (r1.2.1.getSub 0, r1.2.1.getSub 2, r1.2.1.getTot) = (some 1, some 3, some 6) ∧
    (r2.2.1.getSub 0, r2.2.1.getSub 1, r2.2.1.getTot) = (some (21 / 2), some (21 / 2), some 21) ∧
    (r3.1, r3.2.1.getSub 0, r3.2.1.getSub 1, r3.2.1.getTot) = (true, some 10, some 20, some 30) ∧
    (r4.1, r4.2.1.getSub 0, r4.2.1.getSub 1, r4.2.1.getTot) = (true, some 10, some 20, some 30) := by
  decide +kernel

/-! ## histories: public setters called after `set_up` WITHOUT a new `set_up`
"… for any … maximum segment or TOF range and subset scheme, the value, (subset) gradient, (subset) sensitivity and
Hessian-times-vector returned … equal the expressions derived from L …", "the 'gradient plus sensitivity' quantity exceeds the
gradient by exactly the sensitivity", quantified over *histories*: the configuration an answer must be the textbook expression of is
the one the object has been given through its setters, also when they are called after `set_up`.  The model object (`Obj`: the
members, `already_set_up`, and as ghost state the members the last successful `set_up` worked with) goes through the same setter
calls as the real object in the harness (`sset` / `ssetup` / `sreq` lines: flag and observable members after every setter, accepted /
refused for every request), and every answer of the real object is compared bit for bit with a FRESH object given the new values. -/

set_option linter.unusedVariables false in
/-- **an answered request is the fresh answer**: for every history of setter calls (any setter but `parse` — the hypothesis `hp`,
    which the proof does not need: `parse` switches the flag off like the pointer setters —, any arguments, same value or new value) and `set_up`s (successful or refused at any of its checks, whatever balance / files / earlier
    sensitivities it finds) applied to a newly constructed object, a request that tests `already_set_up` — value, gradient,
    gradient plus sensitivity, Hessian product, approximate Hessian, penalised or not — is answered only if
    * every member that enters the quantities (`Members.core`: number of subsets, the data, additive term, normalisation and projector
      objects, segment and TOF range, `zero_seg0_end_planes`, `use_subset_sensitivities`, the file names, frame number and
      definitions) is the member the last successful `set_up` left — so the cached subset sensitivities and the projector set-up the
      answer uses are those of the configuration the object has now; and
    * a new object given the members of this object and set up (whenever that `set_up` succeeds) answers the same request from
      members with the same core, its cached state made for them: the answer is the fresh answer.
    (A `set_num_subsets` that clamped `num_subsets` before comparing the flag's condition would keep the flag on with the
    sensitivities of the old subset scheme; `C05_setter_changing_a_member_resets_flag` is the step that excludes it.) -/
theorem C05_answered_after_setters_is_fresh (d : Data) (h : List Event) (hp : ∀ e ∈ h, Event.noParse e = true)
    (r : Req) (pen : Bool) (b : Basis) (ha : (Obj.new.run d h).answer (.guarded r pen) = some b) :
    b.live = (Obj.new.run d h).m ∧
    (∃ s, b.cachedFor = some s ∧ b.live.core = s.core) ∧
    ∀ w : Call, (({ Obj.new with m := b.live, priorReady := (Obj.new.run d h).priorReady } : Obj).setUp d w).1 = true →
      ∃ bf, (({ Obj.new with m := b.live, priorReady := (Obj.new.run d h).priorReady } : Obj).setUp d w).2.answer (.guarded r pen)
          = some bf ∧ bf.live.core = b.live.core ∧ bf.cachedFor = some bf.live := by
  obtain ⟨hal, hb⟩ := answer_guarded _ r pen b ha
  obtain ⟨s, h1, h2, h3⟩ := (inv_run d h Obj.new (inv_new d)).2 hal
  subst hb
  refine ⟨rfl, ⟨s, h1, h2⟩, ?_⟩
  intro w hok
  exact ⟨_, setUp_answers d w _ r pen hok, (setUpMembers_core d w _ h3).1, rfl⟩

set_option linter.unusedVariables false in
/-- **the setter table is safe**: a setter call (other than `parse`: the hypothesis `hs`, which the proof does not need) that changes a member entering the quantities switches
    `already_set_up` off — whatever the state of the object (number of subsets positive, as the setter and the constructor guarantee),
    so every request that tests the flag is refused until the next successful `set_up` -/
theorem C05_setter_changing_a_member_resets_flag (o : Obj) (s : Setter) (hs : Event.noParse (.set s) = true)
    (hn : 0 < o.m.numSubsets) (hc : (o.set s).m.core ≠ o.m.core) (r : Req) (pen : Bool) :
    (o.set s).already = false ∧ (o.set s).answer (.guarded r pen) = none := by
  have h := set_core_changed o s hn hc
  exact ⟨h, by simp [Obj.answer, h]⟩

/-- a value setter called with the value the member already has leaves the object as it is — except that `set_num_subsets` writes
    `max(n, 1)` back (the first conjunct) and the two range setters clear the "is default" mark (for them the statement is that the
    flag stays); the pointer and file-name setters reset the flag whatever the argument -/
theorem C05_setter_same_value_keeps_flag (o : Obj) :
    o.set (.numSubsets o.m.numSubsets) = { o with m := { o.m with numSubsets := clampSubsets o.m.numSubsets } } ∧
    (o.set (.zeroEndPlanes o.m.zeroEnd)) = o ∧ (o.set (.useSubsetSens o.m.useSubsetSens)) = o ∧
    (o.set (.frameNum o.m.frameNum)) = o ∧ (o.set (.frameDefs o.m.frameDefs)) = o ∧
    (o.set (.maxSegment o.m.maxSeg)).already = o.already ∧ (o.set (.maxTof o.m.maxTof)).already = o.already ∧
    (o.set (.projData o.m.projData)).already = false ∧ (o.set (.sensFilename o.m.totName)).already = false := by
  simp [Obj.set]

/-- the objects of the examples: data `7` with segments `-2 … 2` and TOF bins `-1 … 1`, one time frame -/
def exData : Data := { segMax := fun _ => 2, tofMax := fun _ => 1, numFrames := fun _ => 1 }
def exCall : Call := { balanced := fun _ => true, sub0Null := true, filesOK := false }
def exConfigure : List Event :=
  [.set (.projData 7), .set (.projectorPair 3), .set (.normalisation 2), .set (.zeroEndPlanes true), .set (.numSubsets 2), .setUp exCall]

/-- non-vacuity: after configuring and `set_up`, setters called with the SAME values (the range that `set_up` derived from `-1`
    included), `set_recompute_sensitivity(false)` and a prior that is set up leave the requests answered — from members whose core is
    that of the last `set_up`; then `set_zero_seg0_end_planes(false)` (a new value) refuses everything, also after setting the old
    value back, until the next `set_up` (which, with `recompute_sensitivity` off, sensitivities in the object and no file names, is
    refused: Mean.cxx:209/:242 "filename is empty"; after `set_recompute_sensitivity(true)` it succeeds); a prior that is not set up
    refuses the penalised requests only -/
example :
    let o1 := Obj.new.run exData (exConfigure ++ [.set (.zeroEndPlanes true), .set (.maxSegment 2), .set (.numSubsets 2),
      .set (.recomputeSens false), .set (.prior 5 true)])
    let o2 := o1.run exData [.set (.zeroEndPlanes false)]
    let o3 := o2.run exData [.set (.zeroEndPlanes true)]
    let o4 := o3.run exData [.set (.recomputeSens true), .setUp { exCall with sub0Null := false }]
    let o5 := o1.run exData [.set (.prior 6 false)]
    (o1.already, (o1.answer (.guarded .value true)).map (fun b => b.live.maxSeg), o1.snap.map (·.core) == some o1.m.core) = (true, some 2, true) ∧
    (o2.already, o2.answer (.guarded (.gradient false) false)) = (false, none) ∧
    (o3.already, o3.answer (.guarded .hessian false)) = (false, none) ∧
    (o4.already, (o4.answer (.guarded .value true)).isSome, (o3.setUp exData { exCall with sub0Null := false }).1) = (true, true, false) ∧
    ((o5.answer (.guarded .value true)).isSome, (o5.answer (.guarded .value false)).isSome, (o5.answer (.guarded (.gradient true) true)).isSome)
      = (false, true, true) := by
  decide +kernel

/-- **regression witness (`parse` after `set_up`, 831e9a78b)**: `parse` of a parameter text with "zero end planes of segment 0 := 0"
    on an object that was set up with the flag on used to leave `already_set_up` on (the reset at the end of `post_processing` was
    commented out): the gradient was then answered for the new flag while the cached subset sensitivities were those of the old one.
    Since the fix `parse` resets the flag like the setters and every guarded request is refused until the next `set_up`
    (harness: `parse` histories) -/
theorem C05_parse_after_set_up_keeps_flag_fails :
    let o := Obj.new.run exData (exConfigure ++ [.set (.parseKeys false 2)])
    o.already = false ∧ o.answer (.guarded (.gradient false) false) = none ∧ o.m.zeroEnd = false := by
  decide +kernel

/-- **observation outside the property's quantifier (requests that do not test the flag)** — not a finding: C05 speaks about requests
    AFTER set-up, and no clause is contradicted by two ANSWERED quantities here, since every guarded request is refused in these
    states.  Recorded because the model transcribes it and the harness compares the answered / refused pattern (`sreq` lines):
    `get_subset_sensitivity` / `get_sensitivity` hand out the images cached by the last `set_up` and `add_subset_sensitivity` / the public
    `actual_compute_subset_gradient_without_penalty` compute from the members as they are, whatever `already_set_up` says.  After
    `set_up` with 2 subsets and `set_num_subsets(3)` the object claims 3 subsets, every guarded request is refused, and
    `get_subset_sensitivity` still answers with the state of the last `set_up` (the 2-subset scheme); after
    `set_max_segment_num_to_process(-1)` ("all segments": a new object's `set_up` makes 2 of it) `add_subset_sensitivity` runs its loop
    over the segments `1 … -1`, i.e. over nothing.  (Harness: such answers are counted as `unguarded_answered_stale`, no oracle
    verdict; the oracle "gradient plus sensitivity minus gradient = sensitivity handed out" stays strict on whatever IS answered.) -/
theorem C05_unguarded_requests_answer_stale_fails :
    let o := Obj.new.run exData (exConfigure ++ [.set (.numSubsets 3)])
    let o' := Obj.new.run exData (exConfigure ++ [.set (.maxSegment (-1))])
    (o.answer (.guarded .value false) = none ∧
      (o.answer .getSubsetSens).map (fun b => (b.live.numSubsets, b.cachedFor.map (·.numSubsets))) = some (3, some 2)) ∧
    ((o'.answer .addSubsetSens).map (fun b => b.live.maxSeg) = some (-1) ∧
      (setUpMembers exData exCall o'.m).2.maxSeg = 2) := by
  decide +kernel

/-! ## the executable accumulation used by the driver is the image of the model -/

theorem C05_accumulate_is_image (n : Nat) (cs : List (Nat × K)) (v : Nat) (hv : v < n) :
    (accumulate n cs).getD v 0 = imageAt cs v := by
  rw [accumulate, Common.getD_foldl_modify_add cs _ (by simpa using hv), imageAt, sumMap_eq_sum]
  simp [hv]

/-! ## "The results do not depend on the order in which value, gradient, sensitivity and Hessian products are
first requested after set-up" — the set-up flags -/

/-- for every configuration (same / separate sensitivity projector, sensitivities computed by `set_up` or not, any number
    of subsets), both values of each of the two members without initialiser, every history of requests after `set_up`:
    every request is served (no "internal error: setup_distributable_computation not called") with the projectors handed
    to `setup_distributable_computation` and the normalisation set-up that the request needs.  (Before 577b3b1e1 the value
    path tested `already || !latest` and this failed for: no recomputation, indeterminate member `true`, value first.) -/
theorem C05_setup_machine_correct (sameProj recompute : Bool) (numSubsets : Nat) (g g2 : Bool) (rs : List Req) :
    ∀ b ∈ run sameProj (St.afterSetUp sameProj recompute numSubsets g g2) rs, b = true := by
  rw [run_ok sameProj _ (invB_afterSetUp sameProj recompute numSubsets g g2)]
  exact fun b hb => List.eq_of_mem_replicate hb

/-- the members without initialiser are never consulted in a way that matters: the outcome of every history is the same
    for all four combinations of their indeterminate values -/
theorem C05_setup_machine_indeterminate_irrelevant (sameProj recompute : Bool) (numSubsets : Nat) (g g2 g' g2' : Bool) (rs : List Req) :
    run sameProj (St.afterSetUp sameProj recompute numSubsets g g2) rs =
      run sameProj (St.afterSetUp sameProj recompute numSubsets g' g2') rs := by
  rw [run_ok sameProj _ (invB_afterSetUp sameProj recompute numSubsets g g2),
    run_ok sameProj _ (invB_afterSetUp sameProj recompute numSubsets g' g2')]

/-- non-vacuity / regression: the history on which the code before 577b3b1e1 raised its internal error (sensitivities not
    recomputed, indeterminate member `true`, value first) and a history using all kinds of request with TOF data and a
    non-TOF sensitivity projector -/
example : run true (St.afterSetUp true false 1 true false) [Req.value, Req.gradient false] = [true, true] := by decide

example : run false (St.afterSetUp false true 2 true true)
    [Req.value, Req.gradient false, Req.sensitivity, Req.hessian, Req.gradient true, Req.approxHessian, Req.value]
      = [true, true, true, true, true, true, true] := by decide

end StirVerif.C05
