/-
C05 — the public setters and `already_set_up` (`Obj`, `Obj.set`, `setUpMembers`, `Obj.answer` of Model.lean): the flag is on only
while every member that enters the quantities is the one the last successful `set_up` worked with.
-/
import StirVerif.C05.Model

namespace StirVerif.C05

/-- a segment range that `set_up` would replace by the range of the data (ProjData.cxx:600) is that range already -/
def SegOK (d : Data) (m : Members) : Prop := (m.maxSeg == -1 || m.maxSegDefault) = true → m.maxSeg = d.segMax m.projData

/-- likewise for the TOF range (ProjData.cxx:613) -/
def TofOK (d : Data) (m : Members) : Prop := (m.maxTof == -1 || m.maxTofDefault) = true → m.maxTof = d.tofMax m.projData

def RangesOK (d : Data) (m : Members) : Prop := SegOK d m ∧ TofOK d m

/-- the number of subsets is positive (constructor, `set_num_subsets`) and, while the flag is on, the members that enter the
    quantities are those the last successful `set_up` left and a range that stands for "all of the data" is the range of the data
    (so that a `set_up` that is refused after its range steps has not moved them: `setUpMembers_core`) -/
def ObjInv (d : Data) (o : Obj) : Prop :=
  0 < o.m.numSubsets ∧ (o.already = true → ∃ s, o.snap = some s ∧ o.m.core = s.core ∧ RangesOK d o.m)

theorem inv_new (d : Data) : ObjInv d Obj.new :=
  ⟨by decide, fun h => nomatch h⟩

theorem clampSubsets_pos (n : Int) : 0 < clampSubsets n := by
  unfold clampSubsets
  split <;> omega

theorem clampSubsets_of_pos {n : Int} (h : 0 < n) : clampSubsets n = n := by
  unfold clampSubsets
  split <;> omega

theorem set_numSubsets_pos (o : Obj) (s : Setter) (hn : 0 < o.m.numSubsets) : 0 < (o.set s).m.numSubsets := by
  cases s with
  | numSubsets n => exact clampSubsets_pos n
  | _ => exact hn

/-- the setter table of Model.lean, read from the flag's side: if the flag is on after a setter it was on before, and the setter has
    left the snapshot and the core alone and kept `RangesOK` -/
theorem already_after_set (o : Obj) (s : Setter) (hn : 0 < o.m.numSubsets) (ha : (o.set s).already = true) :
    o.already = true ∧ (o.set s).snap = o.snap ∧ (o.set s).m.core = o.m.core ∧ ∀ d, RangesOK d o.m → RangesOK d (o.set s).m := by
  cases s with
  | projData _ | inputData _ | additive _ | normalisation _ | projectorPair _ | sensFilename _ | subsensFilenames _
  | subsetSensSptr _ _ | parseKeys _ _ =>
    -- the pointer and file-name setters and `parse` switch the flag off
    cases ha
  | recomputeSens _ | prior _ _ =>
    -- written outside the core, flag untouched
    exact ⟨ha, rfl, rfl, fun _ => id⟩
  | zeroEndPlanes b | useSubsetSens b | frameNum b | frameDefs b =>
    -- the flag stays on only for the value the member holds
    obtain ⟨hal, hb⟩ := Bool.and_eq_true_iff.mp ha
    cases eq_of_beq hb
    exact ⟨hal, rfl, rfl, fun _ => id⟩
  | numSubsets n =>
    obtain ⟨hal, hb⟩ := Bool.and_eq_true_iff.mp ha
    cases eq_of_beq hb
    -- `max(n, 1)` of the positive number the member holds
    have hm : (o.set (.numSubsets o.m.numSubsets)).m = o.m := by
      show { o.m with numSubsets := clampSubsets o.m.numSubsets } = o.m
      rw [clampSubsets_of_pos hn]
    rw [hm]
    exact ⟨hal, rfl, rfl, fun _ => id⟩
  | maxSegment k =>
    obtain ⟨hal, hb⟩ := Bool.and_eq_true_iff.mp ha
    cases eq_of_beq hb
    -- only the "is default" mark is cleared
    refine ⟨hal, rfl, rfl, fun d hr => ⟨fun h => hr.1 ?_, hr.2⟩⟩
    have h : (o.m.maxSeg == -1 || false) = true := h
    rw [Bool.or_false] at h
    rw [h]
    rfl
  | maxTof k =>
    obtain ⟨hal, hb⟩ := Bool.and_eq_true_iff.mp ha
    cases eq_of_beq hb
    refine ⟨hal, rfl, rfl, fun d hr => ⟨hr.1, fun h => hr.2 ?_⟩⟩
    have h : (o.m.maxTof == -1 || false) = true := h
    rw [Bool.or_false] at h
    rw [h]
    rfl

theorem inv_set (d : Data) (o : Obj) (s : Setter) (h : ObjInv d o) : ObjInv d (o.set s) := by
  obtain ⟨hn, h⟩ := h
  refine ⟨set_numSubsets_pos o s hn, fun ha => ?_⟩
  obtain ⟨ha', hsnap, hcore, hr⟩ := already_after_set o s hn ha
  obtain ⟨t, h1, h2, h3⟩ := h ha'
  exact ⟨t, hsnap.trans h1, hcore.trans h2, hr d h3⟩

theorem set_core_changed (o : Obj) (s : Setter) (hn : 0 < o.m.numSubsets)
    (hc : (o.set s).m.core ≠ o.m.core) : (o.set s).already = false :=
  Bool.eq_false_iff.mpr fun ha => hc (already_after_set o s hn ha).2.2.1

theorem suRecompute_eq (w : Call) (m : Members) : suRecompute w m = { m with recompute := (suRecompute w m).recompute } := by
  unfold suRecompute
  split <;> rfl

theorem suSeg_numSubsets (d : Data) (m : Members) : (suSeg d m).numSubsets = m.numSubsets := by
  unfold suSeg
  split <;> rfl

theorem suTof_numSubsets (d : Data) (m : Members) : (suTof d m).numSubsets = m.numSubsets := by
  unfold suTof
  split <;> rfl

theorem suSeg_segOK (d : Data) (m : Members) : SegOK d (suSeg d m) := by
  unfold suSeg
  split
  · intro _
    rfl
  · intro h
    contradiction

theorem suTof_tofOK (d : Data) (m : Members) : TofOK d (suTof d m) := by
  unfold suTof
  split
  · intro _
    rfl
  · intro h
    contradiction

theorem suSeg_tofOK {d : Data} {m : Members} (h : TofOK d m) : TofOK d (suSeg d m) := by
  unfold suSeg
  split
  · exact h
  · exact h

theorem suTof_segOK {d : Data} {m : Members} (h : SegOK d m) : SegOK d (suTof d m) := by
  unfold suTof
  split
  · exact h
  · exact h

theorem suSeg_core {d : Data} {m : Members} (h : SegOK d m) : (suSeg d m).core = m.core := by
  unfold suSeg
  split
  · rename_i hc
    show { m with maxSeg := d.segMax m.projData, maxSegDefault := true }.core = m.core
    rw [← h hc]
    rfl
  · rfl

theorem suTof_core {d : Data} {m : Members} (h : TofOK d m) : (suTof d m).core = m.core := by
  unfold suTof
  split
  · rename_i hc
    show { m with maxTof := d.tofMax m.projData, maxTofDefault := true }.core = m.core
    rw [← h hc]
    rfl
  · rfl

theorem check_cases {α : Type} (P : Bool × α → Prop) {c : Prop} [Decidable c] {a : α} {r : Bool × α}
    (ha : P (false, a)) (hr : P r) : P (if c then (false, a) else r) := by
  split
  · exact ha
  · exact hr

/-- `set_up` is refused with the members of one of its four stages, or succeeds with those of the last -/
theorem setUpMembers_cases (d : Data) (w : Call) (m : Members) (P : Bool × Members → Prop)
    (h0 : P (false, m)) (h1 : P (false, suRecompute w m)) (h2 : P (false, suSeg d (suRecompute w m)))
    (h3 : P (false, suTof d (suSeg d (suRecompute w m)))) (ok : P (true, suTof d (suSeg d (suRecompute w m)))) :
    P (setUpMembers d w m) := by
  unfold setUpMembers
  -- one application per check, in the order of `setUpMembers`
  refine check_cases P h0 ?_
  refine check_cases P h1 ?_
  refine check_cases P h1 ?_
  refine check_cases P h2 ?_
  refine check_cases P h3 ?_
  refine check_cases P h3 ?_
  refine check_cases P h3 ?_
  refine check_cases P h3 ?_
  refine check_cases P h3 ?_
  exact check_cases P h3 ok

theorem setUpMembers_preserves (d : Data) (w : Call) (m : Members) (P : Members → Prop) (h0 : P m)
    (hR : ∀ m, P m → P (suRecompute w m)) (hS : ∀ m, P m → P (suSeg d m)) (hT : ∀ m, P m → P (suTof d m)) :
    P (setUpMembers d w m).2 := by
  have h1 := hR _ h0
  have h2 := hS _ h1
  have h3 := hT _ h2
  exact setUpMembers_cases d w m (fun r => P r.2) h0 h1 h2 h3 h3

theorem setUpMembers_numSubsets (d : Data) (w : Call) (m : Members) : (setUpMembers d w m).2.numSubsets = m.numSubsets := by
  refine setUpMembers_preserves d w m (fun m' => m'.numSubsets = m.numSubsets) rfl ?_ (fun m' h => ?_) (fun m' h => ?_)
  · intro m' h
    rw [suRecompute_eq]
    exact h
  · rw [suSeg_numSubsets, h]
  · rw [suTof_numSubsets, h]

theorem setUpMembers_core (d : Data) (w : Call) (m : Members) (h : RangesOK d m) :
    (setUpMembers d w m).2.core = m.core ∧ RangesOK d (setUpMembers d w m).2 := by
  refine setUpMembers_preserves d w m (fun m' => m'.core = m.core ∧ RangesOK d m') ⟨rfl, h⟩ ?_ ?_ ?_
  · intro m' h
    rw [suRecompute_eq]
    exact h
  · intro m' ⟨hc, hs, ht⟩
    exact ⟨(suSeg_core hs).trans hc, suSeg_segOK d m', suSeg_tofOK ht⟩
  · intro m' ⟨hc, hs, ht⟩
    exact ⟨(suTof_core ht).trans hc, suTof_segOK hs, suTof_tofOK d m'⟩

theorem setUpMembers_ranges (d : Data) (w : Call) (m : Members) (h : (setUpMembers d w m).1 = true) :
    RangesOK d (setUpMembers d w m).2 := by
  revert h
  refine setUpMembers_cases d w m (fun r => r.1 = true → RangesOK d r.2) ?_ ?_ ?_ ?_ ?_
  · exact fun h => nomatch h
  · exact fun h => nomatch h
  · exact fun h => nomatch h
  · exact fun h => nomatch h
  · exact fun _ => ⟨suTof_segOK (suSeg_segOK d _), suTof_tofOK d _⟩

theorem inv_setUp (d : Data) (w : Call) (o : Obj) (h : ObjInv d o) : ObjInv d (o.setUp d w).2 := by
  obtain ⟨hn, h⟩ := h
  have hn' : 0 < (setUpMembers d w o.m).2.numSubsets := by
    rw [setUpMembers_numSubsets]
    exact hn
  unfold Obj.setUp
  dsimp only
  split
  · rename_i hok
    exact ⟨hn', fun _ => ⟨_, rfl, rfl, setUpMembers_ranges d w o.m hok⟩⟩
  · refine ⟨hn', fun ha => ?_⟩
    obtain ⟨s, h1, h2, h3⟩ := h ha
    obtain ⟨hc, hr⟩ := setUpMembers_core d w o.m h3
    exact ⟨s, h1, hc.trans h2, hr⟩

theorem inv_run (d : Data) (h : List Event) (o : Obj) (ho : ObjInv d o) : ObjInv d (o.run d h) :=
  List.foldlRecOn h _ ho fun o ho e _ => by
    cases e with
    | set s => exact inv_set d o s ho
    | setUp w => exact inv_setUp d w o ho

theorem answer_guarded (o : Obj) (r : Req) (pen : Bool) (b : Basis) (h : o.answer (.guarded r pen) = some b) :
    o.already = true ∧ b = { live := o.m, cachedFor := o.snap } := by
  simp only [Obj.answer, Option.ite_none_left_eq_some, Option.some.injEq] at h
  exact ⟨by simpa using h.1, h.2.2.symm⟩

theorem setUp_answers (d : Data) (w : Call) (o : Obj) (r : Req) (pen : Bool) (hok : (o.setUp d w).1 = true) :
    (o.setUp d w).2.answer (.guarded r pen) =
      some { live := (setUpMembers d w o.m).2, cachedFor := some (setUpMembers d w o.m).2 } := by
  unfold Obj.setUp at hok ⊢
  dsimp only at hok ⊢
  split at hok
  · rename_i hs
    rw [if_pos hs]
    -- the prior, if there is one, was set up by this `set_up`
    cases hp : (setUpMembers d w o.m).2.prior != 0 <;> simp [Obj.answer, hp]
  · cases hok

end StirVerif.C05
