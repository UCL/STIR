/-
C05 — the textbook expressions derived from `L = Σ_b y_b log(ybar_b) − ybar_b`, `ybar = n (Pλ + a)`, the regular regions
(the code's thresholds) and, bin by bin, that the model (= the code's piecewise expressions) coincides with the textbook
terms there and vanishes on the cleared end planes.
-/
import StirVerif.C05.ProofsAlgebra

namespace StirVerif.C05
variable {K : Type} [Field K]

/-- `(Pλ)_b + a_b` -/
def ybarTB (img : Nat → K) (b : Bin K) : K := fwd img b.row + b.a.getD 0

/-- the bins that belong to the data: with `zero_seg0_end_planes` the end planes of segment 0 are removed -/
def dataBins (zero : Bool) (S : List (Viewgram K)) : List (Bin K) := S.flatten.filter fun b => !zeroed zero b

def tbValue (log : K → K) (img : Nat → K) (B : List (Bin K)) : K :=
  sumMap (fun b => b.y * log (effB b * ybarTB img b) - effB b * ybarTB img b) B

/-- `∂L/∂λ_v = Σ_b P_bv (y_b / (Pλ+a)_b − n_b)` -/
def tbGrad (img : Nat → K) (B : List (Bin K)) (v : Nat) : K :=
  sumMap (fun b => coef b.row v * (b.y / ybarTB img b - effB b)) B

def tbGradPlusSens (img : Nat → K) (B : List (Bin K)) (v : Nat) : K :=
  sumMap (fun b => coef b.row v * (b.y / ybarTB img b)) B

def tbSens (B : List (Bin K)) (v : Nat) : K := sumMap (fun b => coef b.row v * effB b) B

/-- `(∇²L · x)_v = − Σ_b P_bv y_b (Px)_b / (Pλ+a)_b²` -/
def tbHessTimes (img x : Nat → K) (B : List (Bin K)) (v : Nat) : K :=
  - sumMap (fun b => coef b.row v * (b.y * fwd x b.row / (ybarTB img b * ybarTB img b))) B

theorem yEff_of_not_zeroed {zero : Bool} {b : Bin K} (h : zeroed zero b = false) : yEff zero b = b.y := by
  unfold yEff
  simp [h]

theorem yEff_of_zeroed {zero : Bool} {b : Bin K} (h : zeroed zero b = true) : yEff zero b = 0 := by
  unfold yEff
  simp [h]

theorem est_of_not_zeroed {zero : Bool} (img : Nat → K) {b : Bin K} (h : zeroed zero b = false) :
    est zero img b = ybarTB img b := by
  unfold est aEff ybarTB
  cases b.a <;> simp [h]

theorem sensW_eq (zero : Bool) (b : Bin K) : sensW zero b = if zeroed zero b then 0 else effB b := by
  unfold sensW
  by_cases h : zeroed zero b = true
  · simp [mult_of_zeroed h, h]
  · have h' : zeroed zero b = false := by simpa using h
    rcases mult_of_not_zeroed h' with hm | ⟨hm, he⟩
    · simp [hm, h']
    · simp [hm, h', he]

theorem sumMap_eq_dataBins (zero : Bool) (S : List (Viewgram K)) (f : Viewgram K → Bin K → K) (t : Bin K → K)
    (h : ∀ vg ∈ S, ∀ b ∈ vg, f vg b = if zeroed zero b then 0 else t b) :
    sumMap (fun vg => sumMap (f vg) vg) S = sumMap t (dataBins zero S) := by
  unfold dataBins
  rw [sumMap_filter, sumMap_flatten]
  refine sumMap_congr fun vg hvg => sumMap_congr fun b hb => ?_
  rw [h vg hvg b hb]
  cases zeroed zero b <;> rfl

theorem bck_eq_dataBins (zero : Bool) (S : List (Viewgram K)) (v : Nat) (w : Viewgram K → Bin K → K) (t : Bin K → K)
    (h : ∀ vg ∈ S, ∀ b ∈ vg, w vg b = if zeroed zero b then 0 else t b) :
    sumMap (fun vg => sumMap (fun b => coef b.row v * w vg b) vg) S = sumMap (fun b => coef b.row v * t b) (dataBins zero S) :=
  sumMap_eq_dataBins zero S _ _ fun vg hvg b hb => by rw [h vg hvg b hb, mul_ite, mul_zero]

variable [LinearOrder K]

/-- regular region of the gradient: every bin of the data has counts 0 or above the "really zero" threshold
    `small_value` of its viewgram, and the quotient is not capped (`y ≤ 10⁴ · (Pλ+a)`) -/
def RegularGrad (c : Consts K) (zero : Bool) (img : Nat → K) (S : List (Viewgram K)) : Prop :=
  ∀ vg ∈ S, ∀ b ∈ vg, zeroed zero b = false →
    (b.y = 0 ∨ smallOf c (yEff zero) vg < b.y) ∧ b.y ≤ c.maxQuot * ybarTB img b

/-- regular region of the value: as above, the cap being `y/10⁴ ≤ n (Pλ+a)` (with the efficiency, unlike the gradient's) -/
def RegularValue (c : Consts K) (zero : Bool) (img : Nat → K) (S : List (Viewgram K)) : Prop :=
  ∀ vg ∈ S, ∀ b ∈ vg, zeroed zero b = false →
    (b.y = 0 ∨ smallOf c (yEff zero) vg < b.y) ∧ b.y / c.maxQuot ≤ effB b * ybarTB img b

/-- regular region of the Hessian product: thresholds on `y·(Px)`, for the bins of the data (the cleared end planes
    contribute nothing, whatever their counts) -/
def RegularHess (c : Consts K) (zero : Bool) (img x : Nat → K) (S : List (Viewgram K)) : Prop :=
  ∀ vg ∈ S, ∀ b ∈ vg, zeroed zero b = false →
    (hessNum zero x b = 0 ∨ smallOf c (hessNum zero x) vg < hessNum zero x b) ∧
      hessNum zero x b ≤ c.maxQuot * (ybarTB img b * ybarTB img b)

theorem hessW_textbook (c : Consts K) {zero : Bool} (img x : Nat → K) {small : K} (hs : 0 ≤ small) {b : Bin K}
    (h : zeroed zero b = false → (hessNum zero x b = 0 ∨ small < hessNum zero x b) ∧
      hessNum zero x b ≤ c.maxQuot * (ybarTB img b * ybarTB img b)) :
    hessW c zero img x small b = if zeroed zero b then 0 else b.y * fwd x b.row / (ybarTB img b * ybarTB img b) := by
  have hY : ybarH img b = ybarTB img b := by
    unfold ybarH ybarTB
    cases b.a <;> simp
  unfold hessW
  cases hz : zeroed zero b
  · obtain ⟨hy, hcap⟩ := h hz
    rw [hY, divTrunc_on_regular c hy hcap]
    simp [hessNum, hz]
  · simp only [hessNum, hz, if_true]
    exact divTrunc_zero c hs _

theorem gradW_zeroed (c : Consts K) {zero : Bool} (addSens : Bool) (img : Nat → K) {small : K} (hs : 0 ≤ small) {b : Bin K}
    (h : zeroed zero b = true) : gradW c zero addSens img small b = 0 := by
  unfold gradW
  simp only [yEff_of_zeroed h, divTrunc_zero c hs, mult_of_zeroed h]
  cases addSens <;> simp

theorem gradW_plus_textbook (c : Consts K) {zero : Bool} (img : Nat → K) {small : K} (hs : 0 ≤ small) {b : Bin K}
    (h : zeroed zero b = false → (b.y = 0 ∨ small < b.y) ∧ b.y ≤ c.maxQuot * ybarTB img b) :
    gradW c zero true img small b = if zeroed zero b then 0 else b.y / ybarTB img b := by
  cases hz : zeroed zero b
  · obtain ⟨hy, hcap⟩ := h hz
    unfold gradW
    simp only [yEff_of_not_zeroed hz, est_of_not_zeroed img hz, divTrunc_on_regular c hy hcap, if_true]
    rfl
  · exact gradW_zeroed c true img hs hz

theorem gradW_textbook (c : Consts K) {zero : Bool} (img : Nat → K) {small : K} (hs : 0 ≤ small) {b : Bin K}
    (h : zeroed zero b = false → (b.y = 0 ∨ small < b.y) ∧ b.y ≤ c.maxQuot * ybarTB img b) :
    gradW c zero false img small b = if zeroed zero b then 0 else b.y / ybarTB img b - effB b := by
  rw [gradW_eq_plus_sub_sensW, gradW_plus_textbook c img hs h, sensW_eq]
  cases zeroed zero b
  · rfl
  · exact sub_zero _

theorem valueTerm_zeroed (c : Consts K) (log : K → K) {zero : Bool} (img : Nat → K) (small : K) {b : Bin K}
    (h : zeroed zero b = true) : valueTerm c log zero img small b = 0 := by
  unfold valueTerm
  simp [yEff_of_zeroed h, mult_of_zeroed h, maxK_eq_max]

theorem valueTerm_textbook (c : Consts K) (log : K → K) {zero : Bool} (img : Nat → K) {small : K} {b : Bin K}
    (h : zeroed zero b = false → (b.y = 0 ∨ small < b.y) ∧ b.y / c.maxQuot ≤ effB b * ybarTB img b) :
    valueTerm c log zero img small b =
      if zeroed zero b then 0 else b.y * log (effB b * ybarTB img b) - effB b * ybarTB img b := by
  cases hz : zeroed zero b
  swap
  · exact valueTerm_zeroed c log img small hz
  obtain ⟨hy, hcap⟩ := h hz
  have hcap' : b.y / c.maxQuot ≤ ybarTB img b * effB b := by
    rw [mul_comm]
    exact hcap
  unfold valueTerm
  simp only [yEff_of_not_zeroed hz, est_of_not_zeroed img hz, maxK_eq_max]
  rcases mult_of_not_zeroed hz with hm | ⟨hm, he⟩
  · simp only [hm, max_eq_left hcap']
    rcases hy with hy | hy
    · simp [hy, mul_comm]
    · simp [not_le.mpr hy, mul_comm]
  · rw [he, mul_one] at hcap'
    simp only [hm, max_eq_left hcap', he, one_mul]
    rcases hy with hy | hy
    · simp [hy]
    · simp [not_le.mpr hy]

end StirVerif.C05
