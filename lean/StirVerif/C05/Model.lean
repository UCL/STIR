/-
C05 — executable model of the quantities computed by
`PoissonLogLikelihoodWithLinearModelForMeanAndProjData` (value, subset gradient, gradient plus
sensitivity, subset sensitivity, Hessian times input, approximate Hessian) and of its set-up flag
state machine.

Sources (pinned tree, /repo/src):
* recon_buildblock/PoissonLogLikelihoodWithLinearModelForMeanAndProjData.cxx
    :80   `rim_truncation_sino = 0` (so the rim branch of `divide_and_truncate` is dead: not modelled)
    :494  `actual_subsets_are_approximately_balanced`, :537 `sensitivity_uses_same_projector`,
    :543  `ensure_norm_is_set_up`, :580 `set_up_before_sensitivity` (segment range :590-597, TOF range :599-606, TOF sensitivity
          switch :651-665),
    :694  `actual_compute_subset_gradient_without_penalty` (flag condition :700),
    :739  `actual_compute_objective_function_without_penalty` (flag condition :742),
    :828  `add_subset_sensitivity` (flag conditions :840 and :854),
    :948  `actual_add_multiplication_with_approximate_sub_Hessian_without_penalty`,
    :1054 `actual_accumulate_sub_Hessian_times_input_without_penalty`,
    :1402 `RPC_process_related_viewgrams_gradient`, :1463 `…_accumulate_loglikelihood`,
    :1497 `…_sensitivity_computation`;
* recon_buildblock/distributable.cxx :163 `get_viewgrams` (additive term, multiplicative term
  `normalisation->undo(1)`, `zero_end_sinograms`), :273 `distributable_computation`;
* buildblock/recon_array_functions.cxx :44 `SMALL_NUM`, :172 `divide_and_truncate`,
  :336 `accumulate_loglikelihood`;
* recon_buildblock/BinNormalisation.cxx :91 `apply` (divide by `max(1e-20, efficiency)`), :107 `undo`
  (multiply by the efficiency); BinNormalisationFromProjData.cxx :130 `apply` (multiply by the
  normalisation factor), :141 `undo` (divide by it) — the factor of a bin is the bin of the normalisation data with the same
  indices, with TOF bin 0 for all TOF bins when the normalisation data are not TOF (:134, :145): a `Bin` of the model carries its
  own chain of factors, so per-TOF-bin factors need nothing more; ChainedBinNormalisation.cxx (first, then second);
* buildblock/ProjData.cxx :256 `get_related_viewgrams(ViewgramIndices, symmetries, bool, timing_pos = 0)` and
  ProjDataInfo.cxx :458 `get_empty_related_viewgrams`: both overwrite the timing position of the indices
  by the *argument* `timing_pos`; since ec572d9db the two Hessian functions, and since 0952293c1 `get_viewgrams`
  for the ones of `zero_seg0_end_planes`, pass the timing position of their loop, so every quantity is computed
  on the viewgrams of the subset itself;
  since edcd88182 the two Hessian functions clear the end planes of segment 0 of their numerators (`zero_end_planes`, :940)
  when `zero_seg0_end_planes` is set, like `get_viewgrams` does for value, gradient and sensitivity;
* recon_buildblock/GeneralisedObjectiveFunction.cxx :121 `compute_penalty(…, subset)`, :128
  `compute_sub_gradient`, :187 `compute_gradient`, :240 / :248 `compute_objective_function`, :282 / :384 the penalised Hessian
  products and :329 / :355 their full-data loops;
* recon_buildblock/PoissonLogLikelihoodWithLinearModelForMean.cxx :275 refusal of unbalanced subsets,
  :402 `set_total_or_subset_sensitivities`; for ONE object set up several times (section "The cached (subset) sensitivities …"):
  :187-340 the sensitivity part of `set_up` (resize of `subsensitivity_sptrs`, decision to compute or to read, reading and
  writing the sensitivity files, pre-allocation of subset 0's image), :349-399 `compute_sensitivities` — with the pointers
  (`subsensitivity_sptrs[s] = subsensitivity_sptrs[0]`, `reset`, `clone`) on a small heap, since the members survive from one
  `set_up` to the next.

* the public setters of the three classes and the flag `already_set_up` (section "The public setters and `already_set_up`" with the
  source lines in its table): `Obj`, `Obj.set`, `setUpMembers` / `Obj.setUp`, `Obj.answer`.

The model is written once for an arbitrary carrier `K` with the usual operations; the driver runs it at
`Rat` (exact; every float printed by the harness is a dyadic rational) and, where `log` is needed, at
`Float`; the theorems (Proofs*.lean / Props.lean) instantiate `K` with an ordered field / `ℝ`.
Floating point rounding is *not* modelled (the comparison uses a derived forward error bound).
The data of a subset are given to the model as a list of viewgrams (the library processes whole
viewgrams; which viewgrams belong to a subset is C06's subject).
Core Lean only.
-/
namespace StirVerif.C05

/-- `Σ_{a ∈ l} f a` -/
def sumMap {α K : Type} [Add K] [OfNat K 0] (f : α → K) : List α → K
  | [] => 0
  | a :: l => f a + sumMap f l

/-- the constants of `recon_array_functions.cxx` / `BinNormalisation.cxx` (as the exact values of the
    float literals `0.000001F`, `10000.F`, `1.E-20F`) -/
structure Consts (K : Type) where
  smallNum : K
  maxQuot : K
  tiny : K

/-- one link of the normalisation chain, for one bin -/
inductive Factor (K : Type) where
  /-- `BinNormalisationFromProjData`: the stored number is the normalisation factor `N`
      (`apply` multiplies by it, `undo` divides by it) -/
  | normFactor (N : K)
  /-- a normalisation that goes through the base class `BinNormalisation::apply/undo` with
      `get_bin_efficiency(bin) = e` -/
  | eff (e : K)

/-- one bin of the measured data with everything the computations read for it -/
structure Bin (K : Type) where
  /-- segment 0 and first or last axial position (the bins `zero_end_sinograms` clears) -/
  endPlane : Bool
  /-- measured counts -/
  y : K
  /-- additive term (`none`: no additive projection data were set) -/
  a : Option K
  /-- normalisation chain in application order (`[]`: `is_trivial()`) -/
  fac : List (Factor K)
  /-- the row of the system matrix: (voxel, `P_bv`) -/
  row : List (Nat × K)

/-- a viewgram = the bins of one (segment, view, TOF bin) -/
abbrev Viewgram (K : Type) := List (Bin K)

section Quantities
variable {K : Type} [Add K] [Sub K] [Mul K] [Div K] [Neg K] [OfNat K 0] [OfNat K 1]
  [LE K] [DecidableLE K] [LT K] [DecidableLT K]

/-- `std::max(a, b)` = `(a < b) ? b : a` -/
def maxK (a b : K) : K := if a < b then b else a

/-- forward projection of one bin: `Σ_v P_bv · img_v` -/
def fwd (img : Nat → K) (row : List (Nat × K)) : K := sumMap (fun e => e.2 * img e.1) row

/-- `Array::find_max` of a viewgram of values `f` -/
def vgMax (f : Bin K → K) : Viewgram K → K
  | [] => 0
  | b :: l => l.foldl (fun m c => maxK m (f c)) (f b)

/-- `small_value = max(find_max() * SMALL_NUM, 0.F)` (recon_array_functions.cxx:185 and :356) -/
def smallOf (c : Consts K) (f : Bin K → K) (vg : Viewgram K) : K := maxK (vgMax f vg * c.smallNum) 0

/-- one element of `divide_and_truncate` (recon_array_functions.cxx:216-257, `rim_truncation_sino = 0`) -/
def divTrunc (c : Consts K) (small num denom : K) : K :=
  if num ≤ small then 0
  else if c.maxQuot * denom < num then c.maxQuot
  else num / denom

/-- does `zero_end_sinograms` clear this bin (distributable.cxx:219) -/
def zeroed (zero : Bool) (b : Bin K) : Bool := zero && b.endPlane

/-- measured counts as the call-backs see them (distributable.cxx:186-193, 221) -/
def yEff (zero : Bool) (b : Bin K) : K := if zeroed zero b then 0 else b.y

/-- additive term as the call-backs see it (distributable.cxx:177-184, 222) -/
def aEff (zero : Bool) (b : Bin K) : Option K := b.a.map fun a => if zeroed zero b then 0 else a

/-- `normalisation_sptr->undo(ones)` for one bin: the efficiency -/
def undoNorm (fac : List (Factor K)) (v : K) : K :=
  fac.foldl (fun m f => match f with | .normFactor N => m / N | .eff e => m * e) v

/-- `normalisation_sptr->apply(data)` for one bin -/
def applyNorm (c : Consts K) (fac : List (Factor K)) (v : K) : K :=
  fac.foldl (fun m f => match f with | .normFactor N => m * N | .eff e => m / maxK c.tiny e) v

/-- `mult_viewgrams_sptr` of `get_viewgrams` (distributable.cxx:200-224): `undo(1)` if the normalisation is not
    trivial, else ones if `zero_seg0_end_planes`, else absent; end planes cleared -/
def mult (zero : Bool) (b : Bin K) : Option K :=
  if !b.fac.isEmpty then some (if zeroed zero b then 0 else undoNorm b.fac 1)
  else if zero then some (if zeroed zero b then 0 else 1)
  else none

/-- `estimated_viewgrams` of the gradient call-back: forward projection plus additive term (cxx:1433-1436) -/
def est (zero : Bool) (img : Nat → K) (b : Bin K) : K :=
  match aEff zero b with
  | some a => fwd img b.row + a
  | none => fwd img b.row

/-- what `RPC_process_related_viewgrams_gradient<add_sensitivity>` back-projects for one bin (cxx:1439-1456) -/
def gradW (c : Consts K) (zero addSens : Bool) (img : Nat → K) (small : K) (b : Bin K) : K :=
  let r := divTrunc c small (yEff zero b) (est zero img b)
  if addSens then r
  else match mult zero b with
    | some m => r - m
    | none => r - 1

/-- what `RPC_process_related_viewgrams_sensitivity_computation` back-projects for one bin (cxx:1508-1515):
    the multiplicative term, or the "measured" data (ones, end planes cleared) if there is none -/
def sensW (zero : Bool) (b : Bin K) : K :=
  match mult zero b with
  | some m => m
  | none => if zeroed zero b then 0 else 1

/-- one term of `accumulate_loglikelihood` (recon_array_functions.cxx:367-371) on the estimate of
    `RPC_process_related_viewgrams_accumulate_loglikelihood` (cxx:1477-1487) -/
def valueTerm (c : Consts K) (log : K → K) (zero : Bool) (img : Nat → K) (small : K) (b : Bin K) : K :=
  let e0 := est zero img b
  let e1 := match mult zero b with
    | some m => e0 * m
    | none => e0
  let newEst := maxK e1 (yEff zero b / c.maxQuot)
  if yEff zero b ≤ small then -newEst else yEff zero b * log newEst - newEst

/-- `ybar` of the Hessian: forward projection plus additive term, read directly (the denominator is not cleared; the numerator is) (cxx:1211-1221) -/
def ybarH (img : Nat → K) (b : Bin K) : K :=
  match b.a with
  | some a => fwd img b.row + a
  | none => fwd img b.row

/-- numerator of the Hessian weight: measured data times forward projection of the input (cxx:1228-1230), the end planes of
    segment 0 cleared when `zero_seg0_end_planes` is set (cxx:1231-1234, since edcd88182; before, the function did not look at the
    flag: that is `hessNum false`) -/
def hessNum (zero : Bool) (x : Nat → K) (b : Bin K) : K := if zeroed zero b then 0 else b.y * fwd x b.row

/-- what `actual_accumulate_sub_Hessian_times_input_without_penalty` back-projects for one bin (cxx:1211-1238): a cleared
    numerator gives a zero quotient, whatever the denominator -/
def hessW (c : Consts K) (zero : Bool) (img x : Nat → K) (small : K) (b : Bin K) : K :=
  divTrunc c small (hessNum zero x b) (ybarH img b * ybarH img b)

/-- numerator of the approximate Hessian: forward projection of the input, end planes of segment 0 cleared (cxx:1049-1063) -/
def ahessNum (zero : Bool) (x : Nat → K) (b : Bin K) : K := if zeroed zero b then 0 else fwd x b.row

/-- what `actual_add_multiplication_with_approximate_sub_Hessian_without_penalty` back-projects (cxx:1038-1070):
    `fwd(x) / (y · norm²)` through `divide_and_truncate` -/
def ahessW (c : Consts K) (zero : Bool) (x : Nat → K) (small : K) (b : Bin K) : K :=
  divTrunc c small (ahessNum zero x b) (applyNorm c b.fac (applyNorm c b.fac b.y))

/-- back projection of the weights `w small b` of one viewgram, as a list of (voxel, contribution) -/
def bckVg (smallF : Viewgram K → K) (w : K → Bin K → K) (vg : Viewgram K) : List (Nat × K) :=
  let small := smallF vg
  vg.flatMap fun b => b.row.map fun e => (e.1, e.2 * w small b)

/-- value of the image described by a list of contributions at voxel `v` -/
def imageAt (cs : List (Nat × K)) (v : Nat) : K := sumMap (fun e => if e.1 = v then e.2 else 0) cs

/-- the same, accumulated into an array of `n` voxels (what the driver executes; see `C05_accumulate_is_image` in Props.lean) -/
def accumulate (n : Nat) (cs : List (Nat × K)) : Array K :=
  cs.foldl (fun arr e => arr.modify e.1 (fun s => s + e.2)) (Array.replicate n 0)

/-- contributions of `distributable_compute_gradient` over the viewgrams of a subset -/
def gradContribs (c : Consts K) (zero addSens : Bool) (img : Nat → K) (S : List (Viewgram K)) : List (Nat × K) :=
  S.flatMap (bckVg (smallOf c (yEff zero)) (gradW c zero addSens img))

/-- subset gradient (without penalty) at voxel `v` -/
def grad (c : Consts K) (zero : Bool) (img : Nat → K) (S : List (Viewgram K)) (v : Nat) : K :=
  imageAt (gradContribs c zero false img S) v

/-- "subset gradient plus sensitivity" at voxel `v` -/
def gradPlusSens (c : Consts K) (zero : Bool) (img : Nat → K) (S : List (Viewgram K)) (v : Nat) : K :=
  imageAt (gradContribs c zero true img S) v

def sensContribs (zero : Bool) (S : List (Viewgram K)) : List (Nat × K) :=
  S.flatMap (bckVg (fun _ => 0) (fun _ b => sensW zero b))

/-- what `add_subset_sensitivity` adds for the subset at voxel `v` -/
def sens (zero : Bool) (S : List (Viewgram K)) (v : Nat) : K := imageAt (sensContribs zero S) v

/-- `actual_compute_objective_function_without_penalty` for the viewgrams of a subset -/
def value (c : Consts K) (log : K → K) (zero : Bool) (img : Nat → K) (S : List (Viewgram K)) : K :=
  sumMap (fun vg => sumMap (valueTerm c log zero img (smallOf c (yEff zero) vg)) vg) S

def hessContribs (c : Consts K) (zero : Bool) (img x : Nat → K) (S : List (Viewgram K)) : List (Nat × K) :=
  S.flatMap (bckVg (smallOf c (hessNum zero x)) (hessW c zero img x))

/-- `accumulate_sub_Hessian_times_input_without_penalty`: `output − back projection` -/
def hessTimes (c : Consts K) (zero : Bool) (img x : Nat → K) (out0 : K) (S : List (Viewgram K)) (v : Nat) : K :=
  out0 - imageAt (hessContribs c zero img x S) v

def ahessContribs (c : Consts K) (zero : Bool) (x : Nat → K) (S : List (Viewgram K)) : List (Nat × K) :=
  S.flatMap (bckVg (smallOf c (ahessNum zero x)) (ahessW c zero x))

/-- `add_multiplication_with_approximate_sub_Hessian_without_penalty` -/
def approxHess (c : Consts K) (zero : Bool) (x : Nat → K) (out0 : K) (S : List (Viewgram K)) (v : Nat) : K :=
  out0 - imageAt (ahessContribs c zero x S) v

/-- the penalised quantities of `GeneralisedObjectiveFunction` (cxx:121-160, 240): the prior's value /
    gradient divided by the number of subsets is subtracted -/
def penalised (q prior : K) (numSubsets : K) : K := q - prior / numSubsets

/-- the penalised Hessian-times-input / approximate Hessian of `GeneralisedObjectiveFunction`
    (cxx:282-309 `add_multiplication_with_approximate_sub_Hessian` (:295), :384-411 `accumulate_sub_Hessian_times_input` (:397)):
    `q` = the output after the unpenalised call, `priorOfInput = H_prior · input` (since 119733357 the prior's
    Hessian is applied to `input`; before, it was applied to the function's own `output`), divided by the number of
    subsets and subtracted -/
def penalisedHess (q priorOfInput : K) (numSubsets : K) : K := q - priorOfInput / numSubsets

/-- the penalised *full-data* quantities of `GeneralisedObjectiveFunction`: `compute_gradient` (cxx:187-206: the sum of the
    unpenalised subset gradients, then the prior's gradient subtracted once) and `compute_objective_function(image)`
    (cxx:248-251: the sum of the unpenalised subset values minus `compute_penalty`) -/
def penalisedFull (q prior : K) : K := q - prior

/-- `accumulate_Hessian_times_input` (cxx:355-365) on an object with a prior: the subsets one after the other into the same
    output, each step being the penalised `accumulate_sub_Hessian_times_input` (cxx:384-410): the unpenalised subset
    product is subtracted from the output, then the share `H_prior · input / num_subsets` -/
def hessTimesPenFull (c : Consts K) (zero : Bool) (img x : Nat → K) (priorOfInput numSubsets : K) (out0 : K)
    (Ss : List (List (Viewgram K))) (v : Nat) : K :=
  Ss.foldl (fun o S => penalisedHess (hessTimes c zero img x o S v) priorOfInput numSubsets) out0

/-- the same loop on the numbers it handles at one voxel: `prods` = what the unpenalised subset products subtract from the
    output there, one per subset (`hessTimes … o S v = o − product`); this is what the driver executes
    (`C05_penFullAccumulate_is_hessTimesPenFull`, `…_approxHessPenFull`) -/
def penFullAccumulate (prods : List K) (priorOfInput numSubsets out0 : K) : K :=
  prods.foldl (fun o h => penalisedHess (o - h) priorOfInput numSubsets) out0

/-- `add_multiplication_with_approximate_Hessian` (cxx:329-338) on an object with a prior, likewise (each step cxx:282-311) -/
def approxHessPenFull (c : Consts K) (zero : Bool) (x : Nat → K) (priorOfInput numSubsets : K) (out0 : K)
    (Ss : List (List (Viewgram K))) (v : Nat) : K :=
  Ss.foldl (fun o S => penalisedHess (approxHess c zero x o S v) priorOfInput numSubsets) out0

/-- `if (subset_num < 0 || subset_num >= this->get_num_subsets()) error(…)` (GeneralisedObjectiveFunction.cxx:136, :232):
    is the subset number accepted -/
def subsetAccepted (numSubsets subset : Int) : Bool := !(subset < 0 || subset ≥ numSubsets)

/-- subset sensitivity when `use_subset_sensitivities` is off (`set_total_or_subset_sensitivities`):
    the total divided by the number of subsets -/
def sensShare (total numSubsets : K) : K := total / numSubsets

end Quantities

/-! ## What `set_up` makes of the configuration -/

/-- `set_up_before_sensitivity` (cxx:590-597): `max_segment_num_to_process == -1` stands for the maximum of the data; a value
    above the maximum of the data is refused (`none`); anything else is kept as it is -/
def segRangeAfterSetUp (setting dataMax : Int) : Option Int :=
  let m := if setting == -1 then dataMax else setting
  if m > dataMax then none else some m

/-- `is_TOF_only_norm()` of a normalisation chain: `BinNormalisationFromProjData` (cxx:74) says `true` when its data have more than
    one TOF bin, `ChainedBinNormalisation` (cxx:72) when one of its two links does, the base class (BinNormalisation.h:74) `false`;
    the argument lists that answer for the links of the chain -/
def isTofOnlyNorm (links : List Bool) : Bool := links.any id

/-- `set_up_before_sensitivity` (cxx:599-606, since 4695cd773): `max_timing_pos_num_to_process == -1` (the default) stands for
    the maximum TOF bin of the data; a value above the maximum of the data is refused (`none`); anything else is kept.
    Value, gradient (cxx:751, :796), both Hessian functions (cxx:1010, :1139) and — with TOF sensitivities — the sensitivity
    (cxx:912) run over the TOF bins `-m … m`.  (Before, `set_up` overwrote the member with the maximum of the data.) -/
def tofRangeAfterSetUp (setting dataMax : Int) : Option Int :=
  let m := if setting == -1 then dataMax else setting
  if m > dataMax then none else some m

/-- the switch `use_tofsens` after `set_up_before_sensitivity` (cxx:651-665): when the sensitivities are computed by `set_up`,
    TOF data with TOF normalisation factors turn the TOF sensitivity on, and so does a TOF range below the maximum of the data
    (`restricted`; the non-TOF sensitivity is the sum over all TOF bins) -/
def useTofsensAfterSetUp (recompute useTofsens tofData normTof restricted : Bool) : Bool :=
  let u := if recompute && (!useTofsens && tofData && normTof) then true else useTofsens
  if recompute && (!u && tofData && restricted) then true else u

/-- `sensitivity_uses_same_projector()` (cxx:537-540) -/
def sensUsesSameProjector (tofData useTofsens : Bool) : Bool := !tofData || useTofsens

/-- `actual_subsets_are_approximately_balanced` (cxx:516-531) on the numbers of viewgrams per subset it has counted
    (`num_vs_in_subset`): every subset has as many as subset 0 -/
def subsetsBalanced : List Nat → Bool
  | [] => true
  | c0 :: cs => cs.all (fun c => c == c0)

/-- `PoissonLogLikelihoodWithLinearModelForMean::set_up` (cxx:275-281): unbalanced subsets are refused unless subset
    sensitivities are used -/
def setUpAcceptsSubsets (useSubsetSens : Bool) (counts : List Nat) : Bool := !(!subsetsBalanced counts && !useSubsetSens)

/-! ## The cached (subset) sensitivities of one object across several `set_up`s

`PoissonLogLikelihoodWithLinearModelForMean.cxx`: `set_up` :187-340, `compute_sensitivities` :349-399,
`set_total_or_subset_sensitivities` :402-435.  The members `subsensitivity_sptrs` (a vector of shared pointers) and
`sensitivity_sptr` survive from one `set_up` to the next, and several pointers may point to the same image
(`subsensitivity_sptrs[s] = subsensitivity_sptrs[0]`), so the model has a small heap: a pointer is an address (`Nat`),
`heap` says which image lives there.  Images are an arbitrary type `I` with the three operations the code uses. -/

/-- the operations on target images the sensitivity bookkeeping uses -/
structure ImgOps (I : Type) where
  /-- `get_empty_copy()` / `std::fill(begin_all(), end_all(), 0)` -/
  zero : I
  /-- voxel-wise `+=` -/
  add : I → I → I
  /-- voxel-wise `/= num_subsets` -/
  divN : I → Nat → I

/-- C `for (s = lo; s < lo + cnt; ++s) st = f s st` -/
def forLoop {σ : Type} (f : Nat → σ → σ) : (lo cnt : Nat) → σ → σ
  | _, 0, st => st
  | lo, cnt + 1, st => forLoop f (lo + 1) cnt (f lo st)

/-- the part of the object's state that holds the sensitivities -/
structure SensObj (I : Type) where
  /-- the images allocated so far (`none`: nothing at that address) -/
  heap : Nat → Option I
  /-- the next address `new` hands out -/
  next : Nat
  /-- `subsensitivity_sptrs.size()` -/
  size : Nat
  /-- `subsensitivity_sptrs[s]` (`none`: null pointer) -/
  sub : Nat → Option Nat
  /-- `sensitivity_sptr` -/
  tot : Option Nat
  /-- the member `recompute_sensitivity` -/
  recompute : Bool

/-- a newly constructed object (`set_defaults`: no images, `recompute_sensitivity = false`) -/
def SensObj.fresh {I : Type} : SensObj I :=
  { heap := fun _ => none, next := 0, size := 0, sub := fun _ => none, tot := none, recompute := false }

/-- the sensitivity files on disk: the total, and one per subset -/
structure SensFiles (I : Type) where
  tot : Option I
  sub : Nat → Option I

def SensFiles.empty {I : Type} : SensFiles I := { tot := none, sub := fun _ => none }

section Sens
variable {I : Type}

/-- `new`: a fresh address holding `v` -/
def SensObj.alloc (o : SensObj I) (v : I) : SensObj I × Nat :=
  ({ o with heap := fun p => if p = o.next then some v else o.heap p, next := o.next + 1 }, o.next)

/-- `*p` -/
def SensObj.deref (o : SensObj I) (p : Option Nat) : Option I := p.bind o.heap

/-- `*p = f(*p)` (through a null pointer: undefined behaviour in C++; the model leaves the state alone) -/
def SensObj.update (o : SensObj I) (p : Option Nat) (f : I → I) : SensObj I :=
  match p with
  | none => o
  | some q => { o with heap := fun r => if r = q then (o.heap r).map f else o.heap r }

/-- `subsensitivity_sptrs[s] = p` -/
def SensObj.setSub (o : SensObj I) (s : Nat) (p : Option Nat) : SensObj I :=
  { o with sub := fun t => if t = s then p else o.sub t }

/-- `subsensitivity_sptrs.resize(n)` (cxx:193): elements beyond `n` are dropped, new elements are null pointers -/
def SensObj.resize (o : SensObj I) (n : Nat) : SensObj I :=
  { o with size := n, sub := fun s => if s < n ∧ s < o.size then o.sub s else none }

/-- what `get_subset_sensitivity(s)` / `get_sensitivity()` return -/
def SensObj.getSub (o : SensObj I) (s : Nat) : Option I := o.deref (o.sub s)
def SensObj.getTot (o : SensObj I) : Option I := o.deref o.tot

/-- one turn of the loop cxx:410-420: subset `s` is added to the total -/
def addSubStep (ops : ImgOps I) (s : Nat) (o : SensObj I) : SensObj I :=
  match o.deref (o.sub s) with
  | some v => o.update o.tot (fun a => ops.add a v)
  | none => o

/-- one turn of the loop cxx:433-434: "set all other pointers the same" -/
def shareStep (s : Nat) (o : SensObj I) : SensObj I := o.setSub s (o.sub 0)

/-- `set_total_or_subset_sensitivities` (cxx:402-435) -/
def setTotalOrSubset (ops : ImgOps I) (useSub : Bool) (n : Nat) (o : SensObj I) : SensObj I :=
  if useSub then
    match o.deref (o.sub 0) with
    | none => o
    | some v0 =>
      -- `sensitivity_sptr.reset(subsensitivity_sptrs[0]->clone())`, then the other subsets are added
      forLoop (addSubStep ops) 1 (n - 1) { (o.alloc v0).1 with tot := some (o.alloc v0).2 }
  else
    match o.deref o.tot with
    | none => o
    | some vt =>
      -- `subsensitivity_sptrs[0].reset(sensitivity_sptr->clone())`, divided by `num_subsets`; all other pointers the same
      forLoop shareStep 1 (n - 1)
        ((((o.alloc vt).1).setSub 0 (some (o.alloc vt).2)).update (some (o.alloc vt).2) (fun a => ops.divN a n))

/-- one turn of the loop of `compute_sensitivities` (cxx:364-388); `inc s` = what `add_subset_sensitivity(image, s)` adds to the
    image: the back projection of the efficiencies over subset `s` (`sens` above) -/
def computeStep (ops : ImgOps I) (useSub : Bool) (inc : Nat → I) (s : Nat) (o : SensObj I) : SensObj I :=
  let o :=
    if s = 0 then o.update (o.sub 0) (fun _ => ops.zero)                   -- `std::fill(…, 0)`
    else if useSub then
      match o.deref (o.sub 0) with                                          -- `reset(subsensitivity_sptrs[0]->get_empty_copy())`
      | some _ => ((o.alloc ops.zero).1).setSub s (some (o.alloc ops.zero).2)
      | none => o
    else o.setSub s (o.sub 0)                                               -- the same image: everything accumulates in subset 0's
  o.update (o.sub s) (fun a => ops.add a (inc s))                           -- `add_subset_sensitivity(*subsensitivity_sptrs[s], s)`

/-- "copy full sensitivity (currently stored in subsensitivity[0])" (cxx:390-395) -/
def moveToTotal (useSub : Bool) (o : SensObj I) : SensObj I :=
  if useSub then o else { (o.setSub 0 none) with tot := o.sub 0 }

/-- `compute_sensitivities` (cxx:349-399).  `set_up` has put a new image into `subsensitivity_sptrs[0]` before the call
    ("preallocate one such that compute_sensitivities knows the size") -/
def computeSensitivities (ops : ImgOps I) (useSub : Bool) (n : Nat) (inc : Nat → I) (o : SensObj I) : SensObj I :=
  setTotalOrSubset ops useSub n (moveToTotal useSub (forLoop (computeStep ops useSub inc) 0 n o))

/-- what the caller has configured before `set_up`, as far as the sensitivities are concerned -/
structure SensCfg where
  useSub : Bool           -- use_subset_sensitivities
  n : Nat                 -- num_subsets
  totName : Bool          -- `sensitivity_filename` is not empty (the special name "1" is not modelled)
  subName : Bool          -- `subsensitivity_filenames` is not empty
  /-- `set_up_before_sensitivity` succeeds and the subsets are balanced or subset sensitivities are used (cxx:268-281;
      `setUpAcceptsSubsets` above) -/
  accepted : Bool

/-- does this `set_up` compute the sensitivities: the member `recompute_sensitivity` is set, or there is nothing to read
    (cxx:195-204: no image in `subsensitivity_sptrs[0]` after the `resize` and no file name for the kind of sensitivity in use) -/
def willCompute (c : SensCfg) (o : SensObj I) : Bool :=
  o.recompute || (((o.resize c.n).sub 0).isNone && ((c.useSub && !c.subName) || (!c.useSub && !c.totName)))

/-- one turn of the loop cxx:218-243: the file of subset `s` is read into a new image (`false`: `read_from_file` throws) -/
def readStep (files : SensFiles I) (s : Nat) (r : Bool × SensObj I) : Bool × SensObj I :=
  if !r.1 then r else
  match files.sub s with
  | none => (false, r.2)
  | some v => (true, ((r.2.alloc v).1).setSub s (some (r.2.alloc v).2))

/-- cxx:205-266: the sensitivities are read from file (that the images read have the characteristics of the target is not modelled) -/
def readSens (ops : ImgOps I) (c : SensCfg) (o : SensObj I) (files : SensFiles I) : Bool × SensObj I :=
  if c.useSub then
    if !c.subName then (false, o)
    else
      let r := forLoop (readStep files) 0 c.n (true, o)
      if r.1 then (true, setTotalOrSubset ops true c.n r.2) else r
  else
    if !c.totName then (false, o)
    else match files.tot with
      | none => (false, o)
      | some v => (true, setTotalOrSubset ops false c.n { (o.alloc v).1 with tot := some (o.alloc v).2 })

/-- cxx:296-330: the sensitivities just computed are written to file if a name is set -/
def writeSens (c : SensCfg) (o : SensObj I) (files : SensFiles I) : SensFiles I :=
  if c.useSub then
    if c.subName then { files with sub := fun s => if s < c.n then o.getSub s else files.sub s } else files
  else
    if c.totName then { files with tot := o.getTot } else files

/-- the sensitivity part of `PoissonLogLikelihoodWithLinearModelForMean::set_up` (cxx:187-340) on an object in ANY state
    (new, or left by earlier `set_up`s) with the files found on disk.  Result: `Succeeded::yes`?, the object, the files -/
def setUpSens (ops : ImgOps I) (c : SensCfg) (inc : Nat → I) (o : SensObj I) (files : SensFiles I) :
    Bool × SensObj I × SensFiles I :=
  let o1 := o.resize c.n
  -- cxx:195-204: nothing to read → compute (the member stays on)
  let o2 := if willCompute c o then { o1 with recompute := true } else o1
  let rd : Bool × SensObj I := if o2.recompute then (true, o2) else readSens ops c o2 files
  if !rd.1 then (false, rd.2, files)
  else if !c.accepted then (false, rd.2, files)
  else if rd.2.recompute then
    -- cxx:283-294: "preallocate one such that compute_sensitivities knows the size"
    let o3 := computeSensitivities ops c.useSub c.n inc (((rd.2.alloc ops.zero).1).setSub 0 (some (rd.2.alloc ops.zero).2))
    (true, o3, writeSens c o3 files)
  else (true, rd.2, files)

/-- closed form of what `compute_sensitivities` leaves in `sensitivity_sptr` when subset sensitivities are not used: the
    subsets accumulated one after the other into an image of zeroes -/
def accSens (ops : ImgOps I) (inc : Nat → I) : Nat → I
  | 0 => ops.zero
  | k + 1 => ops.add (accSens ops inc k) (inc k)

/-- closed form of the total when subset sensitivities are used: a copy of subset 0's, then subsets 1 … k added -/
def sumSubs (ops : ImgOps I) (v : Nat → I) : Nat → I
  | 0 => v 0
  | k + 1 => ops.add (sumSubs ops v k) (v (k + 1))

end Sens

/-! ## The set-up flags -/

/-- the kinds of request after `set_up` -/
inductive Req where
  | value
  | gradient (addSens : Bool)
  | sensitivity
  | hessian
  | approxHessian
  deriving DecidableEq, Repr

/-- flags of the object (`already`, `latestOrig`, `normSetup`, `normOrig`) and, as ghost state, what
    `setup_distributable_computation` / `normalisation_sptr->set_up` were last called with
    (`some true`: the original (TOF) projectors / data, `some false`: the sensitivity (non-TOF) ones) -/
structure St where
  already : Bool     -- distributable_computation_already_setup
  latestOrig : Bool  -- latest_setup_distributable_computation_was_with_orig_projectors (no initialiser in the header)
  normSetup : Bool   -- norm_already_setup
  normOrig : Bool    -- latest_setup_norm_was_with_orig_data (no initialiser in the header)
  workers : Option Bool
  norm : Option Bool
  deriving DecidableEq, Repr

/-- state left by `set_up_before_sensitivity` (cxx:630-632); `g`, `g2` = the indeterminate values of the
    two members without initialiser -/
def St.afterSetUpBefore (g g2 : Bool) : St :=
  { already := false, latestOrig := g, normSetup := false, normOrig := g2, workers := none, norm := none }

/-- `ensure_norm_is_set_up(for_original_data)` (cxx:543-569) -/
def ensureNorm (sameProj : Bool) (forOrig : Bool) (s : St) : St :=
  let forOrig := forOrig || sameProj
  let s :=
    if forOrig then
      if !s.normSetup || !s.normOrig then { s with norm := some true } else s
    else
      if !s.normSetup || s.normOrig then { s with norm := some false } else s
  { s with normSetup := true, normOrig := forOrig }

/-- one request: `none` = the library calls `error(…internal error: setup_distributable_computation not called…)`;
    otherwise the new state, i.e. the state in which the distributable computation of the request runs.
    The four conditions are those of cxx:700, :742 (since 577b3b1e1 the same as :700), :840-842, :854-856, as written. -/
def step (sameProj : Bool) (s : St) : Req → Option St
  | .gradient addSens =>
    let s := if !s.already || !s.latestOrig then { s with already := true, latestOrig := true, workers := some true } else s
    if !s.already then none
    else some (if !addSens then ensureNorm sameProj true s else s)
  | .value =>
    let s := if !s.already || !s.latestOrig then { s with already := true, latestOrig := true, workers := some true } else s
    if !s.already then none
    else some (ensureNorm sameProj true s)
  | .sensitivity =>
    let s :=
      if sameProj && (!s.already || !s.latestOrig) then { s with already := true, latestOrig := true, workers := some true }
      else if !sameProj && (!s.already || s.latestOrig) then { s with already := true, latestOrig := false, workers := some false }
      else s
    if !s.already then none
    else some (ensureNorm sameProj false s)
  | .hessian => some s
  | .approxHessian => some (ensureNorm sameProj true s)

/-- what a request needs of the set-up state at the moment it is served: the projectors handed to
    `setup_distributable_computation` (`none`: the request does not use `distributable_computation`) and
    the data the normalisation object was set up with (`none`: not used) -/
def needs (sameProj : Bool) : Req → Option Bool × Option Bool
  | .value => (some true, some true)
  | .gradient addSens => (some true, if addSens then none else some true)
  | .sensitivity => (some sameProj, some sameProj)
  | .hessian => (none, none)
  | .approxHessian => (none, some true)

def satisfies (have_ : Option Bool) (need : Option Bool) : Bool :=
  match need with
  | none => true
  | some b => have_ == some b

/-- is the request served correctly from state `s` -/
def servedOK (sameProj : Bool) (s : St) (r : Req) : Bool :=
  match step sameProj s r with
  | none => false
  | some s' => satisfies s'.workers (needs sameProj r).1 && satisfies s'.norm (needs sameProj r).2

/-- run a history of requests; a failed request (exception) leaves the flags as they are.  Result: per request, was it served correctly -/
def run (sameProj : Bool) : St → List Req → List Bool
  | _, [] => []
  | s, r :: rs => servedOK sameProj s r :: run sameProj ((step sameProj s r).getD s) rs

/-- the state after `set_up`: `set_up_before_sensitivity`, then — if the sensitivities are (re)computed,
    which is the default — one sensitivity request per subset -/
def St.afterSetUp (sameProj recompute : Bool) (numSubsets : Nat) (g g2 : Bool) : St :=
  if recompute then
    (List.replicate numSubsets Req.sensitivity).foldl (fun s r => (step sameProj s r).getD s) (St.afterSetUpBefore g g2)
  else St.afterSetUpBefore g g2

/-! ## The public setters and `already_set_up`

`GeneralisedObjectiveFunction::already_set_up` (GeneralisedObjectiveFunction.h:319, `false` in the constructor :87) is set by
`PoissonLogLikelihoodWithLinearModelForMean::set_up` on success (cxx:327) and nowhere else to `true`; it is *not* reset when
`set_up` starts, so a `set_up` that fails leaves it as it was.  The requests that test it (`error("Need to call set_up() …")`):
`compute_sub_gradient` (GeneralisedObjectiveFunction.cxx:132), `compute_objective_function_without_penalty(·, subset)` (:230; every
value function goes through it), `add_multiplication_with_approximate_sub_Hessian_without_penalty` (:261) and
`add_multiplication_with_approximate_sub_Hessian` (:286), `accumulate_sub_Hessian_times_input_without_penalty` (:419; every Hessian
product goes through it), `compute_sub_gradient_without_penalty` / `…_plus_sensitivity`
(PoissonLogLikelihoodWithLinearModelForMean.cxx:337, :347).  Public members that do NOT test it: `get_subset_sensitivity`,
`get_sensitivity` (cxx:122, :129: the images cached by the last `set_up`), `add_subset_sensitivity`
(PoissonLogLikelihoodWithLinearModelForMeanAndProjData.cxx:864) and `actual_compute_subset_gradient_without_penalty` (:730; public in
the header of the proj-data class) — both computed from the members as they are at the time of the call.

Every public setter is transcribed below with the condition under which it resets the flag (the "setter table"):

| setter | `already_set_up` afterwards | source |
|---|---|---|
| `set_num_subsets(n)` | `&& (num_subsets == n)`, compared BEFORE `num_subsets = max(n, 1)` | ProjData.cxx:402-403 |
| `set_proj_data_sptr`, `set_input_data`, `set_additive_proj_data_sptr`, `set_normalisation_sptr`, `set_projector_pair_sptr` | `false` (also for the pointer the object already holds) | :411, :485, :445, :477, :453 |
| `set_max_segment_num_to_process(m)`, `set_max_timing_pos_num_to_process(m)` | `&& (member == m)`; the "is default" mark is cleared | :419-421, :428-430 |
| `set_zero_seg0_end_planes(b)`, `set_frame_num(k)`, `set_frame_definitions(d)` | `&& (member == argument)` | :437, :461, :469 |
| `set_use_subset_sensitivities(b)` | `&& (member == b)` | Mean.cxx:159 |
| `set_sensitivity_filename`, `set_subsensitivity_filenames`, `set_subset_sensitivity_sptr` | `false` | Mean.cxx:91, :99, :168 |
| `set_recompute_sensitivity(b)` | unchanged | Mean.cxx:145 |
| `set_prior_sptr(p)` | unchanged ("You should call set_up() again": the prior refuses by itself when it is not set up, GeneralisedPrior.cxx:86) | GeneralisedObjectiveFunction.cxx:97 |
| `parse(…)` (ParsingObject.cxx:67 → `post_processing`) | `false` (since 831e9a78b; before, the reset at the end of `post_processing` was commented out) | Mean.cxx `post_processing` |

Shared pointers, strings and the frame definitions are represented by an identity (`Nat`; `0`: null pointer / empty string; equal
identities = the same object resp. equal values): the setters only store them (`frame_defs == arg` compares values). -/

/-- the members the public setters write -/
structure Members where
  numSubsets : Int
  projData : Nat
  additive : Nat
  norm : Nat
  projPair : Nat
  maxSeg : Int
  /-- `max_segment_num_to_process_is_default`: the value was put there by `set_up` for the setting `-1` -/
  maxSegDefault : Bool
  maxTof : Int
  maxTofDefault : Bool
  zeroEnd : Bool
  useSubsetSens : Bool
  recompute : Bool
  totName : Nat
  subName : Nat
  frameNum : Int
  frameDefs : Nat
  prior : Nat
  deriving DecidableEq, Repr

/-- `set_defaults` of the three classes (GeneralisedObjectiveFunction.cxx:40-45, Mean.cxx:40-49, ProjData.cxx:88-136); the default
    normalisation object (a `TrivialBinNormalisation`), projector pair and frame definitions (one frame) get the identity `1` -/
def Members.defaults : Members :=
  { numSubsets := 1, projData := 0, additive := 0, norm := 1, projPair := 1, maxSeg := -1, maxSegDefault := false, maxTof := -1,
    maxTofDefault := false, zeroEnd := false, useSubsetSens := true, recompute := false, totName := 0, subName := 0, frameNum := 1,
    frameDefs := 1, prior := 0 }

/-- the public setters (and `parse` of a parameter text with the keys "zero end planes of segment 0" and "maximum absolute segment
    number to process") -/
inductive Setter where
  | numSubsets (n : Int)
  | projData (p : Nat)
  | inputData (p : Nat)
  | additive (p : Nat)
  | normalisation (p : Nat)
  | projectorPair (p : Nat)
  | maxSegment (m : Int)
  | maxTof (m : Int)
  | zeroEndPlanes (b : Bool)
  | useSubsetSens (b : Bool)
  | recomputeSens (b : Bool)
  | sensFilename (s : Nat)
  | subsensFilenames (s : Nat)
  | subsetSensSptr (subset : Nat) (p : Nat)
  | frameNum (k : Int)
  | frameDefs (d : Nat)
  /-- `ready`: the prior object has been set up (by whoever) -/
  | prior (p : Nat) (ready : Bool)
  | parseKeys (zeroEnd : Bool) (maxSeg : Int)
  deriving DecidableEq, Repr

/-- the objective function object as far as the setters, `set_up` and the guard of the requests are concerned -/
structure Obj where
  m : Members
  /-- `already_set_up` -/
  already : Bool
  /-- ghost: the members as the last successful `set_up` left them — what the cached sensitivities were computed for and the
      projectors set up with -/
  snap : Option Members
  /-- ghost: the prior object held is set up (`GeneralisedPrior::_already_set_up`) -/
  priorReady : Bool
  /-- ghost: `set_subset_sensitivity_sptr` has replaced a cached image since the last `set_up` -/
  sensReplaced : Bool
  deriving DecidableEq, Repr

/-- a newly constructed object -/
def Obj.new : Obj := { m := Members.defaults, already := false, snap := none, priorReady := false, sensReplaced := false }

/-- `std::max(new_num_subsets, 1)` -/
def clampSubsets (n : Int) : Int := if n < 1 then 1 else n

/-- one setter call, line by line as in the sources quoted in the table above -/
def Obj.set (o : Obj) : Setter → Obj
  | .numSubsets n =>
    { o with already := o.already && (o.m.numSubsets == n), m := { o.m with numSubsets := clampSubsets n } }
  | .projData p => { o with already := false, m := { o.m with projData := p } }
  | .inputData p => { o with already := false, m := { o.m with projData := p } }
  | .additive p => { o with already := false, m := { o.m with additive := p } }
  | .normalisation p => { o with already := false, m := { o.m with norm := p } }
  | .projectorPair p => { o with already := false, m := { o.m with projPair := p } }
  | .maxSegment k =>
    { o with already := o.already && (o.m.maxSeg == k), m := { o.m with maxSeg := k, maxSegDefault := false } }
  | .maxTof k =>
    { o with already := o.already && (o.m.maxTof == k), m := { o.m with maxTof := k, maxTofDefault := false } }
  | .zeroEndPlanes b => { o with already := o.already && (o.m.zeroEnd == b), m := { o.m with zeroEnd := b } }
  | .useSubsetSens b => { o with already := o.already && (o.m.useSubsetSens == b), m := { o.m with useSubsetSens := b } }
  | .recomputeSens b => { o with m := { o.m with recompute := b } }
  | .sensFilename s => { o with already := false, m := { o.m with totName := s } }
  | .subsensFilenames s => { o with already := false, m := { o.m with subName := s } }
  | .subsetSensSptr _ _ => { o with already := false, sensReplaced := true }
  | .frameNum k => { o with already := o.already && (o.m.frameNum == k), m := { o.m with frameNum := k } }
  | .frameDefs d => { o with already := o.already && (o.m.frameDefs == d), m := { o.m with frameDefs := d } }
  | .prior p ready => { o with priorReady := ready, m := { o.m with prior := p } }
  -- `parse`: the parser writes the members of the keys it finds; `post_processing` (ProjData.cxx:175-278) clears the two "is default"
  -- marks and rebuilds the one-frame definitions (no frame definition file); since 831e9a78b the flag is reset
  -- (`PoissonLogLikelihoodWithLinearModelForMean::post_processing`)
  | .parseKeys z k =>
    { o with already := false,
             m := { o.m with zeroEnd := z, maxSeg := k, maxSegDefault := false, maxTofDefault := false, frameDefs := 1 } }

/-- facts about the objects the members point to; they do not change during a history -/
structure Data where
  /-- `get_max_segment_num()` / `get_max_tof_pos_num()` of the projection data with this identity -/
  segMax : Nat → Int
  tofMax : Nat → Int
  /-- `get_num_frames()` of the frame definitions with this identity -/
  numFrames : Nat → Int

/-- what one call of `set_up` finds outside the members -/
structure Call where
  /-- `subsets_are_approximately_balanced()` for the members as they are when it is called (Mean.cxx:275) with the target of this call -/
  balanced : Members → Bool
  /-- `is_null_ptr(subsensitivity_sptrs[0])` after the `resize` (Mean.cxx:179-183) -/
  sub0Null : Bool
  /-- the sensitivity file(s) named can be read and fit the target (Mean.cxx:205-264) -/
  filesOK : Bool

/-- no file name for the kind of sensitivity in use (Mean.cxx:184-185) -/
def Members.noName (m : Members) : Bool := if m.useSubsetSens then m.subName == 0 else m.totName == 0

/-- Mean.cxx:181-190: `recompute_sensitivity` off, no image in `subsensitivity_sptrs[0]` and no file name → the member is switched on -/
def suRecompute (w : Call) (m : Members) : Members :=
  if !m.recompute && (w.sub0Null && m.noName) then { m with recompute := true } else m

/-- ProjData.cxx:600-604: `-1`, or a value an earlier `set_up` derived from `-1`, stands for all segments of the data -/
def suSeg (d : Data) (m : Members) : Members :=
  if m.maxSeg == -1 || m.maxSegDefault then { m with maxSeg := d.segMax m.projData, maxSegDefault := true } else m

/-- ProjData.cxx:613-617: likewise for the TOF bins -/
def suTof (d : Data) (m : Members) : Members :=
  if m.maxTof == -1 || m.maxTofDefault then { m with maxTof := d.tofMax m.projData, maxTofDefault := true } else m

/-- the members after `PoissonLogLikelihoodWithLinearModelForMean::set_up` (Mean.cxx:174-329, `set_up_before_sensitivity`
    ProjData.cxx:592-722) and whether it succeeded; a failing `set_up` keeps the members it has changed before the failure
    (the sensitivity file name "1" and a failure while writing the sensitivity files are not modelled) -/
def setUpMembers (d : Data) (w : Call) (m : Members) : Bool × Members :=
  -- GeneralisedObjectiveFunction.cxx:72-76
  if m.numSubsets ≤ 0 then (false, m) else
  let m1 := suRecompute w m
  -- Mean.cxx:202-264: read from file
  if !m1.recompute && (m1.noName || !w.filesOK) then (false, m1) else
  -- ProjData.cxx:595
  if m1.projData == 0 then (false, m1) else
  -- :600-610
  let m2 := suSeg d m1
  if m2.maxSeg > d.segMax m2.projData then (false, m2) else
  -- :613-623
  let m3 := suTof d m2
  if m3.maxTof > d.tofMax m3.projData then (false, m3) else
  -- :633, :664
  if m3.projPair == 0 then (false, m3) else
  if m3.recompute && m3.norm == 0 then (false, m3) else
  -- :709-719
  if m3.frameNum ≤ 0 then (false, m3) else
  if m3.frameNum > d.numFrames m3.frameDefs then (false, m3) else
  -- Mean.cxx:275
  if !w.balanced m3 && !m3.useSubsetSens then (false, m3) else
  (true, m3)

/-- `set_up`: on success the flag is set (Mean.cxx:327), the prior held has been set up (GeneralisedObjectiveFunction.cxx:69) and the
    sensitivities are those of the members; on failure the flag stays as it was -/
def Obj.setUp (d : Data) (w : Call) (o : Obj) : Bool × Obj :=
  let r := setUpMembers d w o.m
  if r.1 then (true, { m := r.2, already := true, snap := some r.2, priorReady := o.priorReady || r.2.prior != 0, sensReplaced := false })
  else (false, { o with m := r.2 })

/-- the public requests -/
inductive PReq where
  /-- tested against `already_set_up`; `pen`: through the penalised function (`compute_objective_function`,
      `compute_sub_gradient`, `accumulate_sub_Hessian_times_input`, `add_multiplication_with_approximate_sub_Hessian`), which then asks the prior -/
  | guarded (r : Req) (pen : Bool)
  /-- `add_subset_sensitivity`, `actual_compute_subset_gradient_without_penalty`: no test, computed from the members as they are -/
  | addSubsetSens
  | actualGradient
  /-- `get_subset_sensitivity`, `get_sensitivity`: no test, the cached images -/
  | getSubsetSens
  | getSens
  deriving DecidableEq, Repr

/-- what an answered request is computed from: the members at the time of the request and, as ghost, the members the cached state
    (sensitivities, projector set-up) was made for -/
structure Basis where
  live : Members
  cachedFor : Option Members
  deriving DecidableEq, Repr

/-- does the objective function answer the request (`none`: "Need to call set_up() for objective function first", or the prior's
    "The prior should already be set-up"), and from what -/
def Obj.answer (o : Obj) : PReq → Option Basis
  | .guarded r pen =>
    if !o.already then none
    -- `gps` has no penalised form; a null prior (or penalisation factor 0: `prior_is_zero`) is not asked
    else if pen && r != Req.gradient true && o.m.prior != 0 && !o.priorReady then none
    else some { live := o.m, cachedFor := o.snap }
  | _ => some { live := o.m, cachedFor := o.snap }

/-- the members that enter the quantities: everything but the two "is default" marks (they only matter to the next `set_up`),
    `recompute_sensitivity` (where the sensitivities come from, not what they are) and the prior (the penalised functions ask the
    prior object itself) -/
def Members.core (m : Members) : Members :=
  { m with maxSegDefault := false, maxTofDefault := false, recompute := false, prior := 0 }

/-- an event of a history: a setter call or a `set_up` (with what the world answers at that moment) -/
inductive Event where
  | set (s : Setter)
  | setUp (w : Call)

def Obj.step (d : Data) (o : Obj) : Event → Obj
  | .set s => o.set s
  | .setUp w => (o.setUp d w).2

def Obj.run (d : Data) (o : Obj) (h : List Event) : Obj := h.foldl (Obj.step d) o

/-- the event is not a `parse` -/
def Event.noParse : Event → Bool
  | .set (.parseKeys _ _) => false
  | _ => true

end StirVerif.C05
