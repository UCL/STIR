/-
C05 — the set-up flag state machine of `PoissonLogLikelihoodWithLinearModelForMeanAndProjData`: an invariant, which the
state after `set_up` satisfies, and under which every request of every history is served correctly; and what the two tests of
`set_up` on the normalisation and on the subsets (`isTofOnlyNorm`, `subsetsBalanced`) test.
-/
import StirVerif.C05.Model

namespace StirVerif.C05

/-- the flags tell the truth about what was set up (whenever `already` / `normSetup` say that something was);
    nothing is required of the members without initialiser while `already` / `normSetup` are `false` -/
def invB (s : St) : Bool :=
  (!s.already || s.workers == some s.latestOrig) && (!s.normSetup || s.norm == some s.normOrig)

/-- the machine is finite: every state (2⁴ · 3 · 3), request (6) and configuration (2) is tried -/
theorem step_ok (sameProj : Bool) (s : St) (r : Req) (h : invB s = true) :
    servedOK sameProj s r = true ∧ invB ((step sameProj s r).getD s) = true := by
  obtain ⟨a, l, ns, no, w, nm⟩ := s
  cases r <;> cases w <;> cases nm
  all_goals decide +revert +kernel

theorem run_ok (sameProj : Bool) (s : St) (h : invB s = true) (rs : List Req) :
    run sameProj s rs = List.replicate rs.length true := by
  induction rs generalizing s with
  | nil => rfl
  | cons r rs ih =>
    rw [run, (step_ok sameProj s r h).1, ih _ (step_ok sameProj s r h).2]
    rfl

theorem invB_afterSetUpBefore (g g2 : Bool) : invB (St.afterSetUpBefore g g2) = true := by
  revert g g2
  decide

theorem invB_afterSetUp (sameProj recompute : Bool) (n : Nat) (g g2 : Bool) :
    invB (St.afterSetUp sameProj recompute n g g2) = true := by
  unfold St.afterSetUp
  split
  · exact List.foldlRecOn (motive := fun s => invB s = true) _ _ (invB_afterSetUpBefore g g2) fun s hs r _ => (step_ok sameProj s r hs).2
  · exact invB_afterSetUpBefore g g2

theorem isTofOnlyNorm_iff (links : List Bool) : isTofOnlyNorm links = true ↔ true ∈ links := by
  simp [isTofOnlyNorm]

theorem subsetsBalanced_iff (cs : List Nat) : subsetsBalanced cs = true ↔ ∀ a ∈ cs, ∀ b ∈ cs, a = b := by
  cases cs with
  | nil => simp [subsetsBalanced]
  | cons c0 cs =>
    simp only [subsetsBalanced, List.all_eq_true, beq_iff_eq]
    constructor
    · intro h a ha b hb
      -- every count is that of subset 0
      have hall : ∀ a ∈ c0 :: cs, a = c0 := List.forall_mem_cons.mpr ⟨rfl, h⟩
      rw [hall a ha, hall b hb]
    · intro h a ha
      exact h a (List.mem_cons_of_mem _ ha) c0 List.mem_cons_self

end StirVerif.C05
