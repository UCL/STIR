/-
C05 — the cached (subset) sensitivities of one object across several `set_up`s (`SensObj`, `setUpSens` of Model.lean).  The
images live on a heap and several pointers may share one, so every loop is followed from ANY start state with an invariant
saying which subset points to which content at an address below a bound (`holds`): a newer image, or an assignment through a
pointer to one, cannot disturb it.
-/
import StirVerif.C05.ProofsAlgebra
import Mathlib.Tactic.Common

namespace StirVerif.C05
variable {I : Type}

theorem forLoop_inv {σ : Type} (f : Nat → σ → σ) (P : Nat → σ → Prop) {lo hi : Nat} (hle : lo ≤ hi) (st : σ)
    (hstep : ∀ s st, lo ≤ s → s < hi → P s st → P (s + 1) (f s st)) (h0 : P lo st) : P hi (forLoop f lo (hi - lo) st) := by
  obtain ⟨cnt, rfl⟩ : ∃ cnt, hi = lo + cnt := ⟨hi - lo, by omega⟩
  rw [Nat.add_sub_cancel_left]
  induction cnt generalizing lo st with
  | zero => exact h0
  | succ cnt ih =>
    have h1 : P (lo + 1) (f lo st) := hstep lo st (Nat.le_refl _) (by omega) h0
    have := ih (lo := lo + 1) (f lo st) h1 (by omega) (fun s st hs hlt hp => hstep s st (by omega) (by omega) hp)
    rwa [Nat.add_assoc, Nat.add_comm 1 cnt] at this

@[simp] theorem alloc_snd (o : SensObj I) (v : I) : (o.alloc v).2 = o.next := rfl
@[simp] theorem alloc_heap (o : SensObj I) (v : I) (p : Nat) :
    (o.alloc v).1.heap p = if p = o.next then some v else o.heap p := rfl
@[simp] theorem alloc_next (o : SensObj I) (v : I) : (o.alloc v).1.next = o.next + 1 := rfl
@[simp] theorem alloc_sub (o : SensObj I) (v : I) : (o.alloc v).1.sub = o.sub := rfl
@[simp] theorem alloc_tot (o : SensObj I) (v : I) : (o.alloc v).1.tot = o.tot := rfl
@[simp] theorem alloc_recompute (o : SensObj I) (v : I) : (o.alloc v).1.recompute = o.recompute := rfl

@[simp] theorem update_some_heap (o : SensObj I) (q : Nat) (f : I → I) (r : Nat) :
    (o.update (some q) f).heap r = if r = q then (o.heap r).map f else o.heap r := rfl
@[simp] theorem update_next (o : SensObj I) (p : Option Nat) (f : I → I) : (o.update p f).next = o.next := by
  cases p <;> rfl
@[simp] theorem update_sub (o : SensObj I) (p : Option Nat) (f : I → I) : (o.update p f).sub = o.sub := by
  cases p <;> rfl
@[simp] theorem update_tot (o : SensObj I) (p : Option Nat) (f : I → I) : (o.update p f).tot = o.tot := by
  cases p <;> rfl
@[simp] theorem update_recompute (o : SensObj I) (p : Option Nat) (f : I → I) : (o.update p f).recompute = o.recompute := by
  cases p <;> rfl

@[simp] theorem setSub_sub (o : SensObj I) (s : Nat) (p : Option Nat) (t : Nat) :
    (o.setSub s p).sub t = if t = s then p else o.sub t := rfl
@[simp] theorem setSub_heap (o : SensObj I) (s : Nat) (p : Option Nat) : (o.setSub s p).heap = o.heap := rfl
@[simp] theorem setSub_next (o : SensObj I) (s : Nat) (p : Option Nat) : (o.setSub s p).next = o.next := rfl
@[simp] theorem setSub_tot (o : SensObj I) (s : Nat) (p : Option Nat) : (o.setSub s p).tot = o.tot := rfl
@[simp] theorem setSub_recompute (o : SensObj I) (s : Nat) (p : Option Nat) : (o.setSub s p).recompute = o.recompute := rfl

theorem forLoop_shareStep (lo cnt : Nat) (o : SensObj I) :
    forLoop shareStep lo cnt o = { o with sub := fun t => if lo ≤ t ∧ t < lo + cnt then o.sub 0 else o.sub t } := by
  induction cnt generalizing lo o with
  | zero =>
    have : (fun t => if lo ≤ t ∧ t < lo + 0 then o.sub 0 else o.sub t) = o.sub := funext fun t => if_neg (by omega)
    rw [this]
    rfl
  | succ cnt ih =>
    rw [forLoop, ih]
    simp only [shareStep, SensObj.setSub, ite_self]
    congr 1
    funext t
    by_cases h1 : t = lo
    · simp [h1]
    · have : (lo + 1 ≤ t ∧ t < lo + 1 + cnt) ↔ (lo ≤ t ∧ t < lo + (cnt + 1)) := by omega
      simp [h1, this]

/-- "subset `t` points to an image with content `v` at an address below `k`" (for `k = o.next`: to an allocated image) -/
def holds (o : SensObj I) (k t : Nat) (v : I) : Prop := ∃ p, o.sub t = some p ∧ p < k ∧ o.heap p = some v

theorem holds.getSub {o : SensObj I} {k t : Nat} {v : I} (h : holds o k t v) : o.getSub t = some v := by
  obtain ⟨p, hp, _, hv⟩ := h
  simp [SensObj.getSub, SensObj.deref, hp, hv]

theorem holds.alloc {o : SensObj I} {t : Nat} {v : I} (h : holds o o.next t v) (w : I) : holds (o.alloc w).1 o.next t v := by
  obtain ⟨p, hp, hlt, hv⟩ := h
  exact ⟨p, hp, hlt, by simp [hv, Nat.ne_of_lt hlt]⟩

theorem holds.update {o : SensObj I} {t q : Nat} {v : I} (h : holds o q t v) (f : I → I) : holds (o.update (some q) f) q t v := by
  obtain ⟨p, hp, hlt, hv⟩ := h
  exact ⟨p, hp, hlt, by simp [hv, Nat.ne_of_lt hlt]⟩

/-- an assignment through the pointer to the newest image is the image allocated with the new content -/
theorem update_newImage (o : SensObj I) (w : I) (s : Nat) (f : I → I) :
    (((o.alloc w).1).setSub s (some o.next)).update (some o.next) f = ((o.alloc (f w)).1).setSub s (some o.next) := by
  simp only [SensObj.update, SensObj.setSub, SensObj.alloc]
  congr 1
  funext r
  by_cases h : r = o.next <;> simp [h]

/-- subset `k` gets an image of its own: the subsets below `k` keep theirs -/
theorem holds_newImage {o : SensObj I} {k : Nat} {X : Nat → I} (h : ∀ t, t < k → holds o o.next t (X t)) (t : Nat) (ht : t < k + 1) :
    holds (((o.alloc (X k)).1).setSub k (some o.next)) (o.next + 1) t (X t) := by
  by_cases hts : t = k
  · subst hts
    exact ⟨o.next, by simp, by simp, by simp⟩
  · obtain ⟨p, hp, hlt, hv⟩ := h t (by omega)
    exact ⟨p, by simp [hts, hp], Nat.lt_succ_of_lt hlt, by simp [hv, Nat.ne_of_lt hlt]⟩

/-- what `set_total_or_subset_sensitivities` leaves, i.e. what the object answers: with `use_subset_sensitivities` the images `sub t` of
    the subsets and their sum, without it the total `T` and, for every subset, its share -/
def HoldsSens (ops : ImgOps I) (useSub : Bool) (n : Nat) (sub : Nat → I) (T : I) (o : SensObj I) : Prop :=
  (∀ t, t < n → o.getSub t = some (if useSub then sub t else ops.divN T n)) ∧
    o.getTot = some (if useSub then sumSubs ops sub (n - 1) else T)

/-- what `set_total_or_subset_sensitivities` starts from: with `use_subset_sensitivities` every subset points to an allocated image
    `sub t`, without it the total points to an allocated image `T` -/
def Ready (useSub : Bool) (n : Nat) (sub : Nat → I) (T : I) (o : SensObj I) : Prop :=
  if useSub then ∀ t, t < n → holds o o.next t (sub t) else ∃ p0, o.tot = some p0 ∧ p0 < o.next ∧ o.heap p0 = some T

theorem setTotal_spec (ops : ImgOps I) (useSub : Bool) (n : Nat) (o : SensObj I) (v : Nat → I) (T : I) (hn : 0 < n)
    (h : Ready useSub n v T o) :
    HoldsSens ops useSub n v T (setTotalOrSubset ops useSub n o) ∧ (setTotalOrSubset ops useSub n o).recompute = o.recompute := by
  cases useSub
  · obtain ⟨p0, ht, hlt, hv⟩ := h
    have hd : o.deref o.tot = some T := by simp [SensObj.deref, ht, hv]
    simp only [setTotalOrSubset, Bool.false_eq_true, if_false, hd]
    -- the new image at `o.next` holds the share and every subset points to it; the total's image lies below
    rw [forLoop_shareStep]
    refine ⟨⟨fun t ht' => ?_, ?_⟩, rfl⟩
    · by_cases h0 : 1 ≤ t ∧ t < 1 + (n - 1)
      · simp [SensObj.getSub, SensObj.deref, h0]
      · obtain rfl : t = 0 := by omega
        simp [SensObj.getSub, SensObj.deref]
    · simp [SensObj.getTot, SensObj.deref, ht, hv, Nat.ne_of_lt hlt]
  · have h : ∀ t, t < n → holds o o.next t (v t) := h
    have hd : o.deref (o.sub 0) = some (v 0) := (h 0 hn).getSub
    simp only [setTotalOrSubset, if_true, hd]
    -- the loop: the total lives at the new address `o.next`, above every subset's image
    let P : Nat → SensObj I → Prop := fun s o' =>
      o'.tot = some o.next ∧ o'.heap o.next = some (sumSubs ops v (s - 1)) ∧
        (∀ t, t < n → holds o' o.next t (v t)) ∧ o'.recompute = o.recompute
    have hstep : ∀ s o', 1 ≤ s → s < n → P s o' → P (s + 1) (addSubStep ops s o') := by
      intro s o' hs hlt ⟨h1, h2, h3, h4⟩
      obtain ⟨j, rfl⟩ : ∃ j, s = j + 1 := ⟨s - 1, by omega⟩
      have hd' : o'.deref (o'.sub (j + 1)) = some (v (j + 1)) := (h3 (j + 1) (by omega)).getSub
      simp only [addSubStep, hd', h1]
      refine ⟨?_, ?_, fun t ht => (h3 t ht).update _, ?_⟩
      · simp [h1]
      · simp [h2, sumSubs]
      · simp [h4]
    have hP := forLoop_inv (lo := 1) (addSubStep ops) P hn { (o.alloc (v 0)).1 with tot := some (o.alloc (v 0)).2 } hstep
      ⟨rfl, by simp [sumSubs], fun t ht => (h t ht).alloc _, rfl⟩
    -- all that is known of the loop's result is `P n` of it: give it a name and take `P` apart
    revert hP
    generalize forLoop (addSubStep ops) 1 (n - 1) _ = res
    rintro ⟨h1, h2, h3, h4⟩
    exact ⟨⟨fun t ht => (h3 t ht).getSub, by simp [SensObj.getTot, SensObj.deref, h1, h2]⟩, h4⟩

/-- the loop of `compute_sensitivities` (started with an allocated image in subset 0, whatever it holds) and the move of subset 0's
    image to the total leave what `set_total_or_subset_sensitivities` starts from.  (`ImgOps` has no laws, so the image of subset `t`
    is `0 + inc t` as the code computes it, not `inc t`.) -/
theorem computeLoop_spec (ops : ImgOps I) (useSub : Bool) (inc : Nat → I) (n : Nat) (o : SensObj I) (w : I) (hn : 0 < n)
    (h0 : holds o o.next 0 w) :
    Ready useSub n (fun t => ops.add ops.zero (inc t)) (accSens ops inc n)
        (moveToTotal useSub (forLoop (computeStep ops useSub inc) 0 n o)) ∧
      (moveToTotal useSub (forLoop (computeStep ops useSub inc) 0 n o)).recompute = o.recompute := by
  obtain ⟨m, rfl⟩ : ∃ m, n = m + 1 := ⟨n - 1, by omega⟩
  -- turn 0 fills subset 0's image (whatever it held) with zeroes and adds subset 0
  have h1 (u : Bool) : holds (computeStep ops u inc 0 o) (computeStep ops u inc 0 o).next 0 (ops.add ops.zero (inc 0)) := by
    obtain ⟨p0, hs, hlt, hv⟩ := h0
    exact ⟨p0, by simp [computeStep, hs], by simp [computeStep, hs, hlt], by simp [computeStep, hs, hv]⟩
  cases useSub
  · -- every later turn adds to the same image, which `moveToTotal` hands to the total
    let P : Nat → SensObj I → Prop := fun k o' => holds o' o'.next 0 (accSens ops inc k) ∧ o'.recompute = o.recompute
    have hstep : ∀ s o', 1 ≤ s → s < m + 1 → P s o' → P (s + 1) (computeStep ops false inc s o') := by
      intro s o' hs1 _ ⟨⟨p, hp, hlt, hv⟩, h4⟩
      have hs0 : ¬ (s = 0) := by omega
      have h0s : ¬ (0 = s) := by omega
      exact ⟨⟨p, by simp [computeStep, hs0, h0s, hp], by simp [computeStep, hs0, hlt],
        by simp [computeStep, hs0, hp, hv, accSens]⟩, by simp [computeStep, hs0, h4]⟩
    -- `Ready false` of `moveToTotal false`'s result unfolds to this; stated, because against the goal itself the unifier unfolds the loop first
    show P (m + 1) (forLoop _ 0 (m + 1) o)
    exact forLoop_inv (lo := 1) (computeStep ops false inc) P (by omega) _ hstep ⟨h1 false, by simp [computeStep]⟩
  · -- turn `s` gives subset `s` an image of zeroes of its own, then adds the subset
    let P : Nat → SensObj I → Prop := fun k o' =>
      (∀ t, t < k → holds o' o'.next t (ops.add ops.zero (inc t))) ∧ o'.recompute = o.recompute
    have hstep : ∀ s o', 1 ≤ s → s < m + 1 → P s o' → P (s + 1) (computeStep ops true inc s o') := by
      intro s o' hs1 _ ⟨h4, h5⟩
      have hs0 : ¬ (s = 0) := by omega
      have hd : o'.deref (o'.sub 0) = some _ := (h4 0 (by omega)).getSub
      have hcs : computeStep ops true inc s o' = ((o'.alloc (ops.add ops.zero (inc s))).1).setSub s (some o'.next) := by
        simp only [computeStep, hs0, if_false, if_true, hd, alloc_snd, setSub_sub]
        exact update_newImage o' ops.zero s _
      rw [hcs]
      exact ⟨holds_newImage h4, h5⟩
    refine forLoop_inv (lo := 1) (computeStep ops true inc) P (by omega) _ hstep ⟨fun t ht => ?_, by simp [computeStep]⟩
    obtain rfl : t = 0 := by omega
    exact h1 true

theorem computeSensitivities_spec (ops : ImgOps I) (useSub : Bool) (inc : Nat → I) (n : Nat) (o : SensObj I) (w : I)
    (hn : 0 < n) (h0 : holds o o.next 0 w) :
    HoldsSens ops useSub n (fun t => ops.add ops.zero (inc t)) (accSens ops inc n) (computeSensitivities ops useSub n inc o) ∧
      (computeSensitivities ops useSub n inc o).recompute = o.recompute := by
  obtain ⟨h1, h2⟩ := computeLoop_spec ops useSub inc n o w hn h0
  obtain ⟨g1, g2⟩ := setTotal_spec ops useSub n _ _ _ hn h1
  exact ⟨g1, g2.trans h2⟩

theorem writeSens_congr (c : SensCfg) {o o' : SensObj I} (files : SensFiles I)
    (hs : ∀ t, t < c.n → o.getSub t = o'.getSub t) (ht : o.getTot = o'.getTot) : writeSens c o files = writeSens c o' files := by
  unfold writeSens
  rw [ht]
  congr 3
  funext s
  split
  · exact hs s ‹_›
  · rfl

/-- **a `set_up` that computes the sensitivities forgets the past**: what it leaves is a function of the configuration alone,
    whatever state `o` it found -/
theorem setUpSens_computes (ops : ImgOps I) (c : SensCfg) (inc : Nat → I) (o : SensObj I) (files : SensFiles I)
    (hn : 0 < c.n) (hacc : c.accepted = true) (hw : willCompute c o = true) :
    ∃ o3 : SensObj I, setUpSens ops c inc o files = (true, o3, writeSens c o3 files) ∧ o3.recompute = true ∧
      HoldsSens ops c.useSub c.n (fun t => ops.add ops.zero (inc t)) (accSens ops inc c.n) o3 := by
  -- `set_up` switches the member on and puts a new image into subset 0 ("preallocate one such that compute_sensitivities
  -- knows the size")
  -- (under a name of its own, so that the `simp`s on addresses below do not take the record apart)
  obtain ⟨o2, ho2⟩ : ∃ o2 : SensObj I, o2 = { o.resize c.n with recompute := true } := ⟨_, rfl⟩
  have hr : o2.recompute = true := by rw [ho2]
  refine ⟨computeSensitivities ops c.useSub c.n inc (((o2.alloc ops.zero).1).setSub 0 (some o2.next)), ?_, ?_⟩
  · simp [setUpSens, hw, hacc, ho2]
  have h0 : holds (((o2.alloc ops.zero).1).setSub 0 (some o2.next)) (o2.next + 1) 0 ops.zero := ⟨o2.next, by simp, by simp, by simp⟩
  obtain ⟨g1, g2⟩ := computeSensitivities_spec ops c.useSub inc c.n _ ops.zero hn h0
  exact ⟨g2.trans hr, g1⟩

theorem HoldsSens.congr {ops : ImgOps I} {useSub : Bool} {n : Nat} {sub : Nat → I} {T : I} {o o' : SensObj I}
    (h : HoldsSens ops useSub n sub T o) (h' : HoldsSens ops useSub n sub T o') :
    (∀ t, t < n → o.getSub t = o'.getSub t) ∧ o.getTot = o'.getTot :=
  ⟨fun t ht => (h.1 t ht).trans (h'.1 t ht).symm, h.2.trans h'.2.symm⟩

theorem setUpSens_forgets (ops : ImgOps I) (c : SensCfg) (inc : Nat → I) (o o' : SensObj I) (files : SensFiles I)
    (hn : 0 < c.n) (hacc : c.accepted = true) (hw : willCompute c o = true) (hw' : willCompute c o' = true) :
    (∀ t, t < c.n → (setUpSens ops c inc o files).2.1.getSub t = (setUpSens ops c inc o' files).2.1.getSub t) ∧
      (setUpSens ops c inc o files).2.1.getTot = (setUpSens ops c inc o' files).2.1.getTot ∧
      (setUpSens ops c inc o files).2.2 = (setUpSens ops c inc o' files).2.2 := by
  obtain ⟨a, ha, _, hA⟩ := setUpSens_computes ops c inc o files hn hacc hw
  obtain ⟨b, hb, _, hB⟩ := setUpSens_computes ops c inc o' files hn hacc hw'
  rw [ha, hb]
  obtain ⟨hs, ht⟩ := hA.congr hB
  exact ⟨hs, ht, writeSens_congr c files hs ht⟩

/-- the files contain the sensitivities in the form the configuration reads (and has a name for): one file per subset, or the total -/
def FilesHold (c : SensCfg) (sub : Nat → I) (T : I) (files : SensFiles I) : Prop :=
  (if c.useSub then c.subName else c.totName) = true ∧
    if c.useSub then ∀ t, t < c.n → files.sub t = some (sub t) else files.tot = some T

theorem HoldsSens.written {ops : ImgOps I} {c : SensCfg} {sub : Nat → I} {T : I} {o : SensObj I}
    (h : HoldsSens ops c.useSub c.n sub T o) (hname : (if c.useSub then c.subName else c.totName) = true) (files : SensFiles I) :
    FilesHold c sub T (writeSens c o files) := by
  refine ⟨hname, ?_⟩
  unfold writeSens
  cases hu : c.useSub
  all_goals simp only [hu, Bool.false_eq_true, if_false, if_true] at h hname ⊢
  · rw [if_pos hname]
    exact h.2
  · rw [if_pos hname]
    exact fun t htn => (if_pos htn).trans (h.1 t htn)

theorem readLoop_spec (files : SensFiles I) (n : Nat) (o : SensObj I) (v : Nat → I) (hf : ∀ t, t < n → files.sub t = some (v t)) :
    (forLoop (readStep files) 0 n (true, o)).1 = true ∧
      (∀ t, t < n → holds (forLoop (readStep files) 0 n (true, o)).2 (forLoop (readStep files) 0 n (true, o)).2.next t (v t)) ∧
      (forLoop (readStep files) 0 n (true, o)).2.recompute = o.recompute := by
  let P : Nat → Bool × SensObj I → Prop := fun k r =>
    r.1 = true ∧ (∀ t, t < k → holds r.2 r.2.next t (v t)) ∧ r.2.recompute = o.recompute
  have hstep : ∀ s o', 0 ≤ s → s < n → P s o' → P (s + 1) (readStep files s o') := by
    intro s r _ hlt ⟨h1, h2, h3⟩
    have hrs : readStep files s r = (true, ((r.2.alloc (v s)).1).setSub s (some r.2.next)) := by
      simp [readStep, h1, hf s hlt]
    rw [hrs]
    exact ⟨rfl, holds_newImage h2, h3⟩
  exact forLoop_inv (readStep files) P (Nat.zero_le n) (true, o) hstep ⟨rfl, fun t ht => absurd ht (Nat.not_lt_zero t), rfl⟩

theorem readSens_spec (ops : ImgOps I) (c : SensCfg) (o : SensObj I) (files : SensFiles I) (sub : Nat → I) (T : I) (hn : 0 < c.n)
    (hf : FilesHold c sub T files) :
    (readSens ops c o files).1 = true ∧ HoldsSens ops c.useSub c.n sub T (readSens ops c o files).2 ∧
      (readSens ops c o files).2.recompute = o.recompute := by
  obtain ⟨hname, hf⟩ := hf
  unfold readSens
  cases hu : c.useSub
  all_goals rw [hu] at hname hf
  all_goals simp only [Bool.false_eq_true, if_false, if_true] at hname hf ⊢
  · obtain ⟨g1, g2⟩ := setTotal_spec ops false c.n { (o.alloc T).1 with tot := some (o.alloc T).2 } sub T hn
      ⟨o.next, rfl, by simp, by simp⟩
    simp only [hname, Bool.not_true, Bool.false_eq_true, if_false, hf]
    exact ⟨trivial, g1, g2⟩
  · obtain ⟨h1, h2, h3⟩ := readLoop_spec files c.n o sub hf
    obtain ⟨g1, g2⟩ := setTotal_spec ops true c.n _ sub T hn h2
    simp only [hname, Bool.not_true, Bool.false_eq_true, if_false, h1, if_true]
    exact ⟨trivial, g1, g2.trans h3⟩

theorem setUpSens_reads (ops : ImgOps I) (c : SensCfg) (inc : Nat → I) (o : SensObj I) (files : SensFiles I) (sub : Nat → I) (T : I)
    (hn : 0 < c.n) (hacc : c.accepted = true) (hr : o.recompute = false) (hf : FilesHold c sub T files) :
    setUpSens ops c inc o files = (true, (readSens ops c (o.resize c.n) files).2, files) ∧
      HoldsSens ops c.useSub c.n sub T (readSens ops c (o.resize c.n) files).2 := by
  obtain ⟨r1, r2, r3⟩ := readSens_spec ops c (o.resize c.n) files sub T hn hf
  refine ⟨?_, r2⟩
  have hw : willCompute c o = false := by
    have hname := hf.1
    cases hu : c.useSub <;> simp_all [willCompute]
  have hrc : (o.resize c.n).recompute = false := hr
  simp [setUpSens, hw, hrc, r1, hacc, r3]

section Field
variable {K : Type} [Field K]

def fieldOps (K : Type) [Field K] : ImgOps (Nat → K) :=
  { zero := fun _ => 0, add := fun a b v => a v + b v, divN := fun a n v => a v / (n : K) }

theorem accSens_field (inc : Nat → Nat → K) (k v : Nat) :
    accSens (fieldOps K) inc k v = sumMap (fun s => inc s v) (List.range k) := by
  induction k with
  | zero => simp [accSens, fieldOps, sumMap]
  | succ k ih =>
    rw [List.range_succ, sumMap_append]
    simp only [accSens]
    show accSens (fieldOps K) inc k v + inc k v = _
    rw [ih]
    simp [sumMap]

/-- with voxel-wise operations the two ways of forming the total agree: a copy of subset 0's image plus the others is the accumulation from zero -/
theorem sumSubs_fieldOps (inc : Nat → Nat → K) (k : Nat) :
    sumSubs (fieldOps K) (fun t => (fieldOps K).add (fieldOps K).zero (inc t)) k = accSens (fieldOps K) inc (k + 1) := by
  induction k with
  | zero => rfl
  | succ k ih =>
    funext v
    show sumSubs (fieldOps K) _ k v + (0 + inc (k + 1) v) = accSens (fieldOps K) inc (k + 1) v + inc (k + 1) v
    rw [ih, zero_add]

/-- what `add_subset_sensitivity(·, s)` adds for subset `s` of the subset scheme `Ss` (a list of the subsets' viewgrams) -/
def sensInc (zero : Bool) (Ss : List (List (Viewgram K))) (s : Nat) : Nat → K := fun v => sens zero (Ss.getD s []) v

theorem accSens_sensInc (zero : Bool) {Ss : List (List (Viewgram K))} {All : List (Viewgram K)} (h : Ss.flatten.Perm All) :
    accSens (fieldOps K) (sensInc zero Ss) Ss.length = fun v => sens zero All v := by
  funext v
  rw [accSens_field]
  simp only [sensInc]
  rw [sumMap_range_getD (fun S => sens zero S v) [] Ss]
  exact imageAt_flatMap_subsets _ h v

end Field

end StirVerif.C05
