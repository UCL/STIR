/-
C09 — the prior OBJECT (`NbPrior`): lazily computed default weights, `set_up`, weights given with `weights :=`.
-/
import StirVerif.C09.ProofsCalc
import StirVerif.C09.ProofsHess

namespace StirVerif.C09
open Finset

/-- `compute_weights` over ℝ -/
noncomputable def sDflt : ℝ → ℝ → ℝ → Img ℝ := defaultWeights fun n : Int => (n : ℝ)

theorem defaultWeightsBox_sym (only2D : Bool) : SymBox (defaultWeightsBox only2D) := by
  cases only2D <;> decide

theorem defaultWeightsBox_not_empty (only2D : Bool) : weightsEmpty (defaultWeightsBox only2D) = false := by
  cases only2D <;> decide

theorem defaultWeights_neg (sz sy sx : ℝ) (dz dy dx : Int) :
    sDflt sz sy sx (-dz) (-dy) (-dx) = sDflt sz sy sx dz dy dx := by
  simp only [sDflt, defaultWeights, beq_iff_eq, Bool.and_eq_true, neg_eq_zero, sq, Int.cast_neg, neg_mul, mul_neg, neg_neg]

theorem defaultWeights_symmetric (only2D : Bool) (sz sy sx : ℝ) :
    SymWeights (defaultWeightsBox only2D) (sDflt sz sy sx) :=
  ⟨defaultWeightsBox_sym only2D, fun dz dy dx _ => defaultWeights_neg sz sy sx dz dy dx⟩

theorem defaultWeights_nonneg (sz sy sx : ℝ) (hx : 0 ≤ sx) (dz dy dx : Int) :
    0 ≤ sDflt sz sy sx dz dy dx := by
  unfold sDflt defaultWeights
  split_ifs
  · exact le_refl _
  · exact div_nonneg hx (Real.sqrt_nonneg _)

theorem weightsEmpty_emptyBox : weightsEmpty emptyBox = true := rfl

section obj
variable {K : Type}

theorem lazyWeights_of_not_empty (dflt : K → K → K → Img K) (o : NbPrior K) (sz sy sx : K) (h : weightsEmpty o.wb = false) :
    o.lazyWeights dflt sz sy sx = o := by
  unfold NbPrior.lazyWeights
  simp [h]

theorem lazyWeights_not_empty (dflt : K → K → K → Img K) (o : NbPrior K) (sz sy sx : K) :
    weightsEmpty (o.lazyWeights dflt sz sy sx).wb = false := by
  unfold NbPrior.lazyWeights
  by_cases h : weightsEmpty o.wb = true
  · simp [h, defaultWeightsBox_not_empty]
  · simp [h]

variable [Zero K] [BEq K]

theorem call_fst {α : Type} (dflt : K → K → K → Img K) (o : NbPrior K) (sz sy sx : K) (loops : NbPrior K → α) :
    (o.call dflt sz sy sx loops).1 = o.afterCall dflt sz sy sx := rfl

theorem call_snd {α : Type} (dflt : K → K → K → Img K) (o : NbPrior K) (sz sy sx : K) (loops : NbPrior K → α) :
    (o.call dflt sz sy sx loops).2 = loops (o.afterCall dflt sz sy sx) := rfl

theorem afterCall_of_empty (dflt : K → K → K → Img K) (o : NbPrior K) (sz sy sx : K) (hpf : (o.pf == 0) = false)
    (he : weightsEmpty o.wb = true) :
    o.afterCall dflt sz sy sx = { o with wb := defaultWeightsBox o.only2D, w := dflt sz sy sx } := by
  rw [NbPrior.afterCall, hpf, NbPrior.lazyWeights, he]
  rfl

/-- default weights are computed again after `set_up` (repair C09-4): on an object without user weights a call, `set_up` and a second call
    leave what the second call alone leaves -/
theorem afterCall_setUp_afterCall (dflt : K → K → K → Img K) (o : NbPrior K) (s1z s1y s1x s2z s2y s2x : K)
    (hpf : (o.pf == 0) = false) (he : weightsEmpty o.wb = true) (hu : o.wUser = false) :
    (o.afterCall dflt s1z s1y s1x).setUp.afterCall dflt s2z s2y s2x = o.afterCall dflt s2z s2y s2x := by
  rw [afterCall_of_empty dflt o _ _ _ hpf he, afterCall_of_empty dflt o _ _ _ hpf he, NbPrior.setUp, if_neg (by simp [hu])]
  exact afterCall_of_empty _ _ _ _ _ hpf weightsEmpty_emptyBox

end obj

/-- the invariant of an object that never got user weights: no weights yet, or symmetric non-negative ones -/
def DefaultOrEmpty (o : NbPrior ℝ) : Prop :=
  weightsEmpty o.wb = true ∨ (SymWeights o.wb o.w ∧ ∀ dz dy dx, InBox o.wb dz dy dx → 0 ≤ o.w dz dy dx)

/-- the invariant along a history whose steps are: one call of an API function with an image of voxel size `s` (it computes the
    default weights if there are none: `afterCall`), then `set_up` -/
theorem history_invariant (l : List (ℝ × ℝ × ℝ)) (hl : ∀ s ∈ l, 0 ≤ s.2.2) (o : NbPrior ℝ) (h : DefaultOrEmpty o) :
    DefaultOrEmpty (l.foldl (fun o s => (o.afterCall sDflt s.1 s.2.1 s.2.2).setUp) o) := by
  refine List.foldlRecOn l _ h fun o h s hs => ?_
  have hcall : DefaultOrEmpty (o.afterCall sDflt s.1 s.2.1 s.2.2) := by
    unfold NbPrior.afterCall
    split_ifs with hpf
    · exact h
    · unfold NbPrior.lazyWeights
      split_ifs with he
      · exact Or.inr ⟨defaultWeights_symmetric _ _ _ _, fun dz dy dx _ => defaultWeights_nonneg _ _ _ (hl s hs) dz dy dx⟩
      · exact h
  unfold NbPrior.setUp
  split_ifs
  · exact hcall
  · exact Or.inl weightsEmpty_emptyBox

/-- the index range `post_processing` gives to `nz × ny × nx` weights -/
def parsedBox (nz ny nx : Nat) : Box :=
  ⟨(parsedRange nz).1, (parsedRange nz).2, (parsedRange ny).1, (parsedRange ny).2, (parsedRange nx).1, (parsedRange nx).2⟩

/-- the symmetric index range `-(n/2) .. n/2` in every dimension ("make this odd") -/
def paddedBox (nz ny nx : Nat) : Box :=
  ⟨-((nz / 2 : Nat) : Int), ((nz / 2 : Nat) : Int), -((ny / 2 : Nat) : Int), ((ny / 2 : Nat) : Int), -((nx / 2 : Nat) : Int), ((nx / 2 : Nat) : Int)⟩

theorem parsedBox_sub_paddedBox (nz ny nx : Nat) (dz dy dx : Int) (h : InBox (parsedBox nz ny nx) dz dy dx) :
    InBox (paddedBox nz ny nx) dz dy dx := by
  unfold InBox parsedBox parsedRange at h
  unfold InBox paddedBox
  simp only at h ⊢
  omega

/-! ### instance: default weights are recomputed when the object is set up for another voxel size (repair C09-4) -/

/-- 1×2×1 image `(3, 1)` (two voxels along y) -/
def sB : Box := ⟨0, 0, 0, 1, 0, 0⟩
def sLam : Img ℝ := fun _ y _ => if y = 0 then 3 else 1
theorem qValue_sB (w : Img ℝ) : qValue 1 w none sB (defaultWeightsBox false) sLam = w 0 1 0 + w 0 (-1) 0 := by
  have r : irange 0 0 = [0] ∧ irange 0 1 = [0, 1] ∧ irange (-1) 0 = [-1, 0] := by decide
  rw [qValue_eq_core, qValueCore, valueSum]
  -- the loops visit `(0,0,0)` with offsets `0, +y` and `(0,1,0)` with offsets `-y, 0`
  simp only [voxSum, nbSum, sumRange, sB, defaultWeightsBox, Bool.false_eq_true, if_false]
  simp only [Int.reduceSub, Int.reduceNeg, max_def, min_def, Int.reduceLE, if_true, if_false, r.1, r.2.1, r.2.2,
    List.map_cons, List.map_nil, List.sum_cons, List.sum_nil, add_zero]
  norm_num [qTerm, sq, four, kfac, sLam]

/-- voxel size (1,2,1): the y-neighbours have weight x-size / distance = 1/2 -/
theorem sDflt_y_neighbours : sDflt 1 2 1 0 1 0 = 1 / 2 ∧ sDflt 1 2 1 0 (-1) 0 = 1 / 2 := by
  have h4 : Real.sqrt 4 = 2 := by
    rw [show (4 : ℝ) = 2 * 2 by norm_num, Real.sqrt_mul_self zero_le_two]
  constructor <;> norm_num [sDflt, defaultWeights, sq, transc_sqrt, h4]

end StirVerif.C09
