/-
C09 — proofs: algebra of the neighbourhood priors (Quadratic, RDP and log-cosh share the loops) over an ordered field.
Everything that needs symmetric weights goes through one fact: a weighted sum over the ordered pairs of neighbouring voxels only sees
the symmetric part of its summand (`sum_nbPairs_symmetrise`).
The lemmas named after `qValue`, `grad`, `hessRow`, `hessTimes` (`inner_grad`, `H_symmetric`, `qValue_expansion`, …) are stated for the loops
`qValueCore`, `gradCore`, `hessRowCore`, `hessTimesCore`, i.e. without the early return for `pf == 0`; `…_eq_core` ties these to the API functions.
-/
import StirVerif.C09.ProofsSum
import Mathlib.Algebra.Order.Field.Basic
import Mathlib.Tactic.FieldSimp

namespace StirVerif.C09
open Finset

section
variable {K : Type}

structure SymWeights (wb : Box) (w : Img K) : Prop where
  box : SymBox wb
  sym : ∀ dz dy dx, InBox wb dz dy dx → w (-dz) (-dy) (-dx) = w dz dy dx

theorem centre_beq (dz dy dx : Int) : (dz == 0 && dy == 0 && dx == 0) = true ↔ dz = 0 ∧ dy = 0 ∧ dx = 0 := by
  simp only [Bool.and_eq_true, beq_iff_eq, and_assoc]

theorem inNb_iff (b wb : Box) (z y x dz dy dx : Int) :
    inNb b wb z y x dz dy dx = true ↔ InBox wb dz dy dx ∧ InBox b (z + dz) (y + dy) (x + dx) := by
  rw [← mem_nbF (d := (dz, dy, dx))]
  simp only [inNb, nbF, Finset.mem_product, Finset.mem_Icc, Bool.and_eq_true, decide_eq_true_eq, and_assoc]

variable [Field K]

def inner (b : Box) (u v : Img K) : K := voxSum b fun z y x => u z y x * v z y x

def unitImg (cz cy cx : Int) : Img K := fun z y x => if z = cz ∧ y = cy ∧ x = cx then 1 else 0

theorem inner_unitImg (b : Box) (u : Img K) {cz cy cx : Int} (hc : InBox b cz cy cx) :
    inner b u (unitImg cz cy cx) = u cz cy cx := by
  have h := Finset.sum_ite_eq' (boxF b) ((cz, cy, cx) : V) fun r => u r.1 r.2.1 r.2.2
  rw [if_pos (mem_boxF.mpr hc)] at h
  unfold inner
  rw [voxSum_eq_sum_boxF, ← h]
  refine Finset.sum_congr rfl fun r _ => ?_
  simp only [unitImg, mul_ite, mul_one, mul_zero, Prod.ext_iff]

theorem inner_unitImg_left (b : Box) (u : Img K) {cz cy cx : Int} (hc : InBox b cz cy cx) :
    inner b (unitImg cz cy cx) u = u cz cy cx := by
  rw [← inner_unitImg b u hc]
  unfold inner
  simp only [mul_comm]

theorem kfac_comm (κ : Option (Img K)) (z y x z' y' x' : Int) :
    kfac κ z y x z' y' x' = kfac κ z' y' x' z y x := by
  cases κ <;> simp [kfac, mul_comm]

/-- `kfac` (the product `κ_r κ_s`, 1 without kappa image) on voxels as triples -/
abbrev kf (κ : Option (Img K)) (r s : V) : K := kfac κ r.1 r.2.1 r.2.2 s.1 s.2.1 s.2.2

/-- the weight of the ordered pair `(r, s)`: `w(s - r) κ_r κ_s` -/
abbrev pw (w : Img K) (κ : Option (Img K)) (p : V × V) : K := w.at (subV p.2 p.1) * kf κ p.1 p.2

theorem pw_swap {w : Img K} {κ : Option (Img K)} {b wb : Box} (hw : SymWeights wb w) {p : V × V} (hp : p ∈ nbPairs b wb) :
    pw w κ p.swap = pw w κ p := by
  -- `w(r - s) = w(-(s - r)) = w(s - r)`
  have hws : w.at (subV p.1 p.2) = w.at (subV p.2 p.1) := by
    simpa only [Img.at, subV, neg_sub] using hw.sym _ _ _ (mem_boxF.mp (mem_nbPairs.mp hp).2.2)
  rw [pw, pw, Prod.fst_swap, Prod.snd_swap, hws, show kf κ p.2 p.1 = kf κ p.1 p.2 from kfac_comm κ _ _ _ _ _ _]

theorem valueSum_eq_sum_nbPairs (term : K → K → K → K) (w : Img K) (κ : Option (Img K)) (b wb : Box) (img : Img K) :
    valueSum term w κ b wb img
      = ∑ p ∈ nbPairs b wb, term (w.at (subV p.2 p.1)) (img.at p.1) (img.at p.2) * kf κ p.1 p.2 :=
  voxSum_nbSum_eq_sum_nbPairs b wb fun r d s => term (w.at d) (img.at r) (img.at s) * kf κ r s

theorem inner_nbSum_eq_sum_nbPairs (b wb : Box) (u : Img K) (G : V → V → V → K) (pf : K) :
    (voxSum b fun z y x => u z y x * (nbSum b wb z y x (fun dz dy dx => G (z, y, x) (dz, dy, dx) (z + dz, y + dy, x + dx)) * pf))
      = (∑ p ∈ nbPairs b wb, u.at p.1 * G p.1 (subV p.2 p.1) p.2) * pf := by
  have h1 : ∀ z y x, u z y x * (nbSum b wb z y x (fun dz dy dx => G (z, y, x) (dz, dy, dx) (z + dz, y + dy, x + dx)) * pf)
      = nbSum b wb z y x (fun dz dy dx => u z y x * G (z, y, x) (dz, dy, dx) (z + dz, y + dy, x + dx)) * pf := by
    intro z y x
    rw [← mul_assoc, nbSum_mul_left]
  simp only [h1]
  rw [← voxSum_mul_right]
  exact congrArg (· * pf) (voxSum_nbSum_eq_sum_nbPairs b wb fun r d s => u.at r * G r d s)

theorem inner_grad (d10 : K → K → K) (pf : K) (w : Img K) (κ : Option (Img K)) (b wb : Box) (img e : Img K) :
    inner b (gradCore d10 pf w κ b wb img) e
      = (∑ p ∈ nbPairs b wb, pw w κ p * (d10 (img.at p.1) (img.at p.2) * e.at p.1)) * pf := by
  unfold inner gradCore
  simp only [mul_comm _ (e _ _ _)]
  refine (inner_nbSum_eq_sum_nbPairs b wb e (fun r d s => w.at d * d10 (img.at r) (img.at s) * kf κ r s) pf).trans ?_
  exact congrArg (· * pf) (Finset.sum_congr rfl fun p _ => by ring)

/-- the term of the ordered pair `(r, s)` in `⟨u, H v⟩`, without the weight (nothing for `s = r`: a voxel is not its own neighbour) -/
def hForm (d20 d11 : K → K → K) (cur u v : Img K) (r s : V) : K :=
  if r = s then 0 else u.at r * (d20 (cur.at r) (cur.at s) * v.at r + d11 (cur.at r) (cur.at s) * v.at s)

/-- the symmetric part of the pair term of `⟨u, H v⟩`: the 2×2 form of the potential at `(u_r, u_s)`, `(v_r, v_s)` -/
theorem hForm_add_swap (d20 d11 : K → K → K) (cur u v : Img K) {r s : V} (h11 : d11 (cur.at s) (cur.at r) = d11 (cur.at r) (cur.at s)) :
    hForm d20 d11 cur u v r s + hForm d20 d11 cur u v s r
      = if r = s then 0 else
          d20 (cur.at r) (cur.at s) * u.at r * v.at r + d11 (cur.at r) (cur.at s) * (u.at r * v.at s + u.at s * v.at r)
            + d20 (cur.at s) (cur.at r) * u.at s * v.at s := by
  simp only [hForm, eq_comm (a := s) (b := r), h11]
  split_ifs <;> ring

theorem nbSum_unit (b wb : Box) (z y x cz cy cx : Int) (hc : InBox b cz cy cx) (g : Int → Int → Int → K) :
    nbSum b wb z y x (fun dz dy dx => g dz dy dx * unitImg cz cy cx (z + dz) (y + dy) (x + dx))
      = if InBox wb (cz - z) (cy - y) (cx - x) then g (cz - z) (cy - y) (cx - x) else 0 := by
  have h := Finset.sum_ite_eq' (nbF b wb z y x) ((cz - z, cy - y, cx - x) : V) fun d => g d.1 d.2.1 d.2.2
  simp only [mem_nbF, add_sub_cancel, hc, and_true] at h
  rw [nbSum_eq_sum_nbF]
  refine Eq.trans (Finset.sum_congr rfl fun d _ => ?_) h
  have : (z + d.1 = cz ∧ y + d.2.1 = cy ∧ x + d.2.2 = cx) ↔ d = (cz - z, cy - y, cx - x) := by
    rw [Prod.ext_iff, Prod.ext_iff]
    constructor
    all_goals
      intro h
      simp only at h ⊢
      omega
  simp only [unitImg, this, mul_ite, mul_one, mul_zero]

variable [LinearOrder K]

def KappaNonneg (b : Box) (κ : Option (Img K)) : Prop :=
  ∀ k, κ = some k → ∀ z y x, InBox b z y x → 0 ≤ k z y x

/-- a shortcut taken when a factor is `0` is invisible when it returns what the general branch computes for `0` -/
theorem ite_beq_zero {pf a c : K} (h : pf = 0 → a = c) : (if pf == 0 then a else c) = c :=
  ite_eq_right_iff.mpr fun hpf => h (beq_iff_eq.mp hpf)

theorem qValue_eq_core (pf : K) (w : Img K) (κ : Option (Img K)) (b wb : Box) (img : Img K) :
    qValue pf w κ b wb img = qValueCore pf w κ b wb img :=
  ite_beq_zero fun h => by rw [qValueCore, h, mul_zero]

theorem grad_eq_core (d10 : K → K → K) (pf : K) (w : Img K) (κ : Option (Img K)) (b wb : Box) (img : Img K) :
    grad d10 pf w κ b wb img = gradCore d10 pf w κ b wb img := by
  funext z y x
  exact ite_beq_zero fun h => by rw [gradCore, h, mul_zero]

theorem hessRow_eq_core (d20 d11 : K → K → K) (pf : K) (w : Img K) (κ : Option (Img K)) (b wb : Box) (img : Img K)
    (cz cy cx z y x : Int) :
    hessRow d20 d11 pf w κ b wb img cz cy cx z y x = hessRowCore d20 d11 pf w κ b wb img cz cy cx z y x :=
  ite_beq_zero fun h => by
    unfold hessRowCore
    simp only [h, mul_zero, ite_self]

theorem hessTimes_eq_core (d20 d11 : K → K → K) (pf : K) (w : Img K) (κ : Option (Img K)) (b wb : Box) (cur inp out : Img K) :
    hessTimes d20 d11 pf w κ b wb cur inp out = fun z y x => out z y x + hessTimesCore d20 d11 pf w κ b wb cur inp z y x := by
  funext z y x
  exact ite_beq_zero fun h => by rw [hessTimesCore, h, mul_zero, add_zero]

/-- `accumulate_Hessian_times_input` without the `if (current == 0) continue` shortcut -/
theorem hessTimesCore_eq_nbSum (d20 d11 : K → K → K) (pf : K) (w : Img K) (κ : Option (Img K)) (b wb : Box) (cur inp : Img K)
    (z y x : Int) :
    hessTimesCore d20 d11 pf w κ b wb cur inp z y x
      = (nbSum b wb z y x fun dz dy dx =>
          if dz = 0 ∧ dy = 0 ∧ dx = 0 then 0
          else w dz dy dx * (d20 (cur z y x) (cur (z + dz) (y + dy) (x + dx)) * inp z y x
              + d11 (cur z y x) (cur (z + dz) (y + dy) (x + dx)) * inp (z + dz) (y + dy) (x + dx))
            * kfac κ z y x (z + dz) (y + dy) (x + dx)) * pf := by
  unfold hessTimesCore
  refine congrArg (· * pf) (nbSum_congr fun dz dy dx _ _ => ?_)
  simp only [centre_beq]
  exact ite_beq_zero fun hw => by simp only [hw, zero_mul, ite_self]

theorem inner_hessTimes (d20 d11 : K → K → K) (pf : K) (w : Img K) (κ : Option (Img K)) (b wb : Box) (cur u v : Img K) :
    inner b u (hessTimesCore d20 d11 pf w κ b wb cur v)
      = (∑ p ∈ nbPairs b wb, pw w κ p * hForm d20 d11 cur u v p.1 p.2) * pf := by
  unfold inner
  simp only [hessTimesCore_eq_nbSum]
  refine (inner_nbSum_eq_sum_nbPairs b wb u (fun r d s => if d.1 = 0 ∧ d.2.1 = 0 ∧ d.2.2 = 0 then 0 else
    w.at d * (d20 (cur.at r) (cur.at s) * v.at r + d11 (cur.at r) (cur.at s) * v.at s) * kf κ r s) pf).trans ?_
  refine congrArg (· * pf) (Finset.sum_congr rfl fun p _ => ?_)
  have h0 : (subV p.2 p.1).1 = 0 ∧ (subV p.2 p.1).2.1 = 0 ∧ (subV p.2 p.1).2.2 = 0 ↔ p.1 = p.2 := by
    simp only [sub_eq_zero, Prod.ext_iff, eq_comm]
  rw [hForm, if_congr h0 rfl rfl]
  split_ifs <;> ring

/-- `compute_Hessian(coords = c)` at the voxel `r` is the entry at `c` of the Hessian applied to the unit image of `r` — for any
    weights whose index range contains the offset 0 (otherwise the loops never reach the diagonal) -/
theorem hessRow_eq_hessTimes_unit_transposed (d20 d11 : K → K → K) (pf : K) (w : Img K) (κ : Option (Img K)) (b wb : Box) (cur : Img K)
    (h0 : InBox wb 0 0 0) (cz cy cx z y x : Int) (hr : InBox b z y x) :
    hessRowCore d20 d11 pf w κ b wb cur cz cy cx z y x
      = hessTimesCore d20 d11 pf w κ b wb cur (unitImg z y x) cz cy cx := by
  have hnb : inNb b wb cz cy cx (z - cz) (y - cy) (x - cx) = true ↔ InBox wb (z - cz) (y - cy) (x - cx) := by
    rw [inNb_iff, add_sub_cancel, add_sub_cancel, add_sub_cancel]
    exact and_iff_left hr
  rw [hessTimesCore_eq_nbSum]
  unfold hessRowCore
  simp only [hnb, centre_beq]
  by_cases hrc : z = cz ∧ y = cy ∧ x = cx
  · -- diagonal entry: `unit_c` is 1 at `c` and 0 at every other voxel, so the sum over the neighbourhood without the centre remains
    obtain ⟨rfl, rfl, rfl⟩ := hrc
    simp only [sub_self, and_self, if_true, if_pos h0]
    refine congrArg (· * pf) (nbSum_congr fun dz dy dx _ _ => ?_)
    by_cases hd : dz = 0 ∧ dy = 0 ∧ dx = 0
    · rw [if_pos hd, if_pos hd]
    · have hne : ¬ (z + dz = z ∧ y + dy = y ∧ x + dx = x) := fun h => hd (by omega)
      simp only [if_neg hd, unitImg, and_self, if_true, if_neg hne, mul_one, mul_zero, add_zero]
  · -- off-diagonal entry: `unit_r` vanishes at `c`, and only the offset `r - c` reaches `r`
    have hrc' : ¬ (z - cz = 0 ∧ y - cy = 0 ∧ x - cx = 0) := fun h => hrc (by omega)
    have hcr : ¬ (cz = z ∧ cy = y ∧ cx = x) := fun h => hrc (by omega)
    have h := nbSum_unit b wb cz cy cx z y x hr fun dz dy dx => if dz = 0 ∧ dy = 0 ∧ dx = 0 then 0 else
      w dz dy dx * d11 (cur cz cy cx) (cur (cz + dz) (cy + dy) (cx + dx)) * kfac κ cz cy cx (cz + dz) (cy + dy) (cx + dx)
    rw [if_neg hrc'] at h
    rw [if_neg hrc', ← ite_zero_mul, ← h]
    refine congrArg (· * pf) (nbSum_congr fun dz dy dx _ _ => ?_)
    simp only [unitImg, if_neg hcr, mul_zero, zero_add]
    split_ifs <;> ring

variable [IsStrictOrderedRing K]

theorem kf_nonneg {b : Box} {κ : Option (Img K)} (hκ : KappaNonneg b κ) {r s : V} (hr : r ∈ boxF b) (hs : s ∈ boxF b) :
    0 ≤ kf κ r s := by
  cases κ with
  | none => simp [kfac]
  | some k => exact mul_nonneg (hκ k rfl _ _ _ (mem_boxF.mp hr)) (hκ k rfl _ _ _ (mem_boxF.mp hs))

theorem sum_nbPairs_symmetrise {w : Img K} {κ : Option (Img K)} {b wb : Box} (hw : SymWeights wb w) (F : V → V → K) :
    ∑ p ∈ nbPairs b wb, pw w κ p * F p.1 p.2 = ∑ p ∈ nbPairs b wb, pw w κ p * ((F p.1 p.2 + F p.2 p.1) / 2) := by
  have hsw : ∑ p ∈ nbPairs b wb, pw w κ p * F p.1 p.2 = ∑ p ∈ nbPairs b wb, pw w κ p * F p.2 p.1 := by
    rw [sum_nbPairs_swap b wb hw.box]
    exact Finset.sum_congr rfl fun p hp => by rw [pw_swap hw hp, Prod.fst_swap, Prod.snd_swap]
  simp only [div_eq_mul_inv, ← mul_assoc, ← Finset.sum_mul, mul_add, Finset.sum_add_distrib]
  rw [← hsw, ← div_eq_mul_inv, add_self_div_two]

theorem H_symmetric (d20 d11 : K → K → K) (pf : K) (w : Img K) (κ : Option (Img K)) (b wb : Box) (cur u v : Img K)
    (hw : SymWeights wb w) (h11 : ∀ r s, r ∈ boxF b → s ∈ boxF b → d11 (cur.at r) (cur.at s) = d11 (cur.at s) (cur.at r)) :
    inner b u (hessTimesCore d20 d11 pf w κ b wb cur v) = inner b v (hessTimesCore d20 d11 pf w κ b wb cur u) := by
  rw [inner_hessTimes, inner_hessTimes, sum_nbPairs_symmetrise hw, sum_nbPairs_symmetrise hw]
  refine congrArg (· * pf) (Finset.sum_congr rfl fun p hp => ?_)
  -- the symmetric part of the pair term is symmetric in `u` and `v`
  have h := h11 _ _ (mem_nbPairs.mp hp).2.1 (mem_nbPairs.mp hp).1
  rw [hForm_add_swap _ _ _ _ _ h, hForm_add_swap _ _ _ _ _ h]
  split_ifs <;> ring

/-- under symmetric weights the row is the Hessian applied to the unit image of `c` ITSELF, read at `r`: the transposed form
    `hessRow_eq_hessTimes_unit_transposed` and the symmetry of `H` -/
theorem hessRow_eq_hessTimes_unit (d20 d11 : K → K → K) (pf : K) (w : Img K) (κ : Option (Img K)) (b wb : Box) (cur : Img K)
    (hw : SymWeights wb w) (h11 : ∀ a c : K, d11 a c = d11 c a)
    (cz cy cx z y x : Int) (hc : InBox b cz cy cx) (hr : InBox b z y x) :
    hessRowCore d20 d11 pf w κ b wb cur cz cy cx z y x
      = hessTimesCore d20 d11 pf w κ b wb cur (unitImg cz cy cx) z y x := by
  by_cases h0 : InBox wb 0 0 0
  · -- the entry `(c, r)` of a symmetric matrix is its entry `(r, c)`
    have hs := H_symmetric d20 d11 pf w κ b wb cur (unitImg cz cy cx) (unitImg z y x) hw fun _ _ _ _ => h11 _ _
    rw [inner_unitImg_left b _ hc, inner_unitImg_left b _ hr] at hs
    rw [hessRow_eq_hessTimes_unit_transposed d20 d11 pf w κ b wb cur h0 cz cy cx z y x hr, hs]
  · -- a symmetric index range without the offset 0 is empty
    have hempty : ∀ dz dy dx, ¬ InBox wb dz dy dx := by
      obtain ⟨hb1, hb2, hb3⟩ := hw.box
      intro dz dy dx hd
      refine h0 ?_
      simp only [InBox] at hd ⊢
      omega
    rw [hessRowCore, if_neg fun h => hempty _ _ _ ((inNb_iff ..).mp h).1, hessTimesCore_eq_nbSum,
      nbSum_congr (g := fun _ _ _ => 0) fun dz dy dx hd _ => (hempty dz dy dx hd).elim, nbSum_zero, zero_mul]

theorem H_psd (d20 d11 : K → K → K) (pf : K) (w : Img K) (κ : Option (Img K)) (b wb : Box) (cur e : Img K)
    (hw : SymWeights wb w) (hw0 : ∀ dz dy dx, InBox wb dz dy dx → 0 ≤ w dz dy dx) (hκ : KappaNonneg b κ) (hpf : 0 ≤ pf)
    (h11 : ∀ r s, r ∈ boxF b → s ∈ boxF b → d11 (cur.at r) (cur.at s) = d11 (cur.at s) (cur.at r))
    (hpsd : ∀ r s, r ∈ boxF b → s ∈ boxF b → ∀ a c : K,
      0 ≤ d20 (cur.at r) (cur.at s) * a * a + 2 * d11 (cur.at r) (cur.at s) * a * c + d20 (cur.at s) (cur.at r) * c * c) :
    0 ≤ inner b e (hessTimesCore d20 d11 pf w κ b wb cur e) := by
  rw [inner_hessTimes, sum_nbPairs_symmetrise hw]
  refine mul_nonneg (Finset.sum_nonneg fun p hp => ?_) hpf
  obtain ⟨hr, hs, hd⟩ := mem_nbPairs.mp hp
  refine mul_nonneg (mul_nonneg (hw0 _ _ _ (mem_boxF.mp hd)) (kf_nonneg hκ hr hs)) (div_nonneg ?_ zero_le_two)
  rw [hForm_add_swap _ _ _ _ _ (h11 _ _ hs hr)]
  split_ifs
  · exact le_rfl
  · exact le_of_le_of_eq (hpsd _ _ hr hs (e.at p.1) (e.at p.2)) (by ring)

theorem qValue_expansion (pf : K) (w : Img K) (κ : Option (Img K)) (b wb : Box) (lam e : Img K) (t : K)
    (hw : SymWeights wb w) :
    qValueCore pf w κ b wb (fun z y x => lam z y x + t * e z y x)
      = qValueCore pf w κ b wb lam + t * inner b (gradCore qD10 pf w κ b wb lam) e
        + t ^ 2 / 2 * inner b e (hessTimesCore qD20 qD11 pf w κ b wb lam e) := by
  unfold qValueCore
  rw [valueSum_eq_sum_nbPairs, valueSum_eq_sum_nbPairs, inner_grad, inner_hessTimes,
    sum_nbPairs_symmetrise hw (hForm qD20 qD11 lam e e), sum_nbPairs_symmetrise hw fun r s => qD10 (lam.at r) (lam.at s) * e.at r]
  -- per pair, with `D = λ_r - λ_s` and `E = e_r - e_s`: `(D + t E)²/4 = D²/4 + t (D e_r + (-D) e_s)/2 + t²/2 (e_r E + e_s (-E))/2`
  simp only [Finset.mul_sum, Finset.sum_mul, ← Finset.sum_add_distrib]
  refine Finset.sum_congr rfl fun p _ => ?_
  simp only [hForm, qTerm, qD10, qD20, qD11, sq, four, Img.at, eq_comm (a := p.2) (b := p.1)]
  split_ifs with hrs
  · rw [hrs]
    ring
  · ring

end
end StirVerif.C09
