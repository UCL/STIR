/-
C09 — proofs: the loops of the model as finite sums, and the reindexing `(r, r+d) ↦ (r+d, r)` of the
ordered pairs of neighbouring voxels on which every symmetry statement of the property rests.
-/
import StirVerif.C09.Model
import StirVerif.Common.IntRange
import Mathlib.Algebra.BigOperators.Group.Finset.Basic
import Mathlib.Algebra.BigOperators.Group.Finset.Sigma
import Mathlib.Algebra.BigOperators.Group.Finset.Piecewise
import Mathlib.Algebra.BigOperators.Ring.Finset
import Mathlib.Algebra.BigOperators.Group.List.Basic
import Mathlib.Algebra.Order.BigOperators.Group.Finset
import Mathlib.Data.Int.Interval
import Mathlib.Tactic.Ring
import Mathlib.Tactic.Linarith

namespace StirVerif.C09
open Finset

/-- a voxel index or an offset, `(z, y, x)` -/
abbrev V := Int × Int × Int

def boxF (b : Box) : Finset V := Finset.Icc b.z0 b.z1 ×ˢ Finset.Icc b.y0 b.y1 ×ˢ Finset.Icc b.x0 b.x1

def InBox (b : Box) (z y x : Int) : Prop :=
  b.z0 ≤ z ∧ z ≤ b.z1 ∧ b.y0 ≤ y ∧ y ≤ b.y1 ∧ b.x0 ≤ x ∧ x ≤ b.x1

instance (b : Box) (z y x : Int) : Decidable (InBox b z y x) :=
  inferInstanceAs (Decidable (b.z0 ≤ z ∧ z ≤ b.z1 ∧ b.y0 ≤ y ∧ y ≤ b.y1 ∧ b.x0 ≤ x ∧ x ≤ b.x1))

theorem mem_boxF {b : Box} {p : V} : p ∈ boxF b ↔ InBox b p.1 p.2.1 p.2.2 := by
  simp only [boxF, Finset.mem_product, Finset.mem_Icc, InBox]
  tauto

def SymBox (wb : Box) : Prop := wb.z0 = -wb.z1 ∧ wb.y0 = -wb.y1 ∧ wb.x0 = -wb.x1

instance (wb : Box) : Decidable (SymBox wb) := by
  unfold SymBox
  infer_instance

abbrev Img.at {K : Type} (f : Img K) (p : V) : K := f p.1 p.2.1 p.2.2

abbrev subV (s r : V) : V := (s.1 - r.1, s.2.1 - r.2.1, s.2.2 - r.2.2)

/-- the offsets visited by the clipped neighbourhood loops of voxel `(z,y,x)` -/
def nbF (b wb : Box) (z y x : Int) : Finset V :=
  Finset.Icc (max wb.z0 (b.z0 - z)) (min wb.z1 (b.z1 - z)) ×ˢ Finset.Icc (max wb.y0 (b.y0 - y)) (min wb.y1 (b.y1 - y))
    ×ˢ Finset.Icc (max wb.x0 (b.x0 - x)) (min wb.x1 (b.x1 - x))

/-- the clipped loop bounds select exactly the offsets of the weights box that lead to a voxel inside the image -/
theorem mem_nbF {b wb : Box} {z y x : Int} {d : V} :
    d ∈ nbF b wb z y x ↔ InBox wb d.1 d.2.1 d.2.2 ∧ InBox b (z + d.1) (y + d.2.1) (x + d.2.2) := by
  simp only [nbF, Finset.mem_product, Finset.mem_Icc, InBox, max_le_iff, le_min_iff]
  omega

def nbPairs (b wb : Box) : Finset (V × V) := (boxF b ×ˢ boxF b).filter fun p => subV p.2 p.1 ∈ boxF wb

theorem mem_nbPairs {b wb : Box} {p : V × V} :
    p ∈ nbPairs b wb ↔ p.1 ∈ boxF b ∧ p.2 ∈ boxF b ∧ subV p.2 p.1 ∈ boxF wb := by
  rw [nbPairs, Finset.mem_filter, Finset.mem_product, and_assoc]

theorem swap_mem_nbPairs {b wb : Box} (hs : SymBox wb) {p : V × V} (hp : p ∈ nbPairs b wb) : p.swap ∈ nbPairs b wb := by
  obtain ⟨h1, h2, h3⟩ := hs
  rw [mem_nbPairs] at hp ⊢
  refine ⟨hp.2.1, hp.1, ?_⟩
  have hd := mem_boxF.mp hp.2.2
  rw [mem_boxF]
  simp only [InBox, Prod.swap] at hd ⊢
  omega

theorem mem_irange {lo hi i : Int} : i ∈ irange lo hi ↔ lo ≤ i ∧ i ≤ hi := by
  rw [irange, Common.mem_map_range_add]
  omega

theorem clipped_in_image (wlo whi lo hi c d : Int) (h : d ∈ irange (max wlo (lo - c)) (min whi (hi - c))) :
    wlo ≤ d ∧ d ≤ whi ∧ lo ≤ c + d ∧ c + d ≤ hi := by
  rw [mem_irange, max_le_iff, le_min_iff] at h
  omega

section monoid
variable {K : Type} [AddCommMonoid K]

/-- `irange lo hi` is how Mathlib builds the interval of integers, too: `range (hi + 1 - lo)` shifted by `lo` -/
theorem sumRange_eq_sum_Icc (lo hi : Int) (f : Int → K) :
    sumRange lo hi f = ∑ i ∈ Finset.Icc lo hi, f i := by
  unfold sumRange irange
  rw [Int.Icc_eq_finset_map, Finset.sum_map, List.map_map]
  rfl

theorem nbSum_eq_sum_nbF (b wb : Box) (z y x : Int) (f : Int → Int → Int → K) :
    nbSum b wb z y x f = ∑ d ∈ nbF b wb z y x, f d.1 d.2.1 d.2.2 := by
  unfold nbSum
  simp only [sumRange_eq_sum_Icc, nbF, Finset.sum_product]

theorem voxSum_eq_sum_boxF (b : Box) (f : Int → Int → Int → K) :
    voxSum b f = ∑ r ∈ boxF b, f r.1 r.2.1 r.2.2 := by
  unfold voxSum
  simp only [sumRange_eq_sum_Icc, boxF, Finset.sum_product]

/-- only offsets inside the weights box that lead to a voxel inside the image are ever used:
    "voxels at the image border interact only with neighbours inside the image" -/
theorem nbSum_congr {b wb : Box} {z y x : Int} {f g : Int → Int → Int → K}
    (h : ∀ dz dy dx, InBox wb dz dy dx → InBox b (z + dz) (y + dy) (x + dx) → f dz dy dx = g dz dy dx) :
    nbSum b wb z y x f = nbSum b wb z y x g := by
  rw [nbSum_eq_sum_nbF, nbSum_eq_sum_nbF]
  exact Finset.sum_congr rfl fun d hd => h _ _ _ (mem_nbF.mp hd).1 (mem_nbF.mp hd).2

theorem nbSum_zero_extend (b wb wb' : Box) (z y x : Int) (f : Int → Int → Int → K)
    (hsub : ∀ dz dy dx, InBox wb dz dy dx → InBox wb' dz dy dx)
    (h0 : ∀ dz dy dx, InBox wb' dz dy dx → ¬ InBox wb dz dy dx → f dz dy dx = 0) :
    nbSum b wb z y x f = nbSum b wb' z y x f := by
  rw [nbSum_eq_sum_nbF, nbSum_eq_sum_nbF]
  refine Finset.sum_subset (fun d hd => ?_) fun d hd hnd => ?_
  · rw [mem_nbF] at hd ⊢
    exact ⟨hsub _ _ _ hd.1, hd.2⟩
  · rw [mem_nbF] at hd hnd
    exact h0 _ _ _ hd.1 fun h => hnd ⟨h, hd.2⟩

theorem voxSum_congr {b : Box} {f g : Int → Int → Int → K}
    (h : ∀ z y x, InBox b z y x → f z y x = g z y x) : voxSum b f = voxSum b g := by
  rw [voxSum_eq_sum_boxF, voxSum_eq_sum_boxF]
  exact Finset.sum_congr rfl fun r hr => h _ _ _ (mem_boxF.mp hr)

theorem nbSum_zero (b wb : Box) (z y x : Int) : nbSum b wb z y x (fun _ _ _ => (0 : K)) = 0 := by
  rw [nbSum_eq_sum_nbF, Finset.sum_const_zero]

theorem nbSum_add (b wb : Box) (z y x : Int) (f g : Int → Int → Int → K) :
    nbSum b wb z y x (fun dz dy dx => f dz dy dx + g dz dy dx) = nbSum b wb z y x f + nbSum b wb z y x g := by
  simp only [nbSum_eq_sum_nbF, Finset.sum_add_distrib]

theorem voxSum_add (b : Box) (f g : Int → Int → Int → K) :
    voxSum b (fun z y x => f z y x + g z y x) = voxSum b f + voxSum b g := by
  simp only [voxSum_eq_sum_boxF, ← Finset.sum_add_distrib]

theorem voxSum_nbSum_eq_sum_nbPairs (b wb : Box) (G : V → V → V → K) :
    voxSum b (fun z y x => nbSum b wb z y x fun dz dy dx => G (z, y, x) (dz, dy, dx) (z + dz, y + dy, x + dx))
      = ∑ p ∈ nbPairs b wb, G p.1 (subV p.2 p.1) p.2 := by
  rw [voxSum_eq_sum_boxF, nbPairs, Finset.sum_filter, Finset.sum_product]
  refine Finset.sum_congr rfl fun r hr => ?_
  rw [nbSum_eq_sum_nbF, ← Finset.sum_filter]
  -- the neighbour `s = r + d` in place of the offset `d`
  refine Finset.sum_equiv (Equiv.addLeft r) (fun d => ?_) fun d _ => ?_
  · rw [mem_nbF, Finset.mem_filter, mem_boxF, mem_boxF, and_comm]
    simp only [Equiv.coe_addLeft, Prod.fst_add, Prod.snd_add, add_sub_cancel_left]
  · simp only [subV, Equiv.coe_addLeft, Prod.fst_add, Prod.snd_add, add_sub_cancel_left]
    rfl

theorem sum_nbPairs_swap (b wb : Box) (hs : SymBox wb) (H : V × V → K) :
    ∑ p ∈ nbPairs b wb, H p = ∑ p ∈ nbPairs b wb, H p.swap :=
  Finset.sum_nbij' Prod.swap Prod.swap (fun _ => swap_mem_nbPairs hs) (fun _ => swap_mem_nbPairs hs)
    (fun _ _ => Prod.swap_swap _) (fun _ _ => Prod.swap_swap _) fun p _ => by rw [Prod.swap_swap]

end monoid

section semiring
variable {K : Type} [CommSemiring K]

theorem nbSum_mul_right (b wb : Box) (z y x : Int) (f : Int → Int → Int → K) (c : K) :
    nbSum b wb z y x f * c = nbSum b wb z y x fun dz dy dx => f dz dy dx * c := by
  simp only [nbSum_eq_sum_nbF, Finset.sum_mul]

theorem nbSum_mul_left (b wb : Box) (z y x : Int) (f : Int → Int → Int → K) (c : K) :
    c * nbSum b wb z y x f = nbSum b wb z y x fun dz dy dx => c * f dz dy dx := by
  simp only [nbSum_eq_sum_nbF, Finset.mul_sum]

theorem voxSum_mul_right (b : Box) (f : Int → Int → Int → K) (c : K) :
    voxSum b f * c = voxSum b fun z y x => f z y x * c := by
  simp only [voxSum_eq_sum_boxF, Finset.sum_mul]

theorem valueSum_mul_right (term : K → K → K → K) (w : Img K) (κ : Option (Img K)) (b wb : Box) (img : Img K) (c : K) :
    valueSum term w κ b wb img * c = valueSum (fun w a a' => term w a a' * c) w κ b wb img := by
  unfold valueSum
  rw [voxSum_mul_right]
  refine voxSum_congr fun z y x _ => ?_
  rw [nbSum_mul_right]
  exact nbSum_congr fun dz dy dx _ _ => mul_right_comm _ _ _

end semiring

end StirVerif.C09
