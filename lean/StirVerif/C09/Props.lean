/-
C09 — "Priors: value, gradient and Hessian are mutually consistent and convex".

Property theorems over the model of `Model.lean` (the loops of QuadraticPrior / RelativeDifferencePrior / LogcoshPrior,
transcribed line by line and tied to the C++ by the correspondence run of `checks/c09.py`).  Every statement is for all image
boxes, weights boxes, weights, kappa images, penalisation factors and images (no size bound).  `K` is any linearly ordered
field (ℚ — the type the driver executes the quadratic prior at — and ℝ are instances).

The model describes the code after the repairs C09-1..4 (PLS gradient: per-direction borders, kappa inside the divergence;
Quadratic/RDP/log-cosh Hessian functions: a voxel is not its own neighbour, the centre weight contributes nothing; `set_up` empties
default weights).

Hypotheses that occur:
* `SymWeights wb w` — the weights array has a symmetric index range and `w(-d) = w(d)`.  True for the default weights
  (`compute_weights`) and for the documented example `{{{0,1,0},{1,0,1},{0,1,0}}}`; NOT enforced by `set_weights` / the parser, and
  for asymmetric user weights the code does NOT satisfy the property (known finding `neighbourhood-priors:asymmetric-user-weights`):
  `C09_quadratic_expansion_asymmetric_weights_fails`, `C09_quadratic_H_symmetric_asymmetric_weights_fails` are the negative
  witnesses, and every theorem that needs `SymWeights` is named `…_partial`.
* non-negative weights, kappa and penalisation factor for positive semi-definiteness (the domain of "penalty weights").
  For an OBJECT that never got user weights the hypothesis is discharged by `C09_object_history_keeps_symmetric_weights`: whichever
  API function is called first (each has its own copy of the lazy `compute_weights` block), whatever grid spacings the images of
  the later calls have and however often `set_up` is called in between, the weights the object holds are symmetric and non-negative —
  so all `…_partial` theorems apply to every state such an object can reach.  For weights given with `weights :=` and an even size in some dimension the
  index range is not symmetric; `C09_even_weights_are_zero_padded` says that value, gradient and Hessian-times-vector are those of the
  symmetric range with zeros appended, to which the theorems then apply (if the padded weights are symmetric).
No hypothesis on the centre weight `w 0 0 0` is needed (`C09_nonzero_centre_weight_is_covered`).
The RDP derivative statements also hold at points with equal neighbouring values (`C09_rdp_derivatives_at_equal_values`, where
`|x - y|` is not differentiable but the potential is).
Not covered by theorems (correspondence run + oracle only): float rounding; second derivatives and convexity of PLSPrior (the model has
no PLS Hessian); the parabolic surrogate curvatures and the approximate Hessian (`qSurrogate`, `qApproxHessTimes`, `lSurrogate`); the
parser of `weights :=` (`parsedWeights`, `NbPrior.parsed`) beyond the index range it gives (`C09_even_weights_are_zero_padded`).
-/
import StirVerif.C09.ProofsDeriv
import StirVerif.C09.ProofsPls
import StirVerif.C09.ProofsObj

namespace StirVerif.C09

/-- RDP is convex in the pair: the quadratic form of the second derivatives of `2ψ` at `(x, y)` — `d20(x,y)` = ∂²/∂x², `d11(x,y)` =
    ∂²/∂x∂y and, ψ being symmetric, `d20(y,x)` = ∂²/∂y² — is non-negative: `d20(x,y) a² + 2 d11(x,y) a c + d20(y,x) c² ≥ 0` (its
    determinant is 0) -/
theorem C09_rdp_potential_convex (γ ε x y a c : ℝ) (hD : 0 < rdpDen γ ε x y) (hpos : 0 < x ∨ 0 < y ∨ 0 < ε) :
    0 ≤ rdpD20 γ ε x y * a * a + 2 * rdpD11 γ ε x y * a * c + rdpD20 γ ε y x * c * c := by
  have hpos' : 0 < y ∨ 0 < x ∨ 0 < ε := by tauto
  rw [rdpD20_eq γ ε x y hpos, rdpD11_eq γ ε x y hpos, rdpD20_eq γ ε y x hpos', ← rdpDen_comm γ ε x y]
  -- the form is a square over the cube of the denominator
  have h : 0 ≤ 2 * (((2 * y + ε) * a - (2 * x + ε) * c) ^ 2) / (rdpDen γ ε x y * rdpDen γ ε x y * rdpDen γ ε x y) := by
    positivity
  exact le_of_le_of_eq h (by ring)

/-- log-cosh is convex in the pair -/
theorem C09_logcosh_potential_convex (s x y a c : ℝ) :
    0 ≤ lcD20 s x y * a * a + 2 * lcD11 s x y * a * c + lcD20 s y x * c * c := by
  rw [← lcD20_comm s x y]
  refine le_of_le_of_eq (mul_nonneg (mul_self_nonneg _) (sq_nonneg (a - c)) : 0 ≤ lcD20 s x y * (a - c) ^ 2) ?_
  unfold lcD11
  ring

section structural
variable {K : Type} [Field K] [LinearOrder K] [IsStrictOrderedRing K]

/-! ### "a single Hessian row equals the Hessian applied to the corresponding unit image" -/

/-- `compute_Hessian(coords = c)` = `accumulate_Hessian_times_input(output = 0, input = unit image of c)`, for the shared loops of
    the three neighbourhood priors (any `derivative_20`, any symmetric `derivative_11`), symmetric weights -/
theorem C09_hessian_row_eq_H_unit_partial (d20 d11 : K → K → K) (pf : K) (w : Img K) (κ : Option (Img K)) (b wb : Box) (cur : Img K)
    (hw : SymWeights wb w) (h11 : ∀ a c : K, d11 a c = d11 c a)
    (cz cy cx z y x : Int) (hc : InBox b cz cy cx) (hr : InBox b z y x) :
    hessRow d20 d11 pf w κ b wb cur cz cy cx z y x
      = hessTimes d20 d11 pf w κ b wb cur (unitImg cz cy cx) (fun _ _ _ => 0) z y x := by
  simp only [hessRow_eq_core, hessTimes_eq_core, zero_add]
  exact hessRow_eq_hessTimes_unit d20 d11 pf w κ b wb cur hw h11 cz cy cx z y x hc hr

/-- … for `QuadraticPrior` -/
theorem C09_quadratic_hessian_row_eq_H_unit_partial (pf : K) (w : Img K) (κ : Option (Img K)) (b wb : Box) (cur : Img K)
    (hw : SymWeights wb w) (cz cy cx z y x : Int) (hc : InBox b cz cy cx) (hr : InBox b z y x) :
    qHessRow pf w κ b wb cur cz cy cx z y x = qHessTimes pf w κ b wb cur (unitImg cz cy cx) (fun _ _ _ => 0) z y x :=
  C09_hessian_row_eq_H_unit_partial qD20 qD11 pf w κ b wb cur hw (fun _ _ => rfl) cz cy cx z y x hc hr

/-- … for `RelativeDifferencePrior` -/
theorem C09_rdp_hessian_row_eq_H_unit_partial (γ ε pf : ℝ) (w : Img ℝ) (κ : Option (Img ℝ)) (b wb : Box) (cur : Img ℝ)
    (hw : SymWeights wb w) (cz cy cx z y x : Int) (hc : InBox b cz cy cx) (hr : InBox b z y x) :
    rHessRow γ ε pf w κ b wb cur cz cy cx z y x = rHessTimes γ ε pf w κ b wb cur (unitImg cz cy cx) (fun _ _ _ => 0) z y x :=
  C09_hessian_row_eq_H_unit_partial (rdpD20 γ ε) (rdpD11 γ ε) pf w κ b wb cur hw (rdpD11_comm γ ε) cz cy cx z y x hc hr

/-- … for `LogcoshPrior` -/
theorem C09_logcosh_hessian_row_eq_H_unit_partial (s pf : ℝ) (w : Img ℝ) (κ : Option (Img ℝ)) (b wb : Box) (cur : Img ℝ)
    (hw : SymWeights wb w) (cz cy cx z y x : Int) (hc : InBox b cz cy cx) (hr : InBox b z y x) :
    lHessRow s pf w κ b wb cur cz cy cx z y x = lHessTimes s pf w κ b wb cur (unitImg cz cy cx) (fun _ _ _ => 0) z y x :=
  C09_hessian_row_eq_H_unit_partial (lcD20 s) (lcD11 s) pf w κ b wb cur hw (lcD11_comm s) cz cy cx z y x hc hr

/-! ### "The Hessian is symmetric" -/

/-- `⟨u, H v⟩ = ⟨v, H u⟩` where `H v` is what `accumulate_Hessian_times_input` adds to its output. -/
theorem C09_H_symmetric_partial (d20 d11 : K → K → K) (pf : K) (w : Img K) (κ : Option (Img K)) (b wb : Box) (cur u v : Img K)
    (hw : SymWeights wb w) (h11 : ∀ a c : K, d11 a c = d11 c a) :
    inner b u (hessTimesCore d20 d11 pf w κ b wb cur v) = inner b v (hessTimesCore d20 d11 pf w κ b wb cur u) :=
  H_symmetric d20 d11 pf w κ b wb cur u v hw fun _ _ _ _ => h11 _ _

/-- the same statement on the API function (output initialised with 0) -/
theorem C09_H_symmetric_api_partial (d20 d11 : K → K → K) (pf : K) (w : Img K) (κ : Option (Img K)) (b wb : Box) (cur u v : Img K)
    (hw : SymWeights wb w) (h11 : ∀ a c : K, d11 a c = d11 c a) :
    inner b u (hessTimes d20 d11 pf w κ b wb cur v fun _ _ _ => 0) = inner b v (hessTimes d20 d11 pf w κ b wb cur u fun _ _ _ => 0) := by
  simpa only [hessTimes_eq_core, zero_add] using C09_H_symmetric_partial d20 d11 pf w κ b wb cur u v hw h11

/-! ### "… and positive semi-definite for priors that declare themselves convex" -/

/-- `⟨e, H e⟩ ≥ 0` for non-negative symmetric weights, non-negative kappa and penalisation factor whenever the 2×2 Hessians of the
    potential are positive semi-definite at the image values -/
theorem C09_H_psd_partial (d20 d11 : K → K → K) (pf : K) (w : Img K) (κ : Option (Img K)) (b wb : Box) (cur e : Img K)
    (hw : SymWeights wb w) (hw0 : ∀ dz dy dx, InBox wb dz dy dx → 0 ≤ w dz dy dx) (hκ : KappaNonneg b κ) (hpf : 0 ≤ pf)
    (h11 : ∀ a c : K, d11 a c = d11 c a)
    (hpsd : ∀ z y x z' y' x', InBox b z y x → InBox b z' y' x' → ∀ a c : K,
      0 ≤ d20 (cur z y x) (cur z' y' x') * a * a + 2 * d11 (cur z y x) (cur z' y' x') * a * c + d20 (cur z' y' x') (cur z y x) * c * c) :
    0 ≤ inner b e (hessTimesCore d20 d11 pf w κ b wb cur e) :=
  H_psd d20 d11 pf w κ b wb cur e hw hw0 hκ hpf (fun _ _ _ _ => h11 _ _)
    fun _ _ hr hs a c => hpsd _ _ _ _ _ _ (mem_boxF.mp hr) (mem_boxF.mp hs) a c

/-- `QuadraticPrior` (`is_convex() = true`): the Hessian is positive semi-definite -/
theorem C09_quadratic_H_psd_partial (pf : K) (w : Img K) (κ : Option (Img K)) (b wb : Box) (cur e : Img K)
    (hw : SymWeights wb w) (hw0 : ∀ dz dy dx, InBox wb dz dy dx → 0 ≤ w dz dy dx) (hκ : KappaNonneg b κ) (hpf : 0 ≤ pf) :
    0 ≤ inner b e (hessTimesCore qD20 qD11 pf w κ b wb cur e) := by
  refine C09_H_psd_partial qD20 qD11 pf w κ b wb cur e hw hw0 hκ hpf (fun _ _ => rfl) fun _ _ _ _ _ _ _ _ a c => ?_
  simp only [qD20, qD11]
  exact le_of_le_of_eq (sq_nonneg (a - c)) (by ring)

/-- `RelativeDifferencePrior` (`is_convex() = true`), positive image, `γ, ε ≥ 0`: the Hessian is positive semi-definite -/
theorem C09_rdp_H_psd_partial (γ ε pf : ℝ) (w : Img ℝ) (κ : Option (Img ℝ)) (b wb : Box) (cur e : Img ℝ)
    (hw : SymWeights wb w) (hw0 : ∀ dz dy dx, InBox wb dz dy dx → 0 ≤ w dz dy dx) (hκ : KappaNonneg b κ) (hpf : 0 ≤ pf)
    (hγ : 0 ≤ γ) (hε : 0 ≤ ε) (hcur : ∀ z y x, InBox b z y x → 0 < cur z y x) :
    0 ≤ inner b e (hessTimesCore (rdpD20 γ ε) (rdpD11 γ ε) pf w κ b wb cur e) := by
  refine C09_H_psd_partial _ _ pf w κ b wb cur e hw hw0 hκ hpf (rdpD11_comm γ ε) fun z y x z' y' x' h h' a c => ?_
  have h1 := hcur _ _ _ h
  have h2 := hcur _ _ _ h'
  refine C09_rdp_potential_convex γ ε _ _ a c ?_ (Or.inl h1)
  rw [rdpDen_eq]
  have := mul_nonneg hγ (abs_nonneg (cur z y x - cur z' y' x'))
  linarith

/-- `LogcoshPrior` (`is_convex() = true`): the Hessian is positive semi-definite -/
theorem C09_logcosh_H_psd_partial (s pf : ℝ) (w : Img ℝ) (κ : Option (Img ℝ)) (b wb : Box) (cur e : Img ℝ)
    (hw : SymWeights wb w) (hw0 : ∀ dz dy dx, InBox wb dz dy dx → 0 ≤ w dz dy dx) (hκ : KappaNonneg b κ) (hpf : 0 ≤ pf) :
    0 ≤ inner b e (hessTimesCore (lcD20 s) (lcD11 s) pf w κ b wb cur e) :=
  C09_H_psd_partial _ _ pf w κ b wb cur e hw hw0 hκ hpf (lcD11_comm s) fun _ _ _ _ _ _ _ _ a c => C09_logcosh_potential_convex s _ _ a c

/-! ### "the gradient is the derivative of the value, the Hessian-times-vector is the directional derivative of the gradient" -/

/-- QuadraticPrior, exact (no limit needed): `value(λ + t e) = value(λ) + t ⟨grad λ, e⟩ + t²/2 ⟨e, H e⟩` for symmetric weights
    (any centre weight).  So `grad` is the derivative of `value` and `H` its second derivative.
    Partial: needs `SymWeights` (false for asymmetric user weights, `C09_quadratic_expansion_asymmetric_weights_fails`). -/
theorem C09_quadratic_value_expansion_partial (pf : K) (w : Img K) (κ : Option (Img K)) (b wb : Box) (lam e : Img K) (t : K)
    (hw : SymWeights wb w) :
    qValue pf w κ b wb (fun z y x => lam z y x + t * e z y x)
      = qValue pf w κ b wb lam + t * inner b (qGrad pf w κ b wb lam) e
        + t ^ 2 / 2 * inner b e (qHessTimes pf w κ b wb lam e fun _ _ _ => 0) := by
  simpa only [qValue_eq_core, qGrad, qHessTimes, grad_eq_core, hessTimes_eq_core, zero_add] using qValue_expansion pf w κ b wb lam e t hw

/-- QuadraticPrior: `grad(λ + t e) = grad(λ) + t · H e` at every voxel, for ALL weights (no symmetry, no condition on the centre):
    the Hessian-times-vector is exactly the directional derivative of the gradient -/
theorem C09_quadratic_gradient_affine (pf : K) (w : Img K) (κ : Option (Img K)) (b wb : Box) (lam e : Img K) (t : K)
    (z y x : Int) :
    qGrad pf w κ b wb (fun z y x => lam z y x + t * e z y x) z y x
      = qGrad pf w κ b wb lam z y x + t * (qHessTimes pf w κ b wb lam e (fun _ _ _ => 0) z y x) := by
  simp only [qGrad, qHessTimes, grad_eq_core, hessTimes_eq_core, zero_add]
  rw [hessTimesCore_eq_nbSum]
  unfold gradCore
  rw [← mul_assoc, nbSum_mul_left, ← add_mul, ← nbSum_add]
  refine congrArg (· * pf) (nbSum_congr fun dz dy dx _ _ => ?_)
  simp only [qD10, qD20, qD11]
  by_cases hd : dz = 0 ∧ dy = 0 ∧ dx = 0
  · obtain ⟨rfl, rfl, rfl⟩ := hd
    simp only [add_zero, sub_self, mul_zero, zero_mul, and_self, if_true]
  · rw [if_neg hd]
    ring

end structural

/-- RDP: `derivative_10 = ∂(2ψ)/∂x`, `derivative_20 = ∂ derivative_10/∂x_j`, `derivative_11 = ∂ derivative_10/∂x_k`
    (ψ = `RelativeDifferencePrior::value`; `compute_value` visits every unordered pair twice), at `x ≠ y` with positive denominator -/
theorem C09_rdp_derivatives (γ ε x y : ℝ) (hxy : x ≠ y) (hD : 0 < rdpDen γ ε x y) (hpos : 0 < x ∨ 0 < y ∨ 0 < ε) :
    HasDerivAt (fun t => two * rdpPsi γ ε t y) (rdpD10 γ ε x y) x
    ∧ HasDerivAt (fun t => rdpD10 γ ε t y) (rdpD20 γ ε x y) x
    ∧ HasDerivAt (fun t => rdpD10 γ ε x t) (rdpD11 γ ε x y) y := by
  -- the curves `(t, y)` and `(x, t)`
  refine ⟨?_, ?_, ?_⟩
  · refine ((rdp_psi_curve γ ε (hasDerivAt_id' x) (hasDerivAt_const x y) hD.ne').const_mul two).congr_deriv ?_
    rw [two_eq, mul_one, mul_zero, add_zero, mul_div_cancel₀ _ two_ne_zero]
  · refine (rdp_d10_curve γ ε (hasDerivAt_id' x) (hasDerivAt_const x y) hD.ne' hpos).congr_deriv ?_
    rw [mul_one, mul_zero, add_zero]
  · refine (rdp_d10_curve γ ε (hasDerivAt_const y x) (hasDerivAt_id' y) hD.ne' hpos).congr_deriv ?_
    rw [mul_zero, mul_one, zero_add]

/-- log-cosh: `(1/s) tanh(s(x-y))` is the derivative of the value term `1/s² logcosh(s(x-y))` (branch `|s(x-y)| < 30` of
    `LogcoshPrior::logcosh`), `derivative_20`/`derivative_11` are the derivatives of the gradient factor -/
theorem C09_logcosh_derivatives (s x y : ℝ) (hs : s ≠ 0) (h : |s * (x - y)| < 30) :
    HasDerivAt (fun t => lcTerm s 1 t y) (lcD10 s x y) x
    ∧ HasDerivAt (fun t => lcD10 s t y) (lcD20 s x y) x
    ∧ HasDerivAt (fun t => lcD10 s x t) (lcD11 s x y) y := by
  refine ⟨?_, ?_, ?_⟩
  · refine (lc_term_curve s (hasDerivAt_id' x) (hasDerivAt_const x y) h).congr_deriv ?_
    rw [mul_one, mul_zero, add_zero]
  · refine (lc_d10_curve s (hasDerivAt_id' x) (hasDerivAt_const x y) hs).congr_deriv ?_
    rw [mul_one, mul_zero, add_zero]
  · refine (lc_d10_curve s (hasDerivAt_const y x) (hasDerivAt_id' y) hs).congr_deriv ?_
    rw [mul_zero, mul_one, zero_add]

/-- **RDP: the gradient is the derivative of the value** along every line `λ + t e`, at every `t0` where all voxels of the image have
    different values and the denominators do not vanish (symmetric weights) -/
theorem C09_rdp_gradient_is_derivative_of_value_partial (γ ε pf : ℝ) (w : Img ℝ) (κ : Option (Img ℝ)) (b wb : Box) (lam e : Img ℝ) (t0 : ℝ)
    (hw : SymWeights wb w)
    (hne : ∀ z y x z' y' x', InBox b z y x → InBox b z' y' x' → ¬ (z = z' ∧ y = y' ∧ x = x') →
      lam z y x + t0 * e z y x ≠ lam z' y' x' + t0 * e z' y' x')
    (hD : ∀ z y x z' y' x', InBox b z y x → InBox b z' y' x' →
      rdpDen γ ε (lam z y x + t0 * e z y x) (lam z' y' x' + t0 * e z' y' x') ≠ 0) :
    HasDerivAt (fun t => rValue γ ε pf w κ b wb (fun z y x => lam z y x + t * e z y x))
      (inner b (rGrad γ ε pf w κ b wb (fun z y x => lam z y x + t0 * e z y x)) e) t0 := by
  unfold rGrad
  rw [grad_eq_core]
  simp only [rValue_eq_valueSum]
  exact value_hasDerivAt (rdpPsi γ ε) (rdpD10 γ ε) pf w κ b wb lam e t0 hw fun r s hr hs _ =>
    rdp_psi_curve γ ε (hasDerivAt_line _ _ t0) (hasDerivAt_line _ _ t0) (hD _ _ _ _ _ _ (mem_boxF.mp hr) (mem_boxF.mp hs))

/-- **RDP: the Hessian-times-vector is the directional derivative of the gradient** (same conditions on the image, and positive values; ALL weights) -/
theorem C09_rdp_hessian_is_derivative_of_gradient (γ ε pf : ℝ) (w : Img ℝ) (κ : Option (Img ℝ)) (b wb : Box) (lam v : Img ℝ) (t0 : ℝ)
    (z y x : Int) (hr : InBox b z y x)
    (hne : ∀ z y x z' y' x', InBox b z y x → InBox b z' y' x' → ¬ (z = z' ∧ y = y' ∧ x = x') →
      lam z y x + t0 * v z y x ≠ lam z' y' x' + t0 * v z' y' x')
    (hD : ∀ z y x z' y' x', InBox b z y x → InBox b z' y' x' →
      rdpDen γ ε (lam z y x + t0 * v z y x) (lam z' y' x' + t0 * v z' y' x') ≠ 0)
    (hpos : ∀ z y x, InBox b z y x → 0 < lam z y x + t0 * v z y x) :
    HasDerivAt (fun t => gradCore (rdpD10 γ ε) pf w κ b wb (fun z y x => lam z y x + t * v z y x) z y x)
      (hessTimesCore (rdpD20 γ ε) (rdpD11 γ ε) pf w κ b wb (fun z y x => lam z y x + t0 * v z y x) v z y x) t0 :=
  grad_hasDerivAt (rdpD10 γ ε) (rdpD20 γ ε) (rdpD11 γ ε) pf w κ b wb lam v t0 (rdpD10_self γ ε) z y x hr
    fun _ _ hr hs _ _ => rdp_d10_curve γ ε (hasDerivAt_line _ _ t0) (hasDerivAt_line _ _ t0)
      (hD _ _ _ _ _ _ (mem_boxF.mp hr) (mem_boxF.mp hs)) (Or.inl (hpos _ _ _ (mem_boxF.mp hr)))

/-- **log-cosh: the Hessian-times-vector is the directional derivative of the gradient** (ALL weights) -/
theorem C09_logcosh_hessian_is_derivative_of_gradient (s pf : ℝ) (w : Img ℝ) (κ : Option (Img ℝ)) (b wb : Box) (lam v : Img ℝ) (t0 : ℝ)
    (hs : s ≠ 0) (z y x : Int) (hr : InBox b z y x) :
    HasDerivAt (fun t => gradCore (lcD10 s) pf w κ b wb (fun z y x => lam z y x + t * v z y x) z y x)
      (hessTimesCore (lcD20 s) (lcD11 s) pf w κ b wb (fun z y x => lam z y x + t0 * v z y x) v z y x) t0 :=
  grad_hasDerivAt (lcD10 s) (lcD20 s) (lcD11 s) pf w κ b wb lam v t0 (lcD10_self s) z y x hr fun _ _ _ _ _ _ =>
    lc_d10_curve s (hasDerivAt_line _ _ t0) (hasDerivAt_line _ _ t0) hs

/-- **log-cosh: the gradient is the derivative of the value** along every line, where all neighbour differences are on the branch
    `|s Δ| < 30` of `logcosh` (symmetric weights) -/
theorem C09_logcosh_gradient_is_derivative_of_value_partial (s pf : ℝ) (w : Img ℝ) (κ : Option (Img ℝ)) (b wb : Box) (lam e : Img ℝ) (t0 : ℝ)
    (hs : s ≠ 0) (hw : SymWeights wb w)
    (hbr : ∀ z y x z' y' x', InBox b z y x → InBox b z' y' x' →
      |s * ((lam z y x + t0 * e z y x) - (lam z' y' x' + t0 * e z' y' x'))| < 30) :
    HasDerivAt (fun t => lValue s pf w κ b wb (fun z y x => lam z y x + t * e z y x))
      (inner b (lGrad s pf w κ b wb (fun z y x => lam z y x + t0 * e z y x)) e) t0 := by
  unfold lGrad
  rw [grad_eq_core]
  simp only [lValue_eq_valueSum]
  exact value_hasDerivAt (fun a c => lcTerm s 1 a c / 2) (lcD10 s) pf w κ b wb lam e t0 hw fun r s' hr hs' _ =>
    (lc_term_curve s (hasDerivAt_line _ _ t0) (hasDerivAt_line _ _ t0)
      (hbr _ _ _ _ _ _ (mem_boxF.mp hr) (mem_boxF.mp hs'))).div_const 2

section structural2
variable {K : Type} [Field K] [LinearOrder K] [IsStrictOrderedRing K]

/-! ### "value, gradient and Hessian scale linearly with the penalisation factor" -/

/-- the quadratic value, and gradient, Hessian row and Hessian-times-vector of the shared loops for any potential derivatives
    (RDP and log-cosh values: `C09_rdp_logcosh_value_linear_in_penalisation_factor`) -/
theorem C09_linear_in_penalisation_factor (d10 d20 d11 : K → K → K) (c pf : K) (w : Img K) (κ : Option (Img K)) (b wb : Box)
    (img inp : Img K) (cz cy cx z y x : Int) :
    qValue (c * pf) w κ b wb img = c * qValue pf w κ b wb img
    ∧ grad d10 (c * pf) w κ b wb img z y x = c * grad d10 pf w κ b wb img z y x
    ∧ hessRow d20 d11 (c * pf) w κ b wb img cz cy cx z y x = c * hessRow d20 d11 pf w κ b wb img cz cy cx z y x
    ∧ hessTimes d20 d11 (c * pf) w κ b wb img inp (fun _ _ _ => 0) z y x
        = c * hessTimes d20 d11 pf w κ b wb img inp (fun _ _ _ => 0) z y x := by
  simp only [qValue_eq_core, grad_eq_core, hessRow_eq_core, hessTimes_eq_core, zero_add]
  refine ⟨?_, ?_, ?_, ?_⟩
  · unfold qValueCore
    ring
  · unfold gradCore
    ring
  · unfold hessRowCore
    simp only []
    split_ifs <;> ring
  · unfold hessTimesCore
    ring

/-- … and so do the values of `RelativeDifferencePrior` and `LogcoshPrior` (their gradients and Hessians are the generic loops above) -/
theorem C09_rdp_logcosh_value_linear_in_penalisation_factor (γ ε s c pf : ℝ) (w : Img ℝ) (κ : Option (Img ℝ)) (b wb : Box) (img : Img ℝ) :
    rValue γ ε (c * pf) w κ b wb img = c * rValue γ ε pf w κ b wb img
    ∧ lValue s (c * pf) w κ b wb img = c * lValue s pf w κ b wb img := by
  rw [rValue_eq_valueSum, rValue_eq_valueSum, lValue_eq_valueSum, lValue_eq_valueSum]
  constructor <;> ring

/-- the early returns `if (penalisation_factor == 0)` agree with the loops (which would compute `… * 0`) -/
theorem C09_zero_penalisation_shortcuts (d10 d20 d11 : K → K → K) (pf : K) (w : Img K) (κ : Option (Img K)) (b wb : Box)
    (img inp out : Img K) (cz cy cx z y x : Int) :
    qValue pf w κ b wb img = qValueCore pf w κ b wb img
    ∧ grad d10 pf w κ b wb img z y x = gradCore d10 pf w κ b wb img z y x
    ∧ hessRow d20 d11 pf w κ b wb img cz cy cx z y x = hessRowCore d20 d11 pf w κ b wb img cz cy cx z y x
    ∧ hessTimes d20 d11 pf w κ b wb img inp out z y x = out z y x + hessTimesCore d20 d11 pf w κ b wb img inp z y x :=
  ⟨qValue_eq_core .., by rw [grad_eq_core], hessRow_eq_core .., by rw [hessTimes_eq_core]⟩

/-! ### "the gradient vanishes for uniform images" -/

/-- for every potential whose first derivative vanishes on the diagonal -/
theorem C09_grad_uniform_zero (d10 : K → K → K) (pf : K) (w : Img K) (κ : Option (Img K)) (b wb : Box) (c : K)
    (h : d10 c c = 0) (z y x : Int) : grad d10 pf w κ b wb (fun _ _ _ => c) z y x = 0 := by
  rw [grad_eq_core, gradCore, nbSum_congr (g := fun _ _ _ => (0 : K)) fun _ _ _ _ _ => by rw [h, mul_zero, zero_mul],
    nbSum_zero, zero_mul]

/-- … for `QuadraticPrior` -/
theorem C09_quadratic_grad_uniform_zero (pf : K) (w : Img K) (κ : Option (Img K)) (b wb : Box) (c : K) (z y x : Int) :
    qGrad pf w κ b wb (fun _ _ _ => c) z y x = 0 :=
  C09_grad_uniform_zero qD10 pf w κ b wb c (by simp [qD10]) z y x

/-! ### "voxels at the image border interact only with neighbours inside the image" -/

/-- every offset visited by a clipped neighbourhood loop lies in the weights range and leads to an index inside the image -/
theorem C09_border_uses_only_inside_neighbours (wlo whi lo hi c d : Int)
    (h : d ∈ irange (max wlo (lo - c)) (min whi (hi - c))) : wlo ≤ d ∧ d ≤ whi ∧ lo ≤ c + d ∧ c + d ≤ hi :=
  clipped_in_image wlo whi lo hi c d h

/-- consequently value, gradient and Hessian-times-vector only depend on image values inside the image … -/
theorem C09_depends_only_on_inside_values (term : K → K → K → K) (d10 d20 d11 : K → K → K) (pf : K) (w : Img K) (κ : Option (Img K))
    (b wb : Box) (img img' inp inp' : Img K)
    (h : ∀ z y x, InBox b z y x → img z y x = img' z y x) (h' : ∀ z y x, InBox b z y x → inp z y x = inp' z y x)
    (z y x : Int) (hr : InBox b z y x) :
    valueSum term w κ b wb img = valueSum term w κ b wb img'
    ∧ gradCore d10 pf w κ b wb img z y x = gradCore d10 pf w κ b wb img' z y x
    ∧ hessTimesCore d20 d11 pf w κ b wb img inp z y x = hessTimesCore d20 d11 pf w κ b wb img' inp' z y x := by
  refine ⟨?_, ?_, ?_⟩
  · unfold valueSum
    refine voxSum_congr fun z y x hr => nbSum_congr fun dz dy dx _ hin => ?_
    rw [h _ _ _ hr, h _ _ _ hin]
  · unfold gradCore
    rw [nbSum_congr fun dz dy dx _ hin => by rw [h _ _ _ hr, h _ _ _ hin]]
  · unfold hessTimesCore
    rw [nbSum_congr fun dz dy dx _ hin => by rw [h _ _ _ hr, h _ _ _ hin, h' _ _ _ hr, h' _ _ _ hin]]

/-- … and the gradient at voxel `r` is unchanged when the image changes at a voxel `s ≠ r` whose offset `s - r` is outside the weights box -/
theorem C09_gradient_local (d10 : K → K → K) (pf : K) (w : Img K) (κ : Option (Img K)) (b wb : Box) (img img' : Img K)
    (z y x sz sy sx : Int) (hs : ¬ InBox wb (sz - z) (sy - y) (sx - x)) (hne : ¬ (sz = z ∧ sy = y ∧ sx = x))
    (h : ∀ z' y' x', ¬ (z' = sz ∧ y' = sy ∧ x' = sx) → img z' y' x' = img' z' y' x') :
    gradCore d10 pf w κ b wb img z y x = gradCore d10 pf w κ b wb img' z y x := by
  unfold gradCore
  rw [nbSum_congr fun dz dy dx hd _ => ?_]
  rw [h z y x (fun hh => hne ⟨hh.1.symm, hh.2.1.symm, hh.2.2.symm⟩), h (z + dz) (y + dy) (x + dx) ?_]
  -- the only voxel where the images differ is not a neighbour of `(z, y, x)`
  rintro ⟨h1, h2, h3⟩
  apply hs
  rw [← h1, ← h2, ← h3, add_sub_cancel_left, add_sub_cancel_left, add_sub_cancel_left]
  exact hd

end structural2

/-! ### non-vacuity: the hypotheses are satisfiable by non-trivial instances -/

/-- 3×3×3 nearest-neighbour-and-diagonal weights with zero centre (the shape of the default weights) -/
def exW : Img ℚ := fun dz dy dx => if dz = 0 ∧ dy = 0 ∧ dx = 0 then 0 else 1
def exWB : Box := ⟨-1, 1, -1, 1, -1, 1⟩

example : SymWeights exWB exW ∧ exW 0 0 0 = 0 ∧ (∀ dz dy dx, InBox exWB dz dy dx → 0 ≤ exW dz dy dx) := by
  refine ⟨⟨by decide, fun dz dy dx _ => ?_⟩, by simp [exW], fun dz dy dx _ => ?_⟩
  · simp only [exW, neg_eq_zero]
  · unfold exW
    split_ifs <;> norm_num

example : KappaNonneg (K := ℚ) ⟨0, 1, 0, 2, 0, 3⟩ (some fun _ _ x => if x = 0 then 1 / 2 else 2) := by
  intro k hk z y x _
  cases hk
  beta_reduce
  split_ifs <;> norm_num

example : InBox ⟨0, 1, 0, 2, 0, 3⟩ 1 2 3 ∧ ¬ InBox ⟨0, 1, 0, 2, 0, 3⟩ 2 0 0 := by decide

/-- the hypotheses of the RDP statements hold e.g. for γ = 2, ε = 1, x = 1, y = 2 -/
example : (1 : ℝ) ≠ 2 ∧ 0 < rdpDen 2 1 (1 : ℝ) 2 ∧ (0 < (1 : ℝ) ∨ 0 < (2 : ℝ) ∨ 0 < (1 : ℝ)) := by
  refine ⟨by norm_num, ?_, Or.inl one_pos⟩
  rw [rdpDen_eq]
  norm_num [abs_of_neg]

example : (2 : ℝ) ≠ 0 ∧ |(2 : ℝ) * (3 - 1)| < 30 := by
  refine ⟨by norm_num, ?_⟩
  rw [abs_of_pos] <;> norm_num

/-! ### negative witnesses: what fails without the hypotheses (replayed on the implementation by the harness) -/

/-- 1×1×2 image -/
def nB : Box := ⟨0, 0, 0, 0, 0, 1⟩
/-- weights on the offsets x ∈ {-1, 0, 1} -/
def nWB : Box := ⟨0, 0, 0, 0, -1, 1⟩
/-- only the forward neighbour has a weight: asymmetric -/
def nWasym : Img ℚ := fun _ _ dx => if dx = 1 then 1 else 0
/-- symmetric, with a non-zero centre weight -/
def nWcentre : Img ℚ := fun _ _ dx => if dx = 0 then 2 else 1
def nLam : Img ℚ := fun _ _ x => if x = 0 then 3 else 1
def nE : Img ℚ := fun _ _ x => if x = 0 then 1 else 0

/-- with asymmetric user weights the gradient of `QuadraticPrior` is NOT the derivative of its value: the second-order expansion
    (exact for symmetric weights, `C09_quadratic_value_expansion_partial`) fails: 9/4 ≠ 1 + 2 + 1/2 -/
theorem C09_quadratic_expansion_asymmetric_weights_fails :
    ¬ (qValue 1 nWasym none nB nWB (fun z y x => nLam z y x + 1 * nE z y x)
        = qValue 1 nWasym none nB nWB nLam + 1 * inner nB (qGrad 1 nWasym none nB nWB nLam) nE
          + 1 ^ 2 / 2 * inner nB nE (qHessTimes 1 nWasym none nB nWB nLam nE fun _ _ _ => 0)) := by
  decide +kernel

/-- … and the Hessian of `QuadraticPrior` is not symmetric for these weights: `⟨e0, H e1⟩ = -1 ≠ 0 = ⟨e1, H e0⟩` -/
theorem C09_quadratic_H_symmetric_asymmetric_weights_fails :
    ¬ (inner nB (unitImg 0 0 0) (qHessTimes 1 nWasym none nB nWB nLam (unitImg 0 0 1) fun _ _ _ => 0)
        = inner nB (unitImg 0 0 1) (qHessTimes 1 nWasym none nB nWB nLam (unitImg 0 0 0) fun _ _ _ => 0)) := by
  decide +kernel

/-- a non-zero centre weight is covered by the theorems (repair C09-3: the Hessian functions do not add `w(0) κ_r²` to the
    diagonal): `nWcentre` is symmetric with centre weight 2, and the expansion holds for it -/
theorem C09_nonzero_centre_weight_is_covered :
    SymWeights nWB nWcentre ∧ nWcentre 0 0 0 = 2
    ∧ qValue 1 nWcentre none nB nWB (fun z y x => nLam z y x + 1 * nE z y x)
        = qValue 1 nWcentre none nB nWB nLam + 1 * inner nB (qGrad 1 nWcentre none nB nWB nLam) nE
          + 1 ^ 2 / 2 * inner nB nE (qHessTimes 1 nWcentre none nB nWB nLam nE fun _ _ _ => 0) := by
  have hs : SymWeights nWB nWcentre := ⟨by decide, fun dz dy dx _ => by simp only [nWcentre, neg_eq_zero]⟩
  exact ⟨hs, by simp [nWcentre], C09_quadratic_value_expansion_partial 1 nWcentre none nB nWB nLam nE 1 hs⟩

/-! ### the prior object: lazily computed default weights, `set_up`, `weights :=`

"… for every image size, voxel spacing, neighbourhood weights …": the weights an OBJECT uses are not an argument of the API functions but
a member that the first call fills in (`NbPrior.afterCall`, the block `if (weights.get_length() == 0) compute_weights(…)` that occurs in
each of `compute_value`, `compute_gradient`, `compute_Hessian`, `parabolic_surrogate_curvature`,
`add_multiplication_with_approximate_Hessian`, `accumulate_Hessian_times_input` of the three classes). -/

/-- the default weights (`compute_weights`) are symmetric with a symmetric index range, for every grid spacing and `only_2D`, and
    non-negative for a non-negative x-voxel size: the hypotheses `SymWeights` / `0 ≤ w` of the theorems above hold for them -/
theorem C09_default_weights_symmetric (only2D : Bool) (sz sy sx : ℝ) :
    SymWeights (defaultWeightsBox only2D) (defaultWeights (fun n : Int => (n : ℝ)) sz sy sx)
    ∧ (0 ≤ sx → ∀ dz dy dx, 0 ≤ defaultWeights (fun n : Int => (n : ℝ)) sz sy sx dz dy dx) :=
  ⟨defaultWeights_symmetric only2D sz sy sx, fun hx dz dy dx => defaultWeights_nonneg sz sy sx hx dz dy dx⟩

/-- the weights are computed ONCE: after a call of any API function (with an image of grid spacing `s1`) a second call of any API
    function with an image of any grid spacing `s2` leaves the object as it is -/
theorem C09_weights_computed_once {K : Type} [Zero K] [BEq K] (dflt : K → K → K → Img K) (o : NbPrior K)
    (s1z s1y s1x s2z s2y s2x : K) :
    (o.afterCall dflt s1z s1y s1x).afterCall dflt s2z s2y s2x = o.afterCall dflt s1z s1y s1x := by
  unfold NbPrior.afterCall
  by_cases hpf : (o.pf == 0) = true
  · simp only [hpf, if_true]
  · -- the first call has left weights behind, so the lazy block of the second call does nothing
    rw [if_neg hpf, lazyWeights_of_not_empty dflt _ _ _ _ (lazyWeights_not_empty dflt o _ _ _), ite_self]

/-- an object made by a constructor (no user weights) holds, after ANY history of calls with images of any grid spacings (x-voxel
    size ≥ 0) and `set_up`s in between, either no weights yet or symmetric, non-negative weights with a symmetric index range: the
    `…_partial` theorems apply to the loops run on its members in every reachable state -/
theorem C09_object_history_keeps_symmetric_weights (kind : Nat) (only2DArg : Bool) (pf γ ε s : ℝ) (l : List (ℝ × ℝ × ℝ))
    (hl : ∀ sp ∈ l, 0 ≤ sp.2.2) :
    let o := l.foldl (fun o sp => (o.afterCall (defaultWeights fun n : Int => (n : ℝ)) sp.1 sp.2.1 sp.2.2).setUp)
      (NbPrior.ctor kind only2DArg pf γ ε s)
    weightsEmpty o.wb = true ∨ (SymWeights o.wb o.w ∧ ∀ dz dy dx, InBox o.wb dz dy dx → 0 ≤ o.w dz dy dx) :=
  history_invariant l hl _ (Or.inl weightsEmpty_emptyBox)

/-- "every voxel spacing" (repair C09-4: `set_up` empties default weights, so they are computed again for the new spacing):
    `QuadraticPrior(false, 1)` used once with an image of voxel size (1,1,1), set up again and asked for the value of the 1×2×1 image
    `(3, 1)` of voxel size (z,y,x) = (1,2,1) answers 1 as a fresh object does (weight x-size / distance = 1/2).  Replayed on the
    implementation by the harness. -/
theorem C09_default_weights_recomputed_after_set_up :
    (((NbPrior.ctor 0 false (1 : ℝ) 0 0 0).call sDflt 1 1 1 (fun _ => ())).1.setUp.call sDflt 1 2 1
        (fun o => qValue o.pf o.w o.kappa sB o.wb sLam)).2 = 1
    ∧ ((NbPrior.ctor 0 false (1 : ℝ) 0 0 0).call sDflt 1 2 1 (fun o => qValue o.pf o.w o.kappa sB o.wb sLam)).2 = 1 := by
  have hpf : (((NbPrior.ctor 0 false (1 : ℝ) 0 0 0).pf) == 0) = false := by simp [NbPrior.ctor]
  have hv : qValue 1 (sDflt 1 2 1) none sB (defaultWeightsBox false) sLam = 1 := by
    rw [qValue_sB, sDflt_y_neighbours.1, sDflt_y_neighbours.2]
    norm_num
  refine (and_iff_right_of_imp fun h => ?_).mpr ?_
  · rw [call_snd, call_fst, afterCall_setUp_afterCall _ _ _ _ _ _ _ _ hpf weightsEmpty_emptyBox rfl]
    exact h
  · rw [call_snd, afterCall_of_empty _ _ _ _ _ hpf weightsEmpty_emptyBox]
    exact hv

/-- `post_processing`: `size` weights along a dimension get the indices `-h .. h` for `size = 2h+1` and `-h .. h-1` for `size = 2h`
    (the middle element gets index 0; for an even size the code warns "I'll (effectively) make this odd by appending a 0 at the end") -/
theorem C09_parsed_weights_index_range (h : Nat) :
    parsedRange (2 * h + 1) = (-(h : Int), (h : Int)) ∧ parsedRange (2 * h) = (-(h : Int), (h : Int) - 1) := by
  unfold parsedRange
  rw [show (2 * h + 1) / 2 = h by omega, show (2 * h) / 2 = h by omega]
  constructor
  · ext
    · rfl
    · push_cast
      omega
  · ext
    · rfl
    · push_cast
      omega

section padding
variable {K : Type} [Field K] [DecidableEq K]

/-- "… make this odd by appending a 0 at the end": value, gradient and Hessian-times-vector computed with the index range that
    `post_processing` gives to `nz × ny × nx` weights are those computed with the symmetric range `-(n/2) .. n/2` and weights that
    vanish on the added offsets (for every potential with `term 0 a c = 0`, i.e. all three priors) -/
theorem C09_even_weights_are_zero_padded (term : K → K → K → K) (d10 d20 d11 : K → K → K) (pf : K) (w : Img K) (κ : Option (Img K))
    (b : Box) (nz ny nx : Nat) (img inp : Img K) (hterm : ∀ a c, term 0 a c = 0)
    (h0 : ∀ dz dy dx, InBox (paddedBox nz ny nx) dz dy dx → ¬ InBox (parsedBox nz ny nx) dz dy dx → w dz dy dx = 0) (z y x : Int) :
    SymBox (paddedBox nz ny nx)
    ∧ valueSum term w κ b (parsedBox nz ny nx) img = valueSum term w κ b (paddedBox nz ny nx) img
    ∧ gradCore d10 pf w κ b (parsedBox nz ny nx) img z y x = gradCore d10 pf w κ b (paddedBox nz ny nx) img z y x
    ∧ hessTimesCore d20 d11 pf w κ b (parsedBox nz ny nx) img inp z y x
        = hessTimesCore d20 d11 pf w κ b (paddedBox nz ny nx) img inp z y x := by
  -- in each of the three loops the summand vanishes with the weight
  have hext := fun z y x f => nbSum_zero_extend (K := K) b _ _ z y x f (parsedBox_sub_paddedBox nz ny nx)
  refine ⟨⟨rfl, rfl, rfl⟩, ?_, ?_, ?_⟩
  · unfold valueSum
    refine voxSum_congr fun z y x _ => hext z y x _ fun dz dy dx h h' => ?_
    rw [h0 dz dy dx h h', hterm, zero_mul]
  · unfold gradCore
    rw [hext z y x _ fun dz dy dx h h' => by rw [h0 dz dy dx h h', zero_mul, zero_mul]]
  · unfold hessTimesCore
    rw [hext z y x _ fun dz dy dx h h' => by simp only [h0 dz dy dx h h', beq_self_eq_true, if_true]]

end padding

/-- non-vacuity: `{{{1, 2}}}` (1×1×2 weights) gets the x-range `-1 .. 0`, the padded range is `-1 .. 1`, and the offset `+1` is the one
    that is added -/
example : parsedBox 1 1 2 = ⟨0, 0, 0, 0, -1, 0⟩ ∧ paddedBox 1 1 2 = ⟨0, 0, 0, 0, -1, 1⟩
    ∧ InBox (paddedBox 1 1 2) 0 0 1 ∧ ¬ InBox (parsedBox 1 1 2) 0 0 1 := by decide

/-- non-vacuity: the potentials of the three priors vanish for a zero weight -/
example : (∀ a c : ℚ, qTerm 0 a c = 0) ∧ (∀ γ ε a c : ℝ, rdpTerm γ ε 0 a c = 0) ∧ (∀ s a c : ℝ, lcTerm s 0 a c = 0) := by
  refine ⟨fun a c => by simp [qTerm], fun γ ε a c => ?_, fun s a c => by simp [lcTerm]⟩
  unfold rdpTerm
  split_ifs <;> simp

/-- non-vacuity of `C09_object_history_keeps_symmetric_weights`: a history of two images with different voxel sizes -/
example : ∀ sp ∈ [((1 : ℝ), (1 : ℝ), (1 : ℝ)), (2, 3 / 2, 5 / 4)], (0 : ℝ) ≤ sp.2.2 := by
  rw [List.forall_mem_cons, List.forall_mem_singleton]
  norm_num

/-- the RDP derivative statements at points with `x = y` (uniform regions of the image): `|t - x|` is not differentiable at `t = x`, so
    the quotient rule does not apply, but `2ψ(t,x) = (t-x)·((t-x)/D(t))` and `derivative_10(t,x) = (t-x)·(N(t)/D(t)²)`
    with `D`, `N` continuous at `x`, hence both are differentiable at `t = x`: `derivative_10(x,x) = 0` is the derivative of (twice) the value
    term and `derivative_20(x,x) = 2/(2x+ε)` is the derivative of `derivative_10(·,x)`, for every `γ` (any sign) wherever the
    denominator `2x + ε` is positive (the second hypothesis, the guard of `derivative_20`, is in fact implied by the first). -/
theorem C09_rdp_derivatives_at_equal_values (γ ε x : ℝ) (h : 0 < rdpDen γ ε x x) (hx : 0 < x ∨ 0 < ε) :
    HasDerivAt (fun t => two * rdpPsi γ ε t x) (rdpD10 γ ε x x) x ∧ HasDerivAt (fun t => rdpD10 γ ε t x) (rdpD20 γ ε x x) x := by
  refine ⟨?_, ?_⟩
  · refine ((rdp_psi_curve γ ε (hasDerivAt_id' x) (hasDerivAt_const x x) h.ne').const_mul two).congr_deriv ?_
    rw [two_eq, mul_one, mul_zero, add_zero, mul_div_cancel₀ _ two_ne_zero]
  · refine (rdp_d10_curve γ ε (hasDerivAt_id' x) (hasDerivAt_const x x) h.ne' (by tauto)).congr_deriv ?_
    rw [mul_one, mul_zero, add_zero]

/-- non-vacuity: `γ = 2`, `ε = 0`, `x = y = 1` meets the hypotheses (denominator `2`), and the second derivative there is
    `derivative_20(1,1) = 1 ≠ 0`; so does `x = y = 0` with `ε = 1/2` (an empty region of the image) -/
example : 0 < rdpDen (2 : ℝ) 0 1 1 ∧ ((0 : ℝ) < 1 ∨ (0 : ℝ) < 0) ∧ rdpD20 (2 : ℝ) 0 1 1 = 1
    ∧ 0 < rdpDen (2 : ℝ) (1 / 2) 0 0 ∧ ((0 : ℝ) < 0 ∨ (0 : ℝ) < 1 / 2) := by
  refine ⟨?_, Or.inl one_pos, ?_, ?_, Or.inr (by norm_num)⟩
  · rw [rdpDen_eq]
    norm_num
  · rw [rdpD20_eq _ _ _ _ (Or.inl one_pos), rdpDen_eq]
    norm_num
  · rw [rdpDen_eq]
    norm_num

/-! ### PLSPrior (the code after the repairs C09-1, C09-2) -/

/-- **PLS: the gradient is the derivative of the value** with respect to EVERY single voxel `(z,y,x)` of the image (border voxels
    included), for every kappa image, `only_2D` or not, any anatomical image (prepared as `set_up` does) and `alpha ≠ 0`:
    the partial derivative at `t = 0` of `compute_value(λ + t·unit)` is the entry of `compute_gradient(λ)`.
    (The derivative along an arbitrary image `e` is `⟨grad λ, e⟩`, `pls_value_hasDerivAt`; this is the case of a unit image.) -/
theorem C09_pls_gradient_is_derivative_of_value (only2D : Bool) (α η pf : ℝ) (b : Box) (κ : Option (Img ℝ)) (anat lam : Img ℝ)
    (z y x : Int) (hα : α ≠ 0) (hr : InBox b z y x) :
    HasDerivAt (fun t => plsValue only2D α pf (plsSetUp only2D η b anat) κ b
        (fun z' y' x' => lam z' y' x' + if z' = z ∧ y' = y ∧ x' = x then t else 0))
      (plsGrad only2D α pf (plsSetUp only2D η b anat) κ b lam z y x) 0 := by
  have h := pls_value_hasDerivAt only2D α η pf b κ anat lam (unitImg z y x) hα
  rw [inner_unitImg _ _ hr] at h
  refine h.congr_of_eventuallyEq (Filter.Eventually.of_forall fun t => ?_)
  simp only [unitImg, mul_ite, mul_one, mul_zero]

/-- PLS: value and gradient scale linearly with the penalisation factor -/
theorem C09_pls_linear_in_penalisation_factor (only2D : Bool) (α c pf : ℝ) (A : PlsAnat ℝ) (κ : Option (Img ℝ)) (b : Box)
    (img : Img ℝ) (z y x : Int) :
    plsValue only2D α (c * pf) A κ b img = c * plsValue only2D α pf A κ b img
    ∧ plsGrad only2D α (c * pf) A κ b img z y x = c * plsGrad only2D α pf A κ b img z y x := by
  rw [plsValue_eq_valueOf, plsValue_eq_valueOf, plsGrad_eq_gradOf, plsGrad_eq_gradOf]
  unfold plsValueOf plsGradOf
  constructor <;> ring

/-- PLS: the gradient vanishes for uniform images -/
theorem C09_pls_grad_uniform_zero (only2D : Bool) (α pf c : ℝ) (A : PlsAnat ℝ) (κ : Option (Img ℝ)) (b : Box) (z y x : Int) :
    plsGrad only2D α pf A κ b (fun _ _ _ => c) z y x = 0 := by
  -- all forward differences vanish, hence the inner product and every flux
  have hip : ∀ z y x, (plsFields only2D α A b (fun _ _ _ => c)).ip z y x = 0 := by
    intro z y x
    simp only [plsFields, plsInner, plsGradElem_const]
    split_ifs <;> simp
  have hf : ∀ (dir : Nat) (a : Img ℝ) (z y x : Int),
      plsFlux κ (plsGradElem b dir fun _ _ _ => c) a (plsFields only2D α A b (fun _ _ _ => c)).ip A.norm
        (plsFields only2D α A b (fun _ _ _ => c)).pen z y x = 0 := by
    intro dir a z y x
    unfold plsFlux
    cases κ <;> simp [plsGradElem_const, hip]
  rw [plsGrad_eq_gradOf]
  unfold plsGradOf
  simp only [show (plsFields only2D α A b (fun _ _ _ => c)).gx = plsGradElem b 2 (fun _ _ _ => c) from rfl,
    show (plsFields only2D α A b (fun _ _ _ => c)).gy = plsGradElem b 1 (fun _ _ _ => c) from rfl,
    show (plsFields only2D α A b (fun _ _ _ => c)).gz = plsGradElem b 0 (fun _ _ _ => c) from rfl, hf]
  split_ifs <;> simp

/-- PLS: border voxels use only neighbours inside the image — the forward difference towards a voxel outside the image is 0 -/
theorem C09_pls_border_difference_zero (b : Box) (img : Img ℝ) (z y x : Int) :
    (z + 1 > b.z1 → plsGradElem b 0 img z y x = 0) ∧ (y + 1 > b.y1 → plsGradElem b 1 img z y x = 0)
    ∧ (x + 1 > b.x1 → plsGradElem b 2 img z y x = 0) :=
  ⟨plsGradElem_last b 0 img z y x, plsGradElem_last b 1 img z y x, plsGradElem_last b 2 img z y x⟩

/-- the hypotheses of the PLS theorem are satisfiable: a corner voxel of a 2×3×4 image, `alpha = 1` -/
example : (1 : ℝ) ≠ 0 ∧ InBox ⟨0, 1, 0, 2, 0, 3⟩ 0 0 0 ∧ InBox ⟨0, 1, 0, 2, 0, 3⟩ 1 2 3 := by
  refine ⟨one_ne_zero, by decide, by decide⟩

end StirVerif.C09
