/-
C09 — "Priors: value, gradient and Hessian are mutually consistent and convex".

Executable model (core Lean only) of the triple loops of

* `QuadraticPrior<elemT>`           /repo/src/recon_buildblock/QuadraticPrior.cxx
* `RelativeDifferencePrior<elemT>`  /repo/src/recon_buildblock/RelativeDifferencePrior.cxx
* `LogcoshPrior<elemT>`             /repo/src/recon_buildblock/LogcoshPrior.cxx  (+ LogcoshPrior.h: logcosh, surrogate)
* `PLSPrior<elemT>`                 /repo/src/recon_buildblock/PLSPrior.cxx

The definitions are written once over an arbitrary scalar type `K` (only the operations that the C++
uses are required as type-class arguments).  The driver executes them at `Rat` (Quadratic: exact) and at
`Float` (RDP, log-cosh, PLS, default weights: `sqrt/log/cosh/tanh`); `Proofs*.lean` instantiates the same
text at an ordered field / at `ℝ`.

The model describes the code AFTER the repairs docs/fixes/C09-1..4 (line numbers refer to the repaired files):
PLS gradient with per-direction border handling and kappa inside the divergence; Hessian functions of the three neighbourhood
priors skip the centre offset; `set_up` empties default weights.  Asymmetric user weights are modelled as the code treats them (known finding).

What is *not* modelled: float rounding (`static_cast<elemT>`, float accumulators; handled by the derived
tolerance of `checks/c09.py`), the text parser (of `post_processing` only the treatment of the `weights` keyword is modelled:
`parsedWeights`, `NbPrior.parsed`), the `check()`/`set_up()` guards, file output of
the gradient, non-regular (ragged) arrays (`VoxelsOnCartesianGrid` is always regular; the weights are
assumed regular as `post_processing` requires), 32-bit overflow of indices.
-/
namespace StirVerif.C09

/-- index range of a regular 3-D array (`IndexRange3D(z0,z1,y0,y1,x0,x1)`), used both for images and for
    the weights (`weights.get_min_index()`, `weights[0].get_min_index()`, `weights[0][0].get_min_index()` …) -/
structure Box where
  z0 : Int
  z1 : Int
  y0 : Int
  y1 : Int
  x0 : Int
  x1 : Int
deriving Repr, DecidableEq, Inhabited

/-- an image / a weights array: a value for every index triple (only indices inside the box are ever read) -/
abbrev Img (K : Type) := Int → Int → Int → K

/-- the values `lo, lo+1, …, hi` of a C loop `for (int i = lo; i <= hi; ++i)` (none if `hi < lo`) -/
def irange (lo hi : Int) : List Int := (List.range (hi + 1 - lo).toNat).map fun (k : Nat) => lo + (k : Int)

section generic
variable {K : Type} [Add K] [Sub K] [Mul K] [Div K] [Neg K] [Zero K] [One K] [BEq K]

/-- `for (int i = lo; i <= hi; ++i) result += f(i);` -/
def sumRange (lo hi : Int) (f : Int → K) : K := ((irange lo hi).map f).sum

/-- the three image loops `for z … for y … for x` (QuadraticPrior.cxx:259-277 and all the copies) -/
def voxSum (b : Box) (f : Int → Int → Int → K) : K :=
  sumRange b.z0 b.z1 fun z => sumRange b.y0 b.y1 fun y => sumRange b.x0 b.x1 fun x => f z y x

/-- the three neighbourhood loops with border clipping (QuadraticPrior.cxx:263-264, 271-272, 279-280, 288-290):
    `min_dz = max(weights.get_min_index(), min_z - z)`, `max_dz = min(weights.get_max_index(), max_z - z)`, same for y, x. -/
def nbSum (b wb : Box) (z y x : Int) (f : Int → Int → Int → K) : K :=
  sumRange (max wb.z0 (b.z0 - z)) (min wb.z1 (b.z1 - z)) fun dz =>
  sumRange (max wb.y0 (b.y0 - y)) (min wb.y1 (b.y1 - y)) fun dy =>
  sumRange (max wb.x0 (b.x0 - x)) (min wb.x1 (b.x1 - x)) fun dx => f dz dy dx

/-- is `(dz,dy,dx)` one of the offsets visited by the clipped loops of voxel `(z,y,x)`? -/
def inNb (b wb : Box) (z y x dz dy dx : Int) : Bool :=
  decide (max wb.z0 (b.z0 - z) ≤ dz) && decide (dz ≤ min wb.z1 (b.z1 - z)) &&
  decide (max wb.y0 (b.y0 - y) ≤ dy) && decide (dy ≤ min wb.y1 (b.y1 - y)) &&
  decide (max wb.x0 (b.x0 - x) ≤ dx) && decide (dx ≤ min wb.x1 (b.x1 - x))

/-- `if (do_kappa) current *= (*kappa_ptr)[z][y][x] * (*kappa_ptr)[z+dz][y+dy][x+dx];` as a factor
    (`1` when there is no kappa image) -/
def kfac (κ : Option (Img K)) (z y x z' y' x' : Int) : K :=
  match κ with
  | none => 1
  | some k => k z y x * k z' y' x'

def sq (a : K) : K := a * a
def two : K := 1 + 1
def three : K := 1 + 1 + 1
def four : K := (1 + 1) * (1 + 1)

/-! ### the loops shared (textually) by QuadraticPrior, RelativeDifferencePrior and LogcoshPrior -/

/-- `compute_value` double loop: `result += term(weights[dz][dy][dx], image[z][y][x], image[z+dz][y+dy][x+dx]) * kappa…`
    (QuadraticPrior.cxx:258-303, RelativeDifferencePrior.cxx:329-376, LogcoshPrior.cxx compute_value) -/
def valueSum (term : K → K → K → K) (w : Img K) (κ : Option (Img K)) (b wb : Box) (img : Img K) : K :=
  voxSum b fun z y x => nbSum b wb z y x fun dz dy dx =>
    term (w dz dy dx) (img z y x) (img (z + dz) (y + dy) (x + dx)) * kfac κ z y x (z + dz) (y + dy) (x + dx)

/-- `compute_gradient`, before the early return for a zero penalisation factor: the gradient at voxel `(z,y,x)`
    (QuadraticPrior.cxx:360-373, RelativeDifferencePrior.cxx:427-441):
    `gradient += weights[dz][dy][dx] * d10(image[z][y][x], image[z+dz][y+dy][x+dx]) * kappa…;  … = gradient * penalisation_factor` -/
def gradCore (d10 : K → K → K) (pf : K) (w : Img K) (κ : Option (Img K)) (b wb : Box) (img : Img K) (z y x : Int) : K :=
  (nbSum b wb z y x fun dz dy dx =>
    w dz dy dx * d10 (img z y x) (img (z + dz) (y + dy) (x + dx)) * kfac κ z y x (z + dz) (y + dy) (x + dx)) * pf

/-- `compute_gradient`: `if (penalisation_factor == 0) { prior_gradient.fill(0); return; }` -/
def grad (d10 : K → K → K) (pf : K) (w : Img K) (κ : Option (Img K)) (b wb : Box) (img : Img K) (z y x : Int) : K :=
  if pf == 0 then 0 else gradCore d10 pf w κ b wb img z y x

/-- `compute_Hessian` (QuadraticPrior.cxx:391-464, RelativeDifferencePrior.cxx:459-532, LogcoshPrior.cxx:410-483): the entry at voxel
    `(z,y,x)` of the Hessian row of voxel `(cz,cy,cx)`.  The C++ first fills the output with 0 and then assigns, for
    every offset `d` of the clipped neighbourhood of `c`, the voxel `c+d`: the diagonal (`d = 0`) gets the sum over
    the neighbourhood **without the centre offset** (`if (ddz == 0 && ddy == 0 && ddx == 0) continue;`) of
    `w(dd) * d20(image[c], image[c+dd]) * kappa…`, the others `w(d) * d11(image[c], image[c+d]) * kappa…`,
    each `* penalisation_factor`. -/
def hessRowCore (d20 d11 : K → K → K) (pf : K) (w : Img K) (κ : Option (Img K)) (b wb : Box) (img : Img K)
    (cz cy cx : Int) (z y x : Int) : K :=
  let dz := z - cz; let dy := y - cy; let dx := x - cx
  if inNb b wb cz cy cx dz dy dx then
    (if dz == 0 && dy == 0 && dx == 0 then
      nbSum b wb cz cy cx fun ddz ddy ddx =>
        if ddz == 0 && ddy == 0 && ddx == 0 then 0
        else
          w ddz ddy ddx * d20 (img cz cy cx) (img (cz + ddz) (cy + ddy) (cx + ddx)) * kfac κ cz cy cx (cz + ddz) (cy + ddy) (cx + ddx)
     else
      w dz dy dx * d11 (img cz cy cx) (img (cz + dz) (cy + dy) (cx + dx)) * kfac κ cz cy cx (cz + dz) (cy + dy) (cx + dx)) * pf
  else 0

/-- `compute_Hessian`: `fill(0); if (penalisation_factor == 0) return;` -/
def hessRow (d20 d11 : K → K → K) (pf : K) (w : Img K) (κ : Option (Img K)) (b wb : Box) (img : Img K)
    (cz cy cx : Int) (z y x : Int) : K :=
  if pf == 0 then 0 else hessRowCore d20 d11 pf w κ b wb img cz cy cx z y x

/-- `accumulate_Hessian_times_input` (QuadraticPrior.cxx:609-697, RelativeDifferencePrior.cxx:542-629, LogcoshPrior.cxx:552-631), the amount
    added to `output[z][y][x]`:
    `current = w; if (current == 0) continue; if (d == 0) continue; else current *= d20(..)*input[r] + d11(..)*input[r+d];
     current *= kappa…; result += current;  output[z][y][x] += result * penalisation_factor`
    (a voxel is not its own neighbour: the centre weight contributes nothing, as in value and gradient) -/
def hessTimesCore (d20 d11 : K → K → K) (pf : K) (w : Img K) (κ : Option (Img K)) (b wb : Box) (cur inp : Img K) (z y x : Int) : K :=
  (nbSum b wb z y x fun dz dy dx =>
    let current := w dz dy dx
    if current == 0 then 0
    else if dz == 0 && dy == 0 && dx == 0 then 0
    else
      current * (d20 (cur z y x) (cur (z + dz) (y + dy) (x + dx)) * inp z y x
                   + d11 (cur z y x) (cur (z + dz) (y + dy) (x + dx)) * inp (z + dz) (y + dy) (x + dx))
      * kfac κ z y x (z + dz) (y + dy) (x + dx)) * pf

/-- `accumulate_Hessian_times_input`: `if (penalisation_factor == 0) return;` … `output[z][y][x] += …` -/
def hessTimes (d20 d11 : K → K → K) (pf : K) (w : Img K) (κ : Option (Img K)) (b wb : Box) (cur inp out : Img K) (z y x : Int) : K :=
  if pf == 0 then out z y x else out z y x + hessTimesCore d20 d11 pf w κ b wb cur inp z y x

/-! ### QuadraticPrior -/

/-- `QuadraticPrior::derivative_20` (QuadraticPrior.cxx:701): `return 1.0;` -/
def qD20 (_xj _xk : K) : K := 1
/-- `QuadraticPrior::derivative_11` (QuadraticPrior.cxx:708): `return -1.0;` -/
def qD11 (_xj _xk : K) : K := -1
/-- the factor of the weight in `QuadraticPrior::compute_gradient` (QuadraticPrior.cxx:365-366) -/
def qD10 (a b : K) : K := a - b
/-- `weights[dz][dy][dx] * square(image[z][y][x] - image[z+dz][y+dy][x+dx]) / 4` (QuadraticPrior.cxx:292-294) -/
def qTerm (w a b : K) : K := w * sq (a - b) / four

/-- `QuadraticPrior::compute_value` (QuadraticPrior.cxx:239-305), without the early return -/
def qValueCore (pf : K) (w : Img K) (κ : Option (Img K)) (b wb : Box) (img : Img K) : K :=
  valueSum qTerm w κ b wb img * pf
/-- `QuadraticPrior::compute_value`: `if (penalisation_factor == 0) return 0.;` -/
def qValue (pf : K) (w : Img K) (κ : Option (Img K)) (b wb : Box) (img : Img K) : K :=
  if pf == 0 then 0 else qValueCore pf w κ b wb img
/-- `QuadraticPrior::compute_gradient` (QuadraticPrior.cxx:307-389) -/
def qGrad : K → Img K → Option (Img K) → Box → Box → Img K → Int → Int → Int → K := grad qD10
/-- `QuadraticPrior::compute_Hessian` (QuadraticPrior.cxx:391-464) -/
def qHessRow : K → Img K → Option (Img K) → Box → Box → Img K → Int → Int → Int → Int → Int → Int → K := hessRow qD20 qD11
/-- `QuadraticPrior::accumulate_Hessian_times_input` (QuadraticPrior.cxx:609-697) -/
def qHessTimes : K → Img K → Option (Img K) → Box → Box → Img K → Img K → Img K → Int → Int → Int → K := hessTimes qD20 qD11

/-- `QuadraticPrior::parabolic_surrogate_curvature` (QuadraticPrior.cxx:466-541): `current = weights * 1 * kappa…` -/
def qSurrogate (pf : K) (w : Img K) (κ : Option (Img K)) (b wb : Box) (z y x : Int) : K :=
  if pf == 0 then 0
  else (nbSum b wb z y x fun dz dy dx => w dz dy dx * 1 * kfac κ z y x (z + dz) (y + dy) (x + dx)) * pf

/-- `QuadraticPrior::add_multiplication_with_approximate_Hessian` (QuadraticPrior.cxx:543-607):
    `current = weights * input[z+dz][y+dy][x+dx] * kappa…; output[z][y][x] += result * penalisation_factor` -/
def qApproxHessTimes (pf : K) (w : Img K) (κ : Option (Img K)) (b wb : Box) (inp out : Img K) (z y x : Int) : K :=
  if pf == 0 then out z y x
  else out z y x + (nbSum b wb z y x fun dz dy dx =>
        w dz dy dx * inp (z + dz) (y + dy) (x + dx) * kfac κ z y x (z + dz) (y + dy) (x + dx)) * pf

end generic

/-! ### scalar functions of RelativeDifferencePrior and LogcoshPrior -/

/-- the transcendental functions used by the priors (`Float` in the driver, `ℝ` in the proofs) -/
class Transc (K : Type) where
  sqrt : K → K
  log : K → K
  cosh : K → K
  tanh : K → K

instance : Transc Float := ⟨Float.sqrt, Float.log, Float.cosh, Float.tanh⟩

section scalar
variable {K : Type} [Add K] [Sub K] [Mul K] [Div K] [Neg K] [Zero K] [One K] [BEq K] [LT K] [DecidableLT K]

/-- `std::abs` -/
def absK (a : K) : K := if a < 0 then -a else a

/-- the denominator `x + y + gamma * |x - y| + epsilon` of the relative difference potential -/
def rdpDen (γ ε x y : K) : K := x + y + γ * absK (x - y) + ε

/-- `RelativeDifferencePrior::value` (RelativeDifferencePrior.cxx:287-290):
    `0.5 * (square(x - y) / (x + y + gamma * abs(x - y) + epsilon))` -/
def rdpPsi (γ ε x y : K) : K := 1 / two * (sq (x - y) / rdpDen γ ε x y)

/-- `RelativeDifferencePrior::derivative_10` (RelativeDifferencePrior.cxx:292-306) -/
def rdpD10 (γ ε x y : K) : K :=
  if ε == 0 && x == 0 && y == 0 then 0
  else
    let num := (x - y) * (γ * absK (x - y) + x + three * y + two * ε)
    let denom_sqrt := x + y + γ * absK (x - y) + ε
    num / (denom_sqrt * denom_sqrt)

/-- `RelativeDifferencePrior::derivative_20` (RelativeDifferencePrior.cxx:631-639);
    the `else return INFINITY` branch (`x_j <= 0 && x_k <= 0 && epsilon <= 0`) is modelled as division by zero -/
def rdpD20 (γ ε xj xk : K) : K :=
  if 0 < xj || 0 < xk || 0 < ε then
    two * sq (two * xk + ε) / (rdpDen γ ε xj xk * rdpDen γ ε xj xk * rdpDen γ ε xj xk)
  else 1 / 0

/-- `RelativeDifferencePrior::derivative_11` (RelativeDifferencePrior.cxx:641-650) -/
def rdpD11 (γ ε xj xk : K) : K :=
  if 0 < xj || 0 < xk || 0 < ε then
    -two * (two * xj + ε) * (two * xk + ε) / (rdpDen γ ε xj xk * rdpDen γ ε xj xk * rdpDen γ ε xj xk)
  else 1 / 0

/-- the per-pair term of `RelativeDifferencePrior::compute_value` (RelativeDifferencePrior.cxx:357-368) -/
def rdpTerm (γ ε w a b : K) : K :=
  if ε == 0 && a == 0 && b == 0 then 0 else w * rdpPsi γ ε a b

/-- `RelativeDifferencePrior::compute_value` (RelativeDifferencePrior.cxx:308-378) -/
def rValue (γ ε pf : K) (w : Img K) (κ : Option (Img K)) (b wb : Box) (img : Img K) : K :=
  if pf == 0 then 0 else valueSum (rdpTerm γ ε) w κ b wb img * pf
/-- `RelativeDifferencePrior::compute_gradient` (RelativeDifferencePrior.cxx:380-457) -/
def rGrad (γ ε : K) : K → Img K → Option (Img K) → Box → Box → Img K → Int → Int → Int → K := grad (rdpD10 γ ε)
/-- `RelativeDifferencePrior::compute_Hessian` (RelativeDifferencePrior.cxx:459-532) -/
def rHessRow (γ ε : K) : K → Img K → Option (Img K) → Box → Box → Img K → Int → Int → Int → Int → Int → Int → K := hessRow (rdpD20 γ ε) (rdpD11 γ ε)
/-- `RelativeDifferencePrior::accumulate_Hessian_times_input` (RelativeDifferencePrior.cxx:542-629) -/
def rHessTimes (γ ε : K) : K → Img K → Option (Img K) → Box → Box → Img K → Img K → Img K → Int → Int → Int → K := hessTimes (rdpD20 γ ε) (rdpD11 γ ε)

variable [Transc K]

/-- the constant `30` of `LogcoshPrior::logcosh` -/
def thirty : K := (two * two * two * two - 1) * two
/-- `log(0.5f)` -/
def logHalf : K := Transc.log (1 / two)

/-- `LogcoshPrior::logcosh` (LogcoshPrior.h:183-194): `x = fabs(d); x < 30 ? log(cosh(x)) : x + log(0.5)` -/
def logcosh (d : K) : K :=
  let x := absK d
  if x < thirty then Transc.log (Transc.cosh x) else x + logHalf

/-- per-pair term of `LogcoshPrior::compute_value`:
    `weights[dz][dy][dx] * 1 / (scalar * scalar) * logcosh(scalar * voxel_diff)` -/
def lcTerm (s w a b : K) : K := w * 1 / (s * s) * logcosh (s * (a - b))

/-- factor of the weight in `LogcoshPrior::compute_gradient`: `(1 / scalar) * tanh(scalar * voxel_diff)` -/
def lcD10 (s a b : K) : K := (1 / s) * Transc.tanh (s * (a - b))

/-- `LogcoshPrior::derivative_20`: `square((1 / cosh((x_j - x_k) * scalar)))` -/
def lcD20 (s xj xk : K) : K := sq (1 / Transc.cosh ((xj - xk) * s))
/-- `LogcoshPrior::derivative_11`: `-derivative_20(x_j, x_k)` -/
def lcD11 (s xj xk : K) : K := -lcD20 s xj xk

/-- `LogcoshPrior::compute_value`: `return result * penalisation_factor / 2.0;` -/
def lValue (s pf : K) (w : Img K) (κ : Option (Img K)) (b wb : Box) (img : Img K) : K :=
  if pf == 0 then 0 else valueSum (lcTerm s) w κ b wb img * pf / two
/-- `LogcoshPrior::compute_gradient` -/
def lGrad (s : K) : K → Img K → Option (Img K) → Box → Box → Img K → Int → Int → Int → K := grad (lcD10 s)
/-- `LogcoshPrior::compute_Hessian` -/
def lHessRow (s : K) : K → Img K → Option (Img K) → Box → Box → Img K → Int → Int → Int → Int → Int → Int → K := hessRow (lcD20 s) (lcD11 s)
/-- `LogcoshPrior::accumulate_Hessian_times_input` -/
def lHessTimes (s : K) : K → Img K → Option (Img K) → Box → Box → Img K → Img K → Img K → Int → Int → Int → K := hessTimes (lcD20 s) (lcD11 s)

/-- `LogcoshPrior::surrogate` (LogcoshPrior.h:203-219): `x = d*scalar; |x| < 0.01 ? 1 - x^2/3 : tanh(x)/x` -/
def lcSurrogateFn (s d : K) : K :=
  let eps : K := 1 / ((two * two * two + two) * (two * two * two + two))
  let x := d * s
  if absK x < eps then 1 - sq x / three else Transc.tanh x / x

/-- `LogcoshPrior::parabolic_surrogate_curvature`: `current = weights * surrogate(voxel_diff, scalar) * kappa…` -/
def lSurrogate (s pf : K) (w : Img K) (κ : Option (Img K)) (b wb : Box) (img : Img K) (z y x : Int) : K :=
  if pf == 0 then 0
  else (nbSum b wb z y x fun dz dy dx =>
      w dz dy dx * lcSurrogateFn s (img z y x - img (z + dz) (y + dy) (x + dx)) * kfac κ z y x (z + dz) (y + dy) (x + dx)) * pf

/-! ### default weights -/

/-- the constructors: `QuadraticPrior(only_2D, pf)` keeps its argument; `RelativeDifferencePrior(only_2D, pf, gamma, epsilon)`,
    `LogcoshPrior(only_2D, pf, scalar)` and `PLSPrior(only_2D, pf)` initialise `only_2D(only_2D_v)` and then call
    `set_defaults()`, which resets `only_2D = false` (RelativeDifferencePrior.cxx:203-213, LogcoshPrior.cxx:149-158,
    PLSPrior.cxx:160-166).  `kind`: 0 = Quadratic, 1 = RDP, 2 = Logcosh, 3 = PLS. -/
def ctorOnly2D (kind : Nat) (only2DArg : Bool) : Bool := if kind == 0 then only2DArg else false

/-- index range of the default weights (`compute_weights`, QuadraticPrior.cxx:211-221) -/
def defaultWeightsBox (only2D : Bool) : Box :=
  if only2D then ⟨0, 0, -1, 1, -1, 1⟩ else ⟨-1, 1, -1, 1, -1, 1⟩

/-- `compute_weights` (QuadraticPrior.cxx:208-235, copies in RelativeDifferencePrior.cxx:256, LogcoshPrior.cxx):
    `weights[z][y][x] = grid_spacing.x() / sqrt(square(x*grid_spacing.x()) + square(y*grid_spacing.y()) + square(z*grid_spacing.z()))`,
    0 at the centre.  `ofInt` is the int→float conversion. -/
def defaultWeights (ofInt : Int → K) (sz sy sx : K) : Img K := fun z y x =>
  if z == 0 && y == 0 && x == 0 then 0
  else sx / Transc.sqrt (sq (ofInt x * sx) + sq (ofInt y * sy) + sq (ofInt z * sz))

/-! ### the prior OBJECT: members that outlive a call (QuadraticPrior / RelativeDifferencePrior / LogcoshPrior)

`weights` is a `mutable` member that is filled in lazily by whichever API function is called first
(`if (weights.get_length() == 0) compute_weights(weights, <image>.get_grid_spacing(), only_2D);`), AFTER the early return for a zero
penalisation factor.  The block occurs in
QuadraticPrior.cxx:251 (`compute_value`), :324 (`compute_gradient`), :412 (`compute_Hessian`), :484 (`parabolic_surrogate_curvature`),
:561 (`add_multiplication_with_approximate_Hessian`), :628 (`accumulate_Hessian_times_input`),
RelativeDifferencePrior.cxx:322/397/480/559, LogcoshPrior.cxx:278/348/431/501/569.  The grid spacing is that of
`current_image_estimate` (value, gradient, Hessian row, surrogate) resp. of `output` (approximate Hessian, Hessian times input).
`set_up` empties `weights` again unless they were supplied by the user (repair C09-4), so that default weights always belong to the
grid spacing of the current target. -/

/-- the members of a neighbourhood prior that the API functions read or write -/
structure NbPrior (K : Type) where
  /-- 0 = Quadratic, 1 = RDP, 2 = Logcosh -/
  kind : Nat
  only2D : Bool
  pf : K
  gamma : K
  eps : K
  scalar : K
  /-- index range of `weights`; `weights.get_length() == 0` iff `wb.z1 < wb.z0` -/
  wb : Box
  w : Img K
  kappa : Option (Img K)
  /-- `weights_set_by_user`: the weights were given with `set_weights` (non-empty array) or the `weights :=` keyword -/
  wUser : Bool := false

/-- the index range of an empty `Array<3,float>` as the harness prints it -/
def emptyBox : Box := ⟨0, -1, 0, -1, 0, -1⟩

/-- `weights.get_length() == 0` -/
def weightsEmpty (wb : Box) : Bool := decide (wb.z1 < wb.z0)

/-- the constructors `QuadraticPrior(only_2D, pf)`, `RelativeDifferencePrior(only_2D, pf, gamma, epsilon)`,
    `LogcoshPrior(only_2D, pf, scalar)`: no weights, no kappa; `only_2D` as `ctorOnly2D` says -/
def NbPrior.ctor (kind : Nat) (only2DArg : Bool) (pf γ ε s : K) : NbPrior K :=
  { kind := kind, only2D := ctorOnly2D kind only2DArg, pf := pf, gamma := γ, eps := ε, scalar := s,
    wb := emptyBox, w := fun _ _ _ => 0, kappa := none }

/-- `if (weights.get_length() == 0) compute_weights(weights, grid_spacing, only_2D);` — `dflt sz sy sx` are the values
    `compute_weights` stores (`defaultWeights`; a parameter because the driver evaluates them in binary64 also for the exact-`Rat` model) -/
def NbPrior.lazyWeights (dflt : K → K → K → Img K) (o : NbPrior K) (sz sy sx : K) : NbPrior K :=
  if weightsEmpty o.wb then { o with wb := defaultWeightsBox o.only2D, w := dflt sz sy sx } else o

/-- the state of the object after a call of any of the API functions with an image of grid spacing `(sz, sy, sx)`:
    `if (penalisation_factor == 0) { …; return; }` comes first, so nothing is computed for a zero penalisation factor -/
def NbPrior.afterCall (dflt : K → K → K → Img K) (o : NbPrior K) (sz sy sx : K) : NbPrior K :=
  if o.pf == 0 then o else o.lazyWeights dflt sz sy sx

/-- every API function: the lazy block, then the loops (`qValue`, `grad`, `hessRow`, `hessTimes`, … above) on the members as they are
    then; returns the object as it is left behind and the result -/
def NbPrior.call {α : Type} (dflt : K → K → K → Img K) (o : NbPrior K) (sz sy sx : K) (loops : NbPrior K → α) : NbPrior K × α :=
  let o' := o.afterCall dflt sz sy sx
  (o', loops o')

/-- `set_weights(w)`: `this->weights = w` (an empty array makes the next call compute the default weights again) -/
def NbPrior.setWeights (o : NbPrior K) (wb : Box) (w : Img K) : NbPrior K := { o with wb := wb, w := w, wUser := !weightsEmpty wb }
/-- `set_kappa_sptr` -/
def NbPrior.setKappa (o : NbPrior K) (κ : Option (Img K)) : NbPrior K := { o with kappa := κ }
/-- `set_penalisation_factor` (GeneralisedPrior.inl:41) -/
def NbPrior.setPf (o : NbPrior K) (pf : K) : NbPrior K := { o with pf := pf }
/-- `RelativeDifferencePrior::set_gamma` / `set_epsilon`, `LogcoshPrior::set_scalar` -/
def NbPrior.setGamma (o : NbPrior K) (v : K) : NbPrior K := { o with gamma := v }
def NbPrior.setEps (o : NbPrior K) (v : K) : NbPrior K := { o with eps := v }
def NbPrior.setScalar (o : NbPrior K) (v : K) : NbPrior K := { o with scalar := v }
/-- `set_up(target)` (after repair C09-4): `if (!weights_set_by_user) weights.recycle();` — default weights are computed again, from
    the grid spacing of the new target, at the next use; user weights stay -/
def NbPrior.setUp (o : NbPrior K) : NbPrior K := if o.wUser then o else { o with wb := emptyBox }

/-! ### weights given with the `weights :=` keyword (`post_processing`) -/

/-- `post_processing` (QuadraticPrior.cxx:78-82, 86-90, 93-97): an array dimension with `size` elements (parsed with indices
    `0 .. size-1`) gets `min_index = -static_cast<int>(size / 2)`; the elements keep their order, so the last index is
    `min_index + size - 1`: `-h .. h` for `size = 2h+1`, `-h .. h-1` for `size = 2h` ("even number of weights … I'll (effectively) make
    this odd by appending a 0 at the end") -/
def parsedRange (size : Nat) : Int × Int := (-((size / 2 : Nat) : Int), -((size / 2 : Nat) : Int) + (size : Int) - 1)

/-- `this->weights.is_regular()`: all rows have the same length, all planes the same number of rows -/
def isRegular {α : Type} (a : List (List (List α))) : Bool :=
  match a with
  | [] => true
  | p :: _ =>
    a.all (fun q => q.length == p.length) &&
    (match p with
     | [] => true
     | r :: _ => a.all fun q => q.all fun r' => r'.length == r.length)

/-- the weights after parsing `weights := {{{…},…},…}` (`a[z][y][x]`, indices from 0) and `post_processing`: `none` = parse error
    ("only supports regular arrays"); an empty array stays empty (default weights will be computed) -/
def parsedWeights (a : List (List (List K))) : Option (Box × Img K) :=
  if a.isEmpty then some (emptyBox, fun _ _ _ => 0)
  else if !isRegular a then none
  else
    let nz := a.length
    let ny := (a.headD []).length
    let nx := ((a.headD []).headD []).length
    let rz := parsedRange nz; let ry := parsedRange ny; let rx := parsedRange nx
    some (⟨rz.1, rz.2, ry.1, ry.2, rx.1, rx.2⟩,
          fun z y x => (((a.getD (z - rz.1).toNat []).getD (y - ry.1).toNat []).getD (x - rx.1).toNat 0))

/-- `parse()` of a default-constructed object with the keys `penalisation factor`, `only 2D`, `gamma value`, `epsilon value`, `scalar`,
    `weights` (QuadraticPrior.cxx:40-106 and copies): here `only 2D` is honoured by all three classes; kappa is read from
    `kappa filename` by `post_processing` (modelled as data) -/
def NbPrior.parsed (kind : Nat) (only2D : Bool) (pf γ ε s : K) (a : List (List (List K))) (κ : Option (Img K)) : Option (NbPrior K) :=
  match parsedWeights a with
  | none => none
  | some (wb, w) => some { kind := kind, only2D := only2D, pf := pf, gamma := γ, eps := ε, scalar := s, wb := wb, w := w, kappa := κ,
                           wUser := !weightsEmpty wb }

/-! ### PLSPrior -/

/-- `PLSPrior::compute_image_gradient_element` (PLSPrior.cxx:309-357): forward differences, 0 where `i+1 > max_i` -/
def plsGradElem (b : Box) (dir : Nat) (img : Img K) : Img K := fun z y x =>
  match dir with
  | 0 => if z + 1 > b.z1 then 0 else img (z + 1) y x - img z y x
  | 1 => if y + 1 > b.y1 then 0 else img z (y + 1) x - img z y x
  | _ => if x + 1 > b.x1 then 0 else img z y (x + 1) - img z y x

/-- `PLSPrior::compute_normalisation_anatomical_gradient` (PLSPrior.cxx:359-396) -/
def plsNorm (only2D : Bool) (η : K) (az ay ax : Img K) : Img K := fun z y x =>
  if only2D then Transc.sqrt (sq (ay z y x) + sq (ax z y x) + sq η)
  else Transc.sqrt (sq (az z y x) + sq (ay z y x) + sq (ax z y x) + sq η)

/-- the anatomical data prepared by `PLSPrior::set_up` (PLSPrior.cxx:55-96) -/
structure PlsAnat (K : Type) where
  az : Img K
  ay : Img K
  ax : Img K
  norm : Img K

def plsSetUp (only2D : Bool) (η : K) (b : Box) (anat : Img K) : PlsAnat K :=
  let az := plsGradElem b 0 anat
  let ay := plsGradElem b 1 anat
  let ax := plsGradElem b 2 anat
  { az := az, ay := ay, ax := ax, norm := plsNorm only2D η az ay ax }

/-- `inner_product` of `PLSPrior::compute_inner_product_and_penalty` (PLSPrior.cxx:398-453) -/
def plsInner (only2D : Bool) (A : PlsAnat K) (gz gy gx : Img K) : Img K := fun z y x =>
  if only2D then
    (gy z y x * A.ay z y x / A.norm z y x) + (gx z y x * A.ax z y x / A.norm z y x)
  else
    (gz z y x * A.az z y x + gy z y x * A.ay z y x + gx z y x * A.ax z y x) / A.norm z y x

/-- `penalty` of `PLSPrior::compute_inner_product_and_penalty` -/
def plsPenalty (only2D : Bool) (α : K) (ip gz gy gx : Img K) : Img K := fun z y x =>
  if only2D then Transc.sqrt (sq α + sq (gy z y x) + sq (gx z y x) - sq (ip z y x))
  else Transc.sqrt (sq α + sq (gz z y x) + sq (gy z y x) + sq (gx z y x) - sq (ip z y x))

/-- the images computed by `compute_inner_product_and_penalty` (the C++ stores them in image-sized arrays) -/
structure PlsFields (K : Type) where
  gz : Img K
  gy : Img K
  gx : Img K
  ip : Img K
  pen : Img K

/-- `PLSPrior::compute_inner_product_and_penalty` (PLSPrior.cxx:398-453) -/
def plsFields (only2D : Bool) (α : K) (A : PlsAnat K) (b : Box) (img : Img K) : PlsFields K :=
  let gz := plsGradElem b 0 img
  let gy := plsGradElem b 1 img
  let gx := plsGradElem b 2 img
  let ip := plsInner only2D A gz gy gx
  { gz := gz, gy := gy, gx := gx, ip := ip, pen := plsPenalty only2D α ip gz gy gx }

/-- the summation loop of `PLSPrior::compute_value` (PLSPrior.cxx:481-514): `current = penalty[z][y][x]; if (do_kappa) current *= kappa[z][y][x]` -/
def plsValueOf (pf : K) (F : PlsFields K) (κ : Option (Img K)) (b : Box) : K :=
  (voxSum b fun z y x => match κ with | none => F.pen z y x | some k => F.pen z y x * k z y x) * pf

/-- `PLSPrior::compute_value` (PLSPrior.cxx:455-515) -/
def plsValue (only2D : Bool) (α pf : K) (A : PlsAnat K) (κ : Option (Img K)) (b : Box) (img : Img K) : K :=
  if pf == 0 then 0 else plsValueOf pf (plsFields only2D α A b img) κ b

/-- the lambda `flux` of `PLSPrior::compute_gradient` (PLSPrior.cxx:567-578):
    `current = (pet_im_grad[r] - anatomical_grad[r] * inner_product[r] / norm[r]) / penalty[r]; if (do_kappa) current *= kappa[r];`
    It vanishes at the last voxel along its direction (both forward differences are 0 there). -/
def plsFlux (κ : Option (Img K)) (g a ip nrm pen : Img K) (z y x : Int) : K :=
  let current := (g z y x - a z y x * ip z y x / nrm z y x) / pen z y x
  match κ with | none => current | some k => current * k z y x

/-- the two loops of `PLSPrior::compute_gradient` (PLSPrior.cxx:580-641): for every voxel and every direction
    `gradient_d[r] = flux_d(r); if (r_d > min_d) gradient_d[r] -= flux_d(r - e_d);` (minus the backward difference of the flux: the
    adjoint of the forward difference used in `compute_value`), then `-(gradientz + gradienty + gradientx) * penalisation_factor`
    (`-(gradienty + gradientx)` for `only_2D`). -/
def plsGradOf (only2D : Bool) (pf : K) (A : PlsAnat K) (F : PlsFields K) (κ : Option (Img K)) (b : Box) (z y x : Int) : K :=
  let fx := plsFlux κ F.gx A.ax F.ip A.norm F.pen
  let fy := plsFlux κ F.gy A.ay F.ip A.norm F.pen
  let fz := plsFlux κ F.gz A.az F.ip A.norm F.pen
  let gradx : K := if x > b.x0 then fx z y x - fx z y (x - 1) else fx z y x
  let grady : K := if y > b.y0 then fy z y x - fy z (y - 1) x else fy z y x
  let gradz : K := if z > b.z0 then fz z y x - fz (z - 1) y x else fz z y x
  let g : K := if only2D then -(grady + gradx) else -(gradz + grady + gradx)
  g * pf

/-- `PLSPrior::compute_gradient` (PLSPrior.cxx:517-654) -/
def plsGrad (only2D : Bool) (α pf : K) (A : PlsAnat K) (κ : Option (Img K)) (b : Box) (img : Img K) (z y x : Int) : K :=
  if pf == 0 then 0 else plsGradOf only2D pf A (plsFields only2D α A b img) κ b z y x

end scalar

end StirVerif.C09
