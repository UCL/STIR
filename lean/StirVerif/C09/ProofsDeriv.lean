/-
C09 — proofs: derivatives at image level, along lines `λ + t e`: "the gradient is the derivative of the value" and
"the Hessian-times-vector is the directional derivative of the gradient" for any potential whose scalar derivatives are known.
-/
import StirVerif.C09.ProofsCalc
import StirVerif.C09.ProofsHess
import Mathlib.Analysis.Calculus.Deriv.Add

namespace StirVerif.C09
open Real Finset

theorem nbSum_hasDerivAt (b wb : Box) (z y x : Int) (f : ℝ → Int → Int → Int → ℝ) (f' : Int → Int → Int → ℝ) (t0 : ℝ)
    (h : ∀ dz dy dx, InBox wb dz dy dx → InBox b (z + dz) (y + dy) (x + dx) → HasDerivAt (fun t => f t dz dy dx) (f' dz dy dx) t0) :
    HasDerivAt (fun t => nbSum b wb z y x (f t)) (nbSum b wb z y x f') t0 := by
  simp only [nbSum_eq_sum_nbF]
  exact HasDerivAt.fun_sum fun d hd => h _ _ _ (mem_nbF.mp hd).1 (mem_nbF.mp hd).2

/-- **the gradient is the derivative of the value** (along any line `λ + t e`), for a value of the form
    `pf · Σ_r Σ_d w(d) ψ(λ_r, λ_{r+d}) κ_r κ_{r+d}` and a gradient `pf · Σ_d w(d) d10(λ_r, λ_{r+d}) κ_r κ_{r+d}`, provided the
    weights are symmetric and `d10` is twice the derivative of the (symmetric) potential along the line at every pair of neighbours -/
theorem value_hasDerivAt (ψ d10 : ℝ → ℝ → ℝ) (pf : ℝ) (w : Img ℝ) (κ : Option (Img ℝ)) (b wb : Box) (lam e : Img ℝ) (t0 : ℝ)
    (hw : SymWeights wb w)
    (hψ : ∀ r s, r ∈ boxF b → s ∈ boxF b → subV s r ∈ boxF wb →
      HasDerivAt (fun t => ψ (lam.at r + t * e.at r) (lam.at s + t * e.at s))
        ((d10 (lam.at r + t0 * e.at r) (lam.at s + t0 * e.at s) * e.at r
          + d10 (lam.at s + t0 * e.at s) (lam.at r + t0 * e.at r) * e.at s) / 2) t0) :
    HasDerivAt (fun t => valueSum (fun w a b => w * ψ a b) w κ b wb (fun z y x => lam z y x + t * e z y x) * pf)
      (inner b (gradCore d10 pf w κ b wb (fun z y x => lam z y x + t0 * e z y x)) e) t0 := by
  simp only [valueSum_eq_sum_nbPairs]
  -- the gradient pairs each `d10 (λ_r, λ_s)` with `e_r` only; for symmetric weights that is the symmetric part, the derivative of `ψ`
  rw [inner_grad, sum_nbPairs_symmetrise hw fun r s => d10 (lam.at r + t0 * e.at r) (lam.at s + t0 * e.at s) * e.at r]
  -- (two steps: as one term the unifier has to guess the summand under the product with `pf`, which is slow)
  refine HasDerivAt.mul_const ?_ pf
  refine HasDerivAt.fun_sum fun p hp => ?_
  obtain ⟨hr, hs, hd⟩ := mem_nbPairs.mp hp
  exact (((hψ _ _ hr hs hd).const_mul _).mul_const _).congr_deriv (mul_right_comm _ _ _)

/-- **the Hessian-times-vector is the directional derivative of the gradient** (any weights; the potential's `d10` vanishes
    on the diagonal, so the centre weight plays no role) -/
theorem grad_hasDerivAt (d10 d20 d11 : ℝ → ℝ → ℝ) (pf : ℝ) (w : Img ℝ) (κ : Option (Img ℝ)) (b wb : Box) (lam v : Img ℝ) (t0 : ℝ)
    (h10 : ∀ a : ℝ, d10 a a = 0) (z y x : Int) (hr : InBox b z y x)
    (hd : ∀ r s, r ∈ boxF b → s ∈ boxF b → subV s r ∈ boxF wb → r ≠ s →
      HasDerivAt (fun t => d10 (lam.at r + t * v.at r) (lam.at s + t * v.at s))
        (d20 (lam.at r + t0 * v.at r) (lam.at s + t0 * v.at s) * v.at r
          + d11 (lam.at r + t0 * v.at r) (lam.at s + t0 * v.at s) * v.at s) t0) :
    HasDerivAt (fun t => gradCore d10 pf w κ b wb (fun z y x => lam z y x + t * v z y x) z y x)
      (hessTimesCore d20 d11 pf w κ b wb (fun z y x => lam z y x + t0 * v z y x) v z y x) t0 := by
  rw [hessTimesCore_eq_nbSum]
  unfold gradCore
  refine HasDerivAt.mul_const ?_ pf
  refine nbSum_hasDerivAt b wb z y x _ _ t0 fun dz dy dx hdw hin => ?_
  by_cases h0 : dz = 0 ∧ dy = 0 ∧ dx = 0
  · obtain ⟨rfl, rfl, rfl⟩ := h0
    simp only [add_zero, h10, mul_zero, zero_mul, and_self, if_true]
    exact hasDerivAt_const _ _
  · rw [if_neg h0]
    have hne : ((z, y, x) : V) ≠ (z + dz, y + dy, x + dx) := by
      intro h
      simp only [Prod.mk.injEq] at h
      apply h0
      omega
    have := hd (z, y, x) (z + dz, y + dy, x + dx) (mem_boxF.mpr hr) (mem_boxF.mpr hin)
      (by
        rw [mem_boxF]
        simpa only [subV, add_sub_cancel_left] using hdw) hne
    exact (this.const_mul _).mul_const _

theorem rValue_eq_valueSum (γ ε pf : ℝ) (w : Img ℝ) (κ : Option (Img ℝ)) (b wb : Box) (img : Img ℝ) :
    rValue γ ε pf w κ b wb img = valueSum (fun w a c => w * rdpPsi γ ε a c) w κ b wb img * pf := by
  unfold rValue
  rw [rdpTerm_eq]
  exact ite_beq_zero fun h => by rw [h, mul_zero]

/-- the effective potential of the log-cosh prior is half the term of `compute_value` (`… * penalisation_factor / 2`) -/
theorem lValue_eq_valueSum (s pf : ℝ) (w : Img ℝ) (κ : Option (Img ℝ)) (b wb : Box) (img : Img ℝ) :
    lValue s pf w κ b wb img = valueSum (fun w a c => w * (lcTerm s 1 a c / 2)) w κ b wb img * pf := by
  unfold lValue
  have h : (fun w a c : ℝ => w * (lcTerm s 1 a c / 2)) = fun w a c => lcTerm s w a c * (1 / 2) := by
    funext w a c
    unfold lcTerm
    ring
  rw [h, ← valueSum_mul_right, two_eq]
  rw [ite_beq_zero fun h => by rw [h, mul_zero, zero_div]]
  ring

end StirVerif.C09
