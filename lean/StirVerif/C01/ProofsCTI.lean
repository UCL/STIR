/-
C01 — the segment table built by `ProjDataInfo::ProjDataInfoCTI`, in closed form, is well-formed outside the defect class
`ctiDefect` and not inside it.  `ctiPositive` / `ctiSegments` (Model.lean) transcribe the constructor, including the clipping of
the last segment to `max_delta` with its unchanged number of axial positions.
-/
import StirVerif.C01.ProofsAxial

namespace StirVerif.C01

/-- the `while (RDmax[seg] < max_delta)` loop with enough fuel: it appends the ranges `[c+1+j·span, c+(j+1)·span]`, `j < n`, where
    `n` is the first number of steps that reaches `max_delta` -/
theorem ctiGo_spec (span maxDelta : Int) (hs : 1 ≤ span) (fuel : Nat) (acc : List (Int × Int)) (c : Int)
    (hf : maxDelta - c < fuel) :
    ∃ n : Nat, ctiPositive.go span maxDelta fuel acc c =
        acc ++ (List.range n).map (fun j : Nat => (c + 1 + (j : Int) * span, c + ((j : Int) + 1) * span)) ∧
      (∀ j : Nat, j < n → c + (j : Int) * span < maxDelta) ∧ maxDelta ≤ c + (n : Int) * span := by
  induction fuel generalizing acc c with
  | zero =>
    refine ⟨0, by simp [ctiPositive.go], fun j hj => by omega, ?_⟩
    simp at hf ⊢
    omega
  | succ fuel ih =>
    rw [ctiPositive.go.eq_2]
    by_cases h : c < maxDelta
    · obtain ⟨n, hgo, hlt, hstop⟩ := ih (acc ++ [(c + 1, c + span)]) (c + span) (by omega)
      refine ⟨n + 1, ?_, fun j hj => ?_, ?_⟩
      · rw [if_pos h, hgo, List.range_succ_eq_map, List.append_assoc]
        congr 1
        simp only [List.singleton_append, List.map_cons, List.map_map, Int.natCast_zero, Int.zero_mul,
          Int.add_zero, Int.zero_add, Int.one_mul]
        congr 1
        apply List.map_congr_left
        intro j _
        simp only [Function.comp, Nat.succ_eq_add_one, Int.natCast_add, Int.natCast_one, Int.add_mul, Int.one_mul,
          Prod.mk.injEq]
        constructor <;> omega
      · cases j with
        | zero => simpa using h
        | succ j =>
          have := hlt j (by omega)
          simp only [Int.natCast_add, Int.natCast_one, Int.add_mul, Int.one_mul]
          omega
      · simp only [Int.natCast_add, Int.natCast_one, Int.add_mul, Int.one_mul]
        omega
    · refine ⟨0, ?_, fun j hj => by omega, ?_⟩
      · rw [if_neg h]
        simp
      · simp
        omega

/-- segment 0 of `ProjDataInfoCTI` -/
def ctiSeg0 (span R : Int) : Seg :=
  { minRD := -(span / 2), maxRD := span / 2, numAx := if span = 1 then R else 2 * R - 1 }

/-- segment `j+1` of `ProjDataInfoCTI` (the `min` is the clipping of the last segment) -/
def ctiSegK (span maxDelta R : Int) (j : Nat) : Seg :=
  { minRD := span / 2 + 1 + (j : Int) * span,
    maxRD := min (span / 2 + ((j : Int) + 1) * span) maxDelta,
    numAx := if span = 1 then R - ((j : Int) + 1) else 2 * R - 1 - 2 * (span / 2 + 1 + (j : Int) * span) }

theorem mapIdx_map_range {α β : Type} (g : Nat → α → β) (f : Nat → α) (n : Nat) :
    List.mapIdx g ((List.range n).map f) = (List.range n).map (fun j => g j (f j)) := by
  apply List.ext_getElem
  · simp
  · intro i h1 h2
    simp

/-- "check if we went one too far": clipping the last entry to `M` is taking `min` with `M` there -/
theorem clip_last (X : List (Int × Int)) (lo hi M : Int) :
    (if hi > M then X ++ [(lo, M)] else X ++ [(lo, hi)]) = X ++ [(lo, min hi M)] := by
  split
  · rw [Int.min_eq_right (by omega)]
  · rw [Int.min_eq_left (by omega)]

theorem ctiPositive_closed (span maxDelta R : Int) (pos : List Seg)
    (h : ctiPositive span maxDelta R = some pos) :
    (1 ≤ span ∧ span / 2 ≤ maxDelta ∧ maxDelta ≤ R - 1) ∧
    ∃ n : Nat, pos = ctiSeg0 span R :: (List.range n).map (ctiSegK span maxDelta R) ∧
      (∀ j : Nat, j < n → span / 2 + (j : Int) * span < maxDelta) ∧
      maxDelta ≤ span / 2 + (n : Int) * span := by
  obtain ⟨hg, h⟩ := Option.ite_none_left_eq_some.1 h
  -- `span ≥ 1`: C division and remainder by 2 are the Euclidean ones
  have hs : 0 ≤ span - 1 := by omega
  have ht : span.tdiv 2 = span / 2 := Int.tdiv_eq_ediv_of_nonneg (by omega)
  have ht1 : (span - 1).tdiv 2 = (span - 1) / 2 := Int.tdiv_eq_ediv_of_nonneg hs
  have hm : span.tmod 2 = span % 2 := Int.tmod_eq_emod_of_nonneg (by omega)
  rw [ht] at hg
  have hbounds : 1 ≤ span ∧ span / 2 ≤ maxDelta ∧ maxDelta ≤ R - 1 := by omega
  refine ⟨hbounds, ?_⟩
  simp only [ht, ht1, hm] at h
  -- min0 = -(span/2), max0 = span/2
  have hmin0 : (if (span % 2 == 1) = true then -((span - 1) / 2) else -(span / 2)) = -(span / 2) := by
    split
    · rename_i h1
      have : span % 2 = 1 := by simpa using h1
      omega
    · rfl
  simp only [hmin0] at h
  have hmax0 : (if (span % 2 == 1) = true then -(span / 2) + span - 1 else -(span / 2) + span) = span / 2 := by
    split
    · rename_i h1
      have : span % 2 = 1 := by simpa using h1
      omega
    · rename_i h1
      have : ¬ span % 2 = 1 := by simpa using h1
      omega
  obtain ⟨n, hgo, hlt, hstop⟩ := ctiGo_spec span maxDelta hbounds.1 R.toNat [(-(span / 2), span / 2)] (span / 2) (by omega)
  simp only [hmax0, hgo] at h
  refine ⟨n, ?_, hlt, hstop⟩
  cases n with
  | zero =>
    simp only [List.range_zero, List.map_nil, List.append_nil, List.getLast?_singleton] at h
    rw [if_neg (by omega)] at h
    simp only [List.mapIdx_cons, List.mapIdx_nil, Option.some.injEq] at h
    subst h
    simp [ctiSeg0]
  | succ m =>
    rw [List.range_succ, List.map_append, ← List.append_assoc] at h
    simp only [Int.natCast_add, Int.natCast_one] at hstop
    simp only [List.map_cons, List.map_nil, List.getLast?_concat, List.dropLast_concat] at h
    have hpre : List.map (fun j : Nat => (span / 2 + 1 + (j : Int) * span, span / 2 + ((j : Int) + 1) * span)) (List.range m)
        = List.map (fun j : Nat => (span / 2 + 1 + (j : Int) * span, min (span / 2 + ((j : Int) + 1) * span) maxDelta)) (List.range m) := by
      apply List.map_congr_left
      intro j hj
      rw [List.mem_range] at hj
      have := hlt (j + 1) (by omega)
      simp only [Int.natCast_add, Int.natCast_one] at this
      simp only [Prod.mk.injEq, true_and]
      omega
    rw [hpre, clip_last, ← List.map_singleton (f := fun j : Nat =>
        (span / 2 + 1 + (j : Int) * span, min (span / 2 + ((j : Int) + 1) * span) maxDelta)),
      List.append_assoc, ← List.map_append, ← List.range_succ, List.singleton_append] at h
    rw [List.mapIdx_cons, mapIdx_map_range] at h
    simp only [Option.some.injEq] at h
    subst h
    simp [ctiSeg0, ctiSegK]

/-- a segment of several ring differences is `Ok` when it has `2R - 1 - 2L` axial positions for an `L` that no ring difference of
    the segment is below in absolute value (`hL`): `L` is then the axial offset `axOff` computes, and the callers take the smallest
    absolute ring difference of the segment for it -/
theorem Seg.Ok.of_wide (R : Int) (s : Seg) (L : Int) (hlt : s.minRD < s.maxRD) (hn : s.numAx = 2 * R - 1 - 2 * L)
    (hL : ∀ rd, s.minRD ≤ rd → rd ≤ s.maxRD → L ≤ rd ∨ L ≤ -rd) :
    s.Ok R := by
  have hinc : s.inc = 2 := Seg.inc_of_ne (Int.ne_of_lt hlt)
  have hex : s.Exact L := fun h => by omega
  refine ⟨Int.le_of_lt hlt, L, (axOff_eq_some_iff R s L).2 (by rw [hinc]; omega), hex, ?_⟩
  intro r1 r2 h1 h1' h2 h2' h3 h4
  have h := Seg.two_mul_axOf hex h3 h4
  have := hL (r2 - r1) h3 h4
  rw [hinc] at h
  omega

/-- a segment of the one ring difference `d` is `Ok` when it has `R - L` axial positions, that is, axial offset `L`, for an `L` of
    the parity of `d` that is not above `d` in absolute value -/
theorem Seg.Ok.of_single (R : Int) (s : Seg) (L : Int) (hd : s.minRD = s.maxRD) (hn : s.numAx = R - L)
    (hpar : (s.minRD - L) % 2 = 0) (hL : L ≤ s.minRD ∨ L ≤ -s.minRD) :
    s.Ok R := by
  have hinc : s.inc = 1 := Seg.inc_of_eq hd
  refine ⟨Int.le_of_eq hd, L, (axOff_eq_some_iff R s L).2 (by rw [hinc]; omega), fun _ => hpar, ?_⟩
  intro r1 r2 h1 h1' h2 h2' h3 h4
  have := Seg.two_mul_axOf (fun _ => hpar) h3 h4
  rw [hinc] at this
  omega

/-- segment `-i` mirrors segment `i` -/
def Seg.mirror (s : Seg) : Seg := { s with minRD := -s.maxRD, maxRD := -s.minRD }

theorem sorted_symmetric (s0 : Seg) (l : List Seg) (h0 : -s0.maxRD ≤ s0.minRD) (h0' : s0.minRD ≤ s0.maxRD)
    (hl : SegsSorted l) (hgt : ∀ s ∈ l, s0.maxRD < s.minRD) :
    SegsSorted (l.reverse.map Seg.mirror ++ s0 :: l) := by
  unfold SegsSorted
  rw [List.pairwise_append]
  refine ⟨?_, List.pairwise_cons.2 ⟨hgt, hl⟩, ?_⟩
  · rw [List.pairwise_map, List.pairwise_reverse]
    refine List.Pairwise.imp ?_ hl
    intro a b hab
    simp only [Seg.mirror]
    omega
  · intro a ha b hb
    obtain ⟨a', ha', rfl⟩ := List.mem_map.1 ha
    have := hgt a' (List.mem_reverse.1 ha')
    simp only [Seg.mirror]
    rcases List.mem_cons.1 hb with rfl | hb
    · omega
    · have := hgt b hb
      omega

theorem Seg.mirror_inc (s : Seg) : s.mirror.inc = s.inc := by
  unfold Seg.inc Seg.mirror
  by_cases h : s.maxRD = s.minRD
  · simp [h]
  · have : ¬ (-s.minRD = -s.maxRD) := by omega
    simp [h, this]

/-- the mirror image of a segment has the same axial offset and, the axial position being symmetric in the two rings,
    meets the same requirements -/
theorem Seg.Ok.mirror {R : Int} {s : Seg} (h : s.Ok R) : s.mirror.Ok R := by
  obtain ⟨hle, off, ho, hex, hr⟩ := h
  refine ⟨by simp only [Seg.mirror]; omega, off, ?_, ?_, ?_⟩
  · unfold Seg.axOff at ho ⊢
    rw [Seg.mirror_inc]
    exact ho
  · intro he
    have := hex (by simp only [Seg.mirror] at he; omega)
    simp only [Seg.mirror] at he ⊢
    omega
  · intro r1 r2 h1 h1' h2 h2' h3 h4
    simp only [Seg.mirror] at h3 h4
    have := hr r2 r1 h2 h2' h1 h1' (by omega) (by omega)
    unfold Seg.axOf at this ⊢
    rw [Seg.mirror_inc, Int.add_comm r1 r2]
    exact this

/-- **the defect class** of `ProjDataInfoCTI`: axial compression (`span > 1`), and the outermost segment is
    clipped by `max_delta` to its *first* ring difference (`max_delta = span/2 + 1 + k·span`) while
    `num_rings - 1 - max_delta` is odd. -/
def ctiDefect (span maxDelta R : Int) : Prop :=
  1 < span ∧ span / 2 < maxDelta ∧ (maxDelta - span / 2 - 1) % span = 0 ∧ (R - 1 - maxDelta) % 2 = 1

instance (span maxDelta R : Int) : Decidable (ctiDefect span maxDelta R) := by
  unfold ctiDefect; infer_instance

theorem ctiSeg0_ok (span R : Int) (hs : 1 ≤ span) : (ctiSeg0 span R).Ok R := by
  by_cases h1 : span = 1
  · subst h1
    exact Seg.Ok.of_single R _ 0 rfl (by simp [ctiSeg0]) rfl (Or.inl (Int.le_refl _))
  · apply Seg.Ok.of_wide R _ 0
    · simp only [ctiSeg0]
      omega
    · simp only [ctiSeg0, if_neg h1]
      omega
    · intro rd _ _
      omega

theorem ctiSegK_ok (span maxDelta R : Int) (hs : 1 ≤ span) (hR : maxDelta ≤ R - 1) (j : Nat)
    (hj : span / 2 + (j : Int) * span < maxDelta) (hnd : ¬ ctiDefect span maxDelta R) :
    (ctiSegK span maxDelta R j).Ok R := by
  have ha : 0 ≤ (j : Int) * span := Int.mul_nonneg (by omega) (by omega)
  have hmul : ((j : Int) + 1) * span = (j : Int) * span + span := by rw [Int.add_mul, Int.one_mul]
  by_cases h1 : span = 1
  · subst h1
    simp only [Int.mul_one] at hj
    apply Seg.Ok.of_single R _ ((j : Int) + 1)
    · simp only [ctiSegK]
      omega
    · simp only [ctiSegK, if_true]
    · simp only [ctiSegK]
      omega
    · simp only [ctiSegK]
      omega
  · by_cases hw : span / 2 + 1 + (j : Int) * span < min (span / 2 + ((j : Int) + 1) * span) maxDelta
    · apply Seg.Ok.of_wide R _ (span / 2 + 1 + (j : Int) * span)
      · simp only [ctiSegK]
        omega
      · simp only [ctiSegK, if_neg h1]
      · simp only [ctiSegK]
        intro rd _ _
        omega
    · -- single ring difference: it is `maxDelta`, and we are not in the defect class
      have hmod : (maxDelta - span / 2 - 1) % span = 0 := by
        have : maxDelta - span / 2 - 1 = (j : Int) * span := by omega
        rw [this]
        exact Int.mul_emod_left _ _
      have hpar : (R - 1 - maxDelta) % 2 = 0 := by
        unfold ctiDefect at hnd
        have : ¬ (R - 1 - maxDelta) % 2 = 1 := fun h => hnd ⟨by omega, by omega, hmod, h⟩
        omega
      apply Seg.Ok.of_single R _ (2 * maxDelta - R + 1)
      · simp only [ctiSegK]
        omega
      · simp only [ctiSegK, if_neg h1]
        omega
      · simp only [ctiSegK]
        omega
      · simp only [ctiSegK]
        omega

theorem ctiSegments_shape (span maxDelta R minSeg : Int) (segs : List Seg)
    (h : ctiSegments span maxDelta R = some (minSeg, segs)) :
    (1 ≤ span ∧ span / 2 ≤ maxDelta ∧ maxDelta ≤ R - 1) ∧
    ∃ n : Nat, minSeg = -(n : Int) ∧
      segs = ((List.range n).map (ctiSegK span maxDelta R)).reverse.map Seg.mirror ++
        ctiSeg0 span R :: (List.range n).map (ctiSegK span maxDelta R) ∧
      (∀ j : Nat, j < n → span / 2 + (j : Int) * span < maxDelta) ∧
      maxDelta ≤ span / 2 + (n : Int) * span := by
  unfold ctiSegments at h
  rw [Option.map_eq_some_iff] at h
  obtain ⟨pos, hp, he⟩ := h
  simp only [Prod.mk.injEq] at he
  obtain ⟨hb, n, hpos, hlt, hstop⟩ := ctiPositive_closed span maxDelta R pos hp
  refine ⟨hb, n, ?_, ?_, hlt, hstop⟩
  · rw [← he.1, hpos]
    simp
  · rw [← he.2, hpos]
    rfl

theorem cti_sorted (span maxDelta R minSeg : Int) (segs : List Seg)
    (h : ctiSegments span maxDelta R = some (minSeg, segs)) : SegsSorted segs := by
  obtain ⟨hb, n, _, hs, hlt, _⟩ := ctiSegments_shape span maxDelta R minSeg segs h
  rw [hs]
  apply sorted_symmetric
  · simp only [ctiSeg0]
    omega
  · simp only [ctiSeg0]
    omega
  · unfold SegsSorted
    rw [List.pairwise_map]
    refine List.Pairwise.imp ?_ List.pairwise_lt_range
    intro i j hij
    have : ((i : Int) + 1) * span ≤ (j : Int) * span :=
      Int.mul_le_mul_of_nonneg_right (by omega) (by omega)
    simp only [ctiSegK]
    omega
  · intro s hs'
    obtain ⟨j, _, rfl⟩ := List.mem_map.1 hs'
    have : 0 ≤ (j : Int) * span := Int.mul_nonneg (by omega) (by omega)
    simp only [ctiSeg0, ctiSegK]
    omega

theorem cti_WF (span maxDelta R minSeg : Int) (segs : List Seg)
    (h : ctiSegments span maxDelta R = some (minSeg, segs)) (hnd : ¬ ctiDefect span maxDelta R)
    (g : Geom) (hR : g.R = R) (hsegs : g.segs = segs) : g.WFb = true := by
  obtain ⟨hb, n, _, hs, hlt, _⟩ := ctiSegments_shape span maxDelta R minSeg segs h
  refine g.WFb_of_sorted (fun s hs' => ?_) (hsegs ▸ cti_sorted span maxDelta R minSeg segs h)
  rw [hsegs, hs] at hs'
  rw [hR]
  simp only [List.mem_append, List.mem_map, List.mem_reverse, List.mem_cons, List.mem_range] at hs'
  rcases hs' with ⟨s', ⟨j, hj, rfl⟩, rfl⟩ | rfl | ⟨j, hj, rfl⟩
  · exact (ctiSegK_ok span maxDelta R hb.1 hb.2.2 j (hlt j hj) hnd).mirror
  · exact ctiSeg0_ok span R hb.1
  · exact ctiSegK_ok span maxDelta R hb.1 hb.2.2 j (hlt j hj) hnd

/-- **inside the defect class the table does not even satisfy `WFp`**: the outermost segment consists of the single ring
    difference `max_delta` but keeps the axial count `2R-1-2·max_delta` of a compressed segment, so its axial
    offset `2·max_delta-R+1` has the wrong parity (`Seg.Exact` fails). -/
theorem cti_not_WF_of_defect (span maxDelta R minSeg : Int) (segs : List Seg)
    (h : ctiSegments span maxDelta R = some (minSeg, segs)) (hd : ctiDefect span maxDelta R)
    (g : Geom) (hR : g.R = R) (hsegs : g.segs = segs) : ¬ g.WFp = true := by
  intro hwf
  obtain ⟨hb, n, _, hs, hlt, hstop⟩ := ctiSegments_shape span maxDelta R minSeg segs h
  obtain ⟨hd1, hd2, hd3, hd4⟩ := hd
  cases n with
  | zero =>
    simp at hstop
    omega
  | succ m =>
    have hl := hlt m (by omega)
    simp only [Int.natCast_add, Int.natCast_one, Int.add_mul, Int.one_mul] at hstop
    -- the last segment starts at `maxDelta`
    have hy : (maxDelta - span / 2 - 1 - (m : Int) * span) % span = 0 := by
      rw [Int.sub_mul_emod_self_right]
      exact hd3
    rw [Int.emod_eq_of_lt (by omega) (by omega)] at hy
    have hmem : ctiSegK span maxDelta R m ∈ g.segs := by
      rw [hsegs, hs]
      simp only [List.mem_append, List.mem_cons, List.mem_map, List.mem_range]
      exact Or.inr (Or.inr ⟨m, by omega, rfl⟩)
    obtain ⟨_, _, hC, _⟩ := g.WFp_iff.1 hwf
    obtain ⟨off, hoff, hex⟩ := hC _ hmem
    have hmul : ((m : Int) + 1) * span = (m : Int) * span + span := by rw [Int.add_mul, Int.one_mul]
    have hmin : (ctiSegK span maxDelta R m).minRD = maxDelta := by
      simp only [ctiSegK]
      omega
    have hmax : (ctiSegK span maxDelta R m).maxRD = maxDelta := by
      simp only [ctiSegK]
      omega
    have hnum : (ctiSegK span maxDelta R m).numAx = 2 * R - 1 - 2 * maxDelta := by
      simp only [ctiSegK, if_neg (show ¬ span = 1 by omega)]
      omega
    have hex := hex (hmin.trans hmax.symm)
    rw [hR, axOff_eq_some_iff, Seg.inc_of_eq (hmin.trans hmax.symm), hnum] at hoff
    rw [hmin] at hex
    omega

end StirVerif.C01
