/-
C01 — executable model of the detector-pair ↔ bin bookkeeping of
`ProjDataInfoCylindricalNoArcCorr` / `ProjDataInfoCylindrical` / `ProjDataInfo::ProjDataInfoCTI` /
`ProjDataInfo::ProjDataInfoGE`, and of the sampling setters of `ProjDataInfoCylindrical` / `ProjDataInfo`
(`CylState`, end of the file).

Sources (pinned tree):
* interleaving tables: src/buildblock/ProjDataInfoCylindricalNoArcCorr.cxx:165 (`initialise_uncompressed_view_tangpos_to_det1det2`),
  :220 (`initialise_det1det2_to_uncompressed_view_tangpos`);
* `get_bin_for_det_pair`, `get_det_pos_pair_for_bin`, `get_bin_for_det_pos_pair`: src/include/stir/ProjDataInfoCylindricalNoArcCorr.inl:117-200;
* `get_all_det_pos_pairs_for_bin`, `get_num_det_pos_pairs_for_bin`: ProjDataInfoCylindricalNoArcCorr.cxx:334-408 (for an even TOF
  mashing factor: as they were before commit aadca8a8f, which narrows the range of timing positions for such a factor);
* ring-difference tables: src/buildblock/ProjDataInfoCylindrical.cxx:122 (`initialise_ring_diff_arrays`),
  :388 (`compute_segment_axial_pos_to_ring_pair`), src/include/stir/ProjDataInfoCylindrical.inl:218-262;
* segment tables: src/buildblock/ProjDataInfo.cxx:485 (`ProjDataInfoCTI`), :619 (`ProjDataInfoGE`);
* setters: src/buildblock/ProjDataInfoCylindrical.cxx:383-510 (`set_min/max_ring_difference`, `set_min/max_axial_pos_num`,
  `reduce_segment_range`), src/buildblock/ProjDataInfo.cxx:117-170, :331 (`set_num_views`, `set_num_tangential_poss`,
  `set_min/max_tangential_pos_num`, `reduce_segment_range`).

C semantics: `/`,`%` on possibly negative operands are `Int.tdiv`/`Int.tmod`; `>> 1` is floor division by 2
(the source asserts `-1 >> 1 == -1`), written `Int.fdiv · 2`.  32-bit overflow is not modelled.
The float computation of `m_offset`/`ax_pos_num_offset` is replaced by exact integer arithmetic, with the
"must be an integer" check of the source as an `Option`.
Core Lean only.
-/
namespace StirVerif.C01

/-- arithmetic shift right by one -/
def shr1 (x : Int) : Int := Int.fdiv x 2

/-! ## transaxial part: view / tangential position ↔ detector pair (uncompressed) -/

/-- `uncompressed_view_tangpos_to_det1det2[v][tp]` -/
def viewTangToDet (N v tp : Int) : Int × Int :=
  ((v + shr1 tp + N).tmod N, (v - shr1 (tp + 1) + N.tdiv 2).tmod N)

/-- `det1det2_to_uncompressed_view_tangpos[d1][d2]`: (view, tang, flag) where the flag is the value
    *returned* by `get_view_tangential_pos_num_for_det_num_pair` (`true` = detectors not swapped) -/
def detToViewTang (N d1 d2 : Int) : Int × Int × Bool :=
  let half := N.tdiv 2
  let tang := (d1 - d2 + (3 * N).tdiv 2).tmod N
  let view := (d1 - shr1 tang + N).tmod N
  if view < half then
    if tang ≥ half then (view, N - tang, false) else (view, tang, true)
  else
    if tang ≥ half then (view - half, tang - N, true) else (view - half, -tang, false)

/-! ## axial part: ring pair ↔ (segment, axial position) -/

structure Seg where
  minRD : Int
  maxRD : Int
  numAx : Int        -- axial positions 0 … numAx-1
  deriving Repr, DecidableEq, Inhabited

/-- `get_num_axial_poss_per_ring_inc` -/
def Seg.inc (s : Seg) : Int := if s.maxRD != s.minRD then 2 else 1

/-- `ax_pos_num_offset[segment]` = `(num_rings-1) - 2*m_offset/ring_spacing` with
    `m_offset = (max_ax+min_ax)*ring_spacing/inc/2`, i.e. `(R-1) - (numAx-1)/inc`; the source calls
    `error` when this is not an integer (Cylindrical geometry): `none`. -/
def Seg.axOff (R : Int) (s : Seg) : Option Int :=
  if (s.numAx - 1).tmod s.inc != 0 then none else some ((R - 1) - (s.numAx - 1).tdiv s.inc)

/-- `segment_axial_pos_to_ring1_plus_ring2[s][a]` (given the offset) -/
def Seg.ringSum (s : Seg) (off a : Int) : Int := (2 * a).tdiv s.inc + off

/-- axial position computed by `get_segment_axial_pos_num_for_ring_pair` (no range check in the source) -/
def Seg.axOf (s : Seg) (off r1 r2 : Int) : Int := ((r1 + r2 - off) * s.inc).tdiv 2

/-- `compute_segment_axial_pos_to_ring_pair`: the loop `for (rd = start; rd <= maxRD; rd += 2)` -/
def Seg.ringPairsOf (R : Int) (s : Seg) (off a : Int) : List (Int × Int) :=
  let sum := s.ringSum off a
  let start := s.minRD + (s.minRD + sum).tmod 2
  let cnt := if start > s.maxRD then 0 else ((s.maxRD - start) / 2).toNat + 1
  (List.range cnt).filterMap fun (k : Nat) =>
    let rd := start + 2 * (k : Int)
    let r1 := (sum - rd).tdiv 2
    let r2 := (sum + rd).tdiv 2
    if r1 < 0 ∨ r2 < 0 ∨ r1 ≥ R ∨ r2 ≥ R then none else some (r1, r2)

/-- `ProjDataInfoCTI`: ring-difference ranges and axial counts of segments `0, 1, …` (positive side);
    `none` for the argument combinations the source rejects with `error`. -/
def ctiPositive (span maxDelta R : Int) : Option (List Seg) :=
  if maxDelta > R - 1 ∨ span < 1 ∨ span > 2 * R - 1 ∨ maxDelta < span.tdiv 2 then none
  else
    let min0 := if span.tmod 2 == 1 then -((span - 1).tdiv 2) else -(span.tdiv 2)
    let max0 := if span.tmod 2 == 1 then min0 + span - 1 else min0 + span
    -- while (RDmax[seg] < max_delta) { seg++; RDmin[seg] = RDmax[seg-1]+1; RDmax[seg] = RDmin[seg]+span-1; }
    let rec go (fuel : Nat) (acc : List (Int × Int)) (curMax : Int) : List (Int × Int) :=
      match fuel with
      | 0 => acc
      | fuel + 1 =>
        if curMax < maxDelta then go fuel (acc ++ [(curMax + 1, curMax + span)]) (curMax + span) else acc
    let ranges := go R.toNat [(min0, max0)] max0
    -- "check if we went one too far": the last max is clipped to max_delta
    let ranges := match ranges.getLast? with
      | some (lo, hi) => if hi > maxDelta then ranges.dropLast ++ [(lo, maxDelta)] else ranges
      | none => ranges
    some (ranges.mapIdx fun i (lo, hi) =>
      { minRD := lo, maxRD := hi,
        numAx := if span == 1 then R - i else if i == 0 then 2 * R - 1 else 2 * R - 1 - 2 * lo })

/-- the full segment table `-k … k` (segment `-i` mirrors segment `i`) -/
def ctiSegments (span maxDelta R : Int) : Option (Int × List Seg) :=
  (ctiPositive span maxDelta R).map fun pos =>
    let neg := (pos.drop 1).reverse.map fun s => { s with minRD := -s.maxRD, maxRD := -s.minRD }
    (-(pos.length - 1 : Int), neg ++ pos)

structure Geom where
  N : Int                 -- detectors per ring (even)
  R : Int                 -- rings
  minSeg : Int
  segs : List Seg         -- segment `minSeg + k` is `segs[k]`
  viewMash : Int          -- N/2/num_views
  tofMash : Int           -- 0: non-TOF
  deriving Repr

def Geom.seg? (g : Geom) (s : Int) : Option Seg :=
  if s < g.minSeg then none else g.segs[(s - g.minSeg).toNat]?

def Geom.maxSeg (g : Geom) : Int := g.minSeg + g.segs.length - 1

/-- `get_segment_num_for_ring_difference`: first segment (in increasing order) whose range contains `rd`;
    also the preliminary range test against the outermost segments -/
def Geom.segOfRingDiff (g : Geom) (rd : Int) : Option Int :=
  match g.segs.getLast?, g.segs.head? with
  | some last, some first =>
    if rd > last.maxRD ∨ rd < first.minRD then none
    else
      (g.segs.findIdx? fun s => rd ≥ s.minRD && rd ≤ s.maxRD).map fun k => g.minSeg + k
  | _, _ => none

/-- `get_segment_axial_pos_num_for_ring_pair` -/
def Geom.segAxOfRingPair (g : Geom) (r1 r2 : Int) : Option (Int × Int) := do
  let s ← g.segOfRingDiff (r2 - r1)
  let sg ← g.seg? s
  let off ← sg.axOff g.R
  pure (s, sg.axOf off r1 r2)

/-- `get_all_ring_pairs_for_segment_axial_pos_num` -/
def Geom.ringPairsOf (g : Geom) (s a : Int) : List (Int × Int) :=
  match g.seg? s with
  | none => []
  | some sg =>
    match sg.axOff g.R with
    | none => []
    | some off => sg.ringPairsOf g.R off a

structure Bin where
  seg : Int
  view : Int
  ax : Int
  tang : Int
  tof : Int
  deriving Repr, DecidableEq, Inhabited

structure DetPair where
  d1 : Int
  r1 : Int
  d2 : Int
  r2 : Int
  t : Int          -- unmashed TOF index
  deriving Repr, DecidableEq, Inhabited

/-- `stir::round(float)` on the quotient `t / mash` (round half away from zero) for integer `t`, odd or even `mash > 0` -/
def roundDiv (t mash : Int) : Int :=
  if t ≥ 0 then (2 * t + mash).tdiv (2 * mash) else -((2 * (-t) + mash).tdiv (2 * mash))

/-- `get_bin_for_det_pos_pair` → `get_bin_for_det_pair` -/
def Geom.binForDetPair (g : Geom) (p : DetPair) : Option Bin :=
  let t := if g.tofMash == 0 then 0 else roundDiv p.t g.tofMash
  let (v, tp, keep) := detToViewTang g.N p.d1 p.d2
  let view := v.tdiv g.viewMash
  if keep then
    (g.segAxOfRingPair p.r1 p.r2).map fun (s, a) => ⟨s, view, a, tp, t⟩
  else
    (g.segAxOfRingPair p.r2 p.r1).map fun (s, a) => ⟨s, view, a, tp, -t⟩

/-- `get_all_det_pos_pairs_for_bin` (with `ignore_non_spatial_dimensions = false`); for an even `tofMash` the code before
    commit aadca8a8f, since which `find_unmashed_timing_pos_range` leaves out the half-way timing positions of the next TOF bin -/
def Geom.allDetPairsForBin (g : Geom) (b : Bin) : List DetPair :=
  let tmin := b.tof * g.tofMash - g.tofMash.tdiv 2
  let tmax := b.tof * g.tofMash + g.tofMash.tdiv 2
  let ts : List Int := (List.range (tmax - tmin + 1).toNat).map fun (k : Nat) => tmin + (k : Int)
  let views : List Int := (List.range g.viewMash.toNat).map fun (k : Nat) => b.view * g.viewMash + (k : Int)
  views.flatMap fun uv =>
    let (d1, d2) := viewTangToDet g.N uv b.tang
    (g.ringPairsOf b.seg b.ax).flatMap fun (r1, r2) =>
      ts.map fun t => ⟨d1, r1, d2, r2, t⟩

/-- `get_num_det_pos_pairs_for_bin`; for an even `tofMash` the code before commit aadca8a8f, as above -/
def Geom.numDetPairsForBin (g : Geom) (b : Bin) : Nat :=
  (g.ringPairsOf b.seg b.ax).length * g.viewMash.toNat * (max 1 g.tofMash).toNat

/-- `get_det_pos_pair_for_bin` (uncompressed data only; `none` when the source calls `error`) -/
def Geom.detPairForBin (g : Geom) (b : Bin) : Option DetPair := do
  let sg ← g.seg? b.seg
  if sg.minRD != sg.maxRD then none
  let off ← sg.axOff g.R
  let sum := sg.ringSum off b.ax
  let r1 := (sum - sg.maxRD).tdiv 2
  let r2 := (sum + sg.maxRD).tdiv 2
  let (d1, d2) := viewTangToDet g.N b.view b.tang
  let t := b.tof.natAbs * g.tofMash
  if b.tof ≥ 0 then pure ⟨d1, r1, d2, r2, t⟩ else pure ⟨d2, r2, d1, r1, t⟩

/-! ## well-formedness of a segment table (hypothesis of the ring-pair theorems; evaluated by the driver) -/

/-- the arithmetic condition under which the axial position of a single-ring-difference segment is exact
    (otherwise the source only prints "LORs shifted with respect to the physical rings") -/
def Seg.Exact (s : Seg) (off : Int) : Prop := s.minRD = s.maxRD → (s.minRD - off) % 2 = 0

/-- decidable well-formedness of a geometry's segment table: ranges are non-empty and pairwise disjoint,
    offsets are integers, single-ring-difference segments are exact, every ring pair of a covered ring
    difference gets an axial position inside the segment's range, and (last clause) the first segment has the
    smallest `minRD` and the last segment the largest `maxRD`.

    The last clause is needed because `segOfRingDiff` (like the source) first tests `rd` against the *last*
    segment's `maxRD` and the *first* segment's `minRD` only: without it the table
    `[⟨5,6,13⟩, ⟨0,1,13⟩]` on 7 rings satisfies the other clauses, lists ring pair `(0,5)` for `(0,5)`, but
    `segAxOfRingPair 0 5 = none`. -/
def Geom.WFb (g : Geom) : Bool :=
  g.segs.all (fun s => decide (s.minRD ≤ s.maxRD)) &&
  (List.range g.segs.length).all (fun i => (List.range g.segs.length).all fun j =>
    i == j || (match g.segs[i]?, g.segs[j]? with
      | some a, some b => decide (a.maxRD < b.minRD ∨ b.maxRD < a.minRD)
      | _, _ => true)) &&
  g.segs.all (fun s => match s.axOff g.R with
    | none => false
    | some off =>
      (s.minRD != s.maxRD || (s.minRD - off) % 2 == 0) &&
      (List.range g.R.toNat).all fun r1 => (List.range g.R.toNat).all fun r2 =>
        let rd := (r2 : Int) - (r1 : Int)
        !(s.minRD ≤ rd && rd ≤ s.maxRD) || (0 ≤ s.axOf off r1 r2 && s.axOf off r1 r2 < s.numAx)) &&
  (match g.segs.head?, g.segs.getLast? with
    | some first, some last =>
      g.segs.all fun s => decide (first.minRD ≤ s.minRD) && decide (s.maxRD ≤ last.maxRD)
    | _, _ => true)

/-- `WFb` without the clause "every ring pair of a covered ring difference gets an axial position inside the
    segment's range": what the ring-pair ↔ (segment, axial position) equivalence and the bin theorems actually
    use (`Geom.WFp_of_WFb`, ProofsAxial.lean).  After `set_min_axial_pos_num` / `set_max_axial_pos_num` /
    `set_max_ring_difference` the range clause is false by design (positions were cut off) while this part
    still holds. -/
def Geom.WFp (g : Geom) : Bool :=
  g.segs.all (fun s => decide (s.minRD ≤ s.maxRD)) &&
  (List.range g.segs.length).all (fun i => (List.range g.segs.length).all fun j =>
    i == j || (match g.segs[i]?, g.segs[j]? with
      | some a, some b => decide (a.maxRD < b.minRD ∨ b.maxRD < a.minRD)
      | _, _ => true)) &&
  g.segs.all (fun s => match s.axOff g.R with
    | none => false
    | some off => (s.minRD != s.maxRD || (s.minRD - off) % 2 == 0)) &&
  (match g.segs.head?, g.segs.getLast? with
    | some first, some last =>
      g.segs.all fun s => decide (first.minRD ≤ s.minRD) && decide (s.maxRD ≤ last.maxRD)
    | _, _ => true)

/-! ## `ProjDataInfo::ProjDataInfoGE` (src/buildblock/ProjDataInfo.cxx:619): the "mixed span" table -/

/-- segment `j+1` of `ProjDataInfoGE`: the single ring difference `j+2`, `num_rings - (j+1) - 1` axial positions -/
def geSegK (R : Int) (j : Nat) : Seg := ⟨(j : Int) + 2, (j : Int) + 2, R - (j : Int) - 2⟩

/-- segment 0 of `ProjDataInfoGE`: ring differences -1, 0, 1 and `2*num_rings-1` axial positions -/
def geSeg0 (R : Int) : Seg := ⟨-1, 1, 2 * R - 1⟩

/-- `ProjDataInfoGE(scanner, max_delta, …)`: segments `-(max_delta-1) … max_delta-1`; `none` when the source calls
    `error` (`max_delta < 1`).  No other argument check exists in the source (in particular none against the
    number of rings). -/
def geSegments (maxDelta R : Int) : Option (Int × List Seg) :=
  if maxDelta < 1 then none
  else
    let n := (maxDelta - 1).toNat
    let pos := (List.range n).map (geSegK R)
    let neg := pos.reverse.map fun s => { s with minRD := -s.maxRD, maxRD := -s.minRD }
    some (-(n : Int), neg ++ geSeg0 R :: pos)

/-! ## sampling changed after construction (`reduce_segment_range`, `set_min/max_ring_difference`,
`set_min/max_axial_pos_num`, `set_min/max_tangential_pos_num`, `set_num_tangential_poss`, `set_num_views`)

The setters of `ProjDataInfoCylindrical` (src/buildblock/ProjDataInfoCylindrical.cxx:383-510) only store the
new value and clear `ring_diff_arrays_computed`; the next query rebuilds `m_offset`, `ax_pos_num_offset`,
`ring_diff_to_segment_num` and the ring-pair lists from the stored ranges (`initialise_ring_diff_arrays`, :122).
The tangential setters (`ProjDataInfo.cxx:124,161,167`) touch nothing else: the detector tables always cover
the full tangential range. -/

/-- the stored sampling of one segment -/
structure AxSeg where
  minRD : Int
  maxRD : Int
  minAx : Int
  maxAx : Int
  deriving Repr, DecidableEq, Inhabited

/-- `m_offset[s] = (max_ax + min_ax) * axial_sampling / 2`: only the SUM of the axial range enters the offset
    `ax_pos_num_offset[s] = (R-1) - (max_ax+min_ax)/inc`, i.e. the tables of the segment are those of a
    0-based segment with `max_ax + min_ax + 1` axial positions (`Seg.axOff`). -/
def AxSeg.seg (s : AxSeg) : Seg := ⟨s.minRD, s.maxRD, s.maxAx + s.minAx + 1⟩

/-- a freshly constructed segment: axial positions `0 … numAx-1` (`set_num_axial_poss_per_segment`) -/
def AxSeg.ofSeg (s : Seg) : AxSeg := ⟨s.minRD, s.maxRD, 0, s.numAx - 1⟩

structure CylState where
  N : Int
  R : Int
  minSeg : Int
  segs : List AxSeg
  viewMash : Int
  tofMash : Int
  minTang : Int
  maxTang : Int
  deriving Repr

/-- the geometry all look-ups use (`Geom.segAxOfRingPair`, `Geom.ringPairsOf`, `Geom.binForDetPair`, …) -/
def CylState.geom (c : CylState) : Geom :=
  { N := c.N, R := c.R, minSeg := c.minSeg, segs := c.segs.map AxSeg.seg, viewMash := c.viewMash, tofMash := c.tofMash }

def CylState.ofGeom (g : Geom) (minTang maxTang : Int) : CylState :=
  { N := g.N, R := g.R, minSeg := g.minSeg, segs := g.segs.map AxSeg.ofSeg, viewMash := g.viewMash, tofMash := g.tofMash,
    minTang := minTang, maxTang := maxTang }

def CylState.seg? (c : CylState) (s : Int) : Option AxSeg :=
  if s < c.minSeg then none else c.segs[(s - c.minSeg).toNat]?

/-- `ProjDataInfoCylindrical::reduce_segment_range(lo, hi)` (the source only asserts `minSeg ≤ lo`, `hi ≤ maxSeg`) -/
def CylState.reduceSegmentRange (c : CylState) (lo hi : Int) : CylState :=
  { c with minSeg := lo, segs := (c.segs.drop (lo - c.minSeg).toNat).take (hi - lo + 1).toNat }

def CylState.modSeg (c : CylState) (s : Int) (f : AxSeg → AxSeg) : CylState :=
  if s < c.minSeg then c
  else { c with segs := c.segs.mapIdx fun i x => if i == (s - c.minSeg).toNat then f x else x }

def CylState.setMinRD (c : CylState) (s v : Int) : CylState := c.modSeg s fun x => { x with minRD := v }
def CylState.setMaxRD (c : CylState) (s v : Int) : CylState := c.modSeg s fun x => { x with maxRD := v }
def CylState.setMinAx (c : CylState) (s v : Int) : CylState := c.modSeg s fun x => { x with minAx := v }
def CylState.setMaxAx (c : CylState) (s v : Int) : CylState := c.modSeg s fun x => { x with maxAx := v }

/-- `ProjDataInfo::set_num_tangential_poss` -/
def CylState.setNumTang (c : CylState) (n : Int) : CylState :=
  { c with minTang := -(n.tdiv 2), maxTang := -(n.tdiv 2) + n - 1 }

/-- `initialise_ring_diff_arrays` calls `error`: some `min_ring_diff > max_ring_diff`, or (Cylindrical
    geometry) an axial offset that is not an integer -/
def CylState.initErr (c : CylState) : Bool :=
  c.segs.any (fun s => decide (s.minRD > s.maxRD)) || c.segs.any fun s => (s.seg.axOff c.R).isNone

/-- `get_segment_axial_pos_num_for_ring_pair` on the changed sampling: `get_segment_num_for_ring_difference`
    tests the ring difference against the outermost segments BEFORE the lazy tables are (re)built, so a ring
    difference outside that range is `Succeeded::no` even when the rebuild would call `error`. -/
def CylState.segAxOfRingPair (c : CylState) (r1 r2 : Int) : Except Unit (Option (Int × Int)) :=
  match c.segs.getLast?, c.segs.head? with
  | some last, some first =>
    if r2 - r1 > last.maxRD ∨ r2 - r1 < first.minRD then .ok none
    else if c.initErr then .error ()
    else .ok (c.geom.segAxOfRingPair r1 r2)
  | _, _ => .ok none

/-- a bin of the current sampling (segment, axial and tangential position, view inside the stored ranges) -/
def CylState.inRange (c : CylState) (b : Bin) : Bool :=
  match c.seg? b.seg with
  | none => false
  | some s => decide (s.minAx ≤ b.ax ∧ b.ax ≤ s.maxAx ∧ c.minTang ≤ b.tang ∧ b.tang ≤ c.maxTang ∧
      0 ≤ b.view ∧ b.view * c.viewMash < c.N.tdiv 2)

/-- `get_all_det_pos_pairs_for_bin(dps, bin, ignore_non_spatial_dimensions = true)`: one entry (timing position 0)
    per unmashed view and ring pair -/
def Geom.spatialDetPairsForBin (g : Geom) (b : Bin) : List DetPair :=
  let views : List Int := (List.range g.viewMash.toNat).map fun (k : Nat) => b.view * g.viewMash + (k : Int)
  views.flatMap fun uv =>
    let (d1, d2) := viewTangToDet g.N uv b.tang
    (g.ringPairsOf b.seg b.ax).map fun (r1, r2) => ⟨d1, r1, d2, r2, 0⟩

/-- `get_num_det_pos_pairs_for_bin(bin, ignore_non_spatial_dimensions = true)` -/
def Geom.numSpatialDetPairsForBin (g : Geom) (b : Bin) : Nat :=
  (g.ringPairsOf b.seg b.ax).length * g.viewMash.toNat

end StirVerif.C01
