/-
C01 — full bins: detector-position pairs ↔ bins with view / TOF mashing.
-/
import StirVerif.C01.ProofsTrans
import StirVerif.C01.ProofsAxial
import StirVerif.Common.IntRange
import StirVerif.Common.ListNodup

namespace StirVerif.C01

/-- the configurations the bin theorems cover: even number of detectors `2m`, view mashing factor dividing `m`,
    non-TOF (`tofMash = 0`) or odd TOF mashing factor, well-formed segment table -/
structure Geom.Cfg (g : Geom) (m : Int) : Prop where
  hN : g.N = 2 * m
  hm : 0 < m
  hmash : 0 < g.viewMash ∧ m % g.viewMash = 0
  htof : g.tofMash = 0 ∨ (0 < g.tofMash ∧ g.tofMash % 2 = 1)
  wf : g.WFb = true

/-- the same with the ring-pair part `WFp` of the well-formedness only: also satisfied by a sampling whose axial ranges
    were shortened after construction (`set_min_axial_pos_num`, …), for which the clause "every covered ring pair gets
    an axial position inside the range" of `WFb` is false by design.  The suffix `_p` of a lemma says that it does not ask
    `WFb`: it asks `WFp`, alone or inside `CfgP`, or no well-formedness at all (`CfgT`). -/
structure Geom.CfgP (g : Geom) (m : Int) : Prop where
  hN : g.N = 2 * m
  hm : 0 < m
  hmash : 0 < g.viewMash ∧ m % g.viewMash = 0
  htof : g.tofMash = 0 ∨ (0 < g.tofMash ∧ g.tofMash % 2 = 1)
  wf : g.WFp = true

theorem Geom.Cfg.toP {g : Geom} {m : Int} (c : g.Cfg m) : g.CfgP m :=
  { hN := c.hN, hm := c.hm, hmash := c.hmash, htof := c.htof, wf := g.WFp_of_WFb c.wf }

def Geom.TofOk (g : Geom) : Prop := g.tofMash = 0 ∨ (0 < g.tofMash ∧ g.tofMash % 2 = 1)

/-- the part of `Cfg` / `CfgP` that does not concern the segment table: what exchange, count and absence of duplicates need -/
structure Geom.CfgT (g : Geom) (m : Int) : Prop where
  hN : g.N = 2 * m
  hm : 0 < m
  hmash : 0 < g.viewMash ∧ m % g.viewMash = 0
  htof : g.TofOk

theorem Geom.CfgP.toT {g : Geom} {m : Int} (c : g.CfgP m) : g.CfgT m :=
  { hN := c.hN, hm := c.hm, hmash := c.hmash, htof := c.htof }

/-- view, tangential position and TOF index of the bin are those of the data (`m / viewMash` views, `-m < tang < m`,
    TOF index 0 for non-TOF data); segment and axial position are not constrained -/
def Geom.binInRange (g : Geom) (m : Int) (b : Bin) : Prop :=
  0 ≤ b.view ∧ b.view < m / g.viewMash ∧ -m < b.tang ∧ b.tang < m ∧ (g.tofMash = 0 → b.tof = 0)

def DetPair.valid (g : Geom) (p : DetPair) : Prop :=
  0 ≤ p.d1 ∧ p.d1 < g.N ∧ 0 ≤ p.d2 ∧ p.d2 < g.N ∧ p.d1 ≠ p.d2 ∧
  0 ≤ p.r1 ∧ p.r1 < g.R ∧ 0 ≤ p.r2 ∧ p.r2 < g.R ∧ (g.tofMash = 0 → p.t = 0)

/-- the same coincidence with the two detector positions exchanged: the timing index changes sign -/
def DetPair.swapped (p : DetPair) : DetPair := ⟨p.d2, p.r2, p.d1, p.r1, -p.t⟩

/-- for odd `M` there is no tie `t = q·M ± M/2`: rounding half away from zero is an interval test -/
theorem roundDiv_eq_iff (t M q : Int) (hM : 0 < M) (hodd : M % 2 = 1) :
    roundDiv t M = q ↔ (q * M - M.tdiv 2 ≤ t ∧ t ≤ q * M + M.tdiv 2) := by
  have hh : M.tdiv 2 = M / 2 := Int.tdiv_eq_ediv_of_nonneg (by omega)
  rw [hh]
  have key : ∀ q x : Int, 0 ≤ x → ((2 * x + M).tdiv (2 * M) = q ↔ (q * M - M / 2 ≤ x ∧ x ≤ q * M + M / 2)) := by
    intro q x hx
    rw [Int.tdiv_eq_ediv_of_nonneg (by omega), Int.ediv_eq_iff_of_pos (by omega), Int.mul_left_comm]
    omega
  unfold roundDiv
  split
  · exact key q t (by omega)
  · rw [Int.neg_eq_comm, eq_comm, key (-q) (-t) (by omega), Int.neg_mul]
    omega

theorem roundDiv_neg (t M : Int) (hM : 0 < M) (hodd : M % 2 = 1) : roundDiv (-t) M = -roundDiv t M := by
  have h := (roundDiv_eq_iff t M _ hM hodd).1 rfl
  rw [roundDiv_eq_iff _ _ _ hM hodd, Int.neg_mul]
  omega

/-- the TOF bin index computed by `binForDetPair` -/
def tofOf (g : Geom) (t : Int) : Int := if g.tofMash == 0 then 0 else roundDiv t g.tofMash

theorem tofOf_neg (g : Geom) (htof : g.TofOk) (t : Int) :
    tofOf g (-t) = -tofOf g t := by
  unfold tofOf
  rcases htof with h | ⟨h1, h2⟩
  · simp [h]
  · have : g.tofMash ≠ 0 := by omega
    simp [this, roundDiv_neg _ _ h1 h2]

/-- an unmashed view in the block `view·k … view·k + k - 1` of mashed view `view` (`k` = view mashing factor) is in range, and mashed
    back to `view` -/
theorem view_fwd {m k view uv : Int} (hdiv : m % k = 0) (hv0 : 0 ≤ view) (hv1 : view < m / k)
    (h0 : view * k ≤ uv) (h1 : uv < view * k + k) :
    (0 ≤ uv ∧ uv < m) ∧ uv.tdiv k = view := by
  obtain ⟨j, rfl⟩ : ∃ j, uv = view * k + j := ⟨uv - view * k, by omega⟩
  have hm : k * (m / k) = m := Int.mul_ediv_cancel' (Int.dvd_of_emod_eq_zero hdiv)
  have h1 : k * (view + 1) ≤ k * (m / k) := Int.mul_le_mul_of_nonneg_left (by omega) (by omega)
  rw [Int.mul_add, Int.mul_one, Int.mul_comm k view] at h1
  have h0 : 0 ≤ view * k := Int.mul_nonneg hv0 (by omega)
  exact ⟨⟨by omega, by omega⟩, (Common.tdiv_tmod_of_form hv0 (by omega) (by omega)).1⟩

/-- an unmashed view `v` lies in the block of the mashed view `v / k`, which is in range -/
theorem view_bwd {m k v : Int} (hk : 0 < k) (hdiv : m % k = 0) (hv0 : 0 ≤ v) (hv1 : v < m) :
    0 ≤ v.tdiv k ∧ v.tdiv k < m / k ∧ v.tdiv k * k ≤ v ∧ v < v.tdiv k * k + k := by
  have hm : k * (m / k) = m := Int.mul_ediv_cancel' (Int.dvd_of_emod_eq_zero hdiv)
  obtain ⟨a1, a3, a4, a5⟩ := Common.tdiv_tmod_spec hv0 hk
  have a2 : v.tdiv k < m / k := Int.lt_of_mul_lt_mul_left (a := k) (by omega) (Int.le_of_lt hk)
  rw [Int.mul_comm] at a5
  exact ⟨a1, a2, by omega, by omega⟩

/-- the unmashed TOF indices that `get_all_det_pos_pairs_for_bin` lists for TOF bin `q`: `q·M - M/2 … q·M + M/2` -/
def Geom.tofList (g : Geom) (q : Int) : List Int :=
  (List.range ((q * g.tofMash + g.tofMash.tdiv 2) - (q * g.tofMash - g.tofMash.tdiv 2) + 1).toNat).map
    fun (k : Nat) => (q * g.tofMash - g.tofMash.tdiv 2) + (k : Int)

theorem mem_tofList (g : Geom) (q t : Int) :
    t ∈ g.tofList q ↔ q * g.tofMash - g.tofMash.tdiv 2 ≤ t ∧ t ≤ q * g.tofMash + g.tofMash.tdiv 2 := by
  rw [Geom.tofList, Common.mem_map_range_add]
  omega

theorem tofList_length (g : Geom) (htof : g.TofOk) (q : Int) :
    (g.tofList q).length = (max 1 g.tofMash).toNat := by
  simp only [Geom.tofList, List.length_map, List.length_range]
  rcases htof with h | ⟨h1, h2⟩
  · have h0 : (0 : Int).tdiv 2 = 0 := by decide
    rw [h, h0]
    omega
  · rw [Int.tdiv_eq_ediv_of_nonneg (by omega)]
    omega

theorem tofList_centre (g : Geom) (ht : 0 ≤ g.tofMash) (q : Int) : q * g.tofMash ∈ g.tofList q := by
  have h0 : 0 ≤ g.tofMash.tdiv 2 := Int.tdiv_nonneg ht (by decide)
  exact (mem_tofList g q _).2 ⟨by omega, by omega⟩

/-- the pairs `get_all_det_pos_pairs_for_bin` lists for a bin, with timing positions `ts`: the unmashed range of the TOF bin, or
    `[0]` when `ignore_non_spatial_dimensions` is set -/
def Geom.pairsWith (g : Geom) (b : Bin) (ts : List Int) : List DetPair :=
  ((List.range g.viewMash.toNat).map fun (k : Nat) => b.view * g.viewMash + (k : Int)).flatMap fun uv =>
    (g.ringPairsOf b.seg b.ax).flatMap fun rp =>
      ts.map fun t => ⟨(viewTangToDet g.N uv b.tang).1, rp.1, (viewTangToDet g.N uv b.tang).2, rp.2, t⟩

theorem allDetPairsForBin_eq_pairsWith (g : Geom) (b : Bin) : g.allDetPairsForBin b = g.pairsWith b (g.tofList b.tof) := rfl

theorem mem_pairsWith (g : Geom) (b : Bin) (ts : List Int) (p : DetPair) : p ∈ g.pairsWith b ts ↔
    ∃ uv, (b.view * g.viewMash ≤ uv ∧ uv < b.view * g.viewMash + g.viewMash.toNat) ∧
      ∃ rp ∈ g.ringPairsOf b.seg b.ax, ∃ t ∈ ts,
        ⟨(viewTangToDet g.N uv b.tang).1, rp.1, (viewTangToDet g.N uv b.tang).2, rp.2, t⟩ = p := by
  simp only [Geom.pairsWith, List.mem_flatMap, Common.mem_map_range_add]
  simp only [List.mem_map]

theorem pairsWith_length (g : Geom) (b : Bin) (ts : List Int) :
    (g.pairsWith b ts).length = (g.ringPairsOf b.seg b.ax).length * g.viewMash.toNat * ts.length := by
  simp only [Geom.pairsWith, List.length_flatMap, List.length_map, List.map_const', List.sum_replicate_nat,
    List.length_range]
  rw [Nat.mul_left_comm, Nat.mul_assoc]

theorem ring_valid_of_mem (g : Geom) (s a r1 r2 : Int) (h : (r1, r2) ∈ g.ringPairsOf s a) :
    0 ≤ r1 ∧ r1 < g.R ∧ 0 ≤ r2 ∧ r2 < g.R := by
  unfold Geom.ringPairsOf at h
  split at h
  · nomatch h
  · split at h
    · nomatch h
    · have := (Seg.mem_loop_iff _ _ _ _ _ _).1 h
      exact ⟨this.1, this.2.1, this.2.2.1, this.2.2.2.1⟩

theorem ringPairs_nodup (g : Geom) (s a : Int) : (g.ringPairsOf s a).Nodup := by
  unfold Geom.ringPairsOf
  split
  · exact List.nodup_nil
  · split
    · exact List.nodup_nil
    · exact Seg.ringPairsOf_nodup _ _ _ _

/-- `binForDetPair` with the table look-up named: the two branches differ in the order of the rings and the sign of the TOF index -/
theorem bin_eq (g : Geom) (p : DetPair) : g.binForDetPair p =
  (if (detToViewTang g.N p.d1 p.d2).2.2 then
    (g.segAxOfRingPair p.r1 p.r2).map fun sa => (⟨sa.1, (detToViewTang g.N p.d1 p.d2).1.tdiv g.viewMash, sa.2,
       (detToViewTang g.N p.d1 p.d2).2.1, tofOf g p.t⟩ : Bin)
   else
    (g.segAxOfRingPair p.r2 p.r1).map fun sa => (⟨sa.1, (detToViewTang g.N p.d1 p.d2).1.tdiv g.viewMash, sa.2,
       (detToViewTang g.N p.d1 p.d2).2.1, -tofOf g p.t⟩ : Bin)) := rfl

theorem binForDetPair_of_keep (g : Geom) {d1 r1 d2 r2 t v tp : Int} (h : detToViewTang g.N d1 d2 = (v, tp, true)) :
    g.binForDetPair ⟨d1, r1, d2, r2, t⟩ =
      (g.segAxOfRingPair r1 r2).map fun sa => (⟨sa.1, v.tdiv g.viewMash, sa.2, tp, tofOf g t⟩ : Bin) := by
  rw [bin_eq, h]
  rfl

theorem binForDetPair_of_swap (g : Geom) {d1 r1 d2 r2 t v tp : Int} (h : detToViewTang g.N d1 d2 = (v, tp, false)) :
    g.binForDetPair ⟨d1, r1, d2, r2, t⟩ =
      (g.segAxOfRingPair r2 r1).map fun sa => (⟨sa.1, v.tdiv g.viewMash, sa.2, tp, -tofOf g t⟩ : Bin) := by
  rw [bin_eq, h]
  rfl

/-- for the configurations covered, the TOF indices listed for bin `q` are those that `binForDetPair` maps to `q` -/
theorem mem_tofList_iff (g : Geom) (htof : g.TofOk) (q t : Int) (hz : g.tofMash = 0 → q = 0) :
    t ∈ g.tofList q ↔ tofOf g t = q ∧ (g.tofMash = 0 → t = 0) := by
  rw [mem_tofList]
  unfold tofOf
  rcases htof with h | ⟨h1, h2⟩
  · have h0 : (0 : Int).tdiv 2 = 0 := by decide
    simp only [h, h0, Int.mul_zero, hz h, beq_self_eq_true, if_true, true_and, forall_const]
    omega
  · have hne : g.tofMash ≠ 0 := by omega
    simp only [beq_iff_eq, hne, if_false, false_imp_iff, and_true]
    exact (roundDiv_eq_iff t g.tofMash q h1 h2).symm

theorem swapped_bin_eq_p (g : Geom) (m : Int) (c : g.CfgT m) (p : DetPair) (hp : p.valid g) :
    g.binForDetPair p.swapped = g.binForDetPair p := by
  obtain ⟨d1, r1, d2, r2, t⟩ := p
  obtain ⟨a1, a2, a3, a4, a5, -⟩ := hp
  simp only at a1 a2 a3 a4 a5
  rw [c.hN] at a2 a4
  have sw := swap_exchanges m d1 d2 c.hm ⟨a1, a2⟩ ⟨a3, a4⟩ a5
  rw [← c.hN] at sw
  show g.binForDetPair ⟨d2, r2, d1, r1, -t⟩ = _
  rcases hx : detToViewTang g.N d1 d2 with ⟨v, tp, keep⟩
  rw [hx] at sw
  cases keep
  · rw [binForDetPair_of_swap g hx, binForDetPair_of_keep g sw, tofOf_neg g c.htof]
  · rw [binForDetPair_of_keep g hx, binForDetPair_of_swap g sw, tofOf_neg g c.htof, Int.neg_neg]

theorem swapped_valid (g : Geom) (p : DetPair) (hp : p.valid g) : p.swapped.valid g := by
  obtain ⟨a1, a2, a3, a4, a5, a6, a7, a8, a9, a10⟩ := hp
  refine ⟨a3, a4, a1, a2, fun h => a5 h.symm, a8, a9, a6, a7, fun h => ?_⟩
  show -p.t = 0
  rw [a10 h]
  rfl

theorem complete_keep_p (g : Geom) (m : Int) (c : g.CfgP m) (b : Bin) (d1 r1 d2 r2 t : Int)
    (hp : DetPair.valid g ⟨d1, r1, d2, r2, t⟩) (v tp : Int) (hx : detToViewTang g.N d1 d2 = (v, tp, true))
    (h : g.binForDetPair ⟨d1, r1, d2, r2, t⟩ = some b) :
    g.binInRange m b ∧ (⟨d1, r1, d2, r2, t⟩ : DetPair) ∈ g.allDetPairsForBin b := by
  obtain ⟨a1, a2, a3, a4, a5, a6, a7, a8, a9, a10⟩ := hp
  simp only at a1 a2 a3 a4 a5 a6 a7 a8 a9 a10
  obtain ⟨hk, hdiv⟩ := c.hmash
  have dv := det_vt_roundtrip m d1 d2 c.hm ⟨a1, by rw [← c.hN]; exact a2⟩ ⟨a3, by rw [← c.hN]; exact a4⟩ a5
  rw [← c.hN, hx] at dv
  simp only [if_true] at dv
  obtain ⟨v0, v1, t0, t1, hvt⟩ := dv
  rw [binForDetPair_of_keep g hx, Option.map_eq_some_iff] at h
  obtain ⟨⟨s, a⟩, hs, rfl⟩ := h
  have vb := view_bwd hk hdiv v0 v1
  have hz : g.tofMash = 0 → tofOf g t = 0 := fun h => by simp [tofOf, h]
  have tm := (mem_tofList_iff g c.htof _ t hz).2 ⟨rfl, a10⟩
  have hrp := (g.ringpair_partition_p c.wf r1 r2 ⟨a6, a7⟩ ⟨a8, a9⟩ s a).1 hs
  refine ⟨⟨vb.1, vb.2.1, t0, t1, hz⟩, ?_⟩
  rw [allDetPairsForBin_eq_pairsWith, mem_pairsWith]
  dsimp only
  refine ⟨v, ⟨vb.2.2.1, by omega⟩, (r1, r2), hrp, t, tm, ?_⟩
  rw [hvt]

theorem wfb_exact (g : Geom) (h : g.WFb = true) (sg : Seg) (hs : sg ∈ g.segs) (off : Int)
    (ho : sg.axOff g.R = some off) : sg.Exact off :=
  wfp_exact g (g.WFp_of_WFb h) sg hs off ho

/-- the ring pair `detPairForBin` computes for a segment of one ring difference is one of those the stepping loop lists -/
theorem ring_mem_single (R : Int) (sg : Seg) (off a : Int) (heq : sg.minRD = sg.maxRD) (hex : sg.Exact off)
    (hr : 0 ≤ (sg.ringSum off a - sg.maxRD).tdiv 2 ∧ (sg.ringSum off a - sg.maxRD).tdiv 2 < R ∧
          0 ≤ (sg.ringSum off a + sg.maxRD).tdiv 2 ∧ (sg.ringSum off a + sg.maxRD).tdiv 2 < R) :
    ((sg.ringSum off a - sg.maxRD).tdiv 2, (sg.ringSum off a + sg.maxRD).tdiv 2) ∈ sg.ringPairsOf R off a := by
  -- the ring sum has the parity of the ring difference, so the two halves are exact
  have hsum := sg.ringSum_mul_inc off a
  rw [Seg.inc_of_eq heq] at hsum
  have hpar := hex heq
  have h1 := tdiv2_spec (sg.ringSum off a - sg.maxRD)
  have h2 := tdiv2_spec (sg.ringSum off a + sg.maxRD)
  rw [Seg.mem_loop_iff]
  omega

theorem all_sound_p (g : Geom) (m : Int) (c : g.CfgP m) (b : Bin) (hb : g.binInRange m b) (p : DetPair)
    (hp : p ∈ g.allDetPairsForBin b) : g.binForDetPair p = some b ∧ p.valid g := by
  obtain ⟨uv, hu, rp, hrp, t, ht, rfl⟩ := (mem_pairsWith g b _ p).1 hp
  obtain ⟨hk, hdiv⟩ := c.hmash
  obtain ⟨hv0, hv1, ht0, ht1, htz⟩ := hb
  have vw := view_fwd hdiv hv0 hv1 hu.1 (by omega)
  have rt := vt_det_roundtrip m _ b.tang c.hm vw.1 ⟨ht0, ht1⟩
  have rg := viewTangToDet_range m _ b.tang vw.1 ⟨ht0, ht1⟩
  rw [← c.hN] at rt rg
  have rv := ring_valid_of_mem g _ _ rp.1 rp.2 hrp
  have sg := (g.ringpair_partition_p c.wf rp.1 rp.2 ⟨rv.1, rv.2.1⟩ ⟨rv.2.2.1, rv.2.2.2⟩ b.seg b.ax).2 hrp
  have tf := (mem_tofList_iff g c.htof b.tof t htz).1 ht
  constructor
  · rw [binForDetPair_of_keep g rt]
    simp only [sg, Option.map_some, vw.2, tf.1]
  · exact ⟨rg.1, rg.2.1, rg.2.2.1, rg.2.2.2.1, rg.2.2.2.2, rv.1, rv.2.1, rv.2.2.1, rv.2.2.2, tf.2⟩

theorem all_complete_p (g : Geom) (m : Int) (c : g.CfgP m) (b : Bin) (p : DetPair) (hp : p.valid g)
    (h : g.binForDetPair p = some b) :
    g.binInRange m b ∧ (p ∈ g.allDetPairsForBin b ∨ p.swapped ∈ g.allDetPairsForBin b) := by
  have hs := swapped_bin_eq_p g m c.toT p hp
  have hpv := swapped_valid g p hp
  obtain ⟨d1, r1, d2, r2, t⟩ := p
  rcases hx : detToViewTang g.N d1 d2 with ⟨v, tp, keep⟩
  cases keep
  · have sw := swap_exchanges m d1 d2 c.hm ⟨hp.1, by rw [← c.hN]; exact hp.2.1⟩
      ⟨hp.2.2.1, by rw [← c.hN]; exact hp.2.2.2.1⟩ hp.2.2.2.2.1
    rw [← c.hN, hx] at sw
    have := complete_keep_p g m c b d2 r2 d1 r1 (-t) hpv v tp sw (hs.trans h)
    exact ⟨this.1, Or.inr this.2⟩
  · have := complete_keep_p g m c b d1 r1 d2 r2 t hp v tp hx h
    exact ⟨this.1, Or.inl this.2⟩

theorem pairsWith_nodup (g : Geom) (m : Int) (c : g.CfgT m) (b : Bin) (hb : g.binInRange m b) (ts : List Int)
    (hts : ts.Nodup) : (g.pairsWith b ts).Nodup := by
  obtain ⟨hk, hdiv⟩ := c.hmash
  obtain ⟨hv0, hv1, ht0, ht1, _⟩ := hb
  -- an entry remembers its detectors, and these determine the unmashed view; its rings and timing position determine the rest
  refine Common.nodup_flatMap_of_tag (fun uv => viewTangToDet g.N uv b.tang) (fun p => (p.d1, p.d2)) ?_ (fun uv _ => ?_) ?_
  · refine (Common.nodup_map_range_add _ _).map_on fun uv hu uv' hu' h => ?_
    rw [Common.mem_map_range_add] at hu hu'
    have vw := view_fwd hdiv hv0 hv1 hu.1 (by omega)
    have vw' := view_fwd hdiv hv0 hv1 hu'.1 (by omega)
    exact viewTangToDet_inj m b.tang c.hm ⟨ht0, ht1⟩ vw.1 vw'.1 (c.hN ▸ h)
  · exact Common.nodup_flatMap_map (ringPairs_nodup g _ _) (fun _ _ => hts) fun rp t rp' t' h => by
      simp only [DetPair.mk.injEq] at h
      exact ⟨Prod.ext h.2.1 h.2.2.2.1, h.2.2.2.2⟩
  · intro uv _ p hp
    simp only [List.mem_flatMap, List.mem_map] at hp
    obtain ⟨rp, _, t, _, rfl⟩ := hp
    rfl

theorem all_nodup_count_p (g : Geom) (m : Int) (c : g.CfgT m) (b : Bin) (hb : g.binInRange m b) :
    (g.allDetPairsForBin b).Nodup ∧ (g.allDetPairsForBin b).length = g.numDetPairsForBin b :=
  ⟨pairsWith_nodup g m c b hb _ (Common.nodup_map_range_add _ _),
    by rw [allDetPairsForBin_eq_pairsWith, pairsWith_length, tofList_length g c.htof, Geom.numDetPairsForBin]⟩

/-- the pair reported for a bin of uncompressed data is one of the pairs listed for the bin: in the listed order for a TOF index
    `≥ 0`, exchanged for a negative one -/
theorem detPairForBin_mem (g : Geom) (m : Int) (c : g.CfgP m) (h1 : g.viewMash = 1) (b : Bin) (p : DetPair)
    (h : g.detPairForBin b = some p) (hr : 0 ≤ p.r1 ∧ p.r1 < g.R ∧ 0 ≤ p.r2 ∧ p.r2 < g.R) :
    ∃ q ∈ g.allDetPairsForBin b, p = q ∨ p = q.swapped := by
  have ht0 : 0 ≤ g.tofMash := c.htof.elim (fun h => h ▸ Int.le_refl 0) fun h => Int.le_of_lt h.1
  unfold Geom.detPairForBin at h
  simp only [Option.bind_eq_bind, Option.bind_eq_some_iff, Option.pure_def, Option.bind_none, Option.ite_none_left_eq_some,
    bne_iff_ne, ne_eq, Decidable.not_not] at h
  obtain ⟨sg, hs, heq, off, ho, h⟩ := h
  have hex := wfp_exact g c.wf sg (seg?_mem g _ _ hs) off ho
  -- the one unmashed view, the one ring pair of the segment, any listed timing position
  have hmem : ∀ t ∈ g.tofList b.tof, 0 ≤ (sg.ringSum off b.ax - sg.maxRD).tdiv 2 ∧ (sg.ringSum off b.ax - sg.maxRD).tdiv 2 < g.R ∧
      0 ≤ (sg.ringSum off b.ax + sg.maxRD).tdiv 2 ∧ (sg.ringSum off b.ax + sg.maxRD).tdiv 2 < g.R →
      (⟨(viewTangToDet g.N b.view b.tang).1, (sg.ringSum off b.ax - sg.maxRD).tdiv 2,
        (viewTangToDet g.N b.view b.tang).2, (sg.ringSum off b.ax + sg.maxRD).tdiv 2, t⟩ : DetPair) ∈ g.allDetPairsForBin b := by
    intro t ht hr'
    refine (mem_pairsWith g b _ _).2 ⟨b.view, by rw [h1]; omega,
      ((sg.ringSum off b.ax - sg.maxRD).tdiv 2, (sg.ringSum off b.ax + sg.maxRD).tdiv 2), ?_, t, ht, rfl⟩
    simp only [Geom.ringPairsOf, hs, ho]
    exact ring_mem_single g.R sg off b.ax heq hex hr'
  split at h
  · simp only [Option.some.injEq] at h
    subst h
    refine ⟨_, hmem _ ?_ hr, .inl rfl⟩
    rw [show (b.tof.natAbs : Int) = b.tof by omega]
    exact tofList_centre g ht0 b.tof
  · simp only [Option.some.injEq] at h
    subst h
    refine ⟨_, hmem _ (tofList_centre g ht0 b.tof) ⟨hr.2.2.1, hr.2.2.2, hr.1, hr.2.1⟩, .inr ?_⟩
    simp only [DetPair.swapped, DetPair.mk.injEq, true_and]
    rw [show (b.tof.natAbs : Int) = -b.tof by omega, Int.neg_mul]

theorem uncompressed_inverse_p (g : Geom) (m : Int) (c : g.CfgP m) (h1 : g.viewMash = 1)
    (b : Bin) (hb : g.binInRange m b) (p : DetPair) (h : g.detPairForBin b = some p)
    (hr : 0 ≤ p.r1 ∧ p.r1 < g.R ∧ 0 ≤ p.r2 ∧ p.r2 < g.R) : g.binForDetPair p = some b := by
  obtain ⟨q, hq, hp⟩ := detPairForBin_mem g m c h1 b p h hr
  obtain ⟨hs, hv⟩ := all_sound_p g m c b hb q hq
  rcases hp with rfl | rfl
  · exact hs
  · exact (swapped_bin_eq_p g m c.toT _ hv).trans hs

/-- the same under `Cfg`.  `ht` is not needed: the timing position `detPairForBin` reports is the central one of the TOF bin,
    which is listed for every odd TOF mashing factor (`tofList_centre`).  `have _ := ht` only counts as a use of the binder for
    the unused-variable linter; the same is done for `ht` in `C01_uncompressed_inverse_p` and `hle` in `C01_mem_ringPairsOf_iff`,
    whose proofs do not need them either. -/
theorem uncompressed_inverse (g : Geom) (m : Int) (c : g.Cfg m) (h1 : g.viewMash = 1) (ht : g.tofMash ≤ 1)
    (b : Bin) (hb : g.binInRange m b) (p : DetPair) (h : g.detPairForBin b = some p)
    (hr : 0 ≤ p.r1 ∧ p.r1 < g.R ∧ 0 ≤ p.r2 ∧ p.r2 < g.R) : g.binForDetPair p = some b :=
  have _ := ht
  uncompressed_inverse_p g m c.toP h1 b hb p h hr

end StirVerif.C01
