/-
C01 — the segment table built by `ProjDataInfo::ProjDataInfoGE` is well-formed for every `max_delta ≥ 1` and every number of
rings: unlike `ProjDataInfoCTI` nothing is clipped (the source does not compare `max_delta` with the number of rings; a segment
whose ring difference exceeds `R-1` simply contains no ring pair).
-/
import StirVerif.C01.ProofsCTI

namespace StirVerif.C01

theorem geSegments_shape (maxDelta R minSeg : Int) (segs : List Seg)
    (h : geSegments maxDelta R = some (minSeg, segs)) :
    1 ≤ maxDelta ∧ ∃ n : Nat, (n : Int) = maxDelta - 1 ∧ minSeg = -(n : Int) ∧
      segs = ((List.range n).map (geSegK R)).reverse.map Seg.mirror ++ geSeg0 R :: (List.range n).map (geSegK R) := by
  obtain ⟨hlt, h⟩ := Option.ite_none_left_eq_some.1 h
  simp only [Option.some.injEq, Prod.mk.injEq] at h
  refine ⟨by omega, (maxDelta - 1).toNat, by omega, h.1.symm, ?_⟩
  rw [← h.2]
  rfl

/-- segment 0 is the one `ProjDataInfoCTI` builds for span 3: `geSeg0 R` and `ctiSeg0 3 R` evaluate to the same record -/
theorem geSeg0_ok (R : Int) : (geSeg0 R).Ok R := ctiSeg0_ok 3 R (by decide)

theorem geSegK_ok (R : Int) (j : Nat) : (geSegK R j).Ok R := by
  apply Seg.Ok.of_single R _ ((j : Int) + 2) rfl
  · simp only [geSegK]
    omega
  · simp only [geSegK]
    omega
  · exact Or.inl (Int.le_refl _)

theorem ge_sorted (maxDelta R minSeg : Int) (segs : List Seg)
    (h : geSegments maxDelta R = some (minSeg, segs)) : SegsSorted segs := by
  obtain ⟨_, n, _, _, hs⟩ := geSegments_shape maxDelta R minSeg segs h
  rw [hs]
  apply sorted_symmetric
  · exact Int.le_refl _
  · show (-1 : Int) ≤ 1
    decide
  · unfold SegsSorted
    rw [List.pairwise_map]
    refine List.Pairwise.imp ?_ List.pairwise_lt_range
    intro i j hij
    simp only [geSegK]
    omega
  · intro s hs'
    obtain ⟨j, _, rfl⟩ := List.mem_map.1 hs'
    simp only [geSeg0, geSegK]
    omega

theorem ge_WF (maxDelta R minSeg : Int) (segs : List Seg)
    (h : geSegments maxDelta R = some (minSeg, segs))
    (g : Geom) (hR : g.R = R) (hsegs : g.segs = segs) : g.WFb = true := by
  obtain ⟨_, n, _, _, hs⟩ := geSegments_shape maxDelta R minSeg segs h
  refine g.WFb_of_sorted (fun s hs' => ?_) (hsegs ▸ ge_sorted maxDelta R minSeg segs h)
  rw [hsegs, hs] at hs'
  rw [hR]
  simp only [List.mem_append, List.mem_map, List.mem_reverse, List.mem_cons, List.mem_range] at hs'
  rcases hs' with ⟨s', ⟨j, _, rfl⟩, rfl⟩ | rfl | ⟨j, _, rfl⟩
  · exact (geSegK_ok R j).mirror
  · exact geSeg0_ok R
  · exact geSegK_ok R j

end StirVerif.C01
