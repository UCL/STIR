/-
C01 — "Detector pairs and sinogram bins form a consistent partition".
Property theorems over the model of `Model.lean`; all for every even number of detectors `N = 2m`,
every number of rings, every well-formed segment table, every view-mashing factor dividing `m`,
non-TOF or odd TOF mashing — no bound on sizes.
-/
import StirVerif.C01.ProofsBins
import StirVerif.C01.ProofsCTI
import StirVerif.C01.ProofsGE
import StirVerif.C01.ProofsHist

namespace StirVerif.C01

/-- uncompressed transaxial maps are mutual inverses (bin → detectors → bin) -/
theorem C01_vt_det_roundtrip (m v tp : Int) (hm : 0 < m) (hv : 0 ≤ v ∧ v < m) (ht : -m < tp ∧ tp < m) :
    detToViewTang (2 * m) (viewTangToDet (2 * m) v tp).1 (viewTangToDet (2 * m) v tp).2 = (v, tp, true) :=
  vt_det_roundtrip m v tp hm hv ht

/-- the two detectors of a bin of the data are different detectors of the ring -/
theorem C01_viewTangToDet_range (m v tp : Int) (hm : 0 < m) (hv : 0 ≤ v ∧ v < m) (ht : -m < tp ∧ tp < m) :
    0 ≤ (viewTangToDet (2 * m) v tp).1 ∧ (viewTangToDet (2 * m) v tp).1 < 2 * m ∧
    0 ≤ (viewTangToDet (2 * m) v tp).2 ∧ (viewTangToDet (2 * m) v tp).2 < 2 * m ∧
    (viewTangToDet (2 * m) v tp).1 ≠ (viewTangToDet (2 * m) v tp).2 :=
  viewTangToDet_range m v tp hv ht

/-- the other composition of the uncompressed transaxial maps (detectors → bin → detectors) is the identity up to the exchange
    the flag reports -/
theorem C01_det_vt_roundtrip (m d1 d2 : Int) (hm : 0 < m) (h1 : 0 ≤ d1 ∧ d1 < 2 * m) (h2 : 0 ≤ d2 ∧ d2 < 2 * m)
    (hne : d1 ≠ d2) :
    0 ≤ (detToViewTang (2 * m) d1 d2).1 ∧ (detToViewTang (2 * m) d1 d2).1 < m ∧
    -m < (detToViewTang (2 * m) d1 d2).2.1 ∧ (detToViewTang (2 * m) d1 d2).2.1 < m ∧
    viewTangToDet (2 * m) (detToViewTang (2 * m) d1 d2).1 (detToViewTang (2 * m) d1 d2).2.1 =
      (if (detToViewTang (2 * m) d1 d2).2.2 then (d1, d2) else (d2, d1)) :=
  det_vt_roundtrip m d1 d2 hm h1 h2 hne

theorem C01_swap_exchanges (m d1 d2 : Int) (hm : 0 < m) (h1 : 0 ≤ d1 ∧ d1 < 2 * m) (h2 : 0 ≤ d2 ∧ d2 < 2 * m)
    (hne : d1 ≠ d2) :
    detToViewTang (2 * m) d2 d1 =
      ((detToViewTang (2 * m) d1 d2).1, (detToViewTang (2 * m) d1 d2).2.1, !(detToViewTang (2 * m) d1 d2).2.2) :=
  swap_exchanges m d1 d2 hm h1 h2 hne

theorem C01_mem_ringPairsOf_iff (R : Int) (s : Seg) (off a : Int) (hle : s.minRD ≤ s.maxRD) (hex : s.Exact off)
    (r1 r2 : Int) :
    (r1, r2) ∈ s.ringPairsOf R off a ↔
      (0 ≤ r1 ∧ r1 < R ∧ 0 ≤ r2 ∧ r2 < R ∧ s.minRD ≤ r2 - r1 ∧ r2 - r1 ≤ s.maxRD ∧ s.axOf off r1 r2 = a) :=
  have _ := hle
  Seg.mem_ringPairsOf_iff R s off a hex r1 r2

theorem C01_ringPairsOf_nodup (R : Int) (s : Seg) (off a : Int) : (s.ringPairsOf R off a).Nodup :=
  Seg.ringPairsOf_nodup R s off a

/-- **ring pairs are partitioned over (segment, axial position)**.  The hypothesis is satisfied by every table of
    `ProjDataInfoCTI` outside the defect class (`C01_cti_WF`) and by every table of `ProjDataInfoGE` (`C01_ge_WF`);
    `C01_ringpair_partition_p` / `C01_state_ringpair_partition` below need only the part `WFp` of it and so also cover a
    sampling changed by the setters. -/
theorem C01_ringpair_partition (g : Geom) (h : g.WFb = true) (r1 r2 : Int)
    (h1 : 0 ≤ r1 ∧ r1 < g.R) (h2 : 0 ≤ r2 ∧ r2 < g.R) (s a : Int) :
    g.segAxOfRingPair r1 r2 = some (s, a) ↔ (r1, r2) ∈ g.ringPairsOf s a :=
  g.ringpair_partition_p (g.WFp_of_WFb h) r1 r2 h1 h2 s a

theorem C01_covered_assigned (g : Geom) (h : g.WFb = true) (r1 r2 : Int)
    (h1 : 0 ≤ r1 ∧ r1 < g.R) (h2 : 0 ≤ r2 ∧ r2 < g.R)
    (hc : ∃ sg ∈ g.segs, sg.minRD ≤ r2 - r1 ∧ r2 - r1 ≤ sg.maxRD) :
    ∃ s a sg, g.segAxOfRingPair r1 r2 = some (s, a) ∧ g.seg? s = some sg ∧ 0 ≤ a ∧ a < sg.numAx := by
  obtain ⟨hp, hrange⟩ := g.WFb_iff.1 h
  obtain ⟨sg, hmem, hr1, hr2⟩ := hc
  obtain ⟨k, hk, he⟩ := List.mem_iff_getElem.mp hmem
  have hsg : g.seg? (g.minSeg + k) = some sg := (g.seg?_eq_some _ _).mpr ⟨k, hk, rfl, he⟩
  obtain ⟨off, hoff, ha⟩ := hrange sg hmem
  refine ⟨g.minSeg + k, sg.axOf off r1 r2, sg, ?_, hsg, ha r1 r2 h1.1 h1.2 h2.1 h2.2 hr1 hr2⟩
  unfold Geom.segAxOfRingPair
  simp only [Option.bind_eq_bind, Option.pure_def, Option.bind_eq_some_iff, Option.some.injEq, Prod.mk.injEq]
  exact ⟨_, (g.segOfRingDiff_eq_some_p hp _ _).mpr ⟨sg, hsg, hr1, hr2⟩, sg, hsg, off, hoff, rfl, rfl⟩

/-- **the pairs a bin reports are exactly the pairs assigned to it, with the reported count**.
    (`binInRange` only asks `|tang| < N/2`: the statements hold for every tangential range, also one reduced by
    `set_min/max_tangential_pos_num` / `set_num_tangential_poss`.  `g.Cfg m` holds for the tables of `ProjDataInfoCTI`
    (`C01_cti_Cfg`) and of `ProjDataInfoGE` (`C01_ge_Cfg`); the `_p` versions below need only `g.CfgP m`.) -/
theorem C01_all_sound (g : Geom) (m : Int) (c : g.Cfg m) (b : Bin) (hb : g.binInRange m b) (p : DetPair)
    (hp : p ∈ g.allDetPairsForBin b) : g.binForDetPair p = some b ∧ p.valid g :=
  all_sound_p g m c.toP b hb p hp

theorem C01_all_complete (g : Geom) (m : Int) (c : g.Cfg m) (b : Bin) (p : DetPair) (hp : p.valid g)
    (h : g.binForDetPair p = some b) :
    g.binInRange m b ∧ (p ∈ g.allDetPairsForBin b ∨ p.swapped ∈ g.allDetPairsForBin b) :=
  all_complete_p g m c.toP b p hp h

theorem C01_all_nodup_count (g : Geom) (m : Int) (c : g.Cfg m) (b : Bin) (hb : g.binInRange m b) :
    (g.allDetPairsForBin b).Nodup ∧ (g.allDetPairsForBin b).length = g.numDetPairsForBin b :=
  all_nodup_count_p g m c.toP.toT b hb

/-- **exchanging the two detectors gives the same spatial bin with the TOF index negated**: `p.swapped` is the same coincidence
    reported with its detectors exchanged, so with the timing index `-p.t`, and it is assigned to the same bin as `p` -/
theorem C01_swapped_same_bin (g : Geom) (m : Int) (c : g.Cfg m) (p : DetPair) (hp : p.valid g) (b : Bin)
    (h : g.binForDetPair p = some b) : g.binForDetPair p.swapped = some b :=
  (swapped_bin_eq_p g m c.toP.toT p hp).trans h

/-- **uncompressed data: the two maps are mutual inverses** — stated is the composition bin → detector pair → bin: the pair
    `detPairForBin` reports for a bin is assigned to that bin by `binForDetPair`.  (The other composition would be a statement up
    to the exchange of the detectors; `C01_all_complete` says that `p` or `p.swapped` is listed for the bin of `p`.) -/
theorem C01_uncompressed_inverse (g : Geom) (m : Int) (c : g.Cfg m) (h1 : g.viewMash = 1) (ht : g.tofMash ≤ 1)
    (b : Bin) (hb : g.binInRange m b) (p : DetPair) (h : g.detPairForBin b = some p)
    (hr : 0 ≤ p.r1 ∧ p.r1 < g.R ∧ 0 ≤ p.r2 ∧ p.r2 < g.R) : g.binForDetPair p = some b :=
  uncompressed_inverse g m c h1 ht b hb p h hr

/-! ### the known finding: a last segment truncated to one ring difference of the wrong parity

`span = 3, max_delta = 2` on 4 rings: segment 1 is clipped to ring difference 2 only but keeps the
axial count of a compressed segment; ring pair (0,2) is assigned to (segment 1, axial position 0) while
every list of segment 1 is empty.  `WFb` is false for this table, so the theorems above do not apply;
the harness reports the class as a KNOWN-FINDING. -/

def witnessGeom : Geom :=
  { N := 16, R := 4, minSeg := -1,
    segs := [⟨-2, -2, 3⟩, ⟨-1, 1, 7⟩, ⟨2, 2, 3⟩], viewMash := 1, tofMash := 0 }

theorem C01_F3_witness_table : ctiSegments 3 2 4 = some (witnessGeom.minSeg, witnessGeom.segs) := by decide

theorem C01_F3_truncated_segment_not_partitioned :
    witnessGeom.WFb = false ∧ witnessGeom.segAxOfRingPair 0 2 = some (1, 0) ∧
      witnessGeom.segAxOfRingPair 1 3 = some (1, 1) ∧ (List.range 3).all (fun a => witnessGeom.ringPairsOf 1 a == []) = true := by decide

/-- non-vacuity: an ordinary compressed geometry satisfies the hypotheses of the theorems -/
example : ∃ g : Geom, ctiSegments 3 4 5 = some (g.minSeg, g.segs) ∧ g.Cfg 8 :=
  ⟨{ N := 16, R := 5, minSeg := -1, segs := [⟨-4, -2, 5⟩, ⟨-1, 1, 9⟩, ⟨2, 4, 5⟩], viewMash := 2, tofMash := 3 },
   by decide, { hN := by decide, hm := by decide, hmash := by decide, htof := by decide, wf := by decide }⟩

/-! ### the segment table built by `ProjDataInfo::ProjDataInfoCTI` satisfies the well-formedness hypothesis outside the defect
class `ctiDefect` (ProofsCTI.lean; the class of `C01_F3_truncated_segment_not_partitioned`) -/

/-- closed form of the table: segments `-n … n`; segment 0 is `[-span/2, span/2]`, segment `j+1` is
    `[span/2+1+j·span, min (span/2+(j+1)·span) max_delta]` with `R-(j+1)` (span 1) resp.
    `2R-1-2·minRD` axial positions, segment `-(j+1)` its mirror image; `n` is the least number with
    `max_delta ≤ span/2 + n·span` -/
theorem C01_cti_table_shape (span maxDelta R minSeg : Int) (segs : List Seg)
    (h : ctiSegments span maxDelta R = some (minSeg, segs)) :
    (1 ≤ span ∧ span / 2 ≤ maxDelta ∧ maxDelta ≤ R - 1) ∧
    ∃ n : Nat, minSeg = -(n : Int) ∧
      segs = ((List.range n).map (ctiSegK span maxDelta R)).reverse.map Seg.mirror ++
        ctiSeg0 span R :: (List.range n).map (ctiSegK span maxDelta R) ∧
      (∀ j : Nat, j < n → span / 2 + (j : Int) * span < maxDelta) ∧
      maxDelta ≤ span / 2 + (n : Int) * span :=
  ctiSegments_shape span maxDelta R minSeg segs h

/-- **every segment table `ProjDataInfoCTI` builds outside the defect class is well-formed**, for all spans,
    maximal ring differences and numbers of rings (and any number of detectors, view / TOF mashing: `WFb` does
    not look at them) — so the ring-pair and bin theorems above apply to it -/
theorem C01_cti_WF (span maxDelta R minSeg : Int) (segs : List Seg)
    (h : ctiSegments span maxDelta R = some (minSeg, segs)) (hnd : ¬ ctiDefect span maxDelta R)
    (N viewMash tofMash : Int) :
    ({ N := N, R := R, minSeg := minSeg, segs := segs, viewMash := viewMash, tofMash := tofMash } : Geom).WFb = true :=
  cti_WF span maxDelta R minSeg segs h hnd _ rfl rfl

/-- … and the condition is exact: **inside the defect class the table is never well-formed** -/
theorem C01_cti_defect_not_WF (span maxDelta R minSeg : Int) (segs : List Seg)
    (h : ctiSegments span maxDelta R = some (minSeg, segs)) (hd : ctiDefect span maxDelta R)
    (N viewMash tofMash : Int) :
    ({ N := N, R := R, minSeg := minSeg, segs := segs, viewMash := viewMash, tofMash := tofMash } : Geom).WFb = false :=
  Bool.eq_false_iff.2 fun hwf => cti_not_WF_of_defect span maxDelta R minSeg segs h hd _ rfl rfl (Geom.WFp_of_WFb _ hwf)

/-- the constructed geometry is a configuration in the sense of the bin theorems -/
theorem C01_cti_Cfg (span maxDelta R minSeg : Int) (segs : List Seg)
    (h : ctiSegments span maxDelta R = some (minSeg, segs)) (hnd : ¬ ctiDefect span maxDelta R)
    (m viewMash tofMash : Int) (hm : 0 < m) (hmash : 0 < viewMash ∧ m % viewMash = 0)
    (htof : tofMash = 0 ∨ (0 < tofMash ∧ tofMash % 2 = 1)) :
    Geom.Cfg { N := 2 * m, R := R, minSeg := minSeg, segs := segs, viewMash := viewMash, tofMash := tofMash } m :=
  { hN := rfl, hm := hm, hmash := hmash, htof := htof,
    wf := cti_WF span maxDelta R minSeg segs h hnd _ rfl rfl }

/-- the witness of the known finding lies in the defect class … -/
example : ctiDefect 3 2 4 := by decide

/-- … while the same span and `max_delta` on 5 rings (last segment clipped to ring difference 2, right parity),
    span 3 / `max_delta` 4 on 5 rings, an even span (segment 0 = `[-1,1]`), and an even span with a clipped last
    segment (span 4, `max_delta` 5, 8 rings: segment 1 = `[3,5]`) are covered by the theorem -/
example : ∀ N vm tm : Int, (Geom.mk N 5 (-1) [⟨-2, -2, 5⟩, ⟨-1, 1, 9⟩, ⟨2, 2, 5⟩] vm tm).WFb = true :=
  C01_cti_WF 3 2 5 (-1) _ (by decide) (by decide)

example : ∀ N vm tm : Int, (Geom.mk N 5 (-1) [⟨-4, -2, 5⟩, ⟨-1, 1, 9⟩, ⟨2, 4, 5⟩] vm tm).WFb = true :=
  C01_cti_WF 3 4 5 (-1) _ (by decide) (by decide)

example : ∀ N vm tm : Int, (Geom.mk N 5 (-1) [⟨-3, -2, 5⟩, ⟨-1, 1, 9⟩, ⟨2, 3, 5⟩] vm tm).WFb = true :=
  C01_cti_WF 2 3 5 (-1) _ (by decide) (by decide)

example : ∀ N vm tm : Int, (Geom.mk N 8 (-1) [⟨-5, -3, 9⟩, ⟨-2, 2, 15⟩, ⟨3, 5, 9⟩] vm tm).WFb = true :=
  C01_cti_WF 4 5 8 (-1) _ (by decide) (by decide)

example : ∃ g : Geom, ctiSegments 2 3 5 = some (g.minSeg, g.segs) ∧ g.Cfg 8 :=
  ⟨{ N := 2 * 8, R := 5, minSeg := -1, segs := [⟨-3, -2, 5⟩, ⟨-1, 1, 9⟩, ⟨2, 3, 5⟩], viewMash := 2, tofMash := 3 },
   by decide, C01_cti_Cfg 2 3 5 (-1) _ (by decide) (by decide) 8 2 3 (by decide) (by decide) (by decide)⟩

/-! ### `ProjDataInfo::ProjDataInfoGE` ("even 'GE-style' span": segment 0 = ring differences -1, 0, 1, every other
segment a single ring difference) -/

/-- the constructor refuses `max_delta < 1` only -/
theorem C01_ge_table_shape (maxDelta R minSeg : Int) (segs : List Seg)
    (h : geSegments maxDelta R = some (minSeg, segs)) :
    1 ≤ maxDelta ∧ ∃ n : Nat, (n : Int) = maxDelta - 1 ∧ minSeg = -(n : Int) ∧
      segs = ((List.range n).map (geSegK R)).reverse.map Seg.mirror ++ geSeg0 R :: (List.range n).map (geSegK R) :=
  geSegments_shape maxDelta R minSeg segs h

/-- **every segment table `ProjDataInfoGE` builds is well-formed** — for every `max_delta ≥ 1` and every number of
    rings, without exception (there is no clipping of a compressed segment in this constructor), so the ring-pair and
    bin theorems above apply to it -/
theorem C01_ge_WF (maxDelta R minSeg : Int) (segs : List Seg)
    (h : geSegments maxDelta R = some (minSeg, segs)) (N viewMash tofMash : Int) :
    ({ N := N, R := R, minSeg := minSeg, segs := segs, viewMash := viewMash, tofMash := tofMash } : Geom).WFb = true :=
  ge_WF maxDelta R minSeg segs h _ rfl rfl

theorem C01_ge_Cfg (maxDelta R minSeg : Int) (segs : List Seg)
    (h : geSegments maxDelta R = some (minSeg, segs))
    (m viewMash tofMash : Int) (hm : 0 < m) (hmash : 0 < viewMash ∧ m % viewMash = 0)
    (htof : tofMash = 0 ∨ (0 < tofMash ∧ tofMash % 2 = 1)) :
    Geom.Cfg { N := 2 * m, R := R, minSeg := minSeg, segs := segs, viewMash := viewMash, tofMash := tofMash } m :=
  { hN := rfl, hm := hm, hmash := hmash, htof := htof, wf := ge_WF maxDelta R minSeg segs h _ rfl rfl }

/-- non-vacuity: `max_delta = 3` on 5 rings -/
example : ∃ g : Geom, geSegments 3 5 = some (g.minSeg, g.segs) ∧ g.Cfg 8 :=
  ⟨{ N := 2 * 8, R := 5, minSeg := -2, segs := [⟨-3, -3, 2⟩, ⟨-2, -2, 3⟩, ⟨-1, 1, 9⟩, ⟨2, 2, 3⟩, ⟨3, 3, 2⟩], viewMash := 4, tofMash := 5 },
   by decide, C01_ge_Cfg 3 5 (-2) _ (by decide) 8 4 5 (by decide) (by decide) (by decide)⟩

/-! ### sampling changed after construction ("reduced segment or tangential range")

`CylState` is what `reduce_segment_range`, `set_min/max_ring_difference`, `set_min/max_axial_pos_num`,
`set_min/max_tangential_pos_num`, `set_num_tangential_poss`, `set_num_views` store; the lazy tables are rebuilt from
it, i.e. every look-up is the look-up of `CylState.geom`. -/

/-- a freshly constructed object looks up in the constructed geometry -/
theorem C01_state_fresh (g : Geom) (minTang maxTang : Int) : (CylState.ofGeom g minTang maxTang).geom = g :=
  CylState.geom_ofGeom g minTang maxTang

/-- **reduced tangential range**: no table depends on the tangential range … -/
theorem C01_state_tang_indep (c : CylState) (a b n : Int) :
    ({ c with minTang := a } : CylState).geom = c.geom ∧ ({ c with maxTang := b } : CylState).geom = c.geom ∧
      (c.setNumTang n).geom = c.geom :=
  ⟨rfl, rfl, rfl⟩

/-- … and `set_num_views` changes the view mashing factor only -/
theorem C01_state_views (c : CylState) (k : Int) :
    ({ c with viewMash := k } : CylState).geom = { c.geom with viewMash := k } := rfl

/-- for a sampling whose geometry satisfies `WFp` the rebuild of the tables does not call `error` and
    `get_segment_axial_pos_num_for_ring_pair` is the look-up of the geometry -/
theorem C01_state_lookup (c : CylState) (h : c.geom.WFp = true) (r1 r2 : Int) :
    c.initErr = false ∧ c.segAxOfRingPair r1 r2 = .ok (c.geom.segAxOfRingPair r1 r2) :=
  ⟨c.initErr_of_WFp h, c.segAxOfRingPair_eq h r1 r2⟩

/-- `WFp` is the part of `WFb` that does not mention the axial range -/
theorem C01_WFp_of_WFb (g : Geom) (h : g.WFb = true) : g.WFp = true := g.WFp_of_WFb h

/-- **ring pairs are partitioned over (segment, axial position)**, hypothesis `WFp` only -/
theorem C01_ringpair_partition_p (g : Geom) (h : g.WFp = true) (r1 r2 : Int)
    (h1 : 0 ≤ r1 ∧ r1 < g.R) (h2 : 0 ≤ r2 ∧ r2 < g.R) (s a : Int) :
    g.segAxOfRingPair r1 r2 = some (s, a) ↔ (r1, r2) ∈ g.ringPairsOf s a :=
  g.ringpair_partition_p h r1 r2 h1 h2 s a

/-- **… on the changed sampling**: a ring pair is assigned to `(s, a)` by the object iff the object lists it for `(s, a)` -/
theorem C01_state_ringpair_partition (c : CylState) (h : c.geom.WFp = true) (r1 r2 : Int)
    (h1 : 0 ≤ r1 ∧ r1 < c.R) (h2 : 0 ≤ r2 ∧ r2 < c.R) (s a : Int) :
    c.segAxOfRingPair r1 r2 = .ok (some (s, a)) ↔ (r1, r2) ∈ c.geom.ringPairsOf s a := by
  rw [c.segAxOfRingPair_eq h, Except.ok.injEq]
  exact c.geom.ringpair_partition_p h r1 r2 h1 h2 s a

/-! ### the bin theorems under `CfgP` (even number of detectors, view mashing dividing `N/2`, non-TOF or odd TOF mashing, `WFp`)

**the pairs a bin reports are exactly the pairs assigned to it, with the reported count; exchange; uncompressed inverse** — for
every geometry a `CylState` with `WFp` looks up in.  The five theorems are those of the same names without `_p` above. -/

theorem C01_all_sound_p (g : Geom) (m : Int) (c : g.CfgP m) (b : Bin) (hb : g.binInRange m b) (p : DetPair)
    (hp : p ∈ g.allDetPairsForBin b) : g.binForDetPair p = some b ∧ p.valid g :=
  all_sound_p g m c b hb p hp

theorem C01_all_complete_p (g : Geom) (m : Int) (c : g.CfgP m) (b : Bin) (p : DetPair) (hp : p.valid g)
    (h : g.binForDetPair p = some b) :
    g.binInRange m b ∧ (p ∈ g.allDetPairsForBin b ∨ p.swapped ∈ g.allDetPairsForBin b) :=
  all_complete_p g m c b p hp h

theorem C01_all_nodup_count_p (g : Geom) (m : Int) (c : g.CfgP m) (b : Bin) (hb : g.binInRange m b) :
    (g.allDetPairsForBin b).Nodup ∧ (g.allDetPairsForBin b).length = g.numDetPairsForBin b :=
  all_nodup_count_p g m c.toT b hb

theorem C01_swapped_same_bin_p (g : Geom) (m : Int) (c : g.CfgP m) (p : DetPair) (hp : p.valid g) (b : Bin)
    (h : g.binForDetPair p = some b) : g.binForDetPair p.swapped = some b :=
  (swapped_bin_eq_p g m c.toT p hp).trans h

theorem C01_uncompressed_inverse_p (g : Geom) (m : Int) (c : g.CfgP m) (h1 : g.viewMash = 1) (ht : g.tofMash ≤ 1)
    (b : Bin) (hb : g.binInRange m b) (p : DetPair) (h : g.detPairForBin b = some p)
    (hr : 0 ≤ p.r1 ∧ p.r1 < g.R ∧ 0 ≤ p.r2 ∧ p.r2 < g.R) : g.binForDetPair p = some b :=
  have _ := ht
  uncompressed_inverse_p g m c h1 b hb p h hr

/-- the tables of both constructors are sorted by ring difference … -/
theorem C01_cti_sorted (span maxDelta R minSeg : Int) (segs : List Seg)
    (h : ctiSegments span maxDelta R = some (minSeg, segs)) : SegsSorted segs :=
  cti_sorted span maxDelta R minSeg segs h

theorem C01_ge_sorted (maxDelta R minSeg : Int) (segs : List Seg)
    (h : geSegments maxDelta R = some (minSeg, segs)) : SegsSorted segs :=
  ge_sorted maxDelta R minSeg segs h

/-- … and **`reduce_segment_range` of a sorted table satisfying `WFp` is again sorted and satisfies `WFp`**, whatever
    range of segments is kept (also an asymmetric one, also one that does not contain segment 0) -/
theorem C01_reduce_WFp (c : CylState) (h : c.geom.WFp = true) (hs : SegsSorted c.geom.segs) (lo hi : Int) :
    (c.reduceSegmentRange lo hi).geom.WFp = true ∧ SegsSorted (c.reduceSegmentRange lo hi).geom.segs :=
  c.reduce_WFp h hs lo hi

/-- a freshly constructed object: `2m` detectors per ring, the given segment table and tangential range -/
def builtState (R minSeg : Int) (segs : List Seg) (m viewMash tofMash minTang maxTang : Int) : CylState :=
  CylState.ofGeom ⟨2 * m, R, minSeg, segs, viewMash, tofMash⟩ minTang maxTang

/-- hence every object built by `ProjDataInfoCTI` outside the defect class whose segment range was reduced (and whose
    tangential range is arbitrary) is a configuration of the bin theorems -/
theorem C01_reduced_cti_CfgP (span maxDelta R minSeg : Int) (segs : List Seg)
    (h : ctiSegments span maxDelta R = some (minSeg, segs)) (hnd : ¬ ctiDefect span maxDelta R)
    (m viewMash tofMash : Int) (hm : 0 < m) (hmash : 0 < viewMash ∧ m % viewMash = 0)
    (htof : tofMash = 0 ∨ (0 < tofMash ∧ tofMash % 2 = 1)) (minTang maxTang lo hi : Int) :
    Geom.CfgP ((builtState R minSeg segs m viewMash tofMash minTang maxTang).reduceSegmentRange lo hi).geom m :=
  reduced_CfgP _ m (C01_cti_Cfg span maxDelta R minSeg segs h hnd m viewMash tofMash hm hmash htof).toP
    (cti_sorted span maxDelta R minSeg segs h) minTang maxTang lo hi

/-- the same for `ProjDataInfoGE` (no exception) -/
theorem C01_reduced_ge_CfgP (maxDelta R minSeg : Int) (segs : List Seg)
    (h : geSegments maxDelta R = some (minSeg, segs))
    (m viewMash tofMash : Int) (hm : 0 < m) (hmash : 0 < viewMash ∧ m % viewMash = 0)
    (htof : tofMash = 0 ∨ (0 < tofMash ∧ tofMash % 2 = 1)) (minTang maxTang lo hi : Int) :
    Geom.CfgP ((builtState R minSeg segs m viewMash tofMash minTang maxTang).reduceSegmentRange lo hi).geom m :=
  reduced_CfgP _ m (C01_ge_Cfg maxDelta R minSeg segs h m viewMash tofMash hm hmash htof).toP
    (ge_sorted maxDelta R minSeg segs h) minTang maxTang lo hi

/-- non-vacuity: span 3, `max_delta` 4 on 5 rings, reduced to segments 0 … 1, tangential range -3 … 2 -/
def reducedExample : CylState :=
  (CylState.ofGeom { N := 16, R := 5, minSeg := -1, segs := [⟨-4, -2, 5⟩, ⟨-1, 1, 9⟩, ⟨2, 4, 5⟩], viewMash := 2, tofMash := 3 }
    (-3) 2).reduceSegmentRange 0 1

example : reducedExample.geom.CfgP 8 ∧ reducedExample.geom.segs = [⟨-1, 1, 9⟩, ⟨2, 4, 5⟩] ∧ reducedExample.minSeg = 0 ∧
    reducedExample.segAxOfRingPair 0 3 = .ok (some (1, 1)) ∧ reducedExample.geom.ringPairsOf 1 1 = [(0, 3)] ∧
    reducedExample.segAxOfRingPair 3 0 = .ok none :=
  ⟨C01_reduced_cti_CfgP 3 4 5 (-1) _ (by decide) (by decide) 8 2 3 (by decide) (by decide) (by decide) (-3) 2 0 1,
   by decide, by decide, by decide, by decide, by decide⟩

/-! ### the setters can leave a single-ring-difference segment with an axial range of the wrong parity

(known finding `ringpairs:setters-leave-single-ring-difference-segment-with-axial-range-of-odd-parity`, same root cause
as `C01_F3_truncated_segment_not_partitioned`): 3 rings, span 1, `max_delta` 0, then `set_min_axial_pos_num(1, 0)`.
`m_offset` re-centres the two remaining axial positions half a ring spacing away from the rings: ring pairs (1,1), (2,2)
are assigned to axial positions 1, 2 while both lists are empty.  `WFp` is false, so no theorem applies. -/

def setterWitness : CylState :=
  (CylState.ofGeom { N := 8, R := 3, minSeg := 0, segs := [⟨0, 0, 3⟩], viewMash := 1, tofMash := 0 } (-1) 1).setMinAx 0 1

theorem C01_F4_setter_parity :
    ctiSegments 1 0 3 = some (0, [⟨0, 0, 3⟩]) ∧ setterWitness.segs = [⟨0, 0, 1, 2⟩] ∧ setterWitness.initErr = false ∧
    setterWitness.geom.WFp = false ∧
    setterWitness.segAxOfRingPair 1 1 = .ok (some (0, 1)) ∧ setterWitness.segAxOfRingPair 2 2 = .ok (some (0, 2)) ∧
    setterWitness.geom.ringPairsOf 0 1 = [] ∧ setterWitness.geom.ringPairsOf 0 2 = [] := by decide

/-! ### the spatial list of a bin (`get_all_det_pos_pairs_for_bin(…, ignore_non_spatial_dimensions = true)`,
`get_num_det_pos_pairs_for_bin(bin, true)`) — "with the reported count", TOF data included -/

/-- the reported spatial count is the length of the spatial list, and the full count is the spatial count times the TOF
    mashing factor (1 for non-TOF data) -/
theorem C01_spatial_count (g : Geom) (b : Bin) :
    (g.spatialDetPairsForBin b).length = g.numSpatialDetPairsForBin b ∧
      g.numDetPairsForBin b = g.numSpatialDetPairsForBin b * (max 1 g.tofMash).toNat :=
  ⟨by rw [spatial_eq, pairsWith_length, List.length_singleton, Nat.mul_one, Geom.numSpatialDetPairsForBin], rfl⟩

/-- the spatial list contains exactly the detector / ring parts of the pairs of the full list, with timing position 0 -/
theorem C01_spatial_mem (g : Geom) (b : Bin) (p : DetPair) (ht : 0 ≤ g.tofMash) :
    p ∈ g.spatialDetPairsForBin b ↔
      p.t = 0 ∧ ∃ t, (⟨p.d1, p.r1, p.d2, p.r2, t⟩ : DetPair) ∈ g.allDetPairsForBin b := by
  obtain ⟨d1, r1, d2, r2, t⟩ := p
  simp only [spatial_eq, allDetPairsForBin_eq_pairsWith, mem_pairsWith, List.mem_singleton, DetPair.mk.injEq]
  constructor
  · rintro ⟨j, hj, rp, hrp, _, rfl, h1, h2, h3, h4, h5⟩
    exact ⟨h5.symm, _, j, hj, rp, hrp, _, tofList_centre g ht b.tof, h1, h2, h3, h4, rfl⟩
  · rintro ⟨h0, t', j, hj, rp, hrp, _, _, h1, h2, h3, h4, _⟩
    exact ⟨j, hj, rp, hrp, 0, rfl, h1, h2, h3, h4, h0.symm⟩

/-- … each once -/
theorem C01_spatial_nodup (g : Geom) (m : Int) (c : g.CfgP m) (b : Bin) (hb : g.binInRange m b) :
    (g.spatialDetPairsForBin b).Nodup :=
  spatial_eq g b ▸ pairsWith_nodup g m c.toT b hb [0] (List.nodup_singleton 0)

/-- non-vacuity: a TOF geometry (mashing 3) with view mashing 2; the bin (1, 1, 2, -2, 1) has 2 ring pairs, hence lists
    2 x 2 spatial pairs, 12 in all -/
example : reducedExample.geom.numSpatialDetPairsForBin ⟨1, 1, 2, -2, 1⟩ = 4 ∧
    reducedExample.geom.numDetPairsForBin ⟨1, 1, 2, -2, 1⟩ = 12 ∧
    (reducedExample.geom.spatialDetPairsForBin ⟨1, 1, 2, -2, 1⟩).length = 4 ∧
    (reducedExample.geom.allDetPairsForBin ⟨1, 1, 2, -2, 1⟩).length = 12 := by decide

/-! ### even TOF mashing factors (the bin theorems assume an odd factor)

The code before fix C01-1 (aadca8a8f), which `allDetPairsForBin` / `numDetPairsForBin` transcribe for even factors: 8 detectors,
2 rings, span 1, TOF mashing factor 2: the central TOF bin of the bin (0,0,0,0) lists the timing positions -1, 0, 1 — three
entries for a reported count of 2 (that code wrote the third entry past the end of the vector) — and the pairs with timing
positions ±1 are assigned to the TOF bins ±1, whose lists (1, 2, 3) overlap the central one.  The repaired code lists for each
bin the timing positions that `binForDetPair` assigns to it. -/

def evenTofWitness : Geom := { N := 8, R := 2, minSeg := 0, segs := [⟨0, 0, 2⟩], viewMash := 1, tofMash := 2 }

theorem C01_F5_even_tof_mashing_not_partitioned :
    evenTofWitness.WFb = true ∧
    evenTofWitness.allDetPairsForBin ⟨0, 0, 0, 0, 0⟩ = [⟨0, 0, 4, 0, -1⟩, ⟨0, 0, 4, 0, 0⟩, ⟨0, 0, 4, 0, 1⟩] ∧
    evenTofWitness.numDetPairsForBin ⟨0, 0, 0, 0, 0⟩ = 2 ∧
    evenTofWitness.binForDetPair ⟨0, 0, 4, 0, 1⟩ = some ⟨0, 0, 0, 0, 1⟩ ∧
    evenTofWitness.binForDetPair ⟨0, 0, 4, 0, -1⟩ = some ⟨0, 0, 0, 0, -1⟩ ∧
    (⟨0, 0, 4, 0, 1⟩ : DetPair) ∈ evenTofWitness.allDetPairsForBin ⟨0, 0, 0, 0, 1⟩ := by decide

end StirVerif.C01
