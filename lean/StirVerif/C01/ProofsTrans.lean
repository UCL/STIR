/-
C01 — transaxial interleaving: view / tangential position ↔ detector pair, for `N = 2m` detectors.

Both tables reduce detector numbers modulo `N`.  The proofs never split on how often `N` was subtracted: "`r` is `x` brought
into `0 … N-1`" is kept as `0 ≤ r < N` and `x = r + N * k` for some `k` (`Common.tdiv_tmod_spec`, `tmod_eq_of`), and `omega` treats each
product `2 * m * k` as an atom.  `IsDetPair` says in this form that `d1, d2` are the detectors of bin `(v, tp)`; both
tables are characterised by it and the round trips follow.
-/
import StirVerif.C01.Model
import StirVerif.Common.IntDiv

namespace StirVerif.C01

theorem shr1_eq (x : Int) : shr1 x = x / 2 := by
  unfold shr1
  exact Int.fdiv_eq_ediv_of_nonneg x (by omega)

theorem tmod_eq_of {x n r : Int} (k : Int) (h : 0 ≤ x ∧ 0 ≤ r ∧ r < n ∧ x = r + n * k) : x.tmod n = r := by
  obtain ⟨hx, hr, hrn, h⟩ := h
  rw [Int.tmod_eq_emod_of_nonneg hx, h, Int.add_mul_emod_self_left, Int.emod_eq_of_lt hr hrn]

theorem viewTangToDet_eq (m v tp : Int) :
    viewTangToDet (2 * m) v tp =
      ((v + tp / 2 + 2 * m).tmod (2 * m), (v - (tp + 1) / 2 + m).tmod (2 * m)) := by
  simp only [viewTangToDet, shr1_eq, Int.mul_tdiv_cancel_left m (show (2 : Int) ≠ 0 by decide)]

theorem detToViewTang_eq (m d1 d2 tang view : Int)
    (htang : (d1 - d2 + 3 * m).tmod (2 * m) = tang)
    (hview : (d1 - tang / 2 + 2 * m).tmod (2 * m) = view) :
    detToViewTang (2 * m) d1 d2 =
      if view < m then
        if tang ≥ m then (view, 2 * m - tang, false) else (view, tang, true)
      else
        if tang ≥ m then (view - m, tang - 2 * m, true) else (view - m, -tang, false) := by
  simp only [detToViewTang, shr1_eq, Int.mul_tdiv_assoc 3 (Int.dvd_mul_right 2 m),
    Int.mul_tdiv_cancel_left m (show (2 : Int) ≠ 0 by decide), htang, hview]

/-- `d1`, `d2` are the detectors `v + ⌊tp/2⌋` and `v - ⌈tp/2⌉ + m` of bin `(v, tp)`, brought into `0 … 2m-1` -/
def IsDetPair (m v tp d1 d2 : Int) : Prop :=
  (0 ≤ d1 ∧ d1 < 2 * m) ∧ (0 ≤ d2 ∧ d2 < 2 * m) ∧
    ∃ k1 k2 : Int, d1 = v + tp / 2 + 2 * m * k1 ∧ d2 = v - (tp + 1) / 2 + m + 2 * m * k2

theorem viewTangToDet_isDetPair (m v tp : Int) (hv : 0 ≤ v ∧ v < m) (ht : -m < tp ∧ tp ≤ m) :
    IsDetPair m v tp (viewTangToDet (2 * m) v tp).1 (viewTangToDet (2 * m) v tp).2 := by
  rw [viewTangToDet_eq m v tp]
  obtain ⟨_, a0, a1, ea⟩ := Common.tdiv_tmod_spec (x := v + tp / 2 + 2 * m) (n := 2 * m) (by omega) (by omega)
  obtain ⟨_, b0, b1, eb⟩ := Common.tdiv_tmod_spec (x := v - (tp + 1) / 2 + m) (n := 2 * m) (by omega) (by omega)
  refine ⟨⟨a0, a1⟩, ⟨b0, b1⟩, 1 - (v + tp / 2 + 2 * m).tdiv (2 * m), -(v - (tp + 1) / 2 + m).tdiv (2 * m), ?_, ?_⟩
  · rw [Int.mul_sub]
    omega
  · rw [Int.mul_neg]
    omega

theorem IsDetPair.eq_viewTangToDet {m v tp d1 d2 : Int} (h : IsDetPair m v tp d1 d2)
    (hv : 0 ≤ v ∧ v < m) (ht : -m < tp ∧ tp ≤ m) : viewTangToDet (2 * m) v tp = (d1, d2) := by
  obtain ⟨h1, h2, k1, k2, e1, e2⟩ := h
  rw [viewTangToDet_eq m v tp]
  have ha : (v + tp / 2 + 2 * m).tmod (2 * m) = d1 := by
    apply tmod_eq_of (1 - k1)
    rw [Int.mul_sub]
    omega
  have hb : (v - (tp + 1) / 2 + m).tmod (2 * m) = d2 := by
    apply tmod_eq_of (-k2)
    rw [Int.mul_neg]
    omega
  rw [ha, hb]

theorem IsDetPair.wrap {m v tp d1 d2 : Int} (h : IsDetPair m v tp d1 d2) : IsDetPair m (v - m) (-tp) d2 d1 := by
  obtain ⟨h1, h2, k1, k2, e1, e2⟩ := h
  refine ⟨h2, h1, k2 + 1, k1, ?_, ?_⟩
  · rw [Int.mul_add]
    omega
  · omega

/-- the same pair read from the other detector: the view is half a turn on, the tangential position changes sign -/
theorem IsDetPair.flip {m v tp d1 d2 : Int} (h : IsDetPair m v tp d1 d2) : IsDetPair m (v + m) (-tp) d2 d1 := by
  obtain ⟨h1, h2, k1, k2, e1, e2⟩ := h
  refine ⟨h2, h1, k2, k1 - 1, ?_, ?_⟩
  · omega
  · rw [Int.mul_sub]
    omega

theorem IsDetPair.eq_of_extreme {m v tp d1 d2 : Int} (h : IsDetPair m v tp d1 d2) (ht : tp = m ∨ tp = -m) :
    d1 = d2 := by
  have key : ∀ {v d1 d2 : Int}, IsDetPair m v m d1 d2 → d1 = d2 := by
    rintro v d1 d2 ⟨h1, h2, k1, k2, e1, e2⟩
    have hk : k1 - k2 = 0 := by
      apply Common.eq_zero_of_mul_lt (n := 2 * m)
      · rw [Int.mul_sub]
        omega
      · rw [Int.mul_sub]
        omega
    obtain rfl : k1 = k2 := by omega
    omega
  rcases ht with rfl | rfl
  · exact key h
  · exact (key (Int.neg_neg m ▸ h.flip)).symm

theorem IsDetPair.extreme_of_eq {m v tp d : Int} (h : IsDetPair m v tp d d) (ht : -m ≤ tp ∧ tp ≤ m) :
    tp = m ∨ tp = -m := by
  obtain ⟨_, _, k1, k2, e1, e2⟩ := h
  apply Decidable.byContradiction
  intro hc
  have hk : k2 - k1 = 0 := by
    apply Common.eq_zero_of_mul_lt (n := 2 * m)
    · rw [Int.mul_sub]
      omega
    · rw [Int.mul_sub]
      omega
  obtain rfl : k2 = k1 := by omega
  omega

/-- views `m … 2m-1` are looked up as the exchanged pair.  The tangential position is `d1 - d2 + m` up to a multiple of `N`; the sign of
    `tp` decides which multiple. -/
theorem IsDetPair.lookup {m v tp d1 d2 : Int} (h : IsDetPair m v tp d1 d2)
    (hv : 0 ≤ v ∧ v < 2 * m) (ht : -m < tp ∧ tp < m) :
    detToViewTang (2 * m) d1 d2 = if v < m then (v, tp, true) else (v - m, -tp, false) := by
  obtain ⟨h1, h2, k1, k2, e1, e2⟩ := h
  by_cases hs : 0 ≤ tp
  · have htang : (d1 - d2 + 3 * m).tmod (2 * m) = tp := by
      apply tmod_eq_of (k1 - k2 + 1)
      rw [Int.mul_add, Int.mul_sub]
      omega
    have hview : (d1 - tp / 2 + 2 * m).tmod (2 * m) = v := by
      apply tmod_eq_of (k1 + 1)
      rw [Int.mul_add]
      omega
    rw [detToViewTang_eq m d1 d2 _ _ htang hview, if_neg (Int.not_le.2 ht.2), if_neg (Int.not_le.2 ht.2)]
  · have htang : (d1 - d2 + 3 * m).tmod (2 * m) = tp + 2 * m := by
      apply tmod_eq_of (k1 - k2)
      rw [Int.mul_sub]
      omega
    by_cases hlt : v < m
    · have hview : (d1 - (tp + 2 * m) / 2 + 2 * m).tmod (2 * m) = v + m :=
        tmod_eq_of k1 (by omega)
      rw [detToViewTang_eq m d1 d2 _ _ htang hview, if_neg (by omega), if_pos (by omega), if_pos hlt]
      simp only [Int.add_sub_cancel]
    · have hview : (d1 - (tp + 2 * m) / 2 + 2 * m).tmod (2 * m) = v - m := by
        apply tmod_eq_of (k1 + 1)
        rw [Int.mul_add]
        omega
      rw [detToViewTang_eq m d1 d2 _ _ htang hview, if_pos (by omega), if_pos (by omega), if_neg hlt]
      congr 2
      omega

theorem IsDetPair.toViewTang {m v tp d1 d2 : Int} (h : IsDetPair m v tp d1 d2)
    (hv : 0 ≤ v ∧ v < m) (ht : -m < tp ∧ tp < m) :
    detToViewTang (2 * m) d1 d2 = (v, tp, true) ∧ detToViewTang (2 * m) d2 d1 = (v, tp, false) := by
  constructor
  · rw [h.lookup (by omega) ht, if_pos hv.2]
  · rw [h.flip.lookup (by omega) (by omega), if_neg (by omega), Int.add_sub_cancel, Int.neg_neg]

/-- distinct detectors are the pair of a bin `(v, tp)`, the view counted over the whole turn `0 … 2m-1`: `tp` is `d1 - d2 + m` brought
    into `(-m, m)` (`tp = m` would mean `d1 = d2`), `v` is `d1 - ⌊tp/2⌋` brought into `0 … 2m-1` -/
theorem exists_isDetPair (m d1 d2 : Int) (h1 : 0 ≤ d1 ∧ d1 < 2 * m) (h2 : 0 ≤ d2 ∧ d2 < 2 * m)
    (hne : d1 ≠ d2) : ∃ v tp, (0 ≤ v ∧ v < 2 * m) ∧ (-m < tp ∧ tp < m) ∧ IsDetPair m v tp d1 d2 := by
  obtain ⟨tp, htp, k, ek⟩ : ∃ tp, (-m < tp ∧ tp < m) ∧ ∃ k, d1 - d2 = tp - m + 2 * m * k := by
    obtain ⟨_, t0, t1, et⟩ := Common.tdiv_tmod_spec (x := d1 - d2 + 3 * m) (n := 2 * m) (by omega) (by omega)
    generalize (d1 - d2 + 3 * m).tmod (2 * m) = tang at t0 t1 et
    generalize (d1 - d2 + 3 * m).tdiv (2 * m) = k at et
    have htm : tang ≠ m := by
      intro h
      have hk : k - 1 = 0 := by
        apply Common.eq_zero_of_mul_lt (n := 2 * m)
        · rw [Int.mul_sub]
          omega
        · rw [Int.mul_sub]
          omega
      obtain rfl : k = 1 := by omega
      omega
    by_cases hlt : tang < m
    · refine ⟨tang, by omega, k - 1, ?_⟩
      rw [Int.mul_sub]
      omega
    · exact ⟨tang - 2 * m, by omega, k, by omega⟩
  obtain ⟨_, v0, v1, ev⟩ := Common.tdiv_tmod_spec (x := d1 - tp / 2 + 2 * m) (n := 2 * m) (by omega) (by omega)
  generalize (d1 - tp / 2 + 2 * m).tdiv (2 * m) = l at ev
  refine ⟨_, tp, ⟨v0, v1⟩, htp, h1, h2, l - 1, l - 1 - k, ?_, ?_⟩
  · rw [Int.mul_sub]
    omega
  · rw [Int.mul_sub, Int.mul_sub]
    omega

theorem vt_det_roundtrip (m v tp : Int) (hm : 0 < m) (hv : 0 ≤ v ∧ v < m) (ht : -m < tp ∧ tp < m) :
    detToViewTang (2 * m) (viewTangToDet (2 * m) v tp).1 (viewTangToDet (2 * m) v tp).2 = (v, tp, true) :=
  ((viewTangToDet_isDetPair m v tp hv ⟨ht.1, Int.le_of_lt ht.2⟩).toViewTang hv ht).1

theorem viewTangToDet_inj (m tp : Int) (hm : 0 < m) (ht : -m < tp ∧ tp < m) {v v' : Int} (hv : 0 ≤ v ∧ v < m)
    (hv' : 0 ≤ v' ∧ v' < m) (h : viewTangToDet (2 * m) v tp = viewTangToDet (2 * m) v' tp) : v = v' := by
  have rt := vt_det_roundtrip m v tp hm hv ht
  rw [h, vt_det_roundtrip m v' tp hm hv' ht] at rt
  exact (Prod.mk.inj rt).1.symm

/-- equal detectors would be looked up both as "not swapped" and as "swapped" -/
theorem viewTangToDet_range (m v tp : Int) (hv : 0 ≤ v ∧ v < m) (ht : -m < tp ∧ tp < m) :
    0 ≤ (viewTangToDet (2 * m) v tp).1 ∧ (viewTangToDet (2 * m) v tp).1 < 2 * m ∧
    0 ≤ (viewTangToDet (2 * m) v tp).2 ∧ (viewTangToDet (2 * m) v tp).2 < 2 * m ∧
    (viewTangToDet (2 * m) v tp).1 ≠ (viewTangToDet (2 * m) v tp).2 := by
  have h := viewTangToDet_isDetPair m v tp hv ⟨ht.1, Int.le_of_lt ht.2⟩
  refine ⟨h.1.1, h.1.2, h.2.1.1, h.2.1.2, fun he => ?_⟩
  have hd := h.toViewTang hv ht
  rw [he] at hd
  exact absurd (hd.1.symm.trans hd.2) (by simp)

theorem det_vt_roundtrip (m d1 d2 : Int) (hm : 0 < m) (h1 : 0 ≤ d1 ∧ d1 < 2 * m) (h2 : 0 ≤ d2 ∧ d2 < 2 * m)
    (hne : d1 ≠ d2) :
    0 ≤ (detToViewTang (2 * m) d1 d2).1 ∧ (detToViewTang (2 * m) d1 d2).1 < m ∧
    -m < (detToViewTang (2 * m) d1 d2).2.1 ∧ (detToViewTang (2 * m) d1 d2).2.1 < m ∧
    viewTangToDet (2 * m) (detToViewTang (2 * m) d1 d2).1 (detToViewTang (2 * m) d1 d2).2.1 =
      (if (detToViewTang (2 * m) d1 d2).2.2 then (d1, d2) else (d2, d1)) := by
  obtain ⟨v, tp, hv, ht, h⟩ := exists_isDetPair m d1 d2 h1 h2 hne
  rw [h.lookup hv ht]
  split
  · exact ⟨hv.1, ‹_›, ht.1, ht.2, h.eq_viewTangToDet ⟨hv.1, ‹_›⟩ ⟨ht.1, Int.le_of_lt ht.2⟩⟩
  · dsimp only
    exact ⟨by omega, by omega, by omega, by omega, h.wrap.eq_viewTangToDet (by omega) (by omega)⟩

theorem swap_exchanges (m d1 d2 : Int) (hm : 0 < m) (h1 : 0 ≤ d1 ∧ d1 < 2 * m) (h2 : 0 ≤ d2 ∧ d2 < 2 * m)
    (hne : d1 ≠ d2) :
    detToViewTang (2 * m) d2 d1 =
      ((detToViewTang (2 * m) d1 d2).1, (detToViewTang (2 * m) d1 d2).2.1, !(detToViewTang (2 * m) d1 d2).2.2) := by
  -- `(d1, d2)` or `(d2, d1)` is the detector pair of the bin found, and a bin's pair is looked up in either order
  obtain ⟨v0, v1, t0, t1, e⟩ := det_vt_roundtrip m d1 d2 hm h1 h2 hne
  have h := (viewTangToDet_isDetPair m _ _ ⟨v0, v1⟩ ⟨t0, Int.le_of_lt t1⟩).toViewTang ⟨v0, v1⟩ ⟨t0, t1⟩
  rw [e] at h
  rcases hx : detToViewTang (2 * m) d1 d2 with ⟨v, tp, keep⟩
  rw [hx] at h
  cases keep
  · exact h.1
  · exact h.2

end StirVerif.C01
