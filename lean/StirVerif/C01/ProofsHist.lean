/-
C01 — sampling changed after construction, and the spatial bin lists.

`CylState` (Model.lean) is the stored sampling of a `ProjDataInfoCylindrical`; every look-up goes through `CylState.geom`.
For a state whose geometry satisfies `WFp` the rebuild of the lazy tables does not call `error` and the look-up is the one of
the geometry, so the `WFp` theorems apply; `reduce_segment_range` keeps `WFp` for a sorted table (sortedness is needed: the
first/last clause of `WFp` is not inherited by sublists).
-/
import StirVerif.C01.ProofsBins

namespace StirVerif.C01

theorem AxSeg.seg_ofSeg (s : Seg) : (AxSeg.ofSeg s).seg = s := by
  cases s
  simp only [AxSeg.ofSeg, AxSeg.seg, Seg.mk.injEq, true_and]
  omega

theorem CylState.geom_ofGeom (g : Geom) (a b : Int) : (CylState.ofGeom g a b).geom = g := by
  cases g
  simp only [CylState.ofGeom, CylState.geom, List.map_map, Geom.mk.injEq, true_and, and_true]
  rw [List.map_congr_left (g := id)]
  · simp
  · intro s _
    exact AxSeg.seg_ofSeg s

theorem CylState.initErr_of_WFp (c : CylState) (h : c.geom.WFp = true) : c.initErr = false := by
  obtain ⟨hle, _, hax, _⟩ := c.geom.WFp_iff.1 h
  unfold CylState.initErr
  rw [Bool.or_eq_false_iff]
  constructor
  · rw [List.any_eq_false]
    intro s hs
    have := hle s.seg (by simp only [CylState.geom, List.mem_map]; exact ⟨s, hs, rfl⟩)
    simp only [AxSeg.seg] at this
    simp only [decide_eq_true_eq]
    omega
  · rw [List.any_eq_false]
    intro s hs
    obtain ⟨off, ho, _⟩ := hax s.seg (by simp only [CylState.geom, List.mem_map]; exact ⟨s, hs, rfl⟩)
    have hR : c.geom.R = c.R := rfl
    rw [hR] at ho
    simp [ho]

theorem CylState.segAxOfRingPair_eq (c : CylState) (h : c.geom.WFp = true) (r1 r2 : Int) :
    c.segAxOfRingPair r1 r2 = .ok (c.geom.segAxOfRingPair r1 r2) := by
  -- both sides test the ring difference against the same outer segments: `c.geom.segs` is `c.segs` mapped
  have e1 : c.geom.segs.getLast? = c.segs.getLast?.map AxSeg.seg := List.getLast?_map
  have e2 : c.geom.segs.head? = c.segs.head?.map AxSeg.seg := List.head?_map
  unfold CylState.segAxOfRingPair Geom.segAxOfRingPair Geom.segOfRingDiff
  rw [e1, e2, c.initErr_of_WFp h]
  cases c.segs.getLast? with
  | none => rfl
  | some last =>
    cases c.segs.head? with
    | none => rfl
    | some first =>
      simp only [Option.map_some, AxSeg.seg]
      split
      · rfl
      · rfl

theorem CylState.reduce_geom_segs (c : CylState) (lo hi : Int) :
    (c.reduceSegmentRange lo hi).geom.segs = (c.geom.segs.drop (lo - c.minSeg).toNat).take (hi - lo + 1).toNat := by
  simp only [CylState.reduceSegmentRange, CylState.geom, List.map_take, List.map_drop]

theorem CylState.reduce_WFp (c : CylState) (h : c.geom.WFp = true) (hs : SegsSorted c.geom.segs) (lo hi : Int) :
    (c.reduceSegmentRange lo hi).geom.WFp = true ∧ SegsSorted (c.reduceSegmentRange lo hi).geom.segs := by
  obtain ⟨hle, _, hax, _⟩ := c.geom.WFp_iff.1 h
  have hsub : List.Sublist (c.reduceSegmentRange lo hi).geom.segs c.geom.segs := by
    rw [c.reduce_geom_segs]
    exact (List.take_sublist _ _).trans (List.drop_sublist _ _)
  have hsorted : SegsSorted (c.reduceSegmentRange lo hi).geom.segs := List.Pairwise.sublist hsub hs
  refine ⟨?_, hsorted⟩
  apply Geom.WFp_of_sorted _ _ hsorted
  · intro s hs'
    exact hax s (hsub.subset hs')
  · intro s hs'
    exact hle s (hsub.subset hs')

theorem reduced_CfgP (g : Geom) (m : Int) (c : g.CfgP m) (hs : SegsSorted g.segs) (minTang maxTang lo hi : Int) :
    Geom.CfgP ((CylState.ofGeom g minTang maxTang).reduceSegmentRange lo hi).geom m := by
  have hg := CylState.geom_ofGeom g minTang maxTang
  have hwf : (CylState.ofGeom g minTang maxTang).geom.WFp = true := by
    rw [hg]
    exact c.wf
  have hs' : SegsSorted (CylState.ofGeom g minTang maxTang).geom.segs := by
    rw [hg]
    exact hs
  exact { hN := c.hN, hm := c.hm, hmash := c.hmash, htof := c.htof, wf := (CylState.reduce_WFp _ hwf hs' lo hi).1 }

theorem spatial_eq (g : Geom) (b : Bin) : g.spatialDetPairsForBin b = g.pairsWith b [0] := by
  simp only [Geom.spatialDetPairsForBin, Geom.pairsWith, List.map_cons, List.map_nil, ← List.map_eq_flatMap]

end StirVerif.C01
