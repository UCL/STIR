/-
C01 — ring pairs ↔ (segment, axial position): the stepping loop of one segment in closed form, the two well-formedness
predicates as propositions, and the partition of the ring pairs for a table satisfying `WFp`.
-/
import StirVerif.C01.Model

namespace StirVerif.C01

theorem tdiv2_spec (x : Int) :
    (0 ≤ x → x.tdiv 2 = x / 2) ∧ (x < 0 → x.tdiv 2 = -((-x) / 2)) := by
  constructor
  · intro h
    exact Int.tdiv_eq_ediv_of_nonneg h
  · intro h
    have h' : x = -(-x) := by omega
    rw [h', Int.neg_tdiv, Int.tdiv_eq_ediv_of_nonneg (by omega)]
    simp

theorem tmod2_spec (x : Int) : x.tmod 2 = x - 2 * x.tdiv 2 := Int.tmod_def x 2

theorem Seg.inc_of_eq {s : Seg} (h : s.minRD = s.maxRD) : s.inc = 1 := by simp [Seg.inc, h]

theorem Seg.inc_of_ne {s : Seg} (h : s.minRD ≠ s.maxRD) : s.inc = 2 := by simp [Seg.inc, Ne.symm h]

theorem Seg.inc_cases (s : Seg) : s.inc = 1 ∨ s.inc = 2 := by
  unfold Seg.inc
  split
  · exact .inr rfl
  · exact .inl rfl

/-- `ringSum` undoes the scaling of the axial position by `inc / 2` -/
theorem Seg.ringSum_mul_inc (s : Seg) (off a : Int) : (s.ringSum off a - off) * s.inc = 2 * a := by
  unfold Seg.ringSum
  rcases s.inc_cases with h | h
  · rw [h, Int.tdiv_one]
    omega
  · rw [h, Int.mul_tdiv_cancel_left _ (by decide)]
    omega

theorem axOff_eq_some_iff (R : Int) (s : Seg) (off : Int) : s.axOff R = some off ↔ s.numAx - 1 = (R - 1 - off) * s.inc := by
  unfold Seg.axOff
  rw [Option.ite_none_left_eq_some, Option.some.injEq, bne_iff_ne, ne_eq, Decidable.not_not]
  by_cases h : s.minRD = s.maxRD
  · rw [Seg.inc_of_eq h, Int.tmod_one, Int.tdiv_one]
    omega
  · rw [Seg.inc_of_ne h]
    have hm := tmod2_spec (s.numAx - 1)
    have hd := tdiv2_spec (s.numAx - 1)
    omega

/-- the ring difference `minRD + (minRD + sum) % 2 + 2k` of the stepping loop has the parity of `sum`, so the two rings are
    exact halves: with `q = (minRD + sum) / 2` they are `q - minRD - k` and `sum + minRD - q + k` -/
theorem loop_rings (minRD sum k : Int) :
    (sum - (minRD + (minRD + sum).tmod 2 + 2 * k)).tdiv 2 = (minRD + sum).tdiv 2 - minRD - k ∧
    (sum + (minRD + (minRD + sum).tmod 2 + 2 * k)).tdiv 2 = sum + minRD - (minRD + sum).tdiv 2 + k := by
  have hm := tmod2_spec (minRD + sum)
  constructor
  · rw [← Int.mul_tdiv_cancel_left (a := 2) ((minRD + sum).tdiv 2 - minRD - k) (by decide)]
    congr 1
    omega
  · rw [← Int.mul_tdiv_cancel_left (a := 2) (sum + minRD - (minRD + sum).tdiv 2 + k) (by decide)]
    congr 1
    omega

/-- which ring pairs the stepping loop lists, by the ring sum: no hypothesis on the segment -/
theorem Seg.mem_loop_iff (R : Int) (s : Seg) (off a : Int) (r1 r2 : Int) :
    (r1, r2) ∈ s.ringPairsOf R off a ↔
      (0 ≤ r1 ∧ r1 < R ∧ 0 ≤ r2 ∧ r2 < R ∧ s.minRD ≤ r2 - r1 ∧ r2 - r1 ≤ s.maxRD ∧
        r1 + r2 = s.ringSum off a) := by
  unfold Seg.ringPairsOf
  generalize s.ringSum off a = sum
  simp only [List.mem_filterMap, List.mem_range, loop_rings, Option.ite_none_left_eq_some, Option.some.injEq, Prod.mk.injEq]
  have hm := tmod2_spec (s.minRD + sum)
  have hq := tdiv2_spec (s.minRD + sum)
  generalize (s.minRD + sum).tmod 2 = m at *
  generalize (s.minRD + sum).tdiv 2 = q at *
  constructor
  · rintro ⟨k, hk, hr, rfl, rfl⟩
    split at hk
    · omega
    · omega
  · rintro ⟨h1, h2, h3, h4, h5, h6, h7⟩
    refine ⟨(q - s.minRD - r1).toNat, ?_, by omega, by omega, by omega⟩
    split
    · omega
    · omega

/-- `axOf` is the ring sum scaled by `inc / 2`: exact for a segment of several ring differences, and for one ring difference of the
    parity of the offset -/
theorem Seg.two_mul_axOf {s : Seg} {off r1 r2 : Int} (hex : s.Exact off) (h1 : s.minRD ≤ r2 - r1) (h2 : r2 - r1 ≤ s.maxRD) :
    2 * s.axOf off r1 r2 = (r1 + r2 - off) * s.inc := by
  unfold Seg.axOf
  by_cases hne : s.minRD = s.maxRD
  · have hx := tdiv2_spec (r1 + r2 - off)
    have := hex hne
    rw [Seg.inc_of_eq hne, Int.mul_one]
    omega
  · rw [Seg.inc_of_ne hne, Int.mul_tdiv_cancel _ (by decide)]
    omega

/-- the same by the axial position `axOf` the look-up computes; needs `Exact` for a segment of one ring difference -/
theorem Seg.mem_ringPairsOf_iff (R : Int) (s : Seg) (off a : Int) (hex : s.Exact off) (r1 r2 : Int) :
    (r1, r2) ∈ s.ringPairsOf R off a ↔
      (0 ≤ r1 ∧ r1 < R ∧ 0 ≤ r2 ∧ r2 < R ∧ s.minRD ≤ r2 - r1 ∧ r2 - r1 ≤ s.maxRD ∧ s.axOf off r1 r2 = a) := by
  simp only [Seg.mem_loop_iff, and_congr_right_iff]
  intro _ _ _ _ h5 h6
  have h1 := Seg.two_mul_axOf hex h5 h6
  have h2 := s.ringSum_mul_inc off a
  rcases s.inc_cases with hi | hi
  · rw [hi] at h1 h2
    omega
  · rw [hi] at h1 h2
    omega

theorem Seg.ringPairsOf_nodup (R : Int) (s : Seg) (off a : Int) : (s.ringPairsOf R off a).Nodup := by
  unfold Seg.ringPairsOf
  simp only [loop_rings]
  rw [List.Nodup, List.pairwise_filterMap]
  refine List.Pairwise.imp ?_ List.nodup_range
  intro k k' hkk b hb b' hb' hbb
  subst hbb
  simp only [Option.ite_none_left_eq_some, Option.some.injEq] at hb hb'
  have := hb.2.trans hb'.2.symm
  simp only [Prod.mk.injEq] at this
  omega

theorem Geom.WFp_iff (g : Geom) : g.WFp = true ↔
    (∀ s ∈ g.segs, s.minRD ≤ s.maxRD) ∧
    (∀ (i j : Nat) (hi : i < g.segs.length) (hj : j < g.segs.length), i ≠ j →
      g.segs[i].maxRD < g.segs[j].minRD ∨ g.segs[j].maxRD < g.segs[i].minRD) ∧
    (∀ s ∈ g.segs, ∃ off, s.axOff g.R = some off ∧ s.Exact off) ∧
    (∀ first last, g.segs.head? = some first → g.segs.getLast? = some last →
      ∀ s ∈ g.segs, first.minRD ≤ s.minRD ∧ s.maxRD ≤ last.maxRD) := by
  unfold Geom.WFp
  simp only [Bool.and_eq_true, and_assoc]
  refine and_congr ?_ (and_congr ?_ (and_congr ?_ ?_))
  · simp only [List.all_eq_true, decide_eq_true_eq]
  · simp only [List.all_eq_true, List.mem_range]
    constructor
    · intro h i j hi hj hij
      have := h i hi j hj
      rw [List.getElem?_eq_getElem hi, List.getElem?_eq_getElem hj] at this
      simpa [hij] using this
    · intro h i hi j hj
      rw [List.getElem?_eq_getElem hi, List.getElem?_eq_getElem hj]
      by_cases hij : i = j
      · simp [hij]
      · simpa [hij] using h i j hi hj hij
  · simp only [List.all_eq_true]
    refine forall_congr' fun s => forall_congr' fun _ => ?_
    cases s.axOff g.R with
    | none => simp
    | some off =>
      simp only [Seg.Exact, Option.some.injEq, exists_eq_left', Bool.or_eq_true, bne_iff_ne, ne_eq, beq_iff_eq]
      exact Decidable.imp_iff_not_or.symm
  · cases g.segs.head? with
    | none => simp
    | some first =>
      cases g.segs.getLast? with
      | none => simp
      | some last => simp [List.all_eq_true]

def SegsSorted (l : List Seg) : Prop := l.Pairwise (fun a b => a.maxRD < b.minRD)

theorem SegsSorted.disjoint {l : List Seg} (h : SegsSorted l) (i j : Nat) (hi : i < l.length) (hj : j < l.length)
    (hij : i ≠ j) : l[i].maxRD < l[j].minRD ∨ l[j].maxRD < l[i].minRD := by
  have hB := List.pairwise_iff_getElem.mp h
  rcases Nat.lt_or_gt_of_ne hij with hlt | hlt
  · exact Or.inl (hB i j hi hj hlt)
  · exact Or.inr (hB j i hj hi hlt)

theorem SegsSorted.bounds {l : List Seg} (h : SegsSorted l) (hA : ∀ s ∈ l, s.minRD ≤ s.maxRD) (first last : Seg)
    (hf : l.head? = some first) (hl : l.getLast? = some last) (s : Seg) (hs : s ∈ l) :
    first.minRD ≤ s.minRD ∧ s.maxRD ≤ last.maxRD := by
  constructor
  · obtain ⟨tl, htl⟩ := List.head?_eq_some_iff.mp hf
    subst htl
    rcases List.mem_cons.mp hs with rfl | hs'
    · exact Int.le_refl _
    · have := (List.pairwise_cons.mp h).1 s hs'
      have := hA first List.mem_cons_self
      omega
  · obtain ⟨ini, hini⟩ := List.getLast?_eq_some_iff.mp hl
    subst hini
    rcases List.mem_append.mp hs with hs' | hs'
    · have := (List.pairwise_append.mp h).2.2 s hs' last (List.mem_singleton.mpr rfl)
      have := hA last (List.mem_append_right _ (List.mem_singleton.mpr rfl))
      omega
    · rw [List.mem_singleton.mp hs']
      exact Int.le_refl _

theorem Geom.WFp_of_sorted (g : Geom)
    (hA : ∀ s ∈ g.segs, s.minRD ≤ s.maxRD)
    (hB : SegsSorted g.segs)
    (hC : ∀ s ∈ g.segs, ∃ off, s.axOff g.R = some off ∧ s.Exact off) : g.WFp = true :=
  g.WFp_iff.2 ⟨hA, hB.disjoint, hC, hB.bounds hA⟩

def Seg.AxInRange (R : Int) (s : Seg) (off : Int) : Prop :=
  ∀ r1 r2 : Int, 0 ≤ r1 → r1 < R → 0 ≤ r2 → r2 < R → s.minRD ≤ r2 - r1 → r2 - r1 ≤ s.maxRD →
    0 ≤ s.axOf off r1 r2 ∧ s.axOf off r1 r2 < s.numAx

theorem Geom.WFb_iff (g : Geom) : g.WFb = true ↔ g.WFp = true ∧
    ∀ s ∈ g.segs, ∃ off, s.axOff g.R = some off ∧ s.AxInRange g.R off := by
  -- the range test of one segment (a sweep over `Nat` ring numbers) as a proposition about `Int` ring numbers
  have hrange : ∀ (s : Seg) (off : Int),
      ((List.range g.R.toNat).all fun r1 => (List.range g.R.toNat).all fun r2 =>
        !(decide (s.minRD ≤ (r2 : Int) - (r1 : Int)) && decide ((r2 : Int) - (r1 : Int) ≤ s.maxRD)) ||
          (decide (0 ≤ s.axOf off r1 r2) && decide (s.axOf off r1 r2 < s.numAx))) = true ↔ s.AxInRange g.R off := by
    intro s off
    unfold Seg.AxInRange
    simp only [List.all_eq_true, List.mem_range, Bool.or_eq_true, Bool.not_eq_true', Bool.and_eq_false_iff,
      Bool.and_eq_true, decide_eq_true_eq, decide_eq_false_iff_not]
    constructor
    · intro h r1 r2 h1 h1' h2 h2' h3 h4
      have := h r1.toNat (by omega) r2.toNat (by omega)
      rw [Int.toNat_of_nonneg h1, Int.toNat_of_nonneg h2] at this
      rcases this with (h | h) | h
      · exact absurd h3 h
      · exact absurd h4 h
      · exact h
    · intro h r1 h1 r2 h2
      by_cases hin : s.minRD ≤ (r2 : Int) - (r1 : Int) ∧ (r2 : Int) - (r1 : Int) ≤ s.maxRD
      · exact Or.inr (h r1 r2 (by omega) (by omega) (by omega) (by omega) hin.1 hin.2)
      · exact Or.inl (by omega)
  unfold Geom.WFb Geom.WFp
  simp only [Bool.and_eq_true, List.all_eq_true]
  constructor
  · rintro ⟨⟨⟨hA, hB⟩, hC⟩, hD⟩
    refine ⟨⟨⟨⟨hA, hB⟩, fun s hs => ?_⟩, hD⟩, fun s hs => ?_⟩
    · have := hC s hs
      split at this
      · exact this
      · exact (Bool.and_eq_true_iff.1 this).1
    · have := hC s hs
      split at this
      · nomatch this
      · exact ⟨_, ‹_›, (hrange s _).1 (Bool.and_eq_true_iff.1 this).2⟩
  · rintro ⟨⟨⟨⟨hA, hB⟩, hC⟩, hD⟩, hR⟩
    refine ⟨⟨⟨hA, hB⟩, fun s hs => ?_⟩, hD⟩
    obtain ⟨off, ho, hr⟩ := hR s hs
    have := hC s hs
    rw [ho] at this ⊢
    exact Bool.and_eq_true_iff.2 ⟨this, (hrange s off).2 hr⟩

theorem Geom.WFp_of_WFb (g : Geom) (h : g.WFb = true) : g.WFp = true := (g.WFb_iff.1 h).1

/-- what `WFb` asks of one segment -/
def Seg.Ok (R : Int) (s : Seg) : Prop :=
  s.minRD ≤ s.maxRD ∧ ∃ off, s.axOff R = some off ∧ s.Exact off ∧ s.AxInRange R off

theorem Geom.WFb_of_sorted (g : Geom) (hok : ∀ s ∈ g.segs, s.Ok g.R) (hB : SegsSorted g.segs) : g.WFb = true := by
  refine g.WFb_iff.2 ⟨g.WFp_of_sorted (fun s hs => (hok s hs).1) hB fun s hs => ?_, fun s hs => ?_⟩
  · obtain ⟨_, off, ho, hex, _⟩ := hok s hs
    exact ⟨off, ho, hex⟩
  · obtain ⟨_, off, ho, _, hr⟩ := hok s hs
    exact ⟨off, ho, hr⟩

theorem Geom.seg?_eq_some (g : Geom) (s : Int) (sg : Seg) :
    g.seg? s = some sg ↔ ∃ k : Nat, ∃ hk : k < g.segs.length, s = g.minSeg + k ∧ g.segs[k] = sg := by
  unfold Geom.seg?
  constructor
  · intro h
    split at h
    · exact absurd h (by simp)
    · rw [List.getElem?_eq_some_iff] at h
      obtain ⟨hk, he⟩ := h
      exact ⟨(s - g.minSeg).toNat, hk, by omega, he⟩
  · rintro ⟨k, hk, rfl, he⟩
    rw [if_neg (by omega)]
    have : (g.minSeg + (k : Int) - g.minSeg).toNat = k := by omega
    rw [this, List.getElem?_eq_getElem hk, he]

theorem seg?_mem (g : Geom) (s : Int) (sg : Seg) (h : g.seg? s = some sg) : sg ∈ g.segs :=
  List.mem_of_getElem? (Option.ite_none_left_eq_some.1 h).2

theorem wfp_exact (g : Geom) (h : g.WFp = true) (sg : Seg) (hs : sg ∈ g.segs) (off : Int)
    (ho : sg.axOff g.R = some off) : sg.Exact off := by
  obtain ⟨_, _, hax, _⟩ := g.WFp_iff.1 h
  obtain ⟨off', ho', hex⟩ := hax sg hs
  rw [ho] at ho'
  cases ho'
  exact hex

theorem Geom.segOfRingDiff_some (g : Geom) (rd s : Int) (hs : g.segOfRingDiff rd = some s) :
    ∃ sg, g.seg? s = some sg ∧ sg.minRD ≤ rd ∧ rd ≤ sg.maxRD := by
  unfold Geom.segOfRingDiff at hs
  split at hs
  · split at hs
    · exact absurd hs (by simp)
    · rw [Option.map_eq_some_iff] at hs
      obtain ⟨k', hk, rfl⟩ := hs
      simp only [Option.bind_eq_bind, Option.pure_def, Option.bind_eq_some_iff, Option.some.injEq] at hk
      obtain ⟨k, hk, rfl⟩ := hk
      rw [List.findIdx?_eq_some_iff_getElem] at hk
      obtain ⟨hk, hp, _⟩ := hk
      refine ⟨g.segs[k], (g.seg?_eq_some _ _).mpr ⟨k, hk, rfl, rfl⟩, ?_⟩
      simpa using hp
  · exact absurd hs (by simp)

/-- (suffix `_p`: the lemma asks `WFp`, not `WFb`) -/
theorem Geom.segOfRingDiff_eq_some_p (g : Geom) (h : g.WFp = true) (rd s : Int) :
    g.segOfRingDiff rd = some s ↔ ∃ sg, g.seg? s = some sg ∧ sg.minRD ≤ rd ∧ rd ≤ sg.maxRD := by
  obtain ⟨_, hdisj, _, hord⟩ := g.WFp_iff.1 h
  refine ⟨g.segOfRingDiff_some rd s, ?_⟩
  rintro ⟨sg, hsg, h1, h2⟩
  have hmem := seg?_mem g _ _ hsg
  obtain ⟨k, hk, rfl, he⟩ := (g.seg?_eq_some _ _).mp hsg
  have hne : g.segs ≠ [] := List.ne_nil_of_mem hmem
  unfold Geom.segOfRingDiff
  rw [List.getLast?_eq_some_getLast hne, List.head?_eq_some_head hne]
  have ho := hord _ _ (List.head?_eq_some_head hne) (List.getLast?_eq_some_getLast hne) sg hmem
  simp only []
  rw [if_neg (by omega), Option.map_eq_some_iff]
  refine ⟨(k : Int), ?_, rfl⟩
  simp only [Option.bind_eq_bind, Option.pure_def, Option.bind_eq_some_iff, Option.some.injEq]
  refine ⟨k, ?_, rfl⟩
  rw [List.findIdx?_eq_some_iff_getElem]
  refine ⟨hk, ?_, ?_⟩
  · rw [he]
    simpa using ⟨h1, h2⟩
  · intro j hj
    have := hdisj j k (by omega) hk (by omega)
    rw [he] at this
    simp only [Bool.and_eq_true, decide_eq_true_eq, not_and]
    omega

theorem Geom.ringpair_partition_p (g : Geom) (h : g.WFp = true) (r1 r2 : Int)
    (h1 : 0 ≤ r1 ∧ r1 < g.R) (h2 : 0 ≤ r2 ∧ r2 < g.R) (s a : Int) :
    g.segAxOfRingPair r1 r2 = some (s, a) ↔ (r1, r2) ∈ g.ringPairsOf s a := by
  obtain ⟨_, _, hax, _⟩ := g.WFp_iff.1 h
  unfold Geom.segAxOfRingPair Geom.ringPairsOf
  simp only [Option.bind_eq_bind, Option.pure_def, Option.bind_eq_some_iff, Option.some.injEq, Prod.mk.injEq]
  constructor
  · rintro ⟨s', hs', sg, hsg, off, hoff, rfl, rfl⟩
    rw [g.segOfRingDiff_eq_some_p h] at hs'
    obtain ⟨sg', hsg', hr1, hr2⟩ := hs'
    rw [hsg] at hsg'
    cases hsg'
    have hex := wfp_exact g h sg (seg?_mem g _ _ hsg) off hoff
    simp only [hsg, hoff]
    rw [Seg.mem_ringPairsOf_iff g.R sg off _ hex]
    exact ⟨h1.1, h1.2, h2.1, h2.2, hr1, hr2, rfl⟩
  · intro hm
    cases hsg : g.seg? s with
    | none =>
      rw [hsg] at hm
      exact absurd hm (by simp)
    | some sg =>
      obtain ⟨off, hoff, hex⟩ := hax sg (seg?_mem g _ _ hsg)
      simp only [hsg, hoff] at hm
      rw [Seg.mem_ringPairsOf_iff _ sg off _ hex] at hm
      obtain ⟨_, _, _, _, hr1, hr2, ha⟩ := hm
      exact ⟨s, (g.segOfRingDiff_eq_some_p h _ _).mpr ⟨sg, hsg, hr1, hr2⟩, sg, hsg, off, hoff, rfl, ha⟩

end StirVerif.C01
