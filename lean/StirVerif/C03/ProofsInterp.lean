/-
C03 — `ProjMatrixByBinUsingInterpolation`: its `set_up` has no `already_setup` short cut.  A history on such an object
is a history on the ray-tracing model in which every `set_up` is preceded by a parameter change and its reversal (which
is what switches `already_setup` off there); hence the refinement theorem of `ProofsCache.lean` carries over.
-/
import StirVerif.C03.ProofsCache

namespace StirVerif.C03

variable {G α : Type}

/-- some other parameter set (one more tangential ray) -/
def Params.bump (p : Params) : Params := { p with ntl := p.ntl + 1 }

theorem Params.bump_ne (p : Params) : p ≠ p.bump := by
  intro h
  have := congrArg Params.ntl h
  simp [Params.bump] at this

/-- the ray-tracing history that does what the interpolating matrix does: `set_* (something else); set_* (back);
    set_up` for every `set_up`.  The first argument tracks the parameters in force. -/
def interpEvents : Params → List (Ev G) → List (Ev G)
  | _, [] => []
  | p, .setUp g :: r => .setParams p.bump :: .setParams p :: .setUp g :: interpEvents p r
  | _, .setParams q :: r => .setParams q :: interpEvents q r
  | p, .get b :: r => .get b :: interpEvents p r
  | p, .clearCache :: r => .clearCache :: interpEvents p r
  | p, .enableCache v :: r => .enableCache v :: interpEvents p r
  | p, .storeOnlyBasic v :: r => .storeOnlyBasic v :: interpEvents p r

theorem bump_unbump [DecidableEq G] (w : World G α) (s : PM G α) :
    (do let (s1, _) ← s.step w (.setParams s.params.bump); s1.step w (.setParams s.params)) =
      .ok ({ s with alreadySetup := false }, none) := by
  have h : decide (s.params = s.params.bump) = false := decide_eq_false (Params.bump_ne s.params)
  simp only [PM.step, bind, Except.bind, h, Bool.and_false, Bool.false_and]

theorem runInterp_eq [DecidableEq G] (w : World G α) (evs : List (Ev G)) :
    ∀ (s : PM G α) (cfg : Option (G × Params)), s.runInterp w cfg evs = s.run w cfg (interpEvents s.params evs) := by
  induction evs with
  | nil =>
    intro s cfg
    simp only [PM.runInterp, interpEvents, PM.run]
  | cons ev rest ih =>
    intro s cfg
    cases ev with
    | get b =>
      simp only [PM.runInterp, interpEvents, PM.run, PM.stepInterp, PM.step]
      cases hget : s.get w b with
      | error e => simp only [Except.map]
      | ok sr =>
        obtain ⟨s', r⟩ := sr
        obtain ⟨c, rfl⟩ := get_frame w s s' b r hget
        simp only [Except.map]
        rw [ih _ cfg]
    | clearCache =>
      simp only [PM.runInterp, interpEvents, PM.run, PM.stepInterp, PM.step]
      exact ih _ cfg
    | enableCache v =>
      simp only [PM.runInterp, interpEvents, PM.run, PM.stepInterp, PM.step]
      exact ih _ cfg
    | storeOnlyBasic v =>
      simp only [PM.runInterp, interpEvents, PM.run, PM.stepInterp, PM.step]
      exact ih _ cfg
    | setParams q =>
      simp only [PM.runInterp, interpEvents, PM.run, PM.stepInterp, PM.step]
      exact ih _ cfg
    | setUp g =>
      have h : decide (s.params = s.params.bump) = false := decide_eq_false (Params.bump_ne s.params)
      simp only [PM.runInterp, interpEvents, PM.run, PM.stepInterp, PM.step, PM.setUpInterp, h, Bool.and_false,
        Bool.false_and]
      cases hsu : PM.setUp w { s with alreadySetup := false } g with
      | error e => simp only [Except.map]
      | ok s' =>
        simp only [Except.map]
        have hp : s'.params = s.params := by
          rcases setUp_cases w _ s' g hsu with ⟨rfl, -⟩ | rfl <;> rfl
        rw [ih s' (some (g, s.params)), hp]

end StirVerif.C03
