/-
C03 — "System-matrix rows do not depend on symmetries, caching or request history".
Property theorems over the model of `Model.lean` (cylindrical geometry).  No statement bounds the number of views, the
bins, the switches or the length of a history; what they assume (`WF`, view range, `TofOK`, `InBox`) is in each statement.

What is *not* a theorem here: that the ray tracer (`compute`) itself is equivariant under the grid isometries
(`compute (op.onBin b₀) = op.onElems (compute b₀)`); that is what the C++ oracle of the check evaluates.
What *is* a theorem (section "geometric equivariance over ℝ", `ProofsLOR.lean`) is the geometric reason for it: the
line of response of `op.onBin b₀` — and the whole bundle of rays the ray tracer traces for it — is the image of that of
`b₀` under the isometry of ℝ³ that extends `op.onVoxel`.  What stays outside Lean is only that Siddon's intersection
lengths of a line with the voxels of a grid are invariant under isometries of the grid (and floating-point rounding).
-/
import StirVerif.C03.ProofsSym
import StirVerif.C03.ProofsVox
import StirVerif.C03.ProofsKey
import StirVerif.C03.ProofsCache
import StirVerif.C03.ProofsZ
import StirVerif.C03.ProofsMisc
import StirVerif.C03.ProofsLOR
import StirVerif.C03.ProofsInterp
import StirVerif.C03.ProofsGuard

namespace StirVerif.C03

/-- the switches left by the constructor always satisfy `WF`: 90° only with 180° and `num_views % 4 = 0`,
    180° only with an even number of views — for every request and every kind of data -/
theorem C03_effective_WF (V : Int) (hV : 0 < V) (f : Flags) (sq phi0 tof xy0 : Bool) (g : AxGeo)
    (hn : ∀ s, g.nppa s ≠ 0) : (Sym.make V (f.effective V sq phi0 tof xy0) g).WF := by
  have h4 : V.tmod 4 = V % 4 := Int.tmod_eq_emod_of_nonneg (by omega)
  have h2 : V.tmod 2 = V % 2 := Int.tmod_eq_emod_of_nonneg (by omega)
  refine ⟨hV, fun h => ?_, fun h => ?_, fun _ s => hn s⟩
  · simp only [Sym.make, Flags.effective_eq, Bool.and_eq_true, Bool.not_eq_true', bne_eq_false_iff_eq, h4, h2,
      Bool.or_eq_true] at h ⊢
    obtain ⟨hx, ht, hp, hm, -, hd⟩ := h
    exact ⟨⟨hx, ht, hp, by omega, Or.inl hd⟩, hm⟩
  · simp only [Sym.make, Flags.effective_eq, Bool.and_eq_true, Bool.not_eq_true', bne_eq_false_iff_eq, h2] at h
    exact h.2.2.2.1

/-- "derived from a symmetry-related row": **the symmetry operation found for a bin, applied to its basic bin, gives
    the bin back** — every bin in the view range, every combination of switches, every number of views.
    (`TofOK`: a non-zero timing position is restored unless `swap_s` is combined with a view symmetry; the
    constructor never leaves that combination for TOF data.) -/
theorem C03_symop_rebuilds_bin (y : Sym) (h : y.WF) (b : Bin) (hv : 0 ≤ b.view ∧ b.view < y.V) (ht : TofOK y b) :
    (y.findSymOp b).onBin (y.basic b) = b :=
  symop_rebuilds_bin y h b hv ht

/-- … and `TofOK` cannot be dropped: with `swap_s` and the 180° symmetry a bin with negative tangential position,
    a view beyond 90° and timing position 1 comes back with timing position −1 -/
theorem C03_symop_rebuilds_bin_tof_fails :
    let y : Sym := { V := 8, d90 := false, d180 := true, swapSeg := false, swapS := true, shiftZ := false,
                     nppr := 2, nppa := fun _ => 1, delta2 := fun _ => 0, zoff4 := fun _ => 0 }
    (y.findSymOp ⟨0, 6, 0, -1, 1⟩).onBin (y.basic ⟨0, 6, 0, -1, 1⟩) = ⟨0, 6, 0, -1, -1⟩ := by decide

/-- the basic bin stays inside the view range (the compiled-out asserts `0 <= view < view180`) -/
theorem C03_basic_in_range (y : Sym) (h : y.WF) (b : Bin) (hv : 0 ≤ b.view ∧ b.view < y.V) :
    0 ≤ (y.basic b).view ∧ (y.basic b).view < y.V :=
  basic_view_range y h b hv

/-- `find_basic_bin` is idempotent and reports "no change" on its own result -/
theorem C03_basic_idempotent (y : Sym) (h : y.WF) (b : Bin) (hv : 0 ≤ b.view ∧ b.view < y.V) :
    y.findBasicBin (y.basic b) = (y.basic b, false) :=
  basic_idempotent y h b hv

/-- a basic bin gets `TrivialSymmetryOperation`: identity on bins and voxels, hence on rows (this is what makes a row cached
    as "basic" and a row cached as "requested bin" interchangeable) -/
theorem C03_basic_is_fixed (y : Sym) (h : y.WF) (b : Bin) (hv : 0 ≤ b.view ∧ b.view < y.V) :
    y.findSymOp (y.basic b) = SymOp.triv ∧ (∀ b', SymOp.triv.onBin b' = b') ∧ (∀ c, SymOp.triv.onVoxel c = c) :=
  ⟨basic_is_fixed y h b hv, fun _ => rfl, fun _ => rfl⟩

/-- "no voxel appears twice": every operation is injective on image indices … -/
theorem C03_onVoxel_injective (o : SymOp) (c c' : Vox) (h : o.onVoxel c = o.onVoxel c') : c = c' :=
  onVoxel_injective o c c' h

/-- … (and onto: a signed permutation of (y,x) with an affine map of z) … -/
theorem C03_onVoxel_surjective (o : SymOp) (c : Vox) : ∃ c', o.onVoxel c' = c :=
  ⟨o.inv.onVoxel c, onVoxel_inv o c⟩

/-- … hence a duplicate-free basic row stays duplicate-free, and its values are carried over unchanged, in order
    ("every element non-negative" is inherited from the basic row) -/
theorem C03_row_nodup_transfer {α : Type} (o : SymOp) (e : List (Vox × α)) (h : (e.map Prod.fst).Nodup) :
    ((o.onElems e).map Prod.fst).Nodup ∧ (o.onElems e).map Prod.snd = e.map Prod.snd :=
  ⟨onElems_nodup o e h, onElems_values o e⟩

/-- "refers to a voxel inside the image", transaxial part: the symmetric square `|x|,|y| ≤ n` to which the ray tracer
    restricts itself (`n = min(max_index, -min_index)`) is mapped into itself by every operation -/
theorem C03_onVoxel_in_square (o : SymOp) (c : Vox) (n : Int) (h : -n ≤ c.x ∧ c.x ≤ n ∧ -n ≤ c.y ∧ c.y ≤ n) :
    -n ≤ (o.onVoxel c).x ∧ (o.onVoxel c).x ≤ n ∧ -n ≤ (o.onVoxel c).y ∧ (o.onVoxel c).y ≤ n := by
  obtain ⟨k, V, a, zs, q⟩ := o
  cases k <;> simp only [SymOp.onVoxel] at h ⊢ <;> omega

/-- axial part: `find_transform_z` never rounds and equals twice the axial midpoint of the LOR
    (`Z + Q = 2·centre`), whatever the average ring difference of the segment -/
theorem C03_transformZ_exact (V : Int) (f : Flags) (g : AxGeo) (s a : Int) :
    4 * (Sym.make V f g).transformZ s a = 2 * (Sym.make V f g).centre4 s a :=
  transformZ_exact (Sym.make_even V f g s) a

/-- axial part: the z map of the operation found for `b` (mirror `z ↦ q − z + z_shift` or shift `z ↦ z + z_shift`)
    carries the axial midpoint of the basic bin's LOR to the axial midpoint of the LOR of `b`
    (quarter-plane units; `onVoxel_zmap4` ties `zmap4` to `transform_image_coordinates`) -/
theorem C03_zmap_centre (V : Int) (f : Flags) (g : AxGeo) (hg : g.Symmetric) (b : Bin) (c : Vox) :
    let y := Sym.make V f g
    (y.findSymOp b).zmap4 (y.centre4 (y.basic b).seg (y.basic b).ax) = y.centre4 b.seg b.ax ∧
      4 * ((y.findSymOp b).onVoxel c).z = (y.findSymOp b).zmap4 (4 * c.z) :=
  ⟨(Sym.make_axial V f g hg).zmap_centre b, onVoxel_zmap4 _ c⟩

/-- axial part, for whole tubes: the operation found for `b` carries the slab of half-width `w` (quarter planes) around
    the axial midpoint of the basic bin's LOR into the slab of the same half-width around the axial midpoint of the
    LOR of `b` — the planes of a derived row lie as close to the bin's own LOR as those of the basic row do to theirs -/
theorem C03_onVoxel_z_slab (V : Int) (f : Flags) (g : AxGeo) (hg : g.Symmetric) (b : Bin) (c : Vox) (w : Int) :
    let y := Sym.make V f g
    (-w ≤ 4 * c.z - y.centre4 (y.basic b).seg (y.basic b).ax ∧ 4 * c.z - y.centre4 (y.basic b).seg (y.basic b).ax ≤ w) →
    (-w ≤ 4 * ((y.findSymOp b).onVoxel c).z - y.centre4 b.seg b.ax ∧
      4 * ((y.findSymOp b).onVoxel c).z - y.centre4 b.seg b.ax ≤ w) :=
  fun h => zmap4_slab _ c _ _ w ((Sym.make_axial V f g hg).zmap_centre b) h

/-! ### "refers to a voxel inside the image", axial part: false of the code for bins at the axial ends

Known finding `voxel-outside-image-in-z:within-axial-extent-of-end-ring`: rows are not clipped to the planes of the
image.  On the real code (3 rings, span 1, 5 planes `0..4` of half the ring spacing) `Bin(segment 0, view 0,
axial_pos 0, tangential 0)` has elements in plane `-1` and `Bin(0,0,2,0)` in plane `5`, with and without symmetries. -/

/-- negative witness: with the ray tracer's row for ring 0 as observed (planes −1, 0, 1 with weights 1:2:1), the rows of
    the two end rings contain a plane outside the image `0..4`; the middle ring's row does not -/
theorem C03_row_in_image_z_fails :
    (spec wEnd () pShiftZ ⟨0, 0, 0, 0, 0⟩).map (fun r => r.elems.map fun e => (e.1.z, endGeo.hasPlane e.1)) =
        some [(-1, false), (0, true), (1, true)] ∧
    (spec wEnd () pShiftZ ⟨0, 0, 1, 0, 0⟩).map (fun r => r.elems.map fun e => (e.1.z, endGeo.hasPlane e.1)) =
        some [(1, true), (2, true), (3, true)] ∧
    (spec wEnd () pShiftZ ⟨0, 0, 2, 0, 0⟩).map (fun r => r.elems.map fun e => (e.1.z, endGeo.hasPlane e.1)) =
        some [(3, true), (4, true), (5, false)] := by decide

/-- … and this is not a matter of the basic row alone: the `shift_z` operation of the last ring moves plane 1, which
    is inside the image, to plane 5, which is not (the z range of the image is not invariant under the operations,
    unlike the square `|x|,|y| ≤ n`) -/
theorem C03_onVoxel_in_image_z_fails :
    endGeo.hasPlane ⟨1, 0, 0⟩ = true ∧ endGeo.hasPlane ((yEnd.findSymOp ⟨0, 0, 2, 0, 0⟩).onVoxel ⟨1, 0, 0⟩) = false := by decide

/-- `_partial`: the extra hypothesis `hin` says that the tube of the requested bin — the slab of half-width `w` around
    the axial midpoint of its LOR — lies inside the planes of the image; it excludes exactly the bins of the known
    finding (tubes of the end rings, which stick out of an image that only just covers the ring centres).  For all
    other bins every voxel derived from a voxel in the basic bin's tube lies in a plane of the image. -/
theorem C03_row_in_image_z_partial (V : Int) (f : Flags) (g : AxGeo) (hg : g.Symmetric) (b : Bin) (c : Vox) (w : Int)
    (hc : -w ≤ 4 * c.z - (Sym.make V f g).centre4 ((Sym.make V f g).basic b).seg ((Sym.make V f g).basic b).ax ∧
      4 * c.z - (Sym.make V f g).centre4 ((Sym.make V f g).basic b).seg ((Sym.make V f g).basic b).ax ≤ w)
    (hin : 4 * g.minZ ≤ (Sym.make V f g).centre4 b.seg b.ax - w ∧ (Sym.make V f g).centre4 b.seg b.ax + w ≤ 4 * g.maxZ) :
    g.hasPlane (((Sym.make V f g).findSymOp b).onVoxel c) = true := by
  have h := C03_onVoxel_z_slab V f g hg b c w hc
  simp only [AxGeo.hasPlane, decide_eq_true_eq]
  omega

/-! ## geometric equivariance over ℝ

"it is the same whether it is computed directly or derived from a symmetry-related row": the geometric content.  Coordinates, the
parametrisation of the LOR and of the ray bundle: header of `ProofsLOR.lean`; what an operation needs of the geometry: `SymOp.Fits`.
No restriction on the view number is needed. -/

/-- the real-affine map `onPoint` extends `onVoxel` (agrees with it on voxel centres) and is an isometry of ℝ³ -/
theorem C03_lor_onPoint_extends_onVoxel (o : SymOp) (c : Vox) (p p' : P3) :
    o.onPoint c.toP3 = (o.onVoxel c).toP3 ∧
    ((o.onPoint p).x - (o.onPoint p').x) ^ 2 + ((o.onPoint p).y - (o.onPoint p').y) ^ 2
        + ((o.onPoint p).z - (o.onPoint p').z) ^ 2 = (p.x - p'.x) ^ 2 + (p.y - p'.y) ^ 2 + (p.z - p'.z) ^ 2 := by
  obtain ⟨k, V, a, zs, q⟩ := o
  constructor
  · cases k <;> simp only [SymOp.onPoint, SymOp.onVoxel, Vox.toP3, Int.cast_add, Int.cast_sub, Int.cast_neg]
  · cases k <;> simp only [SymOp.onPoint] <;> ring

/-- **every kind, pointwise**: the operation carries the point with path parameter `t` on the ray `(ds, dz)` of `b` to
    the point with path parameter `± t` on the ray `(± ds, ± dz)` of `o.onBin b`; the three signs are `orient`
    (−1: the direction `(−sin φ, cos φ, tan θ)` is reversed), `sSign` (−1 exactly on the branches of `onBin` that negate
    the tangential position) and `zSign` (−1 for the `…_zq` kinds).
    `hz`: the z map of the operation carries the axial midpoint of `b` to that of `o.onBin b` (a condition on the
    constants `q`, `z_shift`, `axial_pos_shift` stored in the operation; discharged for the operations actually built
    in `C03_lor_equivariant_findSymOp`). -/
theorem C03_lor_equivariant_pointwise (G : LorGeo) (hG : G.WF) (o : SymOp) (hf : o.Fits G) (b : Bin)
    (hz : o.onZ (G.zmid b.seg b.ax) = G.zmid (o.onBin b).seg (o.onBin b).ax) (ds dz t : ℝ) :
    o.onPoint (G.ray b ds dz t) =
      G.ray (o.onBin b) ((o.sSign b : ℝ) * ds) ((o.zSign : ℝ) * dz) ((o.orient b : ℝ) * t) ∧
    (o.orient b = 1 ∨ o.orient b = -1) ∧ (o.sSign b = 1 ∨ o.sSign b = -1) ∧ (o.zSign = 1 ∨ o.zSign = -1) ∧
    (o.onBin b).tang = o.sSign b * b.tang :=
  ⟨onPoint_ray G hG o hf b hz ds dz t, orient_cases o b, sSign_cases o b, zSign_cases o, onBin_tang o b⟩

/-- **every kind, as sets**: `onPoint o` maps the LOR of `b` *onto* the LOR of `o.onBin b` -/
theorem C03_lor_equivariant (G : LorGeo) (hG : G.WF) (o : SymOp) (hf : o.Fits G) (b : Bin)
    (hz : o.onZ (G.zmid b.seg b.ax) = G.zmid (o.onBin b).seg (o.onBin b).ax) :
    o.onPoint '' G.lor b = G.lor (o.onBin b) :=
  image_lor G _ b _ (sSign_cases o b) (zSign_cases o) (orient_cases o b) (onPoint_ray G hG o hf b hz)

/-- … and the bundle of rays of `b` onto the bundle of rays of `o.onBin b`, for displacements placed symmetrically
    about the central LOR (as the ray tracer places them) -/
theorem C03_lor_equivariant_tube (G : LorGeo) (hG : G.WF) (o : SymOp) (hf : o.Fits G) (b : Bin)
    (hz : o.onZ (G.zmid b.seg b.ax) = G.zmid (o.onBin b).seg (o.onBin b).ax)
    (Ds Dz : Set ℝ) (hDs : ∀ d ∈ Ds, -d ∈ Ds) (hDz : ∀ d ∈ Dz, -d ∈ Dz) :
    o.onPoint '' G.tube Ds Dz b = G.tube Ds Dz (o.onBin b) :=
  image_tube G _ b _ (sSign_cases o b) (zSign_cases o) (orient_cases o b) (onPoint_ray G hG o hf b hz) Ds Dz hDs hDz

/-- **TOF sign rule.**  Modelling assumption: the TOF coordinate is the path parameter `t` (orientation fixed by view and
    tangential position), timing position `k` collects `|t − c(k)| ≤ w`, `c` odd.  Then every operation carries the TOF
    part of `b` onto the TOF part of `o.onBin b` *with timing position `orient · tof`*; hence onto the TOF part of
    `o.onBin b` itself exactly where `onBin` negates the timing position iff the operation reverses the LOR
    (`TofRule`), which is so for every bin with the eight kinds `tofSafe` and for timing position 0 with all kinds. -/
theorem C03_lor_equivariant_tof (G : LorGeo) (hG : G.WF) (T : TofGeo) (o : SymOp) (hf : o.Fits G) (b : Bin)
    (hz : o.onZ (G.zmid b.seg b.ax) = G.zmid (o.onBin b).seg (o.onBin b).ax) :
    o.onPoint '' G.tofPart T b = G.tofPart T { o.onBin b with tof := o.orient b * b.tof } ∧
    (o.TofRule b → o.onPoint '' G.tofPart T b = G.tofPart T (o.onBin b)) ∧
    (o.kind.tofSafe = true ∨ b.tof = 0 → o.TofRule b) :=
  ⟨tofPart_image G hG T o hf b hz, tofPart_equivariant G hG T o hf b hz,
    fun h => h.elim (fun h => tofRule_of_safe o h b) (tofRule_of_tof_zero o b)⟩

/-- … and the sign rule can fail for a kind that is not `tofSafe`: with the 180° symmetry on, the operation found for a bin with
    a view beyond 90° (`swap_xmx_zq`) reverses the LOR but leaves timing position 1 alone — the derived row would be
    that of timing position −1.  (This is the geometric reason behind the constructor's "disabling rotational
    symmetries for the projector with TOF data".) -/
theorem C03_lor_equivariant_tof_fails :
    let y : Sym := { V := 8, d90 := false, d180 := true, swapSeg := false, swapS := false, shiftZ := false,
                     nppr := 2, nppa := fun _ => 1, delta2 := fun _ => 0, zoff4 := fun _ => 0 }
    (y.findSymOp ⟨0, 6, 0, 0, 1⟩).kind = .swap_xmx_zq ∧
    (y.findSymOp ⟨0, 6, 0, 0, 1⟩).onBin (y.basic ⟨0, 6, 0, 0, 1⟩) = ⟨0, 6, 0, 0, 1⟩ ∧
    (y.findSymOp ⟨0, 6, 0, 0, 1⟩).orient (y.basic ⟨0, 6, 0, 0, 1⟩) = -1 ∧
    ¬ (y.findSymOp ⟨0, 6, 0, 0, 1⟩).TofRule (y.basic ⟨0, 6, 0, 0, 1⟩) := by decide

/-- **corollary for `find_symmetry_operation_from_basic_bin`**: for every bin in the view range, every combination of
    switches (`WF`), every geometry that agrees with the symmetries object (`Agrees`: same number of views, axial
    midpoints `centre4/4` from `find_relation_between_coordinate_systems`, square voxels if 90° is on, no azimuthal
    offset if 180° is on, image centred if 180° or swap_s is on), the LOR of `b` is the image under the operation found
    for `b` of the LOR of its basic bin — point by point (first part, with the bundle displacements) and as sets -/
theorem C03_lor_equivariant_findSymOp (V : Int) (f : Flags) (g : AxGeo) (hg : g.Symmetric)
    (hy : (Sym.make V f g).WF) (G : LorGeo) (hG : G.WF) (hA : G.Agrees (Sym.make V f g)) (b : Bin)
    (hv : 0 ≤ b.view ∧ b.view < V) :
    let y := Sym.make V f g
    (∀ ds dz t : ℝ, (y.findSymOp b).onPoint (G.ray (y.basic b) ds dz t) =
      G.ray b (((y.findSymOp b).sSign (y.basic b) : ℝ) * ds) (((y.findSymOp b).zSign : ℝ) * dz)
        (((y.findSymOp b).orient (y.basic b) : ℝ) * t)) ∧
    (y.findSymOp b).onPoint '' G.lor (y.basic b) = G.lor b :=
  ⟨ray_findSymOp (Sym.make_axial V f g hg) hy G hG hA b hv.2,
    image_lor G _ _ b (sSign_cases _ _) (zSign_cases _) (orient_cases _ _) (ray_findSymOp (Sym.make_axial V f g hg) hy G hG hA b hv.2)⟩

/-- … the same for the bundle of rays -/
theorem C03_lor_equivariant_findSymOp_tube (V : Int) (f : Flags) (g : AxGeo) (hg : g.Symmetric)
    (hy : (Sym.make V f g).WF) (G : LorGeo) (hG : G.WF) (hA : G.Agrees (Sym.make V f g)) (b : Bin)
    (hv : 0 ≤ b.view ∧ b.view < V) (Ds Dz : Set ℝ) (hDs : ∀ d ∈ Ds, -d ∈ Ds) (hDz : ∀ d ∈ Dz, -d ∈ Dz) :
    let y := Sym.make V f g
    (y.findSymOp b).onPoint '' G.tube Ds Dz (y.basic b) = G.tube Ds Dz b :=
  image_tube G _ _ b (sSign_cases _ _) (zSign_cases _) (orient_cases _ _) (ray_findSymOp (Sym.make_axial V f g hg) hy G hG hA b hv.2)
    Ds Dz hDs hDz

/-- … and for the TOF part when the 180° (hence the 90°) symmetry is off — as it is for TOF data (second part; the
    constructor leaves `shift_z` only, `effective_tof`); swap_segment and swap_s would be compatible with TOF -/
theorem C03_lor_equivariant_findSymOp_tof (V : Int) (f : Flags) (g : AxGeo) (hg : g.Symmetric)
    (hy : (Sym.make V f g).WF) (h180 : (Sym.make V f g).d180 = false) (G : LorGeo) (hG : G.WF) (T : TofGeo)
    (hA : G.Agrees (Sym.make V f g)) (b : Bin) (hv : 0 ≤ b.view ∧ b.view < V) :
    let y := Sym.make V f g
    (y.findSymOp b).onPoint '' G.tofPart T (y.basic b) = G.tofPart T b ∧
    ∀ (f' : Flags) (sq phi0 xy0 : Bool), (Sym.make V (f'.effective V sq phi0 true xy0) g).d180 = false := by
  intro y
  refine ⟨?_, fun f' sq phi0 xy0 => congrArg Flags.d180 (effective_tof f' V sq phi0 xy0)⟩
  have h := tofPart_equivariant G hG T (y.findSymOp b) (findSymOp_fits y hy G hA b) (y.basic b)
    (findSymOp_onZ_zmid (Sym.make_axial V f g hg) hy G hA b hv.2) (tofRule_of_safe _ (findSymOp_tofSafe y hy h180 b) _)
  rw [symop_rebuilds_bin y hy b hv (Or.inr (Or.inr h180))] at h
  exact h

/-- `cache_key` (bit packing 1+28+1+12+1+20 bits) is injective on the box whose bounds `set_up` checks.
    (`set_up` checks the axial bound for segment 0 only and only if caching is enabled at that moment: the box is a
    hypothesis here.) -/
theorem C03_cacheKey_injective (b b' : Bin) (hb : InBox b) (hb' : InBox b') (h : cacheKey b = cacheKey b') :
    b.ax = b'.ax ∧ b.tang = b'.tang ∧ b.tof = b'.tof :=
  cacheKey_injective b b' hb hb' h

/-- "with caching disabled, restricted to basic bins or complete, for any order and repetition of requests, and after
    clearing the cache or setting the matrix up again for another geometry": **for every history** of
    `get | clear_cache | enable_cache | store_only_basic_bins_in_cache | set_* | set_up` on a new object, every row
    handed out is `(findSymOp b).onRow (compute (basic b))` — bin included — for the geometry and parameters the last
    `set_up` call asked for.  A geometry is what `set_up` compares: projection data, voxel size, origin and index
    range of the image.  `Req`: requested bins lie in the view range and in the key box and satisfy `TofOK`.
    (`Params` includes `actualBoundaries` = `set_use_actual_detector_boundaries`, which — like the number of rays and the
    FOV shape — reaches the rows only through `compute`; the correspondence run toggles it in its histories, and TOF
    data with view/TOF mashing, even spans and cut-off outer segments are among the geometries `G` they switch between.) -/
theorem C03_cache_refines {G α : Type} [DecidableEq G] (w : World G α) (hWF : ∀ g p, (w.symOf g p).WF)
    (p0 : Params) (evs : List (Ev G))
    (hreq : ∀ x ∈ (PM.fresh p0 : PM G α).run w none evs, Req w x) :
    ∀ x ∈ (PM.fresh p0 : PM G α).run w none evs, Refines w x :=
  run_refines w hWF evs (PM.fresh p0) none
    ⟨rfl, fun h => absurd h (by simp [PM.fresh]), fun g p h => absurd h (by simp [PM.fresh])⟩ hreq

/-- the same **for `ProjMatrixByBinUsingInterpolation`** (an anchor file of the property): same base class and cache, but its
    `set_up` has no `already_setup` short cut (`PM.setUpInterp`).  Every history on it *is* a history of the model above:
    the one with `set_* (other value); set_* (back)` inserted before each `set_up` (`interpEvents`), which is how
    `already_setup` gets switched off there — same rows, same recorded configurations. -/
theorem C03_interpolation_history_is_raytracing_history {G α : Type} [DecidableEq G] (w : World G α) (s : PM G α)
    (cfg : Option (G × Params)) (evs : List (Ev G)) :
    s.runInterp w cfg evs = s.run w cfg (interpEvents s.params evs) :=
  runInterp_eq w evs s cfg

/-- … hence "with caching disabled, restricted to basic bins or complete, for any order and repetition of requests, and
    after clearing the cache or setting the matrix up again for another geometry" for the interpolating matrix: every row
    handed out in any history is `(findSymOp b).onRow (compute (basic b))` for the configuration of the last `set_up` -/
theorem C03_cache_refines_interpolation {G α : Type} [DecidableEq G] (w : World G α) (hWF : ∀ g p, (w.symOf g p).WF)
    (p0 : Params) (evs : List (Ev G))
    (hreq : ∀ x ∈ (PM.fresh p0 : PM G α).runInterp w none evs, Req w x) :
    ∀ x ∈ (PM.fresh p0 : PM G α).runInterp w none evs, Refines w x := by
  rw [runInterp_eq] at hreq ⊢
  exact C03_cache_refines w hWF p0 _ hreq

/-- the two `set_up`s really differ: a second `set_up` for the same geometry and parameters leaves the cache of a
    ray-tracing matrix alone (early return) and empties that of an interpolating matrix -/
theorem C03_setUp_short_cut_only_in_raytracing :
    ((PM.fresh pDefault : PM Bool Nat).after (PM.step wRange) [.setUp true, .get ⟨0, 0, 0, 0, 0⟩, .setUp true]).map
        (fun s => s.cache.length) = some 1 ∧
    ((PM.fresh pDefault : PM Bool Nat).after (PM.stepInterp wRange) [.setUp true, .get ⟨0, 0, 0, 0, 0⟩, .setUp true]).map
        (fun s => s.cache.length) = some 0 := by decide

/-- the case repaired in `ProjMatrixByBinUsingRayTracing::set_up`: after `set_up` for an image that differs from the
    previous one in its index range only, rows are those of the new image (value 1), and a third `set_up` with the
    same image is skipped without harm -/
theorem C03_setup_other_index_range :
    ((PM.fresh pDefault : PM Bool Nat).run wRange none evsRange).map (fun x => (x.2.1.map Prod.fst, x.2.2.elems.map Prod.snd)) =
      [(some false, [0]), (some true, [1]), (some true, [1])] := by decide

/-- "for every combination of enabled symmetries", image grids with "anisotropic voxels": **which symmetries the
    constructor leaves in force does not depend on which of the x and y voxel sizes is the larger one** — the guard
    `fabs(get_grid_spacing()[2] - get_grid_spacing()[3]) > 2.E-3F` (`float` subtraction included: `f32Round`) is symmetric
    in the two sizes — nor (with the index-range guard the constructor now has, `r = true`) on which of the two index
    ranges is which.  (The correspondence run evaluates this model of the guard on the voxel sizes and index ranges of
    every generated image — x larger than y, y larger than x, differences on both sides of the threshold — and
    compares the effective switches with those the real constructor reports.) -/
theorem C03_xy_guard_symmetric (f : Flags) (V : Int) (vy vx : Rat) (r : Bool) (minY maxY minX maxX : Int)
    (phi0 tof xy0 : Bool) :
    f.effectiveImg V vy vx r minY maxY minX maxX phi0 tof xy0 = f.effectiveImg V vx vy r minX maxX minY maxY phi0 tof xy0 := by
  unfold Flags.effectiveImg
  rw [squareVoxels_symm vy vx]
  have h1 : decide (minY = minX) = decide (minX = minY) := by simp only [eq_comm]
  have h2 : decide (maxY = maxX) = decide (maxX = maxY) := by simp only [eq_comm]
  rw [h1, h2]

/-- **the symmetries that exchange x and y are in force only for (nearly) equal x and y voxel sizes**: whenever the
    constructor leaves `do_symmetry_90degrees_min_phi` on — whatever was requested, whatever the data — the two voxel
    sizes differ by at most `2.E-3F` plus half a unit in the last place of their `float` difference (`2⁻³³` mm); with
    the index-range guard the constructor now has (`r = true`) the index ranges in x and y are the same as well.
    The bound is not 0: the geometric theorem `C03_lor_equivariant_findSymOp` needs `cx = cy` exactly
    (`LorGeo.Agrees.square`); rows derived by the x/y exchanging operations for sizes that differ within the bound are
    the known finding `unequal-xy-voxel-sizes-within-guard-tolerance:xy-exchanging-symmetry` of the oracle; without the
    index-range guard (`r = false`, the constructor before /repo commit d5100fc15) nothing relates the two index ranges. -/
theorem C03_xy_swap_only_for_near_square_voxels (f : Flags) (V : Int) (vy vx : Rat) (r : Bool) (minY maxY minX maxX : Int)
    (phi0 tof xy0 : Bool) (h : (f.effectiveImg V vy vx r minY maxY minX maxX phi0 tof xy0).d90 = true) :
    |vy - vx| ≤ twoEm3F + pow2 (-33) ∧ (r = true → minY = minX ∧ maxY = maxX) :=
  ⟨squareVoxels_close vy vx (effectiveImg_d90 f V vy vx r minY maxY minX maxX phi0 tof xy0 h).1,
   (effectiveImg_d90 f V vy vx r minY maxY minX maxX phi0 tof xy0 h).2⟩

/-- "after ... setting the matrix up again for another geometry": **`set_up` for a geometry other than the one the object
    is set up for never takes the "already set up with same characteristics" short cut** — however the two are related
    (projection data contained in the previous ones in the sense of `ProjDataInfo::operator>=`, the previous ones
    contained in the new ones, equal data and another image, …): afterwards the object holds the new geometry with the
    current parameters and an empty cache, so by `C03_cache_refines` every later row is that of the new geometry.
    A geometry is what `set_up` compares with the library's `==`; the histories of the correspondence run switch, on
    one object, between data with reduced axial / tangential / segment ranges and the data that contain them (all rows
    after the second `set_up`, three cache modes). -/
theorem C03_setUp_other_geometry_resets {G α : Type} [DecidableEq G] (w : World G α) (s s' : PM G α) (g : G)
    (hne : ∀ g' p, s.active = some (g', p) → g' ≠ g) (h : s.setUp w g = .ok s') :
    s'.active = some (g, s.params) ∧ s'.cache = [] ∧ s'.alreadySetup = true := by
  rcases setUp_cases w s s' g h with ⟨-, -, p, hact⟩ | rfl
  · exact absurd rfl (hne g p hact)
  · exact ⟨rfl, rfl, rfl⟩

/-- a symmetries object with all five switches on satisfies `WF`, and a bin with negative segment and tangential
    position, a view in (135°,180°) and a non-zero axial position satisfies the request hypotheses -/
example : ySample.WF ∧ Good ySample ⟨-1, 7, 2, -1, 0⟩ ∧ ySample.basic ⟨-1, 7, 2, -1, 0⟩ = ⟨1, 1, 0, 1, 0⟩ ∧
    (ySample.findSymOp ⟨-1, 7, 2, -1, 0⟩).kind = .swap_ymy_zq :=
  ⟨ySample_WF, ⟨by decide, ⟨by decide, by decide, by decide⟩, Or.inl rfl⟩, by decide, by decide⟩

example : Flags.effective ⟨true, false, true, true, true⟩ 8 true true false true = ⟨true, true, true, true, true⟩ := by decide

example : Flags.effective ⟨true, false, true, true, true⟩ 6 true true false true = ⟨false, true, true, true, true⟩ ∧
    Flags.effective ⟨true, true, true, true, true⟩ 8 true true true true = ⟨false, false, false, false, true⟩ := by decide

example : sampleGeo.Symmetric := sampleGeo_symmetric

/-- the hypotheses of `C03_cache_refines` are satisfiable by a history with repeats, mode switches,
    `clear_cache` and `set_up` for a second geometry, and its run hands out five rows -/
example : (∀ g p, (wGood.symOf g p).WF) ∧
    ((PM.fresh pDefault : PM Bool Nat).run wGood none evsGood).length = 5 ∧
    (∀ x ∈ (PM.fresh pDefault : PM Bool Nat).run wGood none evsGood, Req wGood x) :=
  ⟨fun _ _ => ySample_WF, by decide, req_of_pairs wGood _ _ (by decide) evsGood_requests⟩

/-- the hypotheses of `C03_cache_refines_interpolation` are satisfiable by the same history run on an interpolating matrix:
    five rows, all requests legitimate; the corresponding ray-tracing history has two parameter flips per `set_up` -/
example : ((PM.fresh pDefault : PM Bool Nat).runInterp wGood none evsGood).length = 5 ∧
    (interpEvents pDefault evsGood).length = evsGood.length + 4 ∧
    (∀ x ∈ (PM.fresh pDefault : PM Bool Nat).runInterp wGood none evsGood, Req wGood x) :=
  ⟨by decide, by decide, req_of_pairs wGood _ _ (by decide) evsGood_requests⟩

/-- the hypotheses of `C03_row_in_image_z_partial` are satisfiable: 3 rings, 5 planes, the middle ring (tube of one
    plane on either side, `w = 4` quarter planes) — and `hin` fails for the two end rings -/
example : endGeo.Symmetric ∧
    (4 * endGeo.minZ ≤ yEnd.centre4 0 1 - 4 ∧ yEnd.centre4 0 1 + 4 ≤ 4 * endGeo.maxZ) ∧
    ¬ (4 * endGeo.minZ ≤ yEnd.centre4 0 0 - 4) ∧ ¬ (yEnd.centre4 0 2 + 4 ≤ 4 * endGeo.maxZ) :=
  ⟨⟨fun _ => rfl, fun s => by simp only [endGeo, iabs_neg]⟩, by decide, by decide, by decide⟩

/-- the hypotheses of the LOR theorems are satisfiable: 8 views, all switches on, a geometry with tangential sampling
    2.1 mm and `tan θ = 0.3·segment`; a 90° operation with a bin on either branch of its `onBin`, including the axial
    compatibility `hz` -/
example : gLor.WF ∧ yLor.WF ∧ sampleGeo.Symmetric ∧ gLor.Agrees yLor ∧
    (⟨.swap_xmy_yx, 8, 0, 0, 0⟩ : SymOp).Fits gLor ∧
    (∀ b ∈ [(⟨1, 1, 0, 2, 0⟩ : Bin), ⟨0, 5, 1, -1, 0⟩],
      (⟨.swap_xmy_yx, 8, 0, 0, 0⟩ : SymOp).onZ (gLor.zmid b.seg b.ax) =
        gLor.zmid ((⟨.swap_xmy_yx, 8, 0, 0, 0⟩ : SymOp).onBin b).seg ((⟨.swap_xmy_yx, 8, 0, 0, 0⟩ : SymOp).onBin b).ax) ∧
    (⟨.swap_xmy_yx, 8, 0, 0, 0⟩ : SymOp).onBin ⟨1, 1, 0, 2, 0⟩ = ⟨1, 5, 0, 2, 0⟩ ∧
    (⟨.swap_xmy_yx, 8, 0, 0, 0⟩ : SymOp).onBin ⟨0, 5, 1, -1, 0⟩ = ⟨0, 1, 1, 1, 0⟩ := by
  refine ⟨gLor_WF, yLor_WF, sampleGeo_symmetric,
    gLor_agrees, ⟨fun _ => ⟨rfl, rfl⟩, fun _ => ⟨rfl, rfl⟩, fun _ => ⟨by decide, rfl⟩⟩, ?_, by decide, by decide⟩
  intro b hb
  simp only [List.mem_cons, List.not_mem_nil, or_false] at hb
  rcases hb with rfl | rfl <;>
    simp [SymOp.onZ, SymOp.onBin, gLor, yLor, Sym.make, Sym.centre4, sampleGeo, AxGeo.zoff4, iabs]

/-- … and the corollary applies to a bin with negative segment and tangential position, a view in (135°,180°) and a
    non-zero axial position: its LOR is the image, under `swap_ymy_zq` with `q = 3`, `z_shift = 2`, of the LOR of the
    basic bin `(1, 1, 0, 1)` -/
example : yLor.findSymOp ⟨-1, 7, 2, -1, 0⟩ = ⟨.swap_ymy_zq, 8, 2, 2, 3⟩ ∧ yLor.basic ⟨-1, 7, 2, -1, 0⟩ = ⟨1, 1, 0, 1, 0⟩ ∧
    (⟨.swap_ymy_zq, 8, 2, 2, 3⟩ : SymOp).onPoint '' gLor.lor ⟨1, 1, 0, 1, 0⟩ = gLor.lor ⟨-1, 7, 2, -1, 0⟩ := by
  have h1 : yLor.findSymOp ⟨-1, 7, 2, -1, 0⟩ = ⟨.swap_ymy_zq, 8, 2, 2, 3⟩ := by decide
  have h2 : yLor.basic ⟨-1, 7, 2, -1, 0⟩ = ⟨1, 1, 0, 1, 0⟩ := by decide
  have h : (yLor.findSymOp ⟨-1, 7, 2, -1, 0⟩).onPoint '' gLor.lor (yLor.basic ⟨-1, 7, 2, -1, 0⟩) =
      gLor.lor ⟨-1, 7, 2, -1, 0⟩ :=
    (C03_lor_equivariant_findSymOp 8 ⟨true, true, true, true, true⟩ sampleGeo
      sampleGeo_symmetric yLor_WF gLor gLor_WF
      gLor_agrees ⟨-1, 7, 2, -1, 0⟩ ⟨by decide, by decide⟩).2
  rw [h1, h2] at h
  exact ⟨h1, h2, h⟩

/-- the TOF corollary applies with the switches swap_segment, swap_s, shift_z on and a timing position 2 -/
example : yLorTof.WF ∧ yLorTof.d180 = false ∧ gLor.Agrees yLorTof ∧
    (yLorTof.findSymOp ⟨-1, 7, 2, -1, 2⟩).kind = .swap_xmx_ymy ∧ yLorTof.basic ⟨-1, 7, 2, -1, 2⟩ = ⟨1, 7, 0, 1, -2⟩ ∧
    tLor.c 2 = 160 :=
  ⟨yLorTof_WF, rfl, gLor_agrees_tof, by decide, by decide, by
    simp only [tLor]
    norm_num⟩

example : cacheKey ⟨0, 0, 3, 2, 0⟩ ≠ cacheKey ⟨0, 0, 3, -2, 0⟩ ∧ InBox ⟨0, 0, 3, -2, 0⟩ := by
  refine ⟨by decide, by decide, by decide, by decide⟩

/-- equal voxel sizes pass the guard (90° symmetry stays on for 8 views), sizes 2.2 / 2 mm do not — whichever of the two
    is the larger one (the 180° symmetry stays); index ranges -3..3 / -4..4 switch it off only with the index-range guard -/
example : (Flags.effectiveImg ⟨true, true, true, true, true⟩ 8 2 2 false (-3) 3 (-3) 3 true false true).d90 = true ∧
    (Flags.effectiveImg ⟨true, true, true, true, true⟩ 8 (22 / 10) 2 false (-3) 3 (-3) 3 true false true).d90 = false ∧
    (Flags.effectiveImg ⟨true, true, true, true, true⟩ 8 2 (22 / 10) false (-3) 3 (-3) 3 true false true).d90 = false ∧
    (Flags.effectiveImg ⟨true, true, true, true, true⟩ 8 2 (22 / 10) false (-3) 3 (-3) 3 true false true).d180 = true ∧
    (Flags.effectiveImg ⟨true, true, true, true, true⟩ 8 2 2 false (-4) 4 (-3) 3 true false true).d90 = true ∧
    (Flags.effectiveImg ⟨true, true, true, true, true⟩ 8 2 2 true (-4) 4 (-3) 3 true false true).d90 = false ∧
    (Flags.effectiveImg ⟨true, true, true, true, true⟩ 8 2 2 true (-3) 3 (-3) 3 true false true).d90 = true := by
  have h1 : squareVoxels 2 2 = true := squareVoxels_self 2
  have h2 : squareVoxels (22 / 10) 2 = false := squareVoxels_far _ _ (by
    rw [pow2_eq_zpow]
    unfold twoEm3F
    norm_num [abs_of_pos])
  have h3 : squareVoxels 2 (22 / 10) = false := by
    rw [squareVoxels_symm]
    exact h2
  unfold Flags.effectiveImg
  rw [h1, h2, h3]
  decide

example : ((PM.fresh pDefault : PM Bool Nat).after (PM.step wRange) [.setUp false, .get ⟨0, 0, 0, 0, 0⟩, .setUp true]).map
      (fun s => (s.active.map Prod.fst, s.cache.length)) = some (some true, 0) ∧
    ((PM.fresh pDefault : PM Bool Nat).after (PM.step wRange) [.setUp false, .get ⟨0, 0, 0, 0, 0⟩]).map
      (fun s => (s.active.map Prod.fst, s.cache.length)) = some (some false, 1) := by decide

end StirVerif.C03
