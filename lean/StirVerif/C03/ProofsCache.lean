/-
C03 — the row cache refines the specification: whatever the history of requests, cache-mode switches,
`clear_cache`, parameter changes and `set_up` calls, every row handed out is
`(findSymOp b).onRow (compute (basic b))` for the configuration of the last `set_up`.

Invariant: every stored entry sits under the key of its own bin, that bin is a legitimate request (`Good`: in particular inside the key
box, which is what makes the key decide the bin), and the entry equals the specification of that bin.
-/
import StirVerif.C03.ProofsSym
import StirVerif.C03.ProofsKey

namespace StirVerif.C03

variable {G α : Type}

/-- what a requested bin has to satisfy (for the symmetries object `y` in force) -/
structure Good (y : Sym) (b : Bin) : Prop where
  view : 0 ≤ b.view ∧ b.view < y.V
  box : InBox b
  tof : TofOK y b

theorem triv_onElems (e : List (Vox × α)) : SymOp.triv.onElems e = e := by
  simp only [SymOp.onElems, SymOp.onVoxel, SymOp.triv]
  exact List.map_id' e

theorem good_basic (y : Sym) (h : y.WF) (b : Bin) (hb : Good y b) : Good y (y.basic b) := by
  refine ⟨basic_view_range y h b hb.view, ?_, ?_⟩
  · obtain ⟨h1, h2, h3⟩ := hb.box
    simp only [InBox, Sym.basic, Sym.findBasicBin]
    refine ⟨?_, ?_, ?_⟩
    · split <;> omega
    · split <;> omega
    · split <;> omega
  · have := hb.tof
    simp only [TofOK, Sym.basic, Sym.findBasicBin] at this ⊢
    rcases this with h1 | h1 | h1
    · left
      split <;> omega
    · exact Or.inr (Or.inl h1)
    · exact Or.inr (Or.inr h1)

theorem spec_of_isBasic (w : World G α) (g : G) (p : Params) (h : (w.symOf g p).WF) {b : Bin} (hb : (w.symOf g p).IsBasic b) :
    spec w g p b = (w.compute g p b).map fun e => ⟨b, e⟩ := by
  simp only [spec, Sym.basic, findBasicBin_of_isBasic _ h _ hb, findSymOp_of_isBasic _ h _ hb, triv_onElems]

theorem spec_derive (w : World G α) (g : G) (p : Params) (h : (w.symOf g p).WF) (b : Bin)
    (hv : 0 ≤ b.view ∧ b.view < (w.symOf g p).V) (ht : TofOK (w.symOf g p) b)
    (r0 : Row α) (h0 : spec w g p ((w.symOf g p).basic b) = some r0) :
    spec w g p b = some (((w.symOf g p).findSymOp b).onRow r0) := by
  rw [spec_of_isBasic w g p h (basic_isBasic _ h b), Option.map_eq_some_iff] at h0
  obtain ⟨e, he, rfl⟩ := h0
  simp only [spec, he, Option.map_some, SymOp.onRow, symop_rebuilds_bin _ h b hv ht]

theorem ckeyOf_injective (b b' : Bin) (hb : InBox b) (hb' : InBox b') (h : CKey.of b = CKey.of b') : b = b' := by
  simp only [CKey.of, CKey.mk.injEq] at h
  obtain ⟨h1, h2, h3⟩ := h
  obtain ⟨h4, h5, h6⟩ := cacheKey_injective b b' hb hb' h3
  obtain ⟨s, v, a, t, f⟩ := b
  obtain ⟨s', v', a', t', f'⟩ := b'
  simp only at h1 h2 h4 h5 h6
  simp only [Bin.mk.injEq]
  exact ⟨h2, h1, h4, h5, h6⟩

def EntryOK (w : World G α) (g : G) (p : Params) (e : CKey × Row α) : Prop :=
  e.1 = CKey.of e.2.bin ∧ Good (w.symOf g p) e.2.bin ∧ spec w g p e.2.bin = some e.2

def CacheOK (w : World G α) (g : G) (p : Params) (s : PM G α) : Prop := ∀ e ∈ s.cache, EntryOK w g p e

theorem lookup_spec (w : World G α) (g : G) (p : Params) (s : PM G α) (hc : CacheOK w g p s) (b : Bin)
    (hb : Good (w.symOf g p) b) (r : Row α) (hl : s.lookup b = some r) : spec w g p b = some r := by
  rw [PM.lookup, Option.ite_none_left_eq_some, Option.map_eq_some_iff] at hl
  obtain ⟨-, e, he, rfl⟩ := hl
  have hmem := List.mem_of_find?_eq_some he
  have hkey := List.find?_some he
  simp only [beq_iff_eq] at hkey
  obtain ⟨h1, h2, h3⟩ := hc e hmem
  have : e.2.bin = b := ckeyOf_injective _ _ h2.box hb.box (by rw [← h1, hkey])
  rw [← this]
  exact h3

theorem spec_bin (w : World G α) (g : G) (p : Params) (b : Bin) (r : Row α) (h : spec w g p b = some r) : r.bin = b := by
  simp only [spec, Option.map_eq_some_iff] at h
  obtain ⟨e, _, rfl⟩ := h
  rfl

theorem store_frame (s : PM G α) (r : Row α) : ∃ c, s.store r = { s with cache := c } := by
  unfold PM.store
  split
  · exact ⟨_, rfl⟩
  · split <;> exact ⟨_, rfl⟩

/-- the shape of a successful `get`: in the mode that caches every requested bin the row may be found as it is;
    otherwise it is derived from the basic row, which is found in the cache or computed, and the new state is the old
    one, or the old one with the basic row or the derived row stored -/
theorem get_cases (w : World G α) (s s' : PM G α) (b : Bin) (r : Row α) (h : s.get w b = .ok (s', r)) :
    ∃ g p, s.active = some (g, p) ∧
      ((s.basicOnly = false ∧ s.lookup b = some r ∧ s' = s) ∨
        ∃ r0, (s.lookup ((w.symOf g p).basic b) = some r0 ∨ s.calc w g p ((w.symOf g p).basic b) = .ok r0) ∧
          r = ((w.symOf g p).findSymOp b).onRow r0 ∧ (s' = s ∨ ∃ r', (r' = r0 ∨ r' = r) ∧ s' = s.store r')) := by
  unfold PM.get at h
  cases ha : s.active with
  | none =>
    rw [ha] at h
    cases h
  | some gp =>
    obtain ⟨g, p⟩ := gp
    refine ⟨g, p, rfl, ?_⟩
    simp only [ha] at h
    cases hb : s.basicOnly
    · simp only [hb, Bool.false_eq_true, if_false] at h
      cases hl : s.lookup b with
      | some r1 =>
        simp only [hl, Except.ok.injEq, Prod.mk.injEq] at h
        exact Or.inl ⟨rfl, by rw [h.2], h.1.symm⟩
      | none =>
        simp only [hl] at h
        cases hl0 : s.lookup ((w.symOf g p).basic b) with
        | some r0 =>
          simp only [hl0, Except.ok.injEq, Prod.mk.injEq] at h
          exact Or.inr ⟨r0, Or.inl rfl, h.2.symm, Or.inr ⟨r, Or.inr rfl, by rw [← h.1, h.2]⟩⟩
        | none =>
          simp only [hl0] at h
          cases hc : s.calc w g p ((w.symOf g p).basic b) with
          | error e =>
            simp only [hc] at h
            cases h
          | ok r0 =>
            simp only [hc, Except.ok.injEq, Prod.mk.injEq] at h
            exact Or.inr ⟨r0, Or.inr rfl, h.2.symm, Or.inr ⟨r, Or.inr rfl, by rw [← h.1, h.2]⟩⟩
    · simp only [hb, if_true] at h
      cases hl0 : s.lookup ((w.symOf g p).basic b) with
      | some r0 =>
        simp only [hl0, Except.ok.injEq, Prod.mk.injEq] at h
        exact Or.inr ⟨r0, Or.inl rfl, h.2.symm, Or.inl h.1.symm⟩
      | none =>
        simp only [hl0] at h
        cases hc : s.calc w g p ((w.symOf g p).basic b) with
        | error e =>
          simp only [hc] at h
          cases h
        | ok r0 =>
          simp only [hc, Except.ok.injEq, Prod.mk.injEq] at h
          exact Or.inr ⟨r0, Or.inr rfl, h.2.symm, Or.inr ⟨r0, Or.inl rfl, h.1.symm⟩⟩

theorem calc_spec (w : World G α) (g : G) (p : Params) (h : (w.symOf g p).WF) (s : PM G α) {b : Bin} (hb : (w.symOf g p).IsBasic b)
    (r0 : Row α) (hc : s.calc w g p b = .ok r0) : spec w g p b = some r0 := by
  unfold PM.calc at hc
  split at hc
  · cases hc
  · split at hc
    · cases hc
    · next e he =>
      injection hc with hc
      rw [spec_of_isBasic w g p h hb, he, ← hc]
      rfl

theorem get_frame (w : World G α) (s s' : PM G α) (b : Bin) (r : Row α) (h : s.get w b = .ok (s', r)) :
    ∃ c, s' = { s with cache := c } := by
  obtain ⟨g, p, -, ⟨-, -, rfl⟩ | ⟨r0, -, -, rfl | ⟨r', -, rfl⟩⟩⟩ := get_cases w s s' b r h
  · exact ⟨_, rfl⟩
  · exact ⟨_, rfl⟩
  · exact store_frame s r'

/-- the invariant of a history: the object works for the configuration the last `set_up` asked for,
    `already_setup` means "set up for the current parameters", and the cache is good for that configuration -/
structure Inv (w : World G α) (s : PM G α) (cfg : Option (G × Params)) : Prop where
  act : s.active = cfg
  setup : s.alreadySetup = true → ∃ g, s.active = some (g, s.params)
  cache : ∀ g p, s.active = some (g, p) → CacheOK w g p s

theorem Inv.store {w : World G α} {s : PM G α} {g : G} {p : Params} (hinv : Inv w s (some (g, p))) {b : Bin} {r : Row α}
    (hb : Good (w.symOf g p) b) (hs : spec w g p b = some r) : Inv w (s.store r) (some (g, p)) := by
  have hbin := spec_bin w g p b r hs
  unfold PM.store
  split
  · exact hinv
  · split
    · exact hinv
    · refine ⟨hinv.act, hinv.setup, fun g' p' ha e he => ?_⟩
      cases hinv.act.symm.trans ha
      simp only [List.mem_append, List.mem_singleton] at he
      rcases he with he | he
      · exact hinv.cache g p hinv.act e he
      · subst he
        exact ⟨rfl, hbin ▸ hb, hbin ▸ hs⟩

theorem get_refines (w : World G α) (g : G) (p : Params) (h : (w.symOf g p).WF) (s : PM G α)
    (hinv : Inv w s (some (g, p))) (b : Bin) (hb : Good (w.symOf g p) b)
    (s' : PM G α) (r : Row α) (hg : s.get w b = .ok (s', r)) :
    spec w g p b = some r ∧ Inv w s' (some (g, p)) := by
  have hc := hinv.cache g p hinv.act
  have hb0 := good_basic _ h b hb
  obtain ⟨g', p', ha', hcase⟩ := get_cases w s s' b r hg
  rw [hinv.act, Option.some.injEq, Prod.mk.injEq] at ha'
  obtain ⟨rfl, rfl⟩ := ha'
  rcases hcase with ⟨-, hl, rfl⟩ | ⟨r0, hsrc, rfl, hs'⟩
  · exact ⟨lookup_spec w g p _ hc b hb r hl, hinv⟩
  · have h0 : spec w g p ((w.symOf g p).basic b) = some r0 := by
      rcases hsrc with hl | hcalc
      · exact lookup_spec w g p s hc _ hb0 r0 hl
      · exact calc_spec w g p h s (basic_isBasic _ h b) r0 hcalc
    have hr := spec_derive w g p h b hb.view hb.tof r0 h0
    refine ⟨hr, ?_⟩
    rcases hs' with rfl | ⟨r', rfl | rfl, rfl⟩
    · exact hinv
    · exact hinv.store hb0 h0
    · exact hinv.store hb hr

theorem setUp_cases [DecidableEq G] (w : World G α) (s s' : PM G α) (g : G) (h : s.setUp w g = .ok s') :
    (s' = s ∧ s.alreadySetup = true ∧ ∃ p, s.active = some (g, p)) ∨
    s' = { s with active := some (g, s.params), cache := [], alreadySetup := true } := by
  unfold PM.setUp at h
  split_ifs at h with hskip hfit
  · injection h with h
    rw [Bool.and_eq_true] at hskip
    refine Or.inl ⟨h.symm, hskip.1, ?_⟩
    cases ha : s.active with
    | none =>
      rw [ha] at hskip
      exact absurd hskip.2 Bool.false_ne_true
    | some gp =>
      rw [ha] at hskip
      exact ⟨gp.2, by rw [← of_decide_eq_true hskip.2]⟩
  · injection h with h
    exact Or.inr h.symm

/-- what the theorem asks of a history: every requested bin is legitimate for the configuration in force -/
def Req (w : World G α) (x : Bin × Option (G × Params) × Row α) : Prop :=
  ∃ g p, x.2.1 = some (g, p) ∧ Good (w.symOf g p) x.1

/-- what it delivers: the row is the specification for the configuration the last `set_up` asked for -/
def Refines (w : World G α) (x : Bin × Option (G × Params) × Row α) : Prop :=
  ∃ g p, x.2.1 = some (g, p) ∧ spec w g p x.1 = some x.2.2

theorem run_refines [DecidableEq G] (w : World G α) (hWF : ∀ g p, (w.symOf g p).WF)
    (evs : List (Ev G)) : ∀ (s : PM G α) (cfg : Option (G × Params)), Inv w s cfg →
      (∀ x ∈ s.run w cfg evs, Req w x) → ∀ x ∈ s.run w cfg evs, Refines w x := by
  induction evs with
  | nil =>
    intro s cfg _ _ x hx
    simp only [PM.run, List.not_mem_nil] at hx
  | cons ev rest ih =>
    intro s cfg hinv hreq x hx
    unfold PM.run at hx hreq
    cases ev with
    | get b =>
      simp only [PM.step] at hx hreq
      cases hget : s.get w b with
      | error e => simp only [hget, Except.map, List.not_mem_nil] at hx
      | ok sr =>
        obtain ⟨s', r⟩ := sr
        simp only [hget, Except.map, List.mem_cons] at hx hreq
        obtain ⟨g, p, hcfg, hgood⟩ := hreq (b, cfg, r) (Or.inl rfl)
        simp only at hcfg hgood
        subst hcfg
        obtain ⟨h1, hinv'⟩ := get_refines w g p (hWF g p) s hinv b hgood s' r hget
        rcases hx with hx | hx
        · subst hx
          exact ⟨g, p, rfl, h1⟩
        · exact ih s' _ hinv' (fun y hy => hreq y (Or.inr hy)) x hx
    | clearCache =>
      simp only [PM.step] at hx hreq
      refine ih { s with cache := [] } cfg ⟨hinv.act, hinv.setup, ?_⟩ hreq x hx
      intro g p _ e he
      cases he
    | enableCache v =>
      simp only [PM.step] at hx hreq
      exact ih { s with cacheDisabled := !v } cfg ⟨hinv.act, hinv.setup, fun g p ha => hinv.cache g p ha⟩ hreq x hx
    | storeOnlyBasic v =>
      simp only [PM.step] at hx hreq
      exact ih { s with basicOnly := v } cfg ⟨hinv.act, hinv.setup, fun g p ha => hinv.cache g p ha⟩ hreq x hx
    | setParams q =>
      simp only [PM.step] at hx hreq
      refine ih { s with alreadySetup := s.alreadySetup && decide (s.params = q), params := q } cfg
        ⟨hinv.act, ?_, fun g p ha => hinv.cache g p ha⟩ hreq x hx
      intro hs
      have hs' : (s.alreadySetup && decide (s.params = q)) = true := hs
      simp only [Bool.and_eq_true, decide_eq_true_eq] at hs'
      obtain ⟨g, hg⟩ := hinv.setup hs'.1
      exact ⟨g, by
        show s.active = some (g, q)
        rw [hg, hs'.2]⟩
    | setUp g =>
      simp only [PM.step] at hx hreq
      cases hsu : s.setUp w g with
      | error e => simp only [hsu, Except.map, List.not_mem_nil] at hx
      | ok s' =>
        simp only [hsu, Except.map] at hx hreq
        refine ih s' (some (g, s.params)) ?_ hreq x hx
        rcases setUp_cases w s s' g hsu with ⟨rfl, hset, p, hact⟩ | rfl
        · -- the early return: `already_setup` says that the parameters are those of the last effective `set_up`
          obtain ⟨g', hg'⟩ := hinv.setup hset
          rw [hact, Option.some.injEq, Prod.mk.injEq] at hg'
          exact ⟨by rw [hact, hg'.2], hinv.setup, hinv.cache⟩
        · exact ⟨rfl, fun _ => ⟨g, rfl⟩, fun _ _ _ e he => by cases he⟩

/-- a new matrix object (`set_defaults`: caching on, basic bins only, not set up) -/
def PM.fresh (p : Params) : PM G α := { params := p }

/-- the state after a list of events (`none`: an `error()` on the way); `step` = `PM.step w` or `PM.stepInterp w` -/
def PM.after (step : PM G α → Ev G → Except Err (PM G α × Option (Row α))) : PM G α → List (Ev G) → Option (PM G α)
  | s, [] => some s
  | s, e :: r =>
    match step s e with
    | .ok (s', _) => PM.after step s' r
    | .error _ => none

end StirVerif.C03
