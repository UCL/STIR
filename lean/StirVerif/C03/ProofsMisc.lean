/-
C03 — the concrete symmetries objects, worlds, histories and geometries used by the negative witnesses and the
non-vacuity examples of `Props.lean`, and `req_of_pairs`, by which those examples check the requests of a run as a list.
-/
import StirVerif.C03.ProofsCache
import StirVerif.C03.ProofsLOR

namespace StirVerif.C03

def ySimple : Sym :=
  { V := 8, d90 := false, d180 := false, swapSeg := false, swapS := false, shiftZ := false,
    nppr := 2, nppa := fun _ => 1, delta2 := fun _ => 0, zoff4 := fun _ => 0 }

def pDefault : Params := { flags := ⟨true, true, true, true, true⟩, ntl := 1, restrictFOV := true, actualBoundaries := false }

theorem ySimple_WF : ySimple.WF :=
  ⟨by decide, fun h => absurd h (by decide), fun h => absurd h (by decide), fun h => absurd h (by decide)⟩

/-- two geometries (`false`: small image, `true`: large image) with the same projection data, voxel size and origin;
    the ray tracer gives the value 0 resp. 1 to its single voxel -/
def wRange : World Bool Nat :=
  { symOf := fun _ _ => ySimple
    compute := fun g _ _ => some [(⟨0, 0, 0⟩, if g then 1 else 0)]
    fits := fun _ => true }

def evsRange : List (Ev Bool) := [.setUp false, .get ⟨0, 0, 0, 0, 0⟩, .setUp true, .get ⟨0, 0, 0, 0, 0⟩, .setUp true, .get ⟨0, 0, 0, 0, 0⟩]

/-- axial geometry of a 3-ring scanner, span 1, with the standard image: 5 planes `0..4` of half the ring spacing -/
def endGeo : AxGeo :=
  { nppr := 2, nppa := fun _ => 2, delta2 := fun s => 2 * s, minAx := fun _ => 0,
    maxAx := fun s => 2 - iabs s, minZ := 0, maxZ := 4, originZ := 0 }

def yEnd : Sym := Sym.make 8 ⟨false, false, false, false, true⟩ endGeo

/-- the ray tracer's answer for the direct LORs of ring 0 at view 0 as observed on the real code
    (`add_adjacent_z`: the plane of the ring with weight 2, the two neighbouring planes with weight 1 — in units
    of a quarter), one voxel per plane kept -/
def wEnd : World Unit Nat :=
  { symOf := fun _ _ => yEnd
    compute := fun _ _ b => some [(⟨b.ax * 2 - 1, 0, 0⟩, 1), (⟨b.ax * 2, 0, 0⟩, 2), (⟨b.ax * 2 + 1, 0, 0⟩, 1)]
    fits := fun _ => true }

def pShiftZ : Params := { flags := ⟨false, false, false, false, true⟩, ntl := 1, restrictFOV := true, actualBoundaries := false }

def AxGeo.hasPlane (g : AxGeo) (c : Vox) : Bool := decide (g.minZ ≤ c.z ∧ c.z ≤ g.maxZ)

def ySample : Sym :=
  { V := 8, d90 := true, d180 := true, swapSeg := true, swapS := true, shiftZ := true,
    nppr := 2, nppa := fun _ => 1, delta2 := fun s => 2 * s, zoff4 := fun s => 8 - 2 * s }

theorem ySample_WF : ySample.WF :=
  ⟨by decide, fun _ => ⟨rfl, by decide⟩, fun _ => by decide, fun _ _ => by simp [ySample]⟩

def wGood : World Bool Nat :=
  { symOf := fun _ _ => ySample
    compute := fun g _ b => some [(⟨b.ax, b.view, b.tang⟩, if g then 1 else 0), (⟨b.ax + 1, b.view, b.tang⟩, 2)]
    fits := fun _ => true }

def evsGood : List (Ev Bool) :=
  [.setUp false, .get ⟨-1, 6, 2, -1, 0⟩, .storeOnlyBasic false, .get ⟨-1, 6, 2, -1, 0⟩, .get ⟨1, 2, 0, 1, 0⟩,
   .clearCache, .setUp true, .get ⟨-1, 6, 2, -1, 0⟩, .enableCache false, .get ⟨1, 5, 1, -1, 0⟩]

theorem evsGood_requests : ∀ p ∈ [((⟨-1, 6, 2, -1, 0⟩ : Bin), some (false, pDefault)), (⟨-1, 6, 2, -1, 0⟩, some (false, pDefault)),
      (⟨1, 2, 0, 1, 0⟩, some (false, pDefault)), (⟨-1, 6, 2, -1, 0⟩, some (true, pDefault)),
      (⟨1, 5, 1, -1, 0⟩, some (true, pDefault))],
    ∃ g q, p.2 = some (g, q) ∧ Good (wGood.symOf g q) p.1 := by
  intro p hp
  simp only [List.mem_cons, List.not_mem_nil, or_false] at hp
  rcases hp with rfl | rfl | rfl | rfl | rfl <;>
    exact ⟨_, _, rfl, by decide, ⟨by decide, by decide, by decide⟩, Or.inl rfl⟩

theorem req_of_pairs (w : World G α) (l : List (Bin × Option (G × Params) × Row α)) (ps : List (Bin × Option (G × Params)))
    (hl : l.map (fun x => (x.1, x.2.1)) = ps)
    (hp : ∀ p ∈ ps, ∃ g q, p.2 = some (g, q) ∧ Good (w.symOf g q) p.1) : ∀ x ∈ l, Req w x :=
  fun x hx => hp (x.1, x.2.1) (hl ▸ List.mem_map_of_mem hx)

def sampleGeo : AxGeo :=
  { nppr := 2, nppa := fun _ => 1, delta2 := fun s => 2 * s, minAx := fun _ => 0,
    maxAx := fun s => 2 - iabs s, minZ := 0, maxZ := 4, originZ := 0 }

noncomputable section
open Real

theorem sampleGeo_symmetric : sampleGeo.Symmetric :=
  ⟨fun _ => rfl, fun s => by simp only [sampleGeo, iabs_neg]⟩

def yLor : Sym := Sym.make 8 ⟨true, true, true, true, true⟩ sampleGeo

theorem yLor_WF : yLor.WF :=
  ⟨by decide, fun _ => ⟨rfl, by decide⟩, fun _ => by decide, fun _ s => by simp [yLor, Sym.make, sampleGeo]⟩

def yLorTof : Sym := Sym.make 8 ⟨false, false, true, true, true⟩ sampleGeo

theorem yLorTof_WF : yLorTof.WF :=
  ⟨by decide, fun h => absurd h (by decide), fun h => absurd h (by decide),
    fun _ s => by simp [yLorTof, Sym.make, sampleGeo]⟩

/-- a geometry for `yLor` and `yLorTof`: tangential sampling 2.1 mm, `tan θ = 0.3·segment` planes per mm, square voxels of 1 mm, image
    centred on the axis, no azimuthal offset, axial midpoints from the symmetries object -/
def gLor : LorGeo :=
  { V := 8, phi0 := 0, s := fun t => 2.1 * t, tan := fun g => 0.3 * g,
    zmid := fun s a => ((yLor.centre4 s a : ℤ) : ℝ) / 4, cx := 1, cy := 1, ox := 0, oy := 0 }

theorem gLor_WF : gLor.WF :=
  ⟨by decide,
    fun t => by
      simp only [gLor]
      push_cast
      ring,
    fun g => by
      simp only [gLor]
      push_cast
      ring⟩

theorem gLor_agrees : gLor.Agrees yLor :=
  ⟨rfl, fun _ _ => rfl, fun _ => rfl, fun _ => rfl, fun _ => ⟨rfl, rfl⟩⟩

theorem gLor_agrees_tof : gLor.Agrees yLorTof :=
  ⟨rfl, fun _ _ => rfl, fun _ => rfl, fun _ => rfl, fun _ => ⟨rfl, rfl⟩⟩

/-- timing bins of half-width 40 mm, centres 80 mm apart -/
def tLor : TofGeo := { c := fun k => 80 * k, w := 40, c_odd := fun k => by push_cast; ring }

end
end StirVerif.C03
