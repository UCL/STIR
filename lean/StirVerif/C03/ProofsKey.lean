/-
C03 — `ProjMatrixByBin::cache_key` is injective on the box that `set_up` guards: inside the box the shifts and ors
are a mixed-radix number (sign, 28 bits, sign, 12 bits, sign, 20 bits), and a digit below the radix can be read off.
-/
import StirVerif.C03.Model
namespace StirVerif.C03

/-- the three absolute values fit their bit fields (what the compiled-out asserts of `cache_key` say) -/
def InBox (b : Bin) : Prop := b.ax.natAbs < 2 ^ 28 ∧ b.tang.natAbs < 2 ^ 12 ∧ b.tof.natAbs < 2 ^ 20

theorem signBit_lt (x : Int) : signBit x < 2 ^ 1 := by
  unfold signBit
  split <;> decide

theorem pack_inj {m a b a' b' : Nat} (hb : b < m) (hb' : b' < m) (h : a * m + b = a' * m + b') : a = a' ∧ b = b' := by
  have hm : 0 < m := Nat.lt_of_le_of_lt (Nat.zero_le b) hb
  have ha : a = a' := by
    have h1 := congrArg (· / m) h
    simp only [Nat.mul_comm _ m, Nat.mul_add_div hm, Nat.div_eq_of_lt hb, Nat.div_eq_of_lt hb', Nat.add_zero] at h1
    exact h1
  subst ha
  exact ⟨rfl, Nat.add_left_cancel h⟩

theorem eq_of_signBit_natAbs {x x' : Int} (hs : signBit x = signBit x') (ha : x.natAbs = x'.natAbs) : x = x' := by
  unfold signBit at hs
  split at hs <;> split at hs <;> omega

theorem cacheKey_horner (b : Bin) (hb : InBox b) :
    cacheKey b = ((((signBit b.ax * 2 ^ 28 + b.ax.natAbs) * 2 ^ 1 + signBit b.tang) * 2 ^ 12 + b.tang.natAbs) * 2 ^ 1
      + signBit b.tof) * 2 ^ 20 + b.tof.natAbs := by
  obtain ⟨h1, h2, h3⟩ := hb
  simp only [← Nat.shiftLeft_eq]
  rw [Nat.shiftLeft_add_eq_or_of_lt h3, Nat.shiftLeft_add_eq_or_of_lt (signBit_lt _), Nat.shiftLeft_add_eq_or_of_lt h2,
    Nat.shiftLeft_add_eq_or_of_lt (signBit_lt _), Nat.shiftLeft_add_eq_or_of_lt h1]
  simp only [cacheKey, timingPosBits, tangPosBits, axialPosBits, Nat.shiftLeft_or_distrib, ← Nat.shiftLeft_add]

theorem cacheKey_injective (b b' : Bin) (hb : InBox b) (hb' : InBox b') (h : cacheKey b = cacheKey b') :
    b.ax = b'.ax ∧ b.tang = b'.tang ∧ b.tof = b'.tof := by
  rw [cacheKey_horner b hb, cacheKey_horner b' hb'] at h
  obtain ⟨h, ftof⟩ := pack_inj hb.2.2 hb'.2.2 h
  obtain ⟨h, stof⟩ := pack_inj (signBit_lt _) (signBit_lt _) h
  obtain ⟨h, ftang⟩ := pack_inj hb.2.1 hb'.2.1 h
  obtain ⟨h, stang⟩ := pack_inj (signBit_lt _) (signBit_lt _) h
  obtain ⟨sax, fax⟩ := pack_inj hb.1 hb'.1 h
  exact ⟨eq_of_signBit_natAbs sax fax, eq_of_signBit_natAbs stang ftang, eq_of_signBit_natAbs stof ftof⟩
end StirVerif.C03
