/-
C03 — axial part of the symmetry operations: `find_transform_z` needs no rounding and is twice the axial
midpoint of the LOR; the z map of the operation found for a bin carries the axial midpoint of the basic
bin's LOR to the axial midpoint of the bin's LOR.

All z quantities are in quarter planes (`4·z`), which makes them integers.
-/
import StirVerif.C03.ProofsSym

namespace StirVerif.C03

/-- 4 × (image z coordinate of the axial midpoint of the LOR of (segment `s`, axial position `a`)):
    `num_planes_per_axial_pos[s]·a + axial_pos_to_z_offset[s] + num_planes_per_scanner_ring·delta[s]/2`
    (the comment in `find_transform_z`: "Z+Q = 2*centre_of_LOR_in_image_coordinates") -/
def Sym.centre4 (y : Sym) (s a : Int) : Int := 4 * (y.nppa s * a) + y.zoff4 s + y.nppr * y.delta2 s

/-- `find_transform_z` is exactly twice the midpoint: the `floor(x + 0.5)` never rounds, whatever the average ring
    difference of the segment is, provided `zoff4 s + nppr·delta2 s` is even: the argument of `floor` is then an integer
    plus 1/2 -/
theorem transformZ_exact {y : Sym} {s : Int} (he : (y.zoff4 s + y.nppr * y.delta2 s) % 2 = 0) (a : Int) :
    4 * y.transformZ s a = 2 * y.centre4 s a := by
  simp only [Sym.transformZ, Sym.centre4]
  generalize y.nppa s * a = p
  generalize y.nppr * y.delta2 s = d at he ⊢
  omega

/-- the offsets of `find_relation_between_coordinate_systems` make it even by construction -/
theorem Sym.make_even (V : Int) (f : Flags) (g : AxGeo) (s : Int) :
    ((Sym.make V f g).zoff4 s + (Sym.make V f g).nppr * (Sym.make V f g).delta2 s) % 2 = 0 := by
  simp only [Sym.make, AxGeo.zoff4]
  omega

theorem transformZ_make (V : Int) (f : Flags) (g : AxGeo) (s a : Int) :
    (Sym.make V f g).transformZ s a =
      2 * (g.nppa s * a) - g.nppa s * (g.maxAx s + g.minAx s) + (g.maxZ + g.minZ) - 2 * g.originZ := by
  have h := transformZ_exact (Sym.make_even V f g s) a
  simp only [Sym.centre4, Sym.make, AxGeo.zoff4] at h ⊢
  omega

/-- the z part of `transform_image_coordinates` on quarter-plane coordinates -/
def SymOp.zmap4 (o : SymOp) (z4 : Int) : Int :=
  match o.kind with
  | .trivial => z4
  | .z_shift | .swap_xmy_yx | .swap_xy_yx | .swap_xmx | .swap_ymy | .swap_xy_ymx | .swap_xmy_ymx | .swap_xmx_ymy =>
    z4 + 4 * o.zShift
  | _ => 4 * o.q - z4 + 4 * o.zShift

theorem onVoxel_zmap4 (o : SymOp) (c : Vox) : 4 * (o.onVoxel c).z = o.zmap4 (4 * c.z) := by
  obtain ⟨k, V, a, zs, q⟩ := o
  cases k <;> simp only [SymOp.onVoxel, SymOp.zmap4] <;> omega

/-- the data and the image are such that segments `s` and `-s` have the same axial sampling and range
    (the constructor checks `tantheta(-s) = -tantheta(s)`; ranges of ±s agree for every STIR projection data info) -/
structure AxGeo.Symmetric (g : AxGeo) : Prop where
  nppa : ∀ s, g.nppa (-s) = g.nppa s
  range : ∀ s, g.maxAx (-s) + g.minAx (-s) = g.maxAx s + g.minAx s

/-- what the axial theorems need of a symmetries object, and what `find_relation_between_coordinate_systems` provides for
    symmetric data: `find_transform_z` does not round, and segments `±s` have the same axial midpoints -/
structure Sym.Axial (y : Sym) : Prop where
  even : ∀ s, (y.zoff4 s + y.nppr * y.delta2 s) % 2 = 0
  neg : ∀ s a, y.centre4 (-s) a = y.centre4 s a

theorem Sym.make_axial (V : Int) (f : Flags) (g : AxGeo) (hg : g.Symmetric) : (Sym.make V f g).Axial := by
  refine ⟨Sym.make_even V f g, fun s a => ?_⟩
  simp only [Sym.centre4, Sym.make, AxGeo.zoff4, hg.nppa s, hg.range s]
  omega

theorem iabs_neg (s : Int) : iabs (-s) = iabs s := by
  unfold iabs
  split <;> split <;> omega

theorem Sym.Axial.centre4_ite {y : Sym} (hy : y.Axial) (c : Prop) [Decidable c] (s a : Int) :
    y.centre4 (if c then -s else s) a = y.centre4 s a := by
  split
  · exact hy.neg s a
  · rfl

theorem newOp_zmap4 (y : Sym) {k : Kind} (seg ax z4 : Int)
    (hk : k = .trivial → (if y.shiftZ = true then y.nppa seg * ax else 0) = 0) :
    (y.newOp k seg ax).zmap4 z4 = z4 + 4 * (if y.shiftZ = true then y.nppa seg * ax else 0) ∨
    (y.newOp k seg ax).zmap4 z4 = 4 * y.transformZ (iabs seg) (if y.shiftZ = true then 0 else ax) - z4
      + 4 * (if y.shiftZ = true then y.nppa seg * ax else 0) := by
  -- `trivial` is a shift by 0 (`hk`); the eight kinds that shift z are the first form, the eight `…_zq` kinds the second, each by `rfl`
  cases k <;> first
    | exact Or.inl rfl
    | exact Or.inr rfl
    | exact Or.inl (by
        rw [hk rfl]
        exact (Int.add_zero z4).symm)

/-- every operation built by `find_sym_op_*` for (segment, axial position) moves the midpoint of
    (segment, basic axial position) to the midpoint of (segment, axial position): `q` is twice the former, so the
    mirror fixes it, and `z_shift` is the distance between the two -/
theorem Sym.Finds.centre {y : Sym} (hy : y.Axial) {b : Bin} {k : Kind} (hf : y.Finds b k) :
    (y.newOp k b.seg b.ax).zmap4 (y.centre4 b.seg (if y.shiftZ = true ∧ b.ax ≠ 0 then 0 else b.ax)) = y.centre4 b.seg b.ax := by
  rw [basicAx_eq]
  have hq : 4 * y.transformZ (iabs b.seg) (if y.shiftZ = true then 0 else b.ax) =
      2 * y.centre4 b.seg (if y.shiftZ = true then 0 else b.ax) := by
    rw [transformZ_exact (hy.even _), iabs, hy.centre4_ite]
  have hs : y.centre4 b.seg (if y.shiftZ = true then 0 else b.ax)
      + 4 * (if y.shiftZ = true then y.nppa b.seg * b.ax else 0) = y.centre4 b.seg b.ax := by
    have hax : y.centre4 b.seg b.ax = y.centre4 b.seg 0 + 4 * (y.nppa b.seg * b.ax) := by
      simp only [Sym.centre4, Int.mul_zero]
      omega
    split <;> omega
  rcases newOp_zmap4 y b.seg b.ax (y.centre4 b.seg (if y.shiftZ = true then 0 else b.ax)) hf.shift with h | h <;> omega

theorem Sym.Axial.zmap_centre {y : Sym} (hy : y.Axial) (b : Bin) :
    (y.findSymOp b).zmap4 (y.centre4 (y.basic b).seg (y.basic b).ax) = y.centre4 b.seg b.ax := by
  have h1 : (y.basic b).seg = y.basicSeg b.seg := rfl
  have h2 : (y.basic b).ax = if y.shiftZ = true ∧ b.ax ≠ 0 then 0 else b.ax := rfl
  obtain ⟨k, hk, hf⟩ := findSymOp_found y b
  rw [h1, h2, Sym.basicSeg, hy.centre4_ite, hk]
  exact hf.centre hy

theorem zmap4_dist (o : SymOp) (u v : Int) :
    o.zmap4 u - o.zmap4 v = u - v ∨ o.zmap4 u - o.zmap4 v = -(u - v) := by
  obtain ⟨k, V, a, zs, q⟩ := o
  -- `trivial` and the shifting kinds keep differences, the `…_zq` kinds negate them
  cases k <;> simp only [SymOp.zmap4] <;> first | exact Or.inl trivial | exact Or.inl (by omega) | exact Or.inr (by omega)

theorem zmap4_slab (o : SymOp) (c : Vox) (m m' w : Int) (hm : o.zmap4 m = m')
    (h : -w ≤ 4 * c.z - m ∧ 4 * c.z - m ≤ w) : -w ≤ 4 * (o.onVoxel c).z - m' ∧ 4 * (o.onVoxel c).z - m' ≤ w := by
  have h3 := zmap4_dist o (4 * c.z) m
  rw [hm] at h3
  rw [onVoxel_zmap4]
  rcases h3 with h3 | h3 <;> omega

end StirVerif.C03
