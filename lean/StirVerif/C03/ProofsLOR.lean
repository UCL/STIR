/-
C03 — geometric equivariance over ℝ: the line of response (LOR) of `op.onBin b` is the image of the LOR of `b`
under the grid isometry that `op.onVoxel` induces on ℝ³.  This is the geometric reason why a symmetry-related row of
the system matrix may be derived (`transform_proj_matrix_elems_for_one_bin`) instead of ray-traced.

Coordinate convention.  Points are in voxel-index coordinates `(x, y, z)` = (`c[3]`, `c[2]`, `c[1]`) of
`BasicCoordinate<3,int>`, exactly the three fields of `Vox`.  The LOR of a bin is the line that
`ray_trace_one_lor` (src/recon_buildblock/ProjMatrixByBinUsingRayTracing.cxx:452-592; the parametrisation at
:472-475, start and stop point at :528-535) traces:

    X = s·cos φ + a·sin φ,   Y = s·sin φ − a·cos φ,   Z = t/cos θ + offset_in_z − a·tan θ        (mm)
    start/stop = (X / voxel_size.x, Y / voxel_size.y, Z / voxel_size.z)

with the path parameter renamed `t := −a` (so that the direction is `(−sin φ, cos φ, tan θ)`):

    x = ox + cx·(s·cos φ − t·sin φ),   y = oy + cy·(s·sin φ + t·cos φ),   z = zmid + t·tanθ.

`φ(view) = φ₀ + view·π/V`, `cx, cy = 1/voxel size`, `(ox, oy)` = index coordinates of the scanner axis (0 for an image
centred on the axis), `zmid` = axial midpoint in plane units (= `t/cos θ + offset_in_z` over `voxel_size.z`),
`tanθ` in planes per mm.  `s` and `tanθ` are *arbitrary odd* functions of the tangential position / segment number
(arc-corrected or not; the constructor of the symmetries object checks both oddness conditions).

The orientation `orient o b ∈ {1, −1}` says whether the operation keeps or reverses the direction
`(−sin φ, cos φ, tan θ)` of the line; it is what decides the fate of a TOF coordinate along the line.
-/
import StirVerif.C03.ProofsZ
import Mathlib.Analysis.SpecialFunctions.Trigonometric.Basic
import Mathlib.Tactic.Ring
import Mathlib.Tactic.LinearCombination
import Mathlib.Tactic.FieldSimp
import Mathlib.Tactic.SplitIfs

namespace StirVerif.C03
open Real
noncomputable section

/-- a point of ℝ³ in voxel-index coordinates -/
@[ext] structure P3 where
  x : ℝ
  y : ℝ
  z : ℝ

def Vox.toP3 (c : Vox) : P3 := ⟨c.x, c.y, c.z⟩

/-- the z part of `transform_image_coordinates`, on real plane coordinates -/
def SymOp.onZ (o : SymOp) (z : ℝ) : ℝ :=
  match o.kind with
  | .trivial => z
  | .z_shift | .swap_xmy_yx | .swap_xy_yx | .swap_xmx | .swap_ymy | .swap_xy_ymx | .swap_xmy_ymx | .swap_xmx_ymy =>
    z + o.zShift
  | _ => o.q - z + o.zShift

/-- `transform_image_coordinates` extended to ℝ³: the same signed permutation of (x, y) and the same affine map of z
    as `SymOp.onVoxel`, clause by clause -/
def SymOp.onPoint (o : SymOp) (c : P3) : P3 :=
  let zs := c.z + o.zShift
  let zq := o.q - c.z + o.zShift
  match o.kind with
  | .trivial => c
  | .z_shift => { c with z := zs }
  | .swap_xmx_zq => { z := zq, y := c.y, x := -c.x }
  | .swap_xmy_yx_zq => { z := zq, y := c.x, x := -c.y }
  | .swap_xy_yx_zq => { z := zq, y := c.x, x := c.y }
  | .swap_xmy_yx => { z := zs, y := c.x, x := -c.y }
  | .swap_xy_yx => { z := zs, y := c.x, x := c.y }
  | .swap_xmx => { z := zs, y := c.y, x := -c.x }
  | .swap_ymy => { z := zs, y := -c.y, x := c.x }
  | .swap_zq => { z := zq, y := c.y, x := c.x }
  | .swap_xmx_ymy_zq => { z := zq, y := -c.y, x := -c.x }
  | .swap_xy_ymx_zq => { z := zq, y := -c.x, x := c.y }
  | .swap_xy_ymx => { z := zs, y := -c.x, x := c.y }
  | .swap_xmy_ymx => { z := zs, y := -c.x, x := -c.y }
  | .swap_ymy_zq => { z := zq, y := -c.y, x := c.x }
  | .swap_xmx_ymy => { z := zs, y := -c.y, x := -c.x }
  | .swap_xmy_ymx_zq => { z := zq, y := -c.x, x := -c.y }

theorem onPoint_z (o : SymOp) (c : P3) : (o.onPoint c).z = o.onZ c.z := by
  obtain ⟨k, V, a, zs, q⟩ := o
  cases k <;> rfl

theorem onZ_zmap4 (o : SymOp) (z4 : ℤ) : o.onZ ((z4 : ℝ) / 4) = ((o.zmap4 z4 : ℤ) : ℝ) / 4 := by
  obtain ⟨k, V, a, zs, q⟩ := o
  cases k <;> simp only [SymOp.onZ, SymOp.zmap4, Int.cast_add, Int.cast_sub, Int.cast_mul, Int.cast_ofNat] <;> ring

/-- what the ray tracer takes from the projection data and the image (cylindrical scanner) -/
structure LorGeo where
  /-- number of views (`view180`) -/
  V : ℤ
  /-- azimuthal angle of view 0 (`get_phi(Bin(0,0,0,0))`) -/
  phi0 : ℝ
  /-- `get_s` (mm) as a function of the tangential position number -/
  s : ℤ → ℝ
  /-- `get_tantheta(segment) / voxel_size.z`: planes per mm of transaxial path -/
  tan : ℤ → ℝ
  /-- axial midpoint of the LOR of (segment, axial position), in plane-index units -/
  zmid : ℤ → ℤ → ℝ
  /-- `1 / voxel_size.x`, `1 / voxel_size.y` -/
  cx : ℝ
  cy : ℝ
  /-- index coordinates of the scanner axis (`−origin.x / voxel_size.x`, …) -/
  ox : ℝ
  oy : ℝ

/-- the oddness conditions the constructor checks, and a non-zero number of views -/
structure LorGeo.WF (G : LorGeo) : Prop where
  Vne : G.V ≠ 0
  s_odd : ∀ t, G.s (-t) = -G.s t
  tan_odd : ∀ g, G.tan (-g) = -G.tan g

def LorGeo.phi (G : LorGeo) (view : ℤ) : ℝ := G.phi0 + view * π / G.V

/-- the point with path parameter `t` on the ray of the tube of `b` that is displaced by `ds` (mm) tangentially and by
    `dz` (planes) axially from the central LOR (direction of increasing `t`: `(−sin φ, cos φ, tan θ)`); this is
    `ray_trace_one_lor`'s parametrisation with `t = −a`, `s_in_mm = get_s(bin) + ds` (`num_tangential_LORs > 1`) and
    `offset_in_z` displaced by `dz` (`num_lors_per_axial_pos > 1`, `add_adjacent_z`) -/
def LorGeo.ray (G : LorGeo) (b : Bin) (ds dz t : ℝ) : P3 :=
  { x := G.ox + G.cx * ((G.s b.tang + ds) * cos (G.phi b.view) - t * sin (G.phi b.view))
    y := G.oy + G.cy * ((G.s b.tang + ds) * sin (G.phi b.view) + t * cos (G.phi b.view))
    z := G.zmid b.seg b.ax + dz + t * G.tan b.seg }

def LorGeo.point (G : LorGeo) (b : Bin) (t : ℝ) : P3 := G.ray b 0 0 t

def LorGeo.lor (G : LorGeo) (b : Bin) : Set P3 := Set.range (G.point b)

/-- the bundle of rays of `b` with tangential displacements `Ds` (mm) and axial displacements `Dz` (planes) from the central LOR -/
def LorGeo.tube (G : LorGeo) (Ds Dz : Set ℝ) (b : Bin) : Set P3 :=
  {p | ∃ ds ∈ Ds, ∃ dz ∈ Dz, ∃ t, G.ray b ds dz t = p}

def Kind.movesXY : Kind → Bool
  | .trivial | .z_shift | .swap_zq => false
  | _ => true

/-- the operation changes the view number (uses `view180`) -/
def Kind.usesViews : Kind → Bool
  | .trivial | .z_shift | .swap_zq | .swap_xmx_ymy_zq | .swap_xmx_ymy => false
  | _ => true

/-- the operation exchanges x and y (uses `view180/2`) -/
def Kind.usesQuarter : Kind → Bool
  | .swap_xmy_yx_zq | .swap_xy_yx_zq | .swap_xmy_yx | .swap_xy_yx | .swap_xy_ymx_zq | .swap_xy_ymx | .swap_xmy_ymx
  | .swap_xmy_ymx_zq => true
  | _ => false

/-- the conditions under which the constructor leaves an operation in use, as far as the geometry needs them:
    * an operation that moves (x, y) needs the image centred on the scanner axis;
    * one that changes the view needs its `view180` to be the number of views, and no azimuthal offset;
    * one that exchanges x and y needs an even number of views and square voxels.
    (The constructor asks for `num_views % 4 = 0`; the geometry needs `num_views % 2 = 0` only.) -/
def SymOp.Fits (o : SymOp) (G : LorGeo) : Prop :=
  (o.kind.movesXY = true → G.ox = 0 ∧ G.oy = 0) ∧
  (o.kind.usesViews = true → o.view180 = G.V ∧ G.phi0 = 0) ∧
  (o.kind.usesQuarter = true → 2 ∣ G.V ∧ G.cx = G.cy)

/-- `+1` if the operation keeps the direction `(−sin φ, cos φ, tan θ)` of the LOR of `b`, `−1` if it reverses it
    (the branches are those of `SymOp.onBin`) -/
def SymOp.orient (o : SymOp) (b : Bin) : ℤ :=
  let h := o.view180.tdiv 2
  match o.kind with
  | .trivial | .z_shift | .swap_xmy_yx_zq | .swap_zq | .swap_ymy_zq | .swap_xmy_ymx_zq => 1
  | .swap_xmx_zq | .swap_xy_yx_zq | .swap_xmx_ymy_zq | .swap_xmx_ymy => -1
  | .swap_xmy_yx => if b.view < h then 1 else -1
  | .swap_xy_yx => if b.view ≤ h then -1 else 1
  | .swap_xmx => if b.view ≠ 0 then -1 else 1
  | .swap_ymy => if b.view ≠ 0 then 1 else -1
  | .swap_xy_ymx_zq => if b.view < h then -1 else 1
  | .swap_xy_ymx => if b.view < h then -1 else 1
  | .swap_xmy_ymx => if b.view ≤ h then 1 else -1

/-- `−1` on the branches of `onBin` that negate the tangential position (the operation maps `s ↦ −s`), else `+1` -/
def SymOp.sSign (o : SymOp) (b : Bin) : ℤ :=
  let h := o.view180.tdiv 2
  match o.kind with
  | .trivial | .z_shift | .swap_xmx_zq | .swap_xmy_yx_zq | .swap_xy_yx_zq | .swap_zq => 1
  | .swap_xmx_ymy_zq | .swap_ymy_zq | .swap_xmx_ymy | .swap_xmy_ymx_zq => -1
  | .swap_xmy_yx => if b.view < h then 1 else -1
  | .swap_xy_yx => if b.view ≤ h then 1 else -1
  | .swap_xmx => if b.view ≠ 0 then 1 else -1
  | .swap_ymy => if b.view ≠ 0 then -1 else 1
  | .swap_xy_ymx_zq => if b.view < h then -1 else 1
  | .swap_xy_ymx => if b.view < h then -1 else 1
  | .swap_xmy_ymx => if b.view ≤ h then -1 else 1

/-- `−1` for the operations that mirror z (`…_zq`), else `+1` -/
def SymOp.zSign (o : SymOp) : ℤ :=
  match o.kind with
  | .trivial | .z_shift | .swap_xmy_yx | .swap_xy_yx | .swap_xmx | .swap_ymy | .swap_xy_ymx | .swap_xmy_ymx
  | .swap_xmx_ymy => 1
  | _ => -1

theorem onBin_tang (o : SymOp) (b : Bin) : (o.onBin b).tang = o.sSign b * b.tang := by
  obtain ⟨k, V, a, zs, q⟩ := o
  cases k <;> simp only [SymOp.onBin, SymOp.sSign] <;> (try split_ifs) <;> simp only [Int.one_mul, Int.neg_mul]

theorem orient_cases (o : SymOp) (b : Bin) : o.orient b = 1 ∨ o.orient b = -1 := by
  obtain ⟨k, V, a, zs, q⟩ := o
  cases k <;> simp only [SymOp.orient] <;> (try split_ifs) <;> trivial

theorem sSign_cases (o : SymOp) (b : Bin) : o.sSign b = 1 ∨ o.sSign b = -1 := by
  obtain ⟨k, V, a, zs, q⟩ := o
  cases k <;> simp only [SymOp.sSign] <;> (try split_ifs) <;> trivial

theorem zSign_cases (o : SymOp) : o.zSign = 1 ∨ o.zSign = -1 := by
  obtain ⟨k, V, a, zs, q⟩ := o
  cases k <;> first | exact Or.inl rfl | exact Or.inr rfl

theorem orient_sq (o : SymOp) (b : Bin) : o.orient b * o.orient b = 1 := by
  rcases orient_cases o b with h | h <;> rw [h] <;> rfl

section angles
variable (G : LorGeo) (h0 : G.phi0 = 0)
include h0

/-! Without azimuthal offset the angle is linear in the view number. -/

theorem phi_zero : G.phi 0 = 0 := by
  simp only [LorGeo.phi, h0, Int.cast_zero, zero_mul, zero_div, add_zero]

theorem phi_add (u v : ℤ) : G.phi (u + v) = G.phi u + G.phi v := by
  simp only [LorGeo.phi, h0, Int.cast_add, zero_add]
  ring

theorem phi_sub (u v : ℤ) : G.phi (u - v) = G.phi u - G.phi v := by
  simp only [LorGeo.phi, h0, Int.cast_sub, zero_add]
  ring

variable (hV : G.V ≠ 0)
include hV

theorem phi_V : G.phi G.V = π := by
  -- `field_simp` is slow to find this from `hV`
  have : (G.V : ℝ) ≠ 0 := Int.cast_ne_zero.mpr hV
  simp only [LorGeo.phi, h0, zero_add]
  field_simp

variable (h2 : 2 ∣ G.V)
include h2

theorem phi_half : G.phi (G.V.tdiv 2) = π / 2 ∧ G.phi ((3 * G.V).tdiv 2) = π / 2 + π := by
  obtain ⟨h, hh⟩ := h2
  have e1 : G.V.tdiv 2 = h := by
    rw [hh]
    exact Int.mul_tdiv_cancel_left h (by decide)
  have e2 : (3 * G.V).tdiv 2 = h + G.V := by
    rw [hh, show 3 * (2 * h) = 2 * (h + 2 * h) by ring]
    exact Int.mul_tdiv_cancel_left _ (by decide)
  -- `phi` is additive and `phi V = π`
  have hpi := phi_V G h0 hV
  rw [hh, Int.two_mul, phi_add G h0] at hpi
  have p1 : G.phi h = π / 2 := by linarith
  rw [e1, e2, phi_add G h0, phi_V G h0 hV]
  exact ⟨p1, by rw [p1]⟩

end angles

/-- cos and sin of the angles of the views `V − v`, `v ± V/2`, `V/2 − v`, `3V/2 − v` (the views the operations send `v` to) in terms of
    those of `v`; the last four need an even number of views -/
theorem trig_views (G : LorGeo) (hV : G.V ≠ 0) (h0 : G.phi0 = 0) (v : ℤ) :
    cos (G.phi (G.V - v)) = -cos (G.phi v) ∧ sin (G.phi (G.V - v)) = sin (G.phi v) ∧
    (2 ∣ G.V →
      (cos (G.phi (v + G.V.tdiv 2)) = -sin (G.phi v) ∧ sin (G.phi (v + G.V.tdiv 2)) = cos (G.phi v)) ∧
      (cos (G.phi (v - G.V.tdiv 2)) = sin (G.phi v) ∧ sin (G.phi (v - G.V.tdiv 2)) = -cos (G.phi v)) ∧
      (cos (G.phi (G.V.tdiv 2 - v)) = sin (G.phi v) ∧ sin (G.phi (G.V.tdiv 2 - v)) = cos (G.phi v)) ∧
      (cos (G.phi ((3 * G.V).tdiv 2 - v)) = -sin (G.phi v) ∧ sin (G.phi ((3 * G.V).tdiv 2 - v)) = -cos (G.phi v))) := by
  have e : ∀ x : ℝ, π / 2 + π - x = π / 2 - x + π := fun x => by ring
  refine ⟨?_, ?_, fun h2 => ?_⟩
  · rw [phi_sub G h0, phi_V G h0 hV, cos_pi_sub]
  · rw [phi_sub G h0, phi_V G h0 hV, sin_pi_sub]
  · obtain ⟨p1, p3⟩ := phi_half G h0 hV h2
    simp only [phi_add G h0, phi_sub G h0, p1, p3, e, cos_add_pi_div_two, sin_add_pi_div_two, cos_sub_pi_div_two,
      sin_sub_pi_div_two, cos_pi_div_two_sub, sin_pi_div_two_sub, cos_add_pi, sin_add_pi, and_self]

/-- **pointwise equivariance**, every kind, every ray of the tube: the operation carries the point with path
    parameter `t` on the ray `(ds, dz)` of `b` to the point with path parameter `orient · t` on the ray
    `(sSign · ds, zSign · dz)` of `o.onBin b`.
    `hz` is the axial compatibility of the operation's constants with the data: its z map carries the axial midpoint
    of `b` to the axial midpoint of `o.onBin b` (for the operations built by `find_sym_op_*` this is
    `Sym.Axial.zmap_centre`, see `ray_findSymOp`). -/
theorem onPoint_ray (G : LorGeo) (hG : G.WF) (o : SymOp) (hf : o.Fits G) (b : Bin)
    (hz : o.onZ (G.zmid b.seg b.ax) = G.zmid (o.onBin b).seg (o.onBin b).ax) (ds dz t : ℝ) :
    o.onPoint (G.ray b ds dz t) =
      G.ray (o.onBin b) ((o.sSign b : ℝ) * ds) ((o.zSign : ℝ) * dz) ((o.orient b : ℝ) * t) := by
  obtain ⟨hV, hs, ht⟩ := hG
  obtain ⟨k, W, a, zs, q⟩ := o
  obtain ⟨seg, view, ax, tang, tof⟩ := b
  -- by what the kind needs from `Fits`; each group ends the same way: unfold both sides, split the branches of `onBin`,
  -- rewrite with the group's facts, and compare coordinates (`ring`; z by the axial compatibility `hz`)
  cases k
  case trivial =>
    simp only [SymOp.onPoint, SymOp.onBin, SymOp.orient, SymOp.sSign, SymOp.zSign, Int.cast_one, one_mul]
  case z_shift | swap_zq =>
    simp only [SymOp.onZ, SymOp.onBin] at hz
    simp only [SymOp.onPoint, SymOp.onBin, SymOp.orient, SymOp.sSign, SymOp.zSign, LorGeo.ray, Int.cast_one, one_mul,
      P3.mk.injEq, true_and, ht]
    linear_combination hz
  case swap_xmx_ymy_zq | swap_xmx_ymy =>
    -- the view is kept: only the image centred on the axis
    obtain ⟨hox, hoy⟩ := hf.1 rfl
    simp only [SymOp.onZ, SymOp.onBin] at hz
    simp only [SymOp.onPoint, SymOp.onBin, SymOp.orient, SymOp.sSign, SymOp.zSign, LorGeo.ray, hox, hoy, hs, ht,
      Int.cast_one, Int.cast_neg, P3.mk.injEq, zero_add] at hz ⊢
    exact ⟨by ring, by ring, by linear_combination hz⟩
  case swap_xmx_zq | swap_ymy_zq | swap_xmx | swap_ymy =>
    -- the view goes to `view180 − view`, except in the branch `view = 0` of `swap_xmx` / `swap_ymy`
    obtain ⟨hox, hoy⟩ := hf.1 rfl
    obtain ⟨hW, h0⟩ := hf.2.1 rfl
    simp only at hW
    subst hW
    obtain ⟨c1, s1, -⟩ := trig_views G hV h0 view
    simp only [SymOp.onZ, SymOp.onBin] at hz
    simp only [SymOp.onPoint, SymOp.onBin, SymOp.orient, SymOp.sSign, SymOp.zSign, LorGeo.ray]
    by_cases hv0 : view = 0
    · subst hv0
      simp only [ne_eq, not_true_eq_false, if_false, hox, hoy, hs, ht, c1, s1, phi_zero G h0, cos_zero, sin_zero,
        Int.cast_one, Int.cast_neg, P3.mk.injEq, zero_add] at hz ⊢
      exact ⟨by ring, by ring, by linear_combination hz⟩
    · simp only [ne_eq, hv0, not_false_eq_true, if_true, hox, hoy, hs, ht, c1, s1, Int.cast_one, Int.cast_neg,
        P3.mk.injEq, zero_add] at hz ⊢
      exact ⟨by ring, by ring, by linear_combination hz⟩
  case swap_xmy_yx_zq | swap_xy_yx_zq | swap_xmy_yx | swap_xy_yx | swap_xy_ymx_zq | swap_xy_ymx | swap_xmy_ymx
      | swap_xmy_ymx_zq =>
    -- x and y are exchanged: square voxels and the four quarter-turn identities as well
    obtain ⟨hox, hoy⟩ := hf.1 rfl
    obtain ⟨hW, h0⟩ := hf.2.1 rfl
    obtain ⟨h2, hc⟩ := hf.2.2 rfl
    simp only at hW
    subst hW
    obtain ⟨-, -, hq⟩ := trig_views G hV h0 view
    obtain ⟨⟨c1, s1⟩, ⟨c2, s2⟩, ⟨c3, s3⟩, ⟨c4, s4⟩⟩ := hq h2
    simp only [SymOp.onZ, SymOp.onBin] at hz
    simp only [SymOp.onPoint, SymOp.onBin, SymOp.orient, SymOp.sSign, SymOp.zSign, LorGeo.ray]
    try split_ifs at hz ⊢
    all_goals simp only [hox, hoy, hs, ht, hc, c1, s1, c2, s2, c3, s3, c4, s4, Int.cast_one, Int.cast_neg, P3.mk.injEq,
      zero_add] at hz ⊢
    all_goals exact ⟨by ring, by ring, by linear_combination hz⟩

theorem onPoint_point (G : LorGeo) (hG : G.WF) (o : SymOp) (hf : o.Fits G) (b : Bin)
    (hz : o.onZ (G.zmid b.seg b.ax) = G.zmid (o.onBin b).seg (o.onBin b).ax) (t : ℝ) :
    o.onPoint (G.point b t) = G.point (o.onBin b) ((o.orient b : ℝ) * t) := by
  have h := onPoint_ray G hG o hf b hz 0 0 t
  simp only [mul_zero] at h
  exact h

theorem sign_mul_self {σ : ℤ} (h : σ = 1 ∨ σ = -1) (x : ℝ) : (σ : ℝ) * ((σ : ℝ) * x) = x := by
  rcases h with h | h <;> rw [h] <;> push_cast <;> ring

theorem sign_mem {σ : ℤ} (h : σ = 1 ∨ σ = -1) {D : Set ℝ} (hD : ∀ d ∈ D, -d ∈ D) {d : ℝ} (hd : d ∈ D) :
    (σ : ℝ) * d ∈ D := by
  rcases h with h | h <;> rw [h] <;> push_cast
  · rw [one_mul]
    exact hd
  · rw [neg_one_mul]
    exact hD d hd

/-- a map that carries every ray of `b` point by point to a ray of `b'`, up to the signs of the two displacements and of
    the path parameter, maps a bundle placed symmetrically about the central LOR onto the bundle of `b'`
    (`ray_trace_one_lor` is called with `s_in_mm ± k·s_inc`; the axial rays lie symmetrically about the centre of the
    tube) -/
theorem image_tube (G : LorGeo) (F : P3 → P3) (b b' : Bin) {σs σz σt : ℤ} (hs : σs = 1 ∨ σs = -1)
    (hz : σz = 1 ∨ σz = -1) (ht : σt = 1 ∨ σt = -1)
    (hF : ∀ ds dz t, F (G.ray b ds dz t) = G.ray b' ((σs : ℝ) * ds) ((σz : ℝ) * dz) ((σt : ℝ) * t))
    (Ds Dz : Set ℝ) (hDs : ∀ d ∈ Ds, -d ∈ Ds) (hDz : ∀ d ∈ Dz, -d ∈ Dz) :
    F '' G.tube Ds Dz b = G.tube Ds Dz b' := by
  ext p
  simp only [LorGeo.tube, Set.mem_image, Set.mem_ofPred_eq]
  constructor
  · rintro ⟨_, ⟨ds, hds, dz, hdz, t, rfl⟩, rfl⟩
    exact ⟨_, sign_mem hs hDs hds, _, sign_mem hz hDz hdz, _, (hF ds dz t).symm⟩
  · rintro ⟨ds, hds, dz, hdz, t, rfl⟩
    refine ⟨G.ray b ((σs : ℝ) * ds) ((σz : ℝ) * dz) ((σt : ℝ) * t),
      ⟨_, sign_mem hs hDs hds, _, sign_mem hz hDz hdz, _, rfl⟩, ?_⟩
    rw [hF, sign_mul_self hs, sign_mul_self hz, sign_mul_self ht]

theorem lor_eq_tube (G : LorGeo) (b : Bin) : G.lor b = G.tube {0} {0} b := by
  ext p
  simp only [LorGeo.lor, LorGeo.point, LorGeo.tube, Set.mem_range, Set.mem_ofPred_eq, Set.mem_singleton_iff,
    exists_eq_left]

theorem image_lor (G : LorGeo) (F : P3 → P3) (b b' : Bin) {σs σz σt : ℤ} (hs : σs = 1 ∨ σs = -1)
    (hz : σz = 1 ∨ σz = -1) (ht : σt = 1 ∨ σt = -1)
    (hF : ∀ ds dz t, F (G.ray b ds dz t) = G.ray b' ((σs : ℝ) * ds) ((σz : ℝ) * dz) ((σt : ℝ) * t)) :
    F '' G.lor b = G.lor b' := by
  have h0 : ∀ d ∈ ({0} : Set ℝ), -d ∈ ({0} : Set ℝ) := fun d hd => by
    rw [Set.mem_singleton_iff.mp hd, neg_zero]
    rfl
  rw [lor_eq_tube, lor_eq_tube]
  exact image_tube G F b b' hs hz ht hF _ _ h0 h0

/-! ## time of flight

Modelling assumption: the TOF coordinate of an event is its path parameter `t` — measured along
`(−sin φ, cos φ, tan θ)`, an orientation fixed by view and tangential position alone
(`ProjDataInfoCylindricalNoArcCorr::get_bin_for_det_pair` orders the detector pair transaxially and flips the signs of
segment *and* timing position together) — and timing position `k` collects `|t − c(k)| ≤ w` with `c` odd. -/

/-- centres (an odd function of the timing position) and half-width of the timing bins along the path -/
structure TofGeo where
  c : ℤ → ℝ
  w : ℝ
  c_odd : ∀ k, c (-k) = -c k

/-- the part of the LOR of `b` that belongs to its timing position -/
def LorGeo.tofPart (G : LorGeo) (T : TofGeo) (b : Bin) : Set P3 :=
  G.point b '' Set.Icc (T.c b.tof - T.w) (T.c b.tof + T.w)

/-- the **TOF sign rule**: `onBin` negates the timing position exactly when the operation reverses the LOR -/
def SymOp.TofRule (o : SymOp) (b : Bin) : Prop := (o.onBin b).tof = o.orient b * b.tof

instance (o : SymOp) (b : Bin) : Decidable (o.TofRule b) :=
  inferInstanceAs (Decidable ((o.onBin b).tof = o.orient b * b.tof))

/-- the operation carries the TOF part of `b` onto the TOF part of the bin `o.onBin b` **with timing position
    `orient · tof`** — whatever `onBin` does to the timing position -/
theorem tofPart_image (G : LorGeo) (hG : G.WF) (T : TofGeo) (o : SymOp) (hf : o.Fits G) (b : Bin)
    (hz : o.onZ (G.zmid b.seg b.ax) = G.zmid (o.onBin b).seg (o.onBin b).ax) :
    o.onPoint '' G.tofPart T b = G.tofPart T { o.onBin b with tof := o.orient b * b.tof } := by
  have hp : G.point { o.onBin b with tof := o.orient b * b.tof } = G.point (o.onBin b) := rfl
  have hc : (fun t => o.onPoint (G.point b t)) = G.point (o.onBin b) ∘ fun t => (o.orient b : ℝ) * t :=
    funext (onPoint_point G hG o hf b hz)
  simp only [LorGeo.tofPart, Set.image_image, hp]
  rw [hc, Set.image_comp]
  congr 1
  -- the path parameter is kept or negated, and the centres of the timing bins are odd
  rcases orient_cases o b with h | h
  · simp only [h, Int.cast_one, one_mul, Set.image_id']
  · simp only [h, Int.reduceNeg, Int.cast_neg, Int.cast_one, neg_one_mul, T.c_odd, Set.image_neg_Icc]
    congr 1 <;> ring

theorem tofPart_equivariant (G : LorGeo) (hG : G.WF) (T : TofGeo) (o : SymOp) (hf : o.Fits G) (b : Bin)
    (hz : o.onZ (G.zmid b.seg b.ax) = G.zmid (o.onBin b).seg (o.onBin b).ax) (hr : o.TofRule b) :
    o.onPoint '' G.tofPart T b = G.tofPart T (o.onBin b) := by
  rw [tofPart_image G hG T o hf b hz]
  unfold SymOp.TofRule at hr
  rw [← hr]

/-- the kinds that obey the sign rule for every bin: those that never reverse the LOR, and the two that reverse it
    and negate the timing position -/
def Kind.tofSafe : Kind → Bool
  | .trivial | .z_shift | .swap_xmy_yx_zq | .swap_zq | .swap_ymy_zq | .swap_xmy_ymx_zq | .swap_xmx_ymy_zq
  | .swap_xmx_ymy => true
  | _ => false

theorem tofRule_of_safe (o : SymOp) (h : o.kind.tofSafe = true) (b : Bin) : o.TofRule b := by
  obtain ⟨k, V, a, zs, q⟩ := o
  cases k <;> simp only [Kind.tofSafe, Bool.false_eq_true] at h <;>
    simp only [SymOp.TofRule, SymOp.onBin, SymOp.orient, Int.one_mul, Int.reduceNeg, Int.neg_mul]

theorem tofRule_of_tof_zero (o : SymOp) (b : Bin) (h : b.tof = 0) : o.TofRule b := by
  obtain ⟨k, V, a, zs, q⟩ := o
  obtain ⟨seg, view, ax, tang, tof⟩ := b
  simp only at h
  subst h
  cases k <;> simp only [SymOp.TofRule, SymOp.onBin, SymOp.orient] <;> (try split_ifs) <;>
    simp only [Int.mul_zero, Int.neg_zero]

theorem findSymOp_tofSafe (y : Sym) (hy : y.WF) (h180 : y.d180 = false) (b : Bin) :
    (y.findSymOp b).kind.tofSafe = true := by
  have hk : ∀ k : Kind, k.viewOp = .keep → k.tofSafe = true := by
    intro k
    cases k <;> decide
  obtain ⟨k, ho, hf⟩ := findSymOp_found y b
  rw [ho, newOp_kind]
  -- without the 180° symmetry no view test fires
  refine hk k (Decidable.byContradiction fun hne => ?_)
  have := hf.view.d180 hy hne
  rw [h180] at this
  exact absurd this (by decide)

/-- the geometry handed to the ray tracer agrees with the symmetries object: same number of views, axial midpoints
    given by the object's own axial relation (`centre4`, quarter planes), and the three conditions under which the
    constructor leaves the transaxial switches on: square voxels for 90°, no azimuthal offset for 90°/180°, image
    centred on the scanner axis for any of 90°/180°/swap_s -/
structure LorGeo.Agrees (G : LorGeo) (y : Sym) : Prop where
  V : G.V = y.V
  zmid : ∀ s a, G.zmid s a = ((y.centre4 s a : ℤ) : ℝ) / 4
  square : y.d90 = true → G.cx = G.cy
  phi0 : y.d180 = true → G.phi0 = 0
  centred : y.d180 = true ∨ y.swapS = true → G.ox = 0 ∧ G.oy = 0

/-- which switch a found kind needs, by what it does: exchanging x and y needs 90°, changing the view 180°, moving (x, y) at
    all 180° or swap_s -/
theorem Sym.Finds.switch {y : Sym} (hy : y.WF) {b : Bin} {k : Kind} (hf : y.Finds b k) :
    (k.usesQuarter = true → y.d90 = true) ∧ (k.usesViews = true → y.d180 = true) ∧
    (k.movesXY = true → y.d180 = true ∨ y.swapS = true) := by
  have hq : (k.usesQuarter = true → k.viewOp = .back90 ∨ k.viewOp = .turn90) ∧ (k.usesViews = true → k.viewOp ≠ .keep) ∧
      (k.movesXY = true → k.viewOp ≠ .keep ∨ k.negTang = true) := by
    cases k <;> decide
  refine ⟨fun h => ?_, fun h => hf.view.d180 hy (hq.2.1 h), fun h => ?_⟩
  · have hv := hf.view
    rcases hq.1 h with h' | h' <;> rw [h'] at hv
    · exact hv.2.1
    · exact hv.1
  · rcases hq.2.2 h with h' | h'
    · exact Or.inl (hf.view.d180 hy h')
    · exact Or.inr (eff_lt.mpr (hf.tang.mp h')).1

theorem findSymOp_fits (y : Sym) (hy : y.WF) (G : LorGeo) (hA : G.Agrees y) (b : Bin) : (y.findSymOp b).Fits G := by
  obtain ⟨k, hk, hf⟩ := findSymOp_found y b
  obtain ⟨hq, hu, hm⟩ := hf.switch hy
  have hv : k.usesViews = true → (y.newOp k b.seg b.ax).view180 = y.V := by
    cases k <;> first | exact fun _ => rfl | exact fun h => absurd h (by decide)
  unfold SymOp.Fits
  rw [hk, newOp_kind]
  refine ⟨fun h => hA.centred (hm h), fun h => ⟨(hv h).trans hA.V.symm, hA.phi0 (hu h)⟩, fun h => ⟨?_, hA.square (hq h)⟩⟩
  have := (hy.h90 (hq h)).2
  rw [hA.V]
  omega

/-- axial compatibility (`hz` of `onPoint_ray`) of the operation found for a bin: `Sym.Axial.zmap_centre`, the axial position being
    rebuilt -/
theorem findSymOp_onZ_zmid {y : Sym} (ha : y.Axial) (hy : y.WF) (G : LorGeo) (hA : G.Agrees y) (b : Bin) (hv : b.view < y.V) :
    (y.findSymOp b).onZ (G.zmid (y.basic b).seg (y.basic b).ax) =
      G.zmid ((y.findSymOp b).onBin (y.basic b)).seg ((y.findSymOp b).onBin (y.basic b)).ax := by
  obtain ⟨τ, hr, -⟩ := symop_rebuilds_spatial y hy b hv
  rw [hr, hA.zmid, onZ_zmap4, ha.zmap_centre b]
  exact (hA.zmid _ _).symm

theorem ray_findSymOp {y : Sym} (ha : y.Axial) (hy : y.WF) (G : LorGeo) (hG : G.WF) (hA : G.Agrees y) (b : Bin)
    (hv : b.view < y.V) (ds dz t : ℝ) :
    (y.findSymOp b).onPoint (G.ray (y.basic b) ds dz t) =
      G.ray b (((y.findSymOp b).sSign (y.basic b) : ℝ) * ds) (((y.findSymOp b).zSign : ℝ) * dz)
        (((y.findSymOp b).orient (y.basic b) : ℝ) * t) := by
  have h := onPoint_ray G hG (y.findSymOp b) (findSymOp_fits y hy G hA b) (y.basic b)
    (findSymOp_onZ_zmid ha hy G hA b hv) ds dz t
  -- the ray does not read the timing position
  obtain ⟨τ, hr, -⟩ := symop_rebuilds_spatial y hy b hv
  rw [hr] at h
  exact h

end
end StirVerif.C03
