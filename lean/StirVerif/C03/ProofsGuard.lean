/-
C03 — the constructor: its effective switches in closed form, and its x/y voxel-size guard (`squareVoxels`, `f32Round`:
symmetric in the two sizes, and passed only by sizes that are nearly equal).
-/
import StirVerif.C03.Model
import Mathlib.Algebra.Order.Field.Rat
import Mathlib.Algebra.Order.Field.Basic
import Mathlib.Data.Rat.Floor
import Mathlib.Tactic.Linarith
import Mathlib.Tactic.Ring
import Mathlib.Tactic.SplitIfs
import Mathlib.Tactic.NormNum
import Mathlib.Tactic.Positivity
import Mathlib.Tactic.FieldSimp
import Mathlib.Tactic.GCongr
import Mathlib.Algebra.Order.Ring.Abs

namespace StirVerif.C03

/-- each step of the constructor only switches off: a switch survives iff it was requested and every condition tested
    on the way holds -/
theorem Flags.effective_eq (f : Flags) (V : Int) (sq phi0 tof xy0 : Bool) :
    f.effective V sq phi0 tof xy0 =
      { d90 := xy0 && (!tof && (phi0 && (!(V.tmod 4 != 0) && (sq && f.d90))))
        d180 := xy0 && (!tof && (phi0 && (!(V.tmod 2 != 0) && (f.d90 || f.d180))))
        swapSeg := xy0 && (!tof && f.swapSeg)
        swapS := xy0 && (!tof && f.swapS)
        shiftZ := f.shiftZ } := by
  have h2 : ∀ c p q : Bool, (if (!c && (p || q)) = true then (false, false) else (p, q)) = (c && p, c && q) := by
    decide
  have h3 : ∀ c p q : Bool, (if c = true then (false, false) else (p, q)) = (!c && p, !c && q) := by decide
  have h4 : ∀ c p q r s e : Bool, (if (!c && (p || q || r || s)) = true then (⟨false, false, false, false, e⟩ : Flags)
      else ⟨p, q, r, s, e⟩) = ⟨c && p, c && q, c && r, c && s, e⟩ := by decide
  unfold Flags.effective
  simp only [Bool.if_false_left, Bool.decide_eq_true, h2, h3, h4, Bool.not_not]

theorem effective_d90 (f : Flags) (V : Int) (sq p t o : Bool) (h : (f.effective V sq p t o).d90 = true) : sq = true := by
  simp only [Flags.effective_eq, Bool.and_eq_true] at h
  exact h.2.2.2.2.1

theorem effective_tof (f : Flags) (V : Int) (sq phi0 xy0 : Bool) :
    f.effective V sq phi0 true xy0 = ⟨false, false, false, false, f.shiftZ⟩ := by
  simp only [Flags.effective_eq, Bool.not_true, Bool.false_and, Bool.and_false]

theorem qabs_eq_abs (q : Rat) : qabs q = |q| := by
  unfold qabs
  split_ifs with h
  · exact (abs_of_neg h).symm
  · exact (abs_of_nonneg (not_lt.mp h)).symm

theorem qabs_neg (q : Rat) : qabs (-q) = qabs q := by
  rw [qabs_eq_abs, qabs_eq_abs, abs_neg]

theorem qabs_zero : qabs 0 = 0 := by
  rw [qabs_eq_abs, abs_zero]

theorem qabs_nonneg (q : Rat) : 0 ≤ qabs q := by
  rw [qabs_eq_abs]
  exact abs_nonneg q

theorem f32Round_zero : f32Round 0 = 0 := by
  unfold f32Round
  simp

theorem f32Round_neg (q : Rat) : f32Round (-q) = -f32Round q := by
  unfold f32Round
  by_cases h0 : q = 0
  · subst h0
    simp
  · have h0' : -q ≠ 0 := neg_ne_zero.mpr h0
    simp only [h0, h0', if_false, qabs_neg]
    rcases lt_or_gt_of_ne h0 with h | h
    · have h1 : ¬ (-q < 0) := by linarith
      simp only [h, h1, if_true, if_false, neg_neg]
    · have h1 : -q < 0 := by linarith
      have h2 : ¬ (q < 0) := by linarith
      simp only [h1, h2, if_true, if_false]

theorem squareVoxels_symm (vy vx : Rat) : squareVoxels vy vx = squareVoxels vx vy := by
  unfold squareVoxels
  have : vx - vy = -(vy - vx) := by ring
  rw [this, f32Round_neg, qabs_neg]

theorem effectiveVox_symm (f : Flags) (V : Int) (vy vx : Rat) (p t o : Bool) :
    f.effectiveVox V vy vx p t o = f.effectiveVox V vx vy p t o := by
  unfold Flags.effectiveVox
  rw [squareVoxels_symm]

theorem effectiveVox_d90 (f : Flags) (V : Int) (vy vx : Rat) (p t o : Bool)
    (h : (f.effectiveVox V vy vx p t o).d90 = true) : squareVoxels vy vx = true :=
  effective_d90 f V _ p t o h

theorem effectiveImg_d90 (f : Flags) (V : Int) (vy vx : Rat) (r : Bool) (minY maxY minX maxX : Int) (p t o : Bool)
    (h : (f.effectiveImg V vy vx r minY maxY minX maxX p t o).d90 = true) :
    squareVoxels vy vx = true ∧ (r = true → minY = minX ∧ maxY = maxX) := by
  have h1 := effective_d90 f V _ p t o h
  simp only [Bool.and_eq_true, Bool.or_eq_true, Bool.not_eq_true', decide_eq_true_eq] at h1
  refine ⟨h1.1, fun hr => ?_⟩
  rcases h1.2 with h2 | h2
  · rw [hr] at h2
    cases h2
  · exact h2

theorem pow2_eq_zpow (e : Int) : pow2 e = (2 : ℚ) ^ e := by
  unfold pow2
  split_ifs with h
  · have he : e = ((e.toNat : ℕ) : ℤ) := (Int.toNat_of_nonneg h).symm
    conv_rhs => rw [he]
    rw [zpow_natCast]
    push_cast
    rfl
  · have hn : 0 ≤ -e := by omega
    have he : e = -(((-e).toNat : ℕ) : ℤ) := by
      rw [Int.toNat_of_nonneg hn]
      ring
    conv_rhs => rw [he]
    rw [zpow_neg, zpow_natCast]
    push_cast
    rw [one_div]

theorem pow2_pos (e : Int) : 0 < pow2 e := by
  rw [pow2_eq_zpow]
  exact zpow_pos (by norm_num) e

theorem pow2_mono {e e' : Int} (h : e ≤ e') : pow2 e ≤ pow2 e' := by
  rw [pow2_eq_zpow, pow2_eq_zpow]
  exact zpow_le_zpow_right₀ (by norm_num) h

theorem pow2_sub (e k : Int) : pow2 e = pow2 k * pow2 (e - k) := by
  rw [pow2_eq_zpow, pow2_eq_zpow, pow2_eq_zpow, ← zpow_add₀ (by norm_num : (2 : ℚ) ≠ 0)]
  congr 1
  ring

theorem pow2_ilog2_le (a : ℚ) (ha : 0 < a) : pow2 (ilog2 a) ≤ a := by
  unfold ilog2
  simp only
  split_ifs with h
  · exact h
  · have hnum : 0 < a.num := Rat.num_pos.mpr ha
    have hn : a.num.natAbs ≠ 0 := by omega
    have h1 : 2 ^ a.num.natAbs.log2 ≤ a.num.natAbs := Nat.log2_self_le hn
    have h2 : a.den < 2 ^ (a.den.log2 + 1) := Nat.lt_log2_self
    have ha' : a = (a.num.natAbs : ℚ) / (a.den : ℚ) := by
      have h3 : ((a.num.natAbs : ℕ) : ℚ) = (a.num : ℚ) := by
        rw [Nat.cast_natAbs, abs_of_pos hnum]
      rw [h3]
      exact (Rat.num_div_den a).symm
    rw [pow2_eq_zpow]
    have hz : (2 : ℚ) ^ ((a.num.natAbs.log2 : ℤ) - (a.den.log2 : ℤ) - 1)
        = (2 : ℚ) ^ a.num.natAbs.log2 / (2 : ℚ) ^ (a.den.log2 + 1) := by
      rw [show ((a.num.natAbs.log2 : ℤ) - (a.den.log2 : ℤ) - 1) = (a.num.natAbs.log2 : ℤ) - ((a.den.log2 + 1 : ℕ) : ℤ) by
        push_cast
        ring]
      rw [zpow_sub₀ (by norm_num : (2 : ℚ) ≠ 0), zpow_natCast, zpow_natCast]
    rw [hz]
    have h1q : (2 : ℚ) ^ a.num.natAbs.log2 ≤ (a.num.natAbs : ℚ) := by exact_mod_cast h1
    have h2q : (a.den : ℚ) ≤ (2 : ℚ) ^ (a.den.log2 + 1) := by exact_mod_cast h2.le
    calc (2 : ℚ) ^ a.num.natAbs.log2 / (2 : ℚ) ^ (a.den.log2 + 1)
        ≤ (a.num.natAbs : ℚ) / (2 : ℚ) ^ (a.den.log2 + 1) := by gcongr
      _ ≤ (a.num.natAbs : ℚ) / (a.den : ℚ) := by gcongr
      _ = a := ha'.symm

theorem roundHalfEven_err (x : ℚ) : |((roundHalfEven x : ℤ) : ℚ) - x| ≤ 1 / 2 := by
  have h1 : ((x.floor : ℤ) : ℚ) ≤ x := Rat.floor_le x
  have h2 : x < (((x.floor + 1 : ℤ)) : ℚ) := Rat.lt_floor_add_one x
  push_cast at h2
  unfold roundHalfEven
  simp only
  rw [abs_le]
  split_ifs with ha hb hc
  · constructor <;> linarith
  · push_cast
    constructor <;> linarith
  · constructor <;> linarith
  · push_cast
    constructor <;> linarith

theorem le_roundHalfEven (m : ℤ) (x : ℚ) (h : (m : ℚ) ≤ x) : m ≤ roundHalfEven x := by
  have hf : m ≤ x.floor := Rat.le_floor_iff.mpr h
  unfold roundHalfEven
  simp only
  split_ifs <;> omega

theorem f32Round_eq (q : ℚ) (h0 : q ≠ 0) :
    f32Round q =
      let e := max (ilog2 (qabs q)) (-126)
      if q < 0 then -((roundHalfEven (qabs q / pow2 (e - 23)) : ℚ) * pow2 (e - 23))
      else (roundHalfEven (qabs q / pow2 (e - 23)) : ℚ) * pow2 (e - 23) := by
  rw [f32Round, if_neg h0, max_def_lt]

/-- a `float` result below `2^E` is within half a unit in the last place (`2^(E-25)`) of the exact value; `-125 ≤ E`
    keeps the bound above the spacing of the subnormal numbers -/
theorem f32Round_close (q : ℚ) (E : ℤ) (hE : -125 ≤ E) (h : qabs (f32Round q) < pow2 E) :
    qabs q ≤ qabs (f32Round q) + pow2 (E - 25) := by
  by_cases h0 : q = 0
  · subst h0
    have := pow2_pos (E - 25)
    rw [f32Round_zero, qabs_zero]
    linarith
  · have hr := f32Round_eq q h0
    have hapos : 0 < qabs q := by
      rw [qabs_eq_abs]
      exact abs_pos.mpr h0
    set a := qabs q with ha
    set e := max (ilog2 a) (-126) with he
    set quantum := pow2 (e - 23) with hqm
    have hqpos : 0 < quantum := pow2_pos _
    set n := roundHalfEven (a / quantum) with hn
    have hn0 : 0 ≤ n := le_roundHalfEven 0 _ (by
      push_cast
      positivity)
    have hr' : qabs (f32Round q) = (n : ℚ) * quantum := by
      rw [hr]
      have hnn : (0 : ℚ) ≤ (n : ℚ) * quantum := by
        have : (0 : ℚ) ≤ (n : ℚ) := by exact_mod_cast hn0
        positivity
      split_ifs with hq
      · rw [qabs_neg, qabs_eq_abs, abs_of_nonneg hnn]
      · rw [qabs_eq_abs, abs_of_nonneg hnn]
    rw [hr'] at h ⊢
    -- the step that carries the proof: the exponent `e` chosen for `q` is below `E`, since otherwise `a ≥ 2^e` rounds to at
    -- least `2^23` quanta, i.e. to a value `≥ 2^e ≥ 2^E`
    have hexp : e ≤ E - 1 := by
      by_contra hc
      have hEe : E ≤ e := by omega
      have heL : e = ilog2 a := by omega
      have hle : pow2 e ≤ a := by
        rw [heL]
        exact pow2_ilog2_le a hapos
      have h223 : pow2 23 = ((2 ^ 23 : ℤ) : ℚ) := by
        rw [pow2_eq_zpow]
        norm_num
      have hquanta : ((2 ^ 23 : ℤ) : ℚ) ≤ a / quantum := by
        rw [le_div_iff₀ hqpos, ← h223, ← pow2_sub e 23]
        exact hle
      have hn23 : (2 ^ 23 : ℤ) ≤ n := le_roundHalfEven _ _ hquanta
      have : pow2 e ≤ (n : ℚ) * quantum := by
        rw [pow2_sub e 23, h223]
        have : ((2 ^ 23 : ℤ) : ℚ) ≤ (n : ℚ) := by exact_mod_cast hn23
        gcongr
      have hpow : pow2 E ≤ pow2 e := pow2_mono hEe
      linarith
    -- so one quantum is at most `2^(E-24)`, and rounding errs by at most half a quantum
    have hquantum : quantum ≤ pow2 (E - 24) := pow2_mono (by omega)
    have herr := roundHalfEven_err (a / quantum)
    rw [← hn, abs_le] at herr
    have h1 : a / quantum - (n : ℚ) ≤ 1 / 2 := by linarith [herr.1]
    have h2 : a - (n : ℚ) * quantum ≤ quantum / 2 := by
      calc a - (n : ℚ) * quantum = (a / quantum - n) * quantum := by rw [sub_mul, div_mul_cancel₀ a hqpos.ne']
        _ ≤ 1 / 2 * quantum := by gcongr
        _ = quantum / 2 := by ring
    have hhalf : pow2 (E - 24) / 2 = pow2 (E - 25) := by
      rw [pow2_sub (E - 24) (E - 25), show E - 24 - (E - 25) = 1 by omega, pow2_eq_zpow 1]
      norm_num
    linarith

theorem squareVoxels_iff (vy vx : ℚ) : squareVoxels vy vx = true ↔ qabs (f32Round (vy - vx)) ≤ twoEm3F := by
  simp only [squareVoxels, Bool.not_eq_true', decide_eq_false_iff_not, not_lt]

theorem squareVoxels_close (vy vx : ℚ) (h : squareVoxels vy vx = true) : |vy - vx| ≤ twoEm3F + pow2 (-33) := by
  rw [squareVoxels_iff] at h
  -- `2.E-3F < 2⁻⁸`: the rounded difference is below `2^E` with `E = -8`, so half a unit in the last place is `2⁻³³`
  have h8 : twoEm3F < pow2 (-8) := by
    rw [pow2_eq_zpow]
    unfold twoEm3F
    norm_num
  have h33 := f32Round_close (vy - vx) (-8) (by decide) (lt_of_le_of_lt h h8)
  rw [show (-8 : ℤ) - 25 = -33 by decide] at h33
  rw [← qabs_eq_abs]
  linarith

theorem squareVoxels_self (v : ℚ) : squareVoxels v v = true := by
  rw [squareVoxels_iff, sub_self, f32Round_zero, qabs_zero]
  unfold twoEm3F
  norm_num

theorem squareVoxels_far (vy vx : ℚ) (h : twoEm3F + pow2 (-33) < |vy - vx|) : squareVoxels vy vx = false := by
  cases hs : squareVoxels vy vx
  · rfl
  · have := squareVoxels_close vy vx hs
    linarith

end StirVerif.C03
