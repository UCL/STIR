/-
C03 — every symmetry operation acts on image indices as a signed permutation of (y, x) and an affine
involution / translation of z, undone by an operation of the same family: injective, keeps rows duplicate-free.
-/
import StirVerif.C03.Model

namespace StirVerif.C03

/-- the operation that undoes `o` on image indices: the two quarter turns (and their `…_zq` twins) are each other's inverses, every other
    kind is its own; a shift changes sign, a mirror `z ↦ q − z + z_shift` is an involution -/
def SymOp.inv (o : SymOp) : SymOp :=
  match o.kind with
  | .swap_xmy_yx => { o with kind := .swap_xy_ymx, zShift := -o.zShift }
  | .swap_xy_ymx => { o with kind := .swap_xmy_yx, zShift := -o.zShift }
  | .swap_xmy_yx_zq => { o with kind := .swap_xy_ymx_zq }
  | .swap_xy_ymx_zq => { o with kind := .swap_xmy_yx_zq }
  | .z_shift | .swap_xy_yx | .swap_xmx | .swap_ymy | .swap_xmy_ymx | .swap_xmx_ymy => { o with zShift := -o.zShift }
  | _ => o

theorem inv_onVoxel (o : SymOp) (c : Vox) : o.inv.onVoxel (o.onVoxel c) = c := by
  obtain ⟨k, V, a, zs, q⟩ := o
  obtain ⟨z, y, x⟩ := c
  cases k <;> simp only [SymOp.inv, SymOp.onVoxel, Vox.mk.injEq, Int.neg_neg, and_true] <;> omega

theorem onVoxel_inv (o : SymOp) (c : Vox) : o.onVoxel (o.inv.onVoxel c) = c := by
  obtain ⟨k, V, a, zs, q⟩ := o
  obtain ⟨z, y, x⟩ := c
  cases k <;> simp only [SymOp.inv, SymOp.onVoxel, Vox.mk.injEq, Int.neg_neg, and_true] <;> omega

theorem onVoxel_injective (o : SymOp) (c c' : Vox) (h : o.onVoxel c = o.onVoxel c') : c = c' := by
  rw [← inv_onVoxel o c, h, inv_onVoxel]

theorem onElems_nodup {α : Type} (o : SymOp) (e : List (Vox × α)) (h : (e.map Prod.fst).Nodup) :
    ((o.onElems e).map Prod.fst).Nodup := by
  have : (o.onElems e).map Prod.fst = (e.map Prod.fst).map o.onVoxel := by
    simp only [SymOp.onElems, List.map_map]
    rfl
  rw [this]
  exact List.Pairwise.map _ (fun a b hab hh => hab (onVoxel_injective o a b hh)) h

theorem onElems_values {α : Type} (o : SymOp) (e : List (Vox × α)) : (o.onElems e).map Prod.snd = e.map Prod.snd := by
  simp only [SymOp.onElems, List.map_map]
  rfl

/-- axial part, one voxel: z is kept (`trivial`), shifted by `zShift`, or mirrored at `q` and shifted (the `…_zq` kinds) — so a z range
    `[lo, hi]` goes to itself, to `[lo + zShift, hi + zShift]` or to the mirror image `[q + zShift − hi, q + zShift − lo]` -/
theorem onVoxel_z (o : SymOp) (c : Vox) :
    (o.onVoxel c).z = c.z ∨ (o.onVoxel c).z = c.z + o.zShift ∨ (o.onVoxel c).z = o.q - c.z + o.zShift := by
  obtain ⟨k, V, a, zs, q⟩ := o
  cases k <;> simp only [SymOp.onVoxel, or_true, true_or] <;> omega

end StirVerif.C03
