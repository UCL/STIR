/-
C03 — the symmetry bookkeeping.  `find_basic_bin` reduces a bin by four independent reflections (view, segment, tangential position, axial shift) and
`find_sym_op_*` chooses, by the same tests, the operation that undoes those that were applied.  The non-trivial kinds are
the combinations of a view reduction, a sign for the segment and a sign for the tangential position; the trees are walked
once (`findSymOp_found`: the kind found is the one whose three components match the tests that fired), and an operation
built for such a kind takes the basic bin back coordinate by coordinate.
-/
import StirVerif.C03.Model
import Mathlib.Tactic.SplitIfs

namespace StirVerif.C03

/-- what the constructor guarantees about the effective switches (cylindrical branch), plus
    `num_planes_per_axial_pos ≠ 0` when z shifts are used (needed because `find_sym_op_*` tests `z_shift == 0`
    and not `axial_pos_num == 0`) -/
structure Sym.WF (y : Sym) : Prop where
  Vpos : 0 < y.V
  h90 : y.d90 = true → y.d180 = true ∧ y.V % 4 = 0
  h180 : y.d180 = true → y.V % 2 = 0
  nppa : y.shiftZ = true → ∀ s, y.nppa s ≠ 0

/-- the one combination of switches for which `timing_pos_num` would not be restored (`swap_s` together with a view
    symmetry: of the operations chosen for `s < 0` only `swap_xmx_ymy(_zq)` negate the timing position back); the
    constructor switches `swap_s` off for TOF data -/
def TofOK (y : Sym) (b : Bin) : Prop := b.tof = 0 ∨ y.swapS = false ∨ y.d180 = false

variable {y : Sym}

theorem Sym.WF.tdiv (h : y.WF) (k : Int) : y.V.tdiv k = y.V / k :=
  Int.tdiv_eq_ediv_of_nonneg (Int.le_of_lt h.Vpos)

/-- the view tests of `find_sym_op_*`, in the order of the code: (90°, 135°], (45°, 90°], beyond 90° with the 180°
    symmetry -/
abbrev Sym.in90to135 (y : Sym) (view : Int) : Prop := y.d90 = true ∧ view > y.V.tdiv 2 ∧ view ≤ y.V.tdiv 4 * 3

abbrev Sym.in45to90 (y : Sym) (view : Int) : Prop := y.d90 = true ∧ view > y.V.tdiv 4 ∧ view ≤ y.V.tdiv 2

abbrev Sym.past90 (y : Sym) (view : Int) : Prop := y.d180 = true ∧ view > y.V.tdiv 2

/-- the basic view, along the view tests of `find_sym_op_*` (which are not those of
    `find_basic_view_segment_numbers`: the two differ at 90° and 135°, where both reductions give the same view) -/
theorem basicView_eq (h : y.WF) (view : Int) : y.basicView view =
    if y.in90to135 view then view - y.V / 2
    else if y.in45to90 view then y.V / 2 - view
    else if y.past90 view then y.V - view
    else view := by
  have hV := h.Vpos
  unfold Sym.basicView Sym.in90to135 Sym.in45to90 Sym.past90
  simp only [h.tdiv]
  cases h90 : y.d90
  · cases y.d180
    · simp only [Bool.false_eq_true, false_and, if_false]
    · simp only [Bool.false_eq_true, false_and, true_and, if_false, if_true]
  · have h4 := (h.h90 h90).2
    simp only [(h.h90 h90).1, true_and, if_true]
    split_ifs <;> omega

/-- what `find_basic_view_segment_numbers` can do to a view number: nothing, `V − v`, `V/2 − v`, `v − V/2` -/
inductive ViewOp
  | keep | back180 | back90 | turn90
  deriving DecidableEq

def Kind.viewOp : Kind → ViewOp
  | .trivial | .z_shift | .swap_zq | .swap_xmx_ymy_zq | .swap_xmx_ymy => .keep
  | .swap_xmx_zq | .swap_xmx | .swap_ymy | .swap_ymy_zq => .back180
  | .swap_xy_yx_zq | .swap_xy_yx | .swap_xmy_ymx | .swap_xmy_ymx_zq => .back90
  | .swap_xmy_yx | .swap_xmy_yx_zq | .swap_xy_ymx_zq | .swap_xy_ymx => .turn90

def Kind.negSeg : Kind → Bool
  | .swap_zq | .swap_xmx_ymy | .swap_xmx | .swap_ymy_zq | .swap_xy_yx | .swap_xmy_ymx_zq | .swap_xmy_yx_zq
  | .swap_xy_ymx => true
  | _ => false

def Kind.negTang : Kind → Bool
  | .swap_xmx_ymy_zq | .swap_xmx_ymy | .swap_ymy | .swap_ymy_zq | .swap_xmy_ymx | .swap_xmy_ymx_zq | .swap_xy_ymx_zq
  | .swap_xy_ymx => true
  | _ => false

/-- the view number an operation gives back, in the first branch of its `transform_bin_coordinates` -/
def ViewOp.onView (V : Int) : ViewOp → Int → Int
  | .keep, v => v
  | .back180, v => V - v
  | .back90, v => V.tdiv 2 - v
  | .turn90, v => v + V.tdiv 2

/-- the test of the first branch of `transform_bin_coordinates` -/
def ViewOp.first (V : Int) : ViewOp → Int → Prop
  | .keep, _ => True
  | .back180, v => v ≠ 0
  | .back90, v => v ≤ V.tdiv 2
  | .turn90, v => v < V.tdiv 2

theorem newOp_kind (y : Sym) (k : Kind) (seg ax : Int) : (y.newOp k seg ax).kind = k := by
  cases k <;> rfl

/-- `if (z_shift == 0) Trivial else z_shift`: `TrivialSymmetryOperation` is what `newOp` builds for `trivial`, so `mkShift` is one more test of the
    trees with a `newOp` at either leaf -/
theorem mkShift_eq_newOp (y : Sym) (seg ax : Int) :
    y.mkShift seg ax =
      if (if y.shiftZ = true then y.nppa seg * ax else 0) = 0 then y.newOp .trivial seg ax else y.newOp .z_shift seg ax :=
  rfl

/-- `TrivialSymmetryOperation` moves nothing: it fits the pattern of the other kinds where there is no axial shift to apply (`hk`) -/
theorem onBin_newOp (y : Sym) {k : Kind} (seg ax : Int) (hk : k = .trivial → (if y.shiftZ = true then ax else 0) = 0) (b : Bin)
    (h : k.viewOp.first y.V b.view) :
    (y.newOp k seg ax).onBin b =
      { seg := if k.negSeg = true then -b.seg else b.seg
        view := k.viewOp.onView y.V b.view
        ax := b.ax + if y.shiftZ = true then ax else 0
        tang := if k.negTang = true then -b.tang else b.tang
        tof := if k.viewOp = .keep ∧ k.negTang = true then -b.tof else b.tof } := by
  cases k
  case trivial => simp only [Sym.newOp, SymOp.onBin, SymOp.triv, Kind.viewOp, Kind.negSeg, Kind.negTang, ViewOp.onView, hk rfl,
    Int.add_zero, Bool.false_eq_true, if_false, and_false]
  all_goals simp only [Kind.viewOp, ViewOp.first, ne_eq] at h
  all_goals simp only [Sym.newOp, SymOp.onBin, Kind.viewOp, Kind.negSeg, Kind.negTang, ViewOp.onView, ne_eq, h,
    not_false_eq_true, if_true, if_false, Bool.false_eq_true, reduceCtorEq, and_self, and_false, false_and]

/-- a coordinate as the sign tests of `find_basic_bin` and `find_sym_op_*` see it: with the switch off it counts as
    positive.  The trees spell each test in four ways: `s = false ∨ n ≥ 0`, `s = false ∨ n > 0`, `s = true ∧ n < 0` are `eff s n ≥ 0`,
    `> 0`, `< 0` (`eff_ge`, `eff_gt`, `eff_lt`); the bare `n < 0` that follows a failed `s = false ∨ n > 0` is left as it is and settled
    by `eff_cases` in `findSymOp_found`. -/
def eff (s : Bool) (n : Int) : Int := if s = true then n else 1

theorem eff_ge {s : Bool} {n : Int} : (s = false ∨ n ≥ 0) ↔ eff s n ≥ 0 := by
  cases s <;> simp [eff]

theorem eff_gt {s : Bool} {n : Int} : (s = false ∨ n > 0) ↔ eff s n > 0 := by
  cases s <;> simp [eff]

theorem eff_lt {s : Bool} {n : Int} : (s = true ∧ n < 0) ↔ eff s n < 0 := by
  cases s <;> simp [eff]

theorem eff_cases (s : Bool) (n : Int) : eff s n = n ∨ eff s n = 1 := by
  cases s <;> simp [eff]

/-- which of the view tests of `find_sym_op_*` fires, in the order of the code -/
def Sym.ViewTest (y : Sym) (view : Int) : ViewOp → Prop
  | .turn90 => y.in90to135 view
  | .back90 => ¬y.in90to135 view ∧ y.in45to90 view
  | .back180 => ¬y.in90to135 view ∧ ¬y.in45to90 view ∧ y.past90 view
  | .keep => ¬y.in90to135 view ∧ ¬y.in45to90 view ∧ ¬y.past90 view

/-- `find_sym_op_*` chooses kind `k` for the bin: the view test that fired is the one of the view reduction `k` undoes,
    `k` negates the segment number / the tangential position only where `find_basic_bin` does (or where it is zero), and
    `TrivialSymmetryOperation` is `z_shift` for a shift by 0 (`if (z_shift == 0)`) -/
structure Sym.Finds (y : Sym) (b : Bin) (k : Kind) : Prop where
  view : y.ViewTest b.view k.viewOp
  seg : if k.negSeg = true then eff y.swapSeg b.seg ≤ 0 else 0 ≤ eff y.swapSeg b.seg
  tang : k.negTang = true ↔ eff y.swapS b.tang < 0
  shift : k = .trivial → (if y.shiftZ = true then y.nppa b.seg * b.ax else 0) = 0

/-- Walk the trees, `mkShift` read as its two `newOp`s, with the sign tests written over `eff`: every leaf is a `newOp`, its view test is the
    conjunction of the view guards passed, and its two sign tests follow from the sign guards passed by linear arithmetic. -/
theorem findSymOp_found (y : Sym) (b : Bin) : ∃ k, y.findSymOp b = y.newOp k b.seg b.ax ∧ y.Finds b k := by
  have hs := eff_cases y.swapSeg b.seg
  have ht := eff_cases y.swapS b.tang
  unfold Sym.findSymOp Sym.symOpBin0 Sym.symOpGeneral
  simp only [eff_ge, eff_gt, eff_lt, mkShift_eq_newOp]
  repeat' with_reducible
    refine iteInduction (motive := fun o => ∃ k, o = y.newOp k b.seg b.ax ∧ y.Finds b k) (fun _ => ?_) (fun _ => ?_)
  all_goals refine ⟨_, rfl, ?_, ?_, ?_, ?_⟩
  all_goals simp only [Kind.viewOp, Kind.negSeg, Kind.negTang, Sym.ViewTest, if_true, if_false, Bool.false_eq_true, true_iff,
    false_iff, reduceCtorEq, false_implies, true_implies]
  all_goals first
    | omega
    | assumption
    | exact ⟨‹_›, ‹_›⟩
    | exact ⟨‹_›, ‹_›, ‹_›⟩

/-- undoing a conditional negation: `f` says whether the operation negates, `s` whether `find_basic_bin` may -/
theorem flip_back {s f : Bool} {n : Int} (h : if f = true then eff s n ≤ 0 else 0 ≤ eff s n) :
    (if f = true then -(if s = true ∧ n < 0 then -n else n) else if s = true ∧ n < 0 then -n else n) = n := by
  have e := eff_cases s n
  simp only [eff_lt]
  cases f
  · simp only [Bool.false_eq_true, if_false] at h ⊢
    omega
  · simp only [if_true] at h ⊢
    omega

theorem Sym.ViewTest.d180 (h : y.WF) {view : Int} {q : ViewOp} (hq : y.ViewTest view q) (hk : q ≠ .keep) :
    y.d180 = true := by
  cases q
  · exact absurd rfl hk
  · exact hq.2.2.1
  · exact (h.h90 hq.2.1).1
  · exact (h.h90 hq.1).1

theorem Sym.ViewTest.basic (h : y.WF) {view : Int} (hv : view < y.V) {q : ViewOp} (hq : y.ViewTest view q) :
    q.first y.V (y.basicView view) ∧ q.onView y.V (y.basicView view) = view := by
  have e2 := h.tdiv 2
  have e4 := h.tdiv 4
  rw [basicView_eq h]
  cases q <;> simp only [Sym.ViewTest] at hq <;> simp only [ViewOp.first, ViewOp.onView]
  · rw [if_neg hq.1, if_neg hq.2.1, if_neg hq.2.2]
    exact ⟨trivial, rfl⟩
  · rw [if_neg hq.1, if_neg hq.2.1, if_pos hq.2.2]
    omega
  · rw [if_neg hq.1, if_pos hq.2]
    omega
  · rw [if_pos hq]
    omega

/-- the axial position `find_basic_bin` leaves is the one `find_sym_op_*` hands to `find_transform_z` -/
theorem basicAx_eq (y : Sym) (ax : Int) :
    (if y.shiftZ = true ∧ ax ≠ 0 then 0 else ax) = if y.shiftZ = true then 0 else ax := by
  by_cases hs : y.shiftZ = true <;> by_cases h0 : ax = 0 <;> simp [hs, h0]

/-- the operation found for a bin in the view range takes its basic bin back to it in segment, view, axial and tangential position;
    `TofOK` is needed for the timing position only -/
theorem symop_rebuilds_spatial (y : Sym) (h : y.WF) (b : Bin) (hv : b.view < y.V) :
    ∃ τ, (y.findSymOp b).onBin (y.basic b) = { b with tof := τ } ∧ (TofOK y b → τ = b.tof) := by
  obtain ⟨k, hk, hf⟩ := findSymOp_found y b
  obtain ⟨hfirst, hview⟩ := hf.view.basic h hv
  have hseg := flip_back hf.seg
  have htang : (y.swapS = true ∧ b.tang < 0) ↔ k.negTang = true := eff_lt.trans hf.tang.symm
  -- no `z_shift` means no shift of the axial position either: this is where `num_planes_per_axial_pos ≠ 0` is needed
  have hax : k = .trivial → (if y.shiftZ = true then b.ax else 0) = 0 := fun hk =>
    ite_eq_right_iff.mpr fun hs =>
      (Int.mul_eq_zero.mp (ite_eq_right_iff.mp (hf.shift hk) hs)).resolve_left (h.nppa hs b.seg)
  rw [hk, onBin_newOp y _ _ hax _ hfirst]
  obtain ⟨seg, view, ax, tang, tof⟩ := b
  simp only [Sym.basic, Sym.findBasicBin, Sym.basicSeg, Bin.mk.injEq, htang] at hview hseg ⊢
  refine ⟨_, ⟨hseg, hview, ?_, ?_, rfl⟩, fun ht => ?_⟩
  · rw [basicAx_eq]
    split <;> omega
  · split <;> omega
  · by_cases hn : k.negTang = true
    · simp only [hn, and_true, if_true]
      by_cases hq : k.viewOp = .keep
      · rw [if_pos hq, Int.neg_neg]
      · rw [if_neg hq]
        -- the tangential position was negated under a view symmetry: `TofOK` leaves timing position 0
        rcases ht with ht | ht | ht
        · simp only at ht
          omega
        · rw [(htang.mpr hn).1] at ht
          exact absurd ht (by decide)
        · rw [hf.view.d180 h hq] at ht
          exact absurd ht (by decide)
    · simp only [hn, Bool.false_eq_true, and_false, if_false]

theorem symop_rebuilds_bin (y : Sym) (h : y.WF) (b : Bin) (hv : 0 ≤ b.view ∧ b.view < y.V) (ht : TofOK y b) :
    (y.findSymOp b).onBin (y.basic b) = b := by
  obtain ⟨τ, hr, hτ⟩ := symop_rebuilds_spatial y h b hv.2
  rw [hr, hτ ht]

/-- what `find_basic_bin` leaves alone: for every switch that is on, the coordinate it reduces is already reduced -/
structure Sym.IsBasic (y : Sym) (b : Bin) : Prop where
  v90 : y.d90 = true → b.view ≤ y.V / 2 / 2
  v180 : y.d180 = true → b.view ≤ y.V / 2
  seg : y.swapSeg = true → 0 ≤ b.seg
  tang : y.swapS = true → 0 ≤ b.tang
  ax : y.shiftZ = true → b.ax = 0

theorem basicView_le (h : y.WF) (view : Int) :
    (y.d90 = true → y.basicView view ≤ y.V / 2 / 2) ∧ (y.d180 = true → y.basicView view ≤ y.V / 2) := by
  rw [basicView_eq h]
  unfold Sym.in90to135 Sym.in45to90 Sym.past90
  simp only [h.tdiv]
  cases h90 : y.d90
  · simp only [Bool.false_eq_true, false_and, if_false, false_implies, true_and]
    intro h180
    simp only [h180, true_and]
    split_ifs <;> omega
  · have h4 := (h.h90 h90).2
    simp only [(h.h90 h90).1, true_and, true_implies]
    split_ifs <;> omega

theorem basic_view_range (y : Sym) (h : y.WF) (b : Bin) (hv : 0 ≤ b.view ∧ b.view < y.V) :
    0 ≤ (y.basic b).view ∧ (y.basic b).view < y.V := by
  have e2 := h.tdiv 2
  show 0 ≤ y.basicView b.view ∧ y.basicView b.view < y.V
  rw [basicView_eq h]
  split_ifs <;> omega

theorem basic_isBasic (y : Sym) (h : y.WF) (b : Bin) : y.IsBasic (y.basic b) := by
  refine ⟨(basicView_le h b.view).1, (basicView_le h b.view).2, fun hs => ?_, fun hs => ?_, fun hs => ?_⟩
  · simp only [Sym.basic, Sym.findBasicBin, Sym.basicSeg, hs, true_and]
    split <;> omega
  · simp only [Sym.basic, Sym.findBasicBin, hs, true_and]
    split <;> omega
  · simp only [Sym.basic, Sym.findBasicBin, hs, true_and]
    split <;> omega

theorem Sym.IsBasic.guards (h : y.WF) {b : Bin} (hb : y.IsBasic b) :
    ¬y.in90to135 b.view ∧ ¬y.in45to90 b.view ∧
    ¬y.past90 b.view ∧ ¬(y.swapSeg = true ∧ b.seg < 0) ∧ ¬(y.swapS = true ∧ b.tang < 0) ∧
    ¬(y.shiftZ = true ∧ b.ax ≠ 0) := by
  -- no goal needs `hV`, but `omega` is slower without it
  have hV := h.Vpos
  have e2 := h.tdiv 2
  have e4 := h.tdiv 4
  refine ⟨fun hg => ?_, fun hg => ?_, fun hg => ?_, fun hg => ?_, fun hg => ?_, fun hg => hg.2 (hb.ax hg.1)⟩
  · have := hb.v90 hg.1
    omega
  · have := hb.v90 hg.1
    omega
  · have := hb.v180 hg.1
    omega
  · have := hb.seg hg.1
    omega
  · have := hb.tang hg.1
    omega

theorem findBasicBin_of_isBasic (y : Sym) (h : y.WF) (b : Bin) (hb : y.IsBasic b) :
    y.findBasicBin b = (b, false) := by
  obtain ⟨seg, view, ax, tang, tof⟩ := b
  obtain ⟨g2, g1, gr, gs, gt, ga⟩ := hb.guards h
  obtain ⟨v90, v180, -, -, -⟩ := hb
  simp only at g2 g1 gr gs gt ga v90 v180
  have hbv : y.basicView view = view := by
    rw [basicView_eq h, if_neg g2, if_neg g1, if_neg gr]
  have hch : (if y.d90 = true then decide (view ≥ y.V / 2 + y.V / 2 / 2 ∨ view ≥ y.V / 2 ∨ view > y.V / 2 / 2)
      else if y.d180 = true then decide (view > y.V / 2) else false) = false := by
    have hV := h.Vpos
    split
    · next h90 =>
      have := v90 h90
      have h4 := (h.h90 h90).2
      exact decide_eq_false (by omega)
    · split
      · next h180 =>
        have := v180 h180
        exact decide_eq_false (by omega)
      · rfl
  simp only [Sym.findBasicBin, Sym.findBasicVS, Sym.basicSeg, hbv, hch, gs, gt, ga, if_false, decide_false,
    Bool.or_false]

-- `hv` is not used: `basic_isBasic` holds for every view (`C03_basic_idempotent` states the view range all the same)
set_option linter.unusedVariables false in
theorem basic_idempotent (y : Sym) (h : y.WF) (b : Bin) (hv : 0 ≤ b.view ∧ b.view < y.V) :
    y.findBasicBin (y.basic b) = (y.basic b, false) :=
  findBasicBin_of_isBasic y h _ (basic_isBasic y h b)

theorem findSymOp_of_isBasic (y : Sym) (h : y.WF) (b : Bin) (hb : y.IsBasic b) :
    y.findSymOp b = SymOp.triv := by
  obtain ⟨seg, view, ax, tang, tof⟩ := b
  obtain ⟨g2, g1, gr, gs, gt, -⟩ := hb.guards h
  have hax : y.shiftZ = true → ax = 0 := hb.ax
  simp only at g2 g1 gr gs gt
  have hm : y.mkShift seg ax = SymOp.triv :=
    if_pos (ite_eq_right_iff.mpr fun hs => by rw [hax hs, Int.mul_zero])
  simp only [Sym.findSymOp, Sym.symOpBin0, Sym.symOpGeneral, g2, g1, gr, gs, gt, if_false, hm]
  by_cases g : y.swapSeg = false ∨ seg > 0
  · simp only [g, if_true, ite_self]
  · have hs : y.swapSeg = true := by
      cases hss : y.swapSeg
      · exact absurd (Or.inl hss) g
      · rfl
    have : ¬seg < 0 := fun hlt => gs ⟨hs, hlt⟩
    simp only [g, this, if_false, ite_self]

-- `hv` is not used, as in `basic_idempotent`
set_option linter.unusedVariables false in
theorem basic_is_fixed (y : Sym) (h : y.WF) (b : Bin) (hv : 0 ≤ b.view ∧ b.view < y.V) :
    y.findSymOp (y.basic b) = SymOp.triv :=
  findSymOp_of_isBasic y h _ (basic_isBasic y h b)

end StirVerif.C03
