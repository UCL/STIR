/-
C03 — executable model of the symmetry bookkeeping and of the row cache of the projection matrix
(cylindrical scanner geometry).

Sources (pinned tree), transcribed line by line:
* the 16 classes `SymmetryOperation_PET_CartesianGrid_*` (+ `TrivialSymmetryOperation`):
  `transform_bin_coordinates`, `transform_view_segment_indices`, `transform_image_coordinates`
  — src/include/stir/recon_buildblock/SymmetryOperations_PET_CartesianGrid.inl:37-562  → `SymOp.onBin/onVS/onVoxel`;
  `transform_proj_matrix_elems_for_one_bin` — src/recon_buildblock/SymmetryOperations_PET_CartesianGrid.cxx
  (16 identical copies) and src/recon_buildblock/SymmetryOperation.cxx:30 → `SymOp.onRow`;
* `find_transform_z`, `find_sym_op_bin0`, `find_sym_op_general_bin`, `find_basic_view_segment_numbers`,
  `find_basic_bin` (all: the `"Cylindrical"` branch), `find_symmetry_operation_from_basic_bin`
  — src/include/stir/recon_buildblock/DataSymmetriesForBins_PET_CartesianGrid.inl:66, :120, :223, :398, :449, :665;
* the constructor's effective switches and `find_relation_between_coordinate_systems`
  — src/recon_buildblock/DataSymmetriesForBins_PET_CartesianGrid.cxx:238-378, :51-117; its x/y voxel-size guard
  (`fabs(dy - dx) > 2.E-3F`, :301) with `float` rounding → `squareVoxels`, `f32Round`, `Flags.effectiveVox/effectiveImg`;
* `ProjMatrixByBin::cache_key` and the bit widths — src/recon_buildblock/ProjMatrixByBin.cxx:197,
  src/include/stir/recon_buildblock/ProjMatrixByBin.h:202-204 (12 / 28 / 20; the comment in the .cxx is stale);
* `ProjMatrixByBin::{get_proj_matrix_elems_for_one_bin, get_cached_…, cache_…, clear_cache, enable_cache,
  store_only_basic_bins_in_cache, set_up}` — src/include/stir/recon_buildblock/ProjMatrixByBin.inl:48,
  src/recon_buildblock/ProjMatrixByBin.cxx:60-300; `ProjMatrixByBinUsingRayTracing::{set_up, set_*}` (the
  `already_setup` logic) — src/recon_buildblock/ProjMatrixByBinUsingRayTracing.cxx:160-260, :397;
* `ProjMatrixElemsForOneBin::merge` (two-pointer loop) — src/recon_buildblock/ProjMatrixElemsForOneBin.cxx:163;
* `ProjMatrixByBinUsingInterpolation::set_up` (no `already_setup` short cut) — src/recon_buildblock/ProjMatrixByBinUsingInterpolation.cxx:95.

`find_basic_view_segment_numbers` / `find_basic_bin` update their arguments in place and keep a `change` flag; the
model gives one expression per output variable (`basicView`, `basicSeg`, …) and one for the flag.
C semantics: `/` on `int` is `Int.tdiv`; `>> 1` is floor division by 2; 32-bit overflow is not modelled.
Axial quantities that are floats in the source but always multiples of 1/4 plane (`axial_pos_to_z_offset`,
`num_planes_per_scanner_ring * delta`) are carried as integers in quarter-plane units; `floor(x + 0.5)` is then
an integer floor division.  The ray tracer (`calculate_proj_matrix_elems_for_one_bin`, TOF kernel) is an
uninterpreted `compute`.  Core Lean only.
-/
namespace StirVerif.C03

/-- `stir::Bin` coordinates -/
structure Bin where
  seg : Int
  view : Int
  ax : Int
  tang : Int
  tof : Int
  deriving Repr, DecidableEq, Inhabited

/-- image index `BasicCoordinate<3,int>`: `c[1]=z, c[2]=y, c[3]=x` -/
structure Vox where
  z : Int
  y : Int
  x : Int
  deriving Repr, DecidableEq, Inhabited

/-- `ViewSegmentNumbers` -/
structure VS where
  view : Int
  seg : Int
  deriving Repr, DecidableEq, Inhabited

/-- one constructor per symmetry-operation class -/
inductive Kind
  | trivial | z_shift
  | swap_xmx_zq | swap_xmy_yx_zq | swap_xy_yx_zq
  | swap_xmy_yx | swap_xy_yx | swap_xmx | swap_ymy | swap_zq
  | swap_xmx_ymy_zq | swap_xy_ymx_zq | swap_xy_ymx | swap_xmy_ymx
  | swap_ymy_zq | swap_xmx_ymy | swap_xmy_ymx_zq
  deriving Repr, DecidableEq, Inhabited

/-- a symmetry operation object: its class and the constructor arguments it stores
    (`TrivialSymmetryOperation` stores nothing, `z_shift` only the two shifts: unused fields are 0) -/
structure SymOp where
  kind : Kind
  view180 : Int
  axShift : Int
  zShift : Int
  q : Int
  deriving Repr, DecidableEq, Inhabited

def SymOp.triv : SymOp := ⟨.trivial, 0, 0, 0, 0⟩

/-- `transform_bin_coordinates` -/
def SymOp.onBin (o : SymOp) (b : Bin) : Bin :=
  let V := o.view180
  let h := V.tdiv 2
  let a := b.ax + o.axShift
  match o.kind with
  | .trivial => b
  | .z_shift => { b with ax := a }
  | .swap_xmx_zq => { b with ax := a, view := V - b.view }
  | .swap_xmy_yx_zq => { b with ax := a, seg := -b.seg, view := b.view + h }
  | .swap_xy_yx_zq => { b with ax := a, view := h - b.view }
  | .swap_xmy_yx =>
    if b.view < h then { b with ax := a, view := b.view + h }
    else { b with ax := a, seg := -b.seg, view := b.view - h, tang := -b.tang }
  | .swap_xy_yx =>
    if b.view ≤ h then { b with ax := a, seg := -b.seg, view := h - b.view }
    else { b with ax := a, view := (3 * V).tdiv 2 - b.view, tang := -b.tang }
  | .swap_xmx =>
    if b.view ≠ 0 then { b with ax := a, seg := -b.seg, view := V - b.view }
    else { b with ax := a, tang := -b.tang }
  | .swap_ymy =>
    if b.view ≠ 0 then { b with ax := a, view := V - b.view, tang := -b.tang }
    else { b with ax := a, seg := -b.seg }
  | .swap_zq => { b with ax := a, seg := -b.seg }
  | .swap_xmx_ymy_zq => { b with ax := a, tang := -b.tang, tof := -b.tof }
  | .swap_xy_ymx_zq =>
    if b.view < h then { b with ax := a, view := b.view + h, tang := -b.tang }
    else { b with ax := a, seg := -b.seg, view := b.view - h }
  | .swap_xy_ymx =>
    if b.view < h then { b with ax := a, seg := -b.seg, view := b.view + h, tang := -b.tang }
    else { b with ax := a, view := b.view - h }
  | .swap_xmy_ymx =>
    if b.view ≤ h then { b with ax := a, view := h - b.view, tang := -b.tang }
    else { b with ax := a, seg := -b.seg, view := (3 * V).tdiv 2 - b.view }
  | .swap_ymy_zq => { b with ax := a, seg := -b.seg, view := V - b.view, tang := -b.tang }
  | .swap_xmx_ymy => { b with ax := a, seg := -b.seg, tang := -b.tang, tof := -b.tof }
  | .swap_xmy_ymx_zq => { b with ax := a, seg := -b.seg, view := h - b.view, tang := -b.tang }

/-- `transform_view_segment_indices` -/
def SymOp.onVS (o : SymOp) (p : VS) : VS :=
  let V := o.view180
  let h := V.tdiv 2
  match o.kind with
  | .trivial => p
  | .z_shift => p
  | .swap_xmx_zq => { p with view := V - p.view }
  | .swap_xmy_yx_zq => { seg := -p.seg, view := p.view + h }
  | .swap_xy_yx_zq => { p with view := h - p.view }
  | .swap_xmy_yx =>
    if p.view < h then { p with view := p.view + h } else { seg := -p.seg, view := p.view - h }
  | .swap_xy_yx =>
    if p.view ≤ h then { seg := -p.seg, view := h - p.view } else { p with view := (3 * V).tdiv 2 - p.view }
  | .swap_xmx => if p.view ≠ 0 then { seg := -p.seg, view := V - p.view } else p
  | .swap_ymy => if p.view ≠ 0 then { p with view := V - p.view } else { p with seg := -p.seg }
  | .swap_zq => { p with seg := -p.seg }
  | .swap_xmx_ymy_zq => p
  | .swap_xy_ymx_zq =>
    if p.view < h then { p with view := p.view + h } else { seg := -p.seg, view := p.view - h }
  | .swap_xy_ymx =>
    if p.view < h then { seg := -p.seg, view := p.view + h } else { p with view := p.view - h }
  | .swap_xmy_ymx =>
    if p.view ≤ h then { p with view := h - p.view } else { seg := -p.seg, view := (3 * V).tdiv 2 - p.view }
  | .swap_ymy_zq => { seg := -p.seg, view := V - p.view }
  | .swap_xmx_ymy => { p with seg := -p.seg }
  | .swap_xmy_ymx_zq => { seg := -p.seg, view := h - p.view }

/-- `transform_image_coordinates` -/
def SymOp.onVoxel (o : SymOp) (c : Vox) : Vox :=
  let zs := c.z + o.zShift            -- `c[1] += z_shift`
  let zq := o.q - c.z + o.zShift      -- `c[1] = q - c[1] + z_shift`
  match o.kind with
  | .trivial => c
  | .z_shift => { c with z := zs }
  | .swap_xmx_zq => { z := zq, y := c.y, x := -c.x }
  | .swap_xmy_yx_zq => { z := zq, y := c.x, x := -c.y }
  | .swap_xy_yx_zq => { z := zq, y := c.x, x := c.y }
  | .swap_xmy_yx => { z := zs, y := c.x, x := -c.y }
  | .swap_xy_yx => { z := zs, y := c.x, x := c.y }
  | .swap_xmx => { z := zs, y := c.y, x := -c.x }
  | .swap_ymy => { z := zs, y := -c.y, x := c.x }
  | .swap_zq => { z := zq, y := c.y, x := c.x }
  | .swap_xmx_ymy_zq => { z := zq, y := -c.y, x := -c.x }
  | .swap_xy_ymx_zq => { z := zq, y := -c.x, x := c.y }
  | .swap_xy_ymx => { z := zs, y := -c.x, x := c.y }
  | .swap_xmy_ymx => { z := zs, y := -c.x, x := -c.y }
  | .swap_ymy_zq => { z := zq, y := -c.y, x := c.x }
  | .swap_xmx_ymy => { z := zs, y := -c.y, x := -c.x }
  | .swap_xmy_ymx_zq => { z := zq, y := -c.x, x := -c.y }

/-! ## the symmetries object -/

/-- state of a constructed `DataSymmetriesForBins_PET_CartesianGrid` (cylindrical):
    the effective switches and the axial relation between bins and image planes.
    `delta2 s = 2·deltas[s]` (average ring difference), `zoff4 s = 4·axial_pos_to_z_offset[s]`. -/
structure Sym where
  V : Int
  d90 : Bool
  d180 : Bool
  swapSeg : Bool
  swapS : Bool
  shiftZ : Bool
  nppr : Int
  nppa : Int → Int
  delta2 : Int → Int
  zoff4 : Int → Int

/-- the five switches as requested by the caller -/
structure Flags where
  d90 : Bool
  d180 : Bool
  swapSeg : Bool
  swapS : Bool
  shiftZ : Bool
  deriving Repr, DecidableEq, Inhabited

/-- what the constructor does to the requested switches (cylindrical branch, in source order):
    90° ⇒ 180°; 90° off for non-square voxels and unless `num_views % 4 == 0`; 180° off unless `num_views % 2 == 0`;
    both off for a non-zero view offset; 90°/180°/swap_segment/swap_s off for TOF data and for an image whose
    origin is shifted in x or y.  `shift_z` is never changed. -/
def Flags.effective (f : Flags) (V : Int) (squareVoxels phiOffsetZero tof originXYZero : Bool) : Flags :=
  let d90 := f.d90
  let d180 := f.d90 || f.d180
  let d90 := if !squareVoxels then false else d90
  let d90 := if V.tmod 4 != 0 then false else d90
  let d180 := if V.tmod 2 != 0 then false else d180
  let (d90, d180) := if !phiOffsetZero && (d90 || d180) then (false, false) else (d90, d180)
  let (d90, d180) := if tof then (false, false) else (d90, d180)
  let swapSeg := if tof then false else f.swapSeg
  let swapS := if tof then false else f.swapS
  if !originXYZero && (d90 || d180 || swapSeg || swapS) then
    { d90 := false, d180 := false, swapSeg := false, swapS := false, shiftZ := f.shiftZ }
  else { d90 := d90, d180 := d180, swapSeg := swapSeg, swapS := swapS, shiftZ := f.shiftZ }

/-! ### the constructor's x/y voxel-size guard

`if (fabs(get_grid_spacing()[2] - get_grid_spacing()[3]) > 2.E-3F) do_symmetry_90degrees_min_phi = false;`
— src/recon_buildblock/DataSymmetriesForBins_PET_CartesianGrid.cxx:301.  The two grid spacings are `float`s
(`[2]` = y, `[3]` = x), their difference is a `float` subtraction (round to nearest even), `fabs` and the comparison
with the `float` literal are exact.  Voxel sizes are carried as the rationals the floats are. -/

/-- `2^e` as a rational -/
def pow2 (e : Int) : Rat := if e ≥ 0 then ((2 ^ e.toNat : Nat) : Rat) else 1 / ((2 ^ (-e).toNat : Nat) : Rat)

def qabs (q : Rat) : Rat := if q < 0 then -q else q

/-- `⌊log₂ q⌋` for `q > 0`: with `2^a ≤ num < 2^(a+1)`, `2^b ≤ den < 2^(b+1)` it is `a − b` or `a − b − 1` -/
def ilog2 (q : Rat) : Int :=
  let e0 : Int := (Nat.log2 q.num.natAbs : Int) - (Nat.log2 q.den : Int)
  if pow2 e0 ≤ q then e0 else e0 - 1

/-- nearest integer of `q ≥ 0`, ties to even -/
def roundHalfEven (q : Rat) : Int :=
  let f := q.floor
  let r := q - (f : Rat)
  if r < 1 / 2 then f else if 1 / 2 < r then f + 1 else if f % 2 = 0 then f else f + 1

/-- IEEE-754 binary32 round-to-nearest-even of a rational (normal and subnormal range: the spacing of the floats around
    `q` is `2^(max(⌊log₂|q|⌋, −126) − 23)`; overflow to infinity is not modelled) -/
def f32Round (q : Rat) : Rat :=
  if q = 0 then 0 else
  let a := qabs q
  let e := if ilog2 a < -126 then -126 else ilog2 a
  let quantum := pow2 (e - 23)
  let r := (roundHalfEven (a / quantum) : Rat) * quantum
  if q < 0 then -r else r

/-- the `float` literal `2.E-3F` = `0x1.0624dep-9` -/
def twoEm3F : Rat := 8589935 / 4294967296

/-- the guard leaves `do_symmetry_90degrees_min_phi` alone: `!(fabs(y_spacing - x_spacing) > 2.E-3F)` -/
def squareVoxels (vy vx : Rat) : Bool := !decide (twoEm3F < qabs (f32Round (vy - vx)))

/-- the constructor's effective switches from the voxel sizes of the image (`Flags.effective` with the guard evaluated) -/
def Flags.effectiveVox (f : Flags) (V : Int) (vy vx : Rat) (phiOffsetZero tof originXYZero : Bool) : Flags :=
  f.effective V (squareVoxels vy vx) phiOffsetZero tof originXYZero

/-- the constructor's effective switches from the image grid: voxel sizes and index ranges in y and x.
    `xyRangeGuard`: which constructor the implementation has — `false`: the constructor before the repair (/repo commit
    d5100fc15), the index ranges are not looked at; `true`: the constructor as it is, `do_symmetry_90degrees_min_phi` is
    also switched off unless the index ranges in y and x are the same
    (`min_index[2] == min_index[3] && max_index[2] == max_index[3]`). -/
def Flags.effectiveImg (f : Flags) (V : Int) (vy vx : Rat) (xyRangeGuard : Bool) (minY maxY minX maxX : Int)
    (phiOffsetZero tof originXYZero : Bool) : Flags :=
  f.effective V (squareVoxels vy vx && (!xyRangeGuard || (decide (minY = minX) && decide (maxY = maxX))))
    phiOffsetZero tof originXYZero

/-- axial description of the data and the image needed by `find_relation_between_coordinate_systems` -/
structure AxGeo where
  nppr : Int                 -- `num_planes_per_scanner_ring`  = round(ring spacing / z voxel size)
  nppa : Int → Int          -- `num_planes_per_axial_pos[s]`  = round(axial sampling / z voxel size)
  delta2 : Int → Int        -- 2 · average ring difference of the segment
  minAx : Int → Int
  maxAx : Int → Int
  minZ : Int                 -- image `get_min_index()`
  maxZ : Int
  originZ : Int              -- `origin.z() / z voxel size` (the constructor insists it is an integer)

/-- `axial_pos_to_z_offset[s]` (times 4):
    `(max_index + min_index)/2 − origin.z/spacing − (nppa·(max_ax + min_ax) + nppr·delta)/2` -/
def AxGeo.zoff4 (g : AxGeo) (s : Int) : Int :=
  2 * (g.maxZ + g.minZ) - 4 * g.originZ - (2 * (g.nppa s * (g.maxAx s + g.minAx s)) + g.nppr * g.delta2 s)

def Sym.make (V : Int) (f : Flags) (g : AxGeo) : Sym :=
  { V := V, d90 := f.d90, d180 := f.d180, swapSeg := f.swapSeg, swapS := f.swapS, shiftZ := f.shiftZ,
    nppr := g.nppr, nppa := g.nppa, delta2 := g.delta2, zoff4 := g.zoff4 }

def iabs (x : Int) : Int := if x < 0 then -x else x

/-- `find_transform_z`: `floor(2·nppa[s]·a + nppr·delta[s] + 2·axial_pos_to_z_offset[s] + 0.5)`;
    in quarter planes the argument of `floor` is `(8·nppa·a + 2·nppr·delta2 + 2·zoff4 + 2)/4` -/
def Sym.transformZ (y : Sym) (s a : Int) : Int :=
  (8 * (y.nppa s * a) + 2 * (y.nppr * y.delta2 s) + 2 * y.zoff4 s + 2) / 4

/-- the view number left by `find_basic_view_segment_numbers` -/
def Sym.basicView (y : Sym) (view : Int) : Int :=
  let view90 := y.V / 2          -- `num_views >> 1`
  let view45 := view90 / 2
  let view135 := view90 + view45
  if y.d90 = true then
    if view ≥ view135 then y.V - view
    else if view ≥ view90 then view - view90
    else if view > view45 then view90 - view
    else view
  else if y.d180 = true then
    if view > view90 then y.V - view else view
  else view

/-- the segment number left by `find_basic_view_segment_numbers` -/
def Sym.basicSeg (y : Sym) (seg : Int) : Int := if y.swapSeg = true ∧ seg < 0 then -seg else seg

/-- `find_basic_view_segment_numbers`: new pair and the returned flag (`true` in every branch that changes the
    view, otherwise whether the segment was swapped) -/
def Sym.findBasicVS (y : Sym) (p : VS) : VS × Bool :=
  let view90 := y.V / 2
  let view45 := view90 / 2
  let view135 := view90 + view45
  let viewChanged : Bool :=
    if y.d90 = true then decide (p.view ≥ view135 ∨ p.view ≥ view90 ∨ p.view > view45)
    else if y.d180 = true then decide (p.view > view90)
    else false
  (⟨y.basicView p.view, y.basicSeg p.seg⟩, viewChanged || decide (y.swapSeg = true ∧ p.seg < 0))

/-- `find_basic_bin` (cylindrical branch): basic bin and the `change` flag -/
def Sym.findBasicBin (y : Sym) (b : Bin) : Bin × Bool :=
  let vs := y.findBasicVS ⟨b.view, b.seg⟩
  (⟨y.basicSeg b.seg, y.basicView b.view,
    if y.shiftZ = true ∧ b.ax ≠ 0 then 0 else b.ax,
    if y.swapS = true ∧ b.tang < 0 then -b.tang else b.tang,
    if y.swapS = true ∧ b.tang < 0 then -b.tof else b.tof⟩,
   vs.2 || decide (y.swapS = true ∧ b.tang < 0) || decide (y.shiftZ = true ∧ b.ax ≠ 0))

def Sym.basic (y : Sym) (b : Bin) : Bin := (y.findBasicBin b).1

/-- the three constructor arguments computed at the top of `find_sym_op_bin0` / `find_sym_op_general_bin` -/
def Sym.newOp (y : Sym) (k : Kind) (seg ax : Int) : SymOp :=
  let q := y.transformZ (iabs seg) (if y.shiftZ = true then 0 else ax)
  let axShift := if y.shiftZ = true then ax else 0
  let zShift := if y.shiftZ = true then y.nppa seg * ax else 0
  match k with
  | .trivial => SymOp.triv
  | .z_shift => ⟨.z_shift, 0, axShift, zShift, 0⟩
  | .swap_xmx_zq | .swap_xmy_yx_zq | .swap_xy_yx_zq | .swap_zq | .swap_xmx_ymy_zq | .swap_xy_ymx_zq
  | .swap_ymy_zq | .swap_xmy_ymx_zq => ⟨k, y.V, axShift, zShift, q⟩
  | _ => ⟨k, y.V, axShift, zShift, 0⟩

/-- `if (z_shift == 0) Trivial else z_shift` -/
def Sym.mkShift (y : Sym) (seg ax : Int) : SymOp :=
  if (if y.shiftZ = true then y.nppa seg * ax else 0) = 0 then SymOp.triv else y.newOp .z_shift seg ax

/-- `find_sym_op_bin0` (tangential position 0) -/
def Sym.symOpBin0 (y : Sym) (seg view ax : Int) : SymOp :=
  let view180 := y.V
  let view135 := view180.tdiv 4 * 3
  let view90 := view180.tdiv 2
  let view45 := view180.tdiv 4
  if y.d90 = true ∧ view > view90 ∧ view ≤ view135 then
    if y.swapSeg = false ∨ seg ≥ 0 then y.newOp .swap_xmy_yx seg ax else y.newOp .swap_xmy_yx_zq seg ax
  else if y.d90 = true ∧ view > view45 ∧ view ≤ view90 then
    if y.swapSeg = false ∨ seg ≥ 0 then y.newOp .swap_xy_yx_zq seg ax else y.newOp .swap_xy_yx seg ax
  else if y.d180 = true ∧ view > view90 then
    if y.swapSeg = false ∨ seg ≥ 0 then y.newOp .swap_xmx_zq seg ax else y.newOp .swap_xmx seg ax
  else
    if y.swapSeg = true ∧ seg < 0 then y.newOp .swap_zq seg ax else y.mkShift seg ax

/-- `find_sym_op_general_bin` (tangential position `s ≠ 0`) -/
def Sym.symOpGeneral (y : Sym) (s seg view ax : Int) : SymOp :=
  let view180 := y.V
  let view135 := view180.tdiv 4 * 3
  let view90 := view180.tdiv 2
  let view45 := view180.tdiv 4
  if y.d90 = true ∧ view > view90 ∧ view ≤ view135 then
    if y.swapSeg = false ∨ seg > 0 then
      if y.swapS = false ∨ s > 0 then y.newOp .swap_xmy_yx seg ax else y.newOp .swap_xy_ymx_zq seg ax
    else if seg < 0 then
      if y.swapS = false ∨ s > 0 then y.newOp .swap_xmy_yx_zq seg ax else y.newOp .swap_xy_ymx seg ax
    else
      if y.swapS = false ∨ s > 0 then y.newOp .swap_xmy_yx seg ax else y.newOp .swap_xy_ymx seg ax
  else if y.d90 = true ∧ view > view45 ∧ view ≤ view90 then
    if y.swapSeg = false ∨ seg > 0 then
      if y.swapS = false ∨ s > 0 then y.newOp .swap_xy_yx_zq seg ax else y.newOp .swap_xmy_ymx seg ax
    else if seg < 0 then
      if y.swapS = false ∨ s > 0 then y.newOp .swap_xy_yx seg ax else y.newOp .swap_xmy_ymx_zq seg ax
    else
      if y.swapS = false ∨ s > 0 then y.newOp .swap_xy_yx seg ax else y.newOp .swap_xmy_ymx seg ax
  else if y.d180 = true ∧ view > view90 then
    if y.swapSeg = false ∨ seg > 0 then
      if y.swapS = false ∨ s > 0 then y.newOp .swap_xmx_zq seg ax else y.newOp .swap_ymy seg ax
    else
      if y.swapS = false ∨ s > 0 then y.newOp .swap_xmx seg ax else y.newOp .swap_ymy_zq seg ax
  else
    if y.swapSeg = false ∨ seg > 0 then
      if y.swapS = true ∧ s < 0 then y.newOp .swap_xmx_ymy_zq seg ax else y.mkShift seg ax
    else if seg < 0 then
      if y.swapS = true ∧ s < 0 then y.newOp .swap_xmx_ymy seg ax else y.newOp .swap_zq seg ax
    else
      if y.swapS = true ∧ s < 0 then y.newOp .swap_xmx_ymy seg ax else y.mkShift seg ax

/-- `find_symmetry_operation_from_basic_bin`: the operation (chosen from the *original* coordinates);
    the bin argument is replaced by `basic b`. -/
def Sym.findSymOp (y : Sym) (b : Bin) : SymOp :=
  if b.tang = 0 then y.symOpBin0 b.seg b.view b.ax else y.symOpGeneral b.tang b.seg b.view b.ax

/-! ## rows -/

/-- a `ProjMatrixElemsForOneBin`: its bin and its elements (voxel, value) -/
structure Row (α : Type) where
  bin : Bin
  elems : List (Vox × α)

def SymOp.onElems {α : Type} (o : SymOp) (e : List (Vox × α)) : List (Vox × α) :=
  e.map fun p => (o.onVoxel p.1, p.2)

/-- `transform_proj_matrix_elems_for_one_bin` -/
def SymOp.onRow {α : Type} (o : SymOp) (r : Row α) : Row α := ⟨o.onBin r.bin, o.onElems r.elems⟩

/-- `coordinates_less`: lexicographic on (z, y, x) -/
def Vox.lt (a b : Vox) : Bool := a.z < b.z || (a.z == b.z && (a.y < b.y || (a.y == b.y && a.x < b.x)))

/-- the two-pointer loop of `ProjMatrixElemsForOneBin::merge` (both inputs already sorted):
    equal coordinates are added, smaller ones of the second list are inserted, the rest appended -/
def mergeSorted {α : Type} [Add α] : List (Vox × α) → List (Vox × α) → List (Vox × α)
  | l1, [] => l1
  | [], l2 => l2
  | (c1, v1) :: t1, (c2, v2) :: t2 =>
    if c2 = c1 then (c1, v1 + v2) :: mergeSorted t1 t2
    else if c2.lt c1 then (c2, v2) :: mergeSorted ((c1, v1) :: t1) t2
    else (c1, v1) :: mergeSorted t1 ((c2, v2) :: t2)
termination_by l1 l2 => l1.length + l2.length

/-! ## the cache -/

def timingPosBits : Nat := 20
def tangPosBits : Nat := 12
def axialPosBits : Nat := 28

def signBit (x : Int) : Nat := if x ≥ 0 then 0 else 1

/-- `ProjMatrixByBin::cache_key` -/
def cacheKey (b : Bin) : Nat :=
  (signBit b.ax <<< (timingPosBits + tangPosBits + axialPosBits + 2))
  ||| (b.ax.natAbs <<< (timingPosBits + tangPosBits + 2))
  ||| (signBit b.tang <<< (timingPosBits + tangPosBits + 1))
  ||| (b.tang.natAbs <<< (timingPosBits + 1))
  ||| (signBit b.tof <<< timingPosBits)
  ||| b.tof.natAbs

/-- the guard of `ProjMatrixByBin::set_up` (evaluated only when caching is enabled): maximal absolute
    tangential / axial (segment 0 only!) / timing positions must fit their bit fields -/
def keyFits (maxAbsAx0 maxAbsTang maxAbsTof : Nat) : Bool :=
  !(maxAbsAx0 ≥ 1 <<< axialPosBits || maxAbsTang ≥ 1 <<< tangPosBits || maxAbsTof ≥ 1 <<< timingPosBits)

/-- position of a row in `cache_collection[view][segment]` (an `unordered_map` keyed by `cache_key`) -/
structure CKey where
  view : Int
  seg : Int
  key : Nat
  deriving DecidableEq, Repr

def CKey.of (b : Bin) : CKey := ⟨b.view, b.seg, cacheKey b⟩

/-- requested parameters of a `ProjMatrixByBinUsingRayTracing` (the `set_*` functions) -/
structure Params where
  flags : Flags
  ntl : Nat                    -- `num_tangential_LORs`
  restrictFOV : Bool
  actualBoundaries : Bool
  deriving DecidableEq, Repr, Inhabited

/-- what lies outside the model: for a geometry `g : G` and parameters, the symmetries object the constructor
    builds, the ray tracer, and the bit-field guard.

    A geometry `g : G` stands for exactly what `ProjMatrixByBinUsingRayTracing::set_up` stores and compares:
    the projection data info, and voxel size, origin and index range of the image (`VoxelsOnCartesianGrid`) — the
    property's "data geometry and image grid".  Equality on `G` is the conjunction of the four comparisons
    of `set_up` (`*proj_data_info_sptr == …`, `voxel_size == …`, `origin == …`, `min_index/max_index == …`). -/
structure World (G α : Type) where
  symOf : G → Params → Sym
  compute : G → Params → Bin → Option (List (Vox × α))     -- `none`: `error()` inside the ray tracer
  fits : G → Bool

/-- state of the matrix object -/
structure PM (G α : Type) where
  cacheDisabled : Bool := false
  basicOnly : Bool := true
  params : Params
  alreadySetup : Bool := false
  active : Option (G × Params) := none       -- geometry and parameters of the last effective `set_up`
  cache : List (CKey × Row α) := []

inductive Err | notSetUp | compute | keyBits
  deriving Repr, DecidableEq

variable {G α : Type}

/-- `get_cached_proj_matrix_elems_for_one_bin` -/
def PM.lookup (s : PM G α) (b : Bin) : Option (Row α) :=
  if s.cacheDisabled then none
  else (s.cache.find? fun e => e.1 == CKey.of b).map (·.2)

/-- `cache_proj_matrix_elems_for_one_bin`; `unordered_map::insert` does not overwrite an existing key -/
def PM.store (s : PM G α) (r : Row α) : PM G α :=
  if s.cacheDisabled then s
  else if (s.cache.find? fun e => e.1 == CKey.of r.bin).isSome then s
  else { s with cache := s.cache ++ [(CKey.of r.bin, r)] }

/-- `calculate_proj_matrix_elems_for_one_bin` (+ TOF kernel) for the bin of the row -/
def PM.calc (w : World G α) (s : PM G α) (g : G) (p : Params) (b : Bin) : Except Err (Row α) :=
  if !s.alreadySetup then .error .notSetUp
  else match w.compute g p b with
    | none => .error .compute
    | some e => .ok ⟨b, e⟩

/-- `get_proj_matrix_elems_for_one_bin` -/
def PM.get (w : World G α) (s : PM G α) (b : Bin) : Except Err (PM G α × Row α) :=
  match s.active with
  | none => .error .notSetUp
  | some (g, p) =>
    let y := w.symOf g p
    if s.basicOnly then
      let op := y.findSymOp b
      let b0 := y.basic b
      match s.lookup b0 with
      | some r => .ok (s, op.onRow r)
      | none =>
        match s.calc w g p b0 with
        | .error e => .error e
        | .ok r => .ok (s.store r, op.onRow r)
    else
      match s.lookup b with
      | some r => .ok (s, r)
      | none =>
        let op := y.findSymOp b
        let b0 := y.basic b
        match s.lookup b0 with
        | some r => let r' := op.onRow r; .ok (s.store r', r')
        | none =>
          match s.calc w g p b0 with
          | .error e => .error e
          | .ok r => let r' := op.onRow r; .ok (s.store r', r')

/-- events on a matrix object -/
inductive Ev (G : Type)
  | get (b : Bin)
  | clearCache
  | enableCache (v : Bool)
  | storeOnlyBasic (v : Bool)
  | setParams (p : Params)          -- any sequence of `set_*` calls
  | setUp (g : G)

/-- `ProjMatrixByBinUsingRayTracing::set_up` followed (inside) by `ProjMatrixByBin::set_up`;
    the early return, the bit-field guard, `cache_collection.recycle()` / `clear_cache()`.
    (ProjMatrixByBinUsingRayTracing.cxx:249-263, after the repair "set_up is skipped only if the index range of the
    image is unchanged as well": the early `return` is taken iff the object is set up for the current parameters and
    projection data, voxel size, origin **and** index range all agree, i.e. iff the geometry is the same.) -/
def PM.setUp [DecidableEq G] (w : World G α) (s : PM G α) (g : G) : Except Err (PM G α) :=
  if s.alreadySetup && (match s.active with | some (g', _) => decide (g' = g) | none => false) then .ok s
  else if !s.cacheDisabled && !w.fits g then .error .keyBits
  else .ok { s with active := some (g, s.params), cache := [], alreadySetup := true }

/-- one event; `get` also yields the row -/
def PM.step [DecidableEq G] (w : World G α) (s : PM G α) : Ev G → Except Err (PM G α × Option (Row α))
  | .get b => (s.get w b).map fun (s', r) => (s', some r)
  | .clearCache => .ok ({ s with cache := [] }, none)
  | .enableCache v => .ok ({ s with cacheDisabled := !v }, none)
  | .storeOnlyBasic v => .ok ({ s with basicOnly := v }, none)
  | .setParams p => .ok ({ s with alreadySetup := s.alreadySetup && decide (s.params = p), params := p }, none)
  | .setUp g => (s.setUp w g).map fun s' => (s', none)

/-- run a history on a matrix object; it ends at the first `error()` (an exception leaves the object in no defined
    state).  For every successful `get` it records the bin, the configuration (geometry, parameters) that the last
    successful `set_up` call *asked for*, and the returned row. -/
def PM.run [DecidableEq G] (w : World G α) : PM G α → Option (G × Params) → List (Ev G) → List (Bin × Option (G × Params) × Row α)
  | _, _, [] => []
  | s, cfg, ev :: rest =>
    match s.step w ev with
    | .error _ => []
    | .ok (s', out) =>
      let cfg' := match ev with
        | .setUp g => some (g, s.params)
        | _ => cfg
      match ev, out with
      | .get b, some r => (b, cfg, r) :: PM.run w s' cfg' rest
      | _, _ => PM.run w s' cfg' rest

/-! ## `ProjMatrixByBinUsingInterpolation`

Same base class (`get_proj_matrix_elems_for_one_bin`, the cache, `cache_key`, `enable_cache`, `store_only_basic_bins_in_cache`,
`clear_cache` are those of `ProjMatrixByBin`), same symmetries class, another `calculate_proj_matrix_elems_for_one_bin`
(uninterpreted `compute` of another `World`), the five switches set through the parser — and another `set_up`. -/

/-- `ProjMatrixByBinUsingInterpolation::set_up` (src/recon_buildblock/ProjMatrixByBinUsingInterpolation.cxx:95-143): there is
    no `already_setup` short cut — every call runs `ProjMatrixByBin::set_up` (bit-field guard,
    `cache_collection.recycle()`) and builds a new symmetries object from the switches as they are now. -/
def PM.setUpInterp [DecidableEq G] (w : World G α) (s : PM G α) (g : G) : Except Err (PM G α) :=
  PM.setUp w { s with alreadySetup := false } g

/-- one event on a `ProjMatrixByBinUsingInterpolation` (`setParams`: the parser) -/
def PM.stepInterp [DecidableEq G] (w : World G α) (s : PM G α) : Ev G → Except Err (PM G α × Option (Row α))
  | .setUp g => (s.setUpInterp w g).map fun s' => (s', none)
  | ev => s.step w ev

/-- `PM.run` for a `ProjMatrixByBinUsingInterpolation` -/
def PM.runInterp [DecidableEq G] (w : World G α) : PM G α → Option (G × Params) → List (Ev G) → List (Bin × Option (G × Params) × Row α)
  | _, _, [] => []
  | s, cfg, ev :: rest =>
    match s.stepInterp w ev with
    | .error _ => []
    | .ok (s', out) =>
      let cfg' := match ev with
        | .setUp g => some (g, s.params)
        | _ => cfg
      match ev, out with
      | .get b, some r => (b, cfg, r) :: PM.runInterp w s' cfg' rest
      | _, _ => PM.runInterp w s' cfg' rest

/-- what the property says a row is: the basic bin's computed elements, moved by the symmetry operation -/
def spec (w : World G α) (g : G) (p : Params) (b : Bin) : Option (Row α) :=
  let y := w.symOf g p
  (w.compute g p (y.basic b)).map fun e => ⟨b, (y.findSymOp b).onElems e⟩

end StirVerif.C03
