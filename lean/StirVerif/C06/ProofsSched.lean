/-
C06 — the two subset schedules of one full iteration: fixed order (`subsetNum`) and randomised order (`permute`).
-/
import StirVerif.C06.Model
import Mathlib.Data.List.Perm.Subperm
import Mathlib.Data.Nat.ModEq
import Mathlib.Data.List.Nodup

namespace StirVerif.C06

theorem subsetNum_nodup (n start s q : Nat) (hs : 1 ≤ s) (hq : q ≤ n) :
    ((List.range q).map fun i => subsetNum (s + i) start n).Nodup := by
  refine List.Nodup.map_on ?_ List.nodup_range
  intro a ha b hb hab
  rw [List.mem_range] at ha hb
  have e : ∀ i, s + i + start - 1 = (s + start - 1) + i := by omega
  rw [subsetNum, subsetNum, e, e] at hab
  -- `a, b < n` are congruent modulo `n`
  exact (Nat.ModEq.add_left_cancel' _ hab).eq_of_lt_of_lt (by omega) (by omega)

theorem schedule_perm (n start m : Nat) (hn : 0 < n) :
    ((List.range n).map fun k => subsetNum (m * n + 1 + k) start n).Perm (List.range n) := by
  have hnd := subsetNum_nodup n start (m * n + 1) n (by omega) (Nat.le_refl n)
  refine (List.subperm_of_subset hnd fun x hx => ?_).perm_of_length_le (by simp)
  obtain ⟨k, _, rfl⟩ := List.mem_map.1 hx
  exact List.mem_range.2 (Nat.mod_lt _ hn)

theorem removeAt_eq_eraseIdx (l : List Nat) (k : Nat) : removeAt l k = l.eraseIdx k :=
  (List.eraseIdx_eq_take_drop_succ l k).symm

theorem permuteAux_perm (draws : List Nat) : ∀ temp : List Nat, draws.length = temp.length →
    (permuteAux temp draws).Perm temp := by
  induction draws with
  | nil =>
    intro temp h
    rw [List.length_eq_zero_iff.1 h.symm]
    exact List.Perm.refl _
  | cons d ds ih =>
    intro temp h
    rw [List.length_cons] at h
    have hidx : (if d ≥ temp.length then temp.length - 1 else d) < temp.length := by
      split <;> omega
    have hp := List.getElem_cons_eraseIdx_perm hidx
    have hl := hp.length_eq
    rw [List.length_cons] at hl
    rw [permuteAux, List.getElem?_eq_getElem hidx, removeAt_eq_eraseIdx]
    exact ((ih _ (by omega)).cons _).trans hp

theorem permute_perm (n : Nat) (draws : List Nat) (h : draws.length = n) :
    (permute n draws).Perm (List.range n) :=
  permuteAux_perm draws (List.range n) (by simp [h])

end StirVerif.C06
