/-
C06 — the segment range an objective function processes, across re-use of the object:
`max_segment_num_to_process` and `max_segment_num_to_process_is_default` of
PoissonLogLikelihoodWithLinearModelForMeanAndProjData (.cxx:93-95 set_defaults, :417-422 the setter, :600-609 set_up).
"contain every (segment, view, TOF bin) of the data exactly once": of the data the object has NOW, unless a range was asked for.
Core Lean only.
-/
namespace StirVerif.C06

structure SegReq where
  value : Int
  isDefault : Bool
  deriving Repr, DecidableEq

/-- `set_defaults()` -/
def SegReq.new : SegReq := ⟨-1, false⟩

/-- `set_max_segment_num_to_process(m)` -/
def SegReq.request (_ : SegReq) (m : Int) : SegReq := ⟨m, false⟩

/-- `set_up` with data whose largest segment number is `d`; `none`: "max_segment_num_to_process is too large" -/
def SegReq.setUp (s : SegReq) (d : Int) : Option SegReq :=
  let s' : SegReq := if s.value == -1 || s.isDefault then ⟨d, true⟩ else s
  if s'.value > d then none else some s'

/-- the variant of the setter that returns early when the value is the one in force (it keeps `isDefault`) -/
def SegReq.requestEarlyReturn (s : SegReq) (m : Int) : SegReq := if s.value == m then s else ⟨m, false⟩

end StirVerif.C06
