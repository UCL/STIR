/-
C06 — the symmetry algebra of view/segment pairs: `findBasic` acts on the view and on the segment separately, `related` of a
basic pair is a product (related views × related segments), and the related set of a basic pair is the fibre of `findBasic`
over it (`mem_related_iff`).
-/
import StirVerif.C06.Model
import StirVerif.Common.ListNodup

namespace StirVerif.C06

/-- what the constructor establishes about the effective flags (`C06_effective_WF`) -/
structure Sym.WF (y : Sym) : Prop where
  Vpos : 0 < y.V
  h90 : y.d90 = true → y.d180 = true ∧ y.V % 4 = 0
  h180 : y.d180 = true → y.V % 2 = 0

/-- `view90 = H` and `view45 = Q` of the source: under `WF` nothing is rounded where a symmetry is on, so after `subst`
    the arithmetic handed to `omega` has no division -/
theorem Sym.WF.angles {y : Sym} (h : y.WF) :
    ∃ H Q, y.V / 2 = H ∧ H / 2 = Q ∧ (y.d180 = true → y.V = 2 * H) ∧ (y.d90 = true → y.d180 = true ∧ H = 2 * Q) := by
  refine ⟨_, _, rfl, rfl, fun e => ?_, fun e => ⟨(h.h90 e).1, ?_⟩⟩
  · have := h.h180 e
    omega
  · have := (h.h90 e).2
    omega

theorem nodup_append_ite_singleton {α : Type} {c : Prop} [Decidable c] {l : List α} {a : α} :
    (l ++ if c then [a] else []).Nodup ↔ l.Nodup ∧ (c → a ∉ l) := by
  split <;> simp [List.nodup_append, List.forall_mem_ne', *]

def pairs (L M : List Int) : List VS := L.flatMap fun u => M.map (VS.mk u)

theorem mem_pairs {L M : List Int} {w : VS} : w ∈ pairs L M ↔ w.view ∈ L ∧ w.seg ∈ M := by
  obtain ⟨u, t⟩ := w
  simp [pairs]

theorem pairs_nodup {L M : List Int} (hL : L.Nodup) (hM : M.Nodup) : (pairs L M).Nodup :=
  Common.nodup_flatMap_map hL (fun _ _ => hM) fun _ _ _ _ e => ⟨congrArg VS.view e, congrArg VS.seg e⟩

theorem pairs_length (L M : List Int) : (pairs L M).length = L.length * M.length := by
  simp [pairs, List.length_flatMap]

/-- the view of the pair `findBasic` returns (`findBasic_fst`) -/
def basicView (y : Sym) (v : Int) : Int :=
  if y.d90 = true then
    if v ≥ y.V / 2 + y.V / 2 / 2 then y.V - v
    else if v ≥ y.V / 2 then v - y.V / 2
    else if v > y.V / 2 / 2 then y.V / 2 - v
    else v
  else if y.d180 = true then
    if v > y.V / 2 then y.V - v else v
  else v

/-- the segment of the pair `findBasic` returns -/
def basicSeg (y : Sym) (s : Int) : Int := if y.swapSeg = true ∧ s < 0 then -s else s

theorem findBasic_fst (y : Sym) (p : VS) : (findBasic y p).1 = ⟨basicView y p.view, basicSeg y p.seg⟩ := by
  simp only [findBasic, basicView, basicSeg, Bool.and_eq_true, decide_eq_true_eq, apply_ite Prod.fst,
    apply_ite (VS.mk · (if y.swapSeg = true ∧ p.seg < 0 then -p.seg else p.seg))]

/-- the views that `findBasic` leaves alone -/
def IsBasicView (y : Sym) (v : Int) : Prop :=
  (y.d90 = true → v < y.V / 2 + y.V / 2 / 2 ∧ v < y.V / 2 ∧ v ≤ y.V / 2 / 2) ∧
    (y.d90 = false → y.d180 = true → v ≤ y.V / 2)

theorem isBasic_iff (y : Sym) (p : VS) :
    isBasic y p = true ↔ IsBasicView y p.view ∧ ¬ (y.swapSeg = true ∧ p.seg < 0) := by
  -- the flag is a chain of `if _ then true else _`: a disjunction (`Bool.if_true_left`), negated
  simp only [isBasic, findBasic, IsBasicView, Bool.and_eq_true, decide_eq_true_eq, apply_ite Prod.snd, Bool.not_eq_true',
    Bool.if_true_left, Bool.if_false_right, Bool.and_true, apply_ite (· = false), Bool.or_eq_false_iff,
    decide_eq_false_iff_not, Int.not_le, Int.not_lt, ge_iff_le, gt_iff_lt]
  cases y.d90 <;> cases y.d180
  all_goals simp only [if_true, if_false, Bool.false_eq_true, Bool.true_eq_false, true_imp_iff, false_imp_iff, true_and, and_assoc]

theorem isBasicView_basicView (y : Sym) (h : y.WF) (v : Int) (hv : 0 ≤ v ∧ v < y.V) :
    IsBasicView y (basicView y v) ∧ 0 ≤ basicView y v ∧ basicView y v < y.V := by
  obtain ⟨H, Q, e2, e4, a180, a90⟩ := h.angles
  obtain ⟨V, d90, d180, sw⟩ := y
  dsimp only at e2 hv a180 a90 ⊢
  simp only [IsBasicView, basicView, e2, e4] at hv a180 a90 ⊢
  cases d90 <;> cases d180
  all_goals simp only [if_true, if_false, Bool.false_eq_true, Bool.true_eq_false, true_imp_iff, false_imp_iff, true_and,
    and_true, false_and] at a180 a90 ⊢
  all_goals omega

theorem basicSeg_basic (y : Sym) (s : Int) : ¬ (y.swapSeg = true ∧ basicSeg y s < 0) := by
  rintro ⟨hsw, h⟩
  simp only [basicSeg, hsw, true_and] at h
  omega

/-- a basic pair of the data: what the symmetry lemmas ask of the argument of `related` -/
def BasicPair (y : Sym) (b : VS) : Prop := isBasic y b = true ∧ 0 ≤ b.view ∧ b.view < y.V

theorem findBasic_basic (y : Sym) (h : y.WF) (p : VS) (hv : 0 ≤ p.view ∧ p.view < y.V) : BasicPair y (findBasic y p).1 := by
  obtain ⟨hb, hr⟩ := isBasicView_basicView y h p.view hv
  rw [BasicPair, isBasic_iff, findBasic_fst]
  exact ⟨⟨hb, basicSeg_basic y p.seg⟩, hr⟩

/-- the views of `related` for a basic view, with the exact halves `V / 2`, `V / 2 / 2` for the C `/` and `%` (`related_eq`) -/
def relViews (y : Sym) (v : Int) : List Int :=
  [v] ++ (if y.d90 = true ∧ v ≠ y.V / 2 / 2 then [v + y.V / 2] else [])
    ++ (if y.d180 = true ∧ v ≠ 0 ∧ v ≠ y.V / 2 then [y.V - v] else [])
    ++ (if y.d90 = true ∧ v ≠ 0 ∧ v ≠ y.V / 2 / 2 then [y.V / 2 - v] else [])

def relSegs (y : Sym) (s : Int) : List Int := [s] ++ if y.swapSeg = true ∧ s ≠ 0 then [-s] else []

section views

variable (y : Sym) (h : y.WF) (v : Int) (hb : IsBasicView y v)
include h hb

theorem mem_relViews (hv : 0 ≤ v ∧ v < y.V) (u : Int) :
    u ∈ relViews y v ↔ (0 ≤ u ∧ u < y.V) ∧ basicView y u = v := by
  obtain ⟨H, Q, e2, e4, a180, a90⟩ := h.angles
  obtain ⟨V, d90, d180, sw⟩ := y
  dsimp only at e2 hv a180 a90 ⊢
  simp only [IsBasicView, relViews, basicView, e2, e4, List.mem_append, List.mem_singleton, List.mem_ite_nil_right]
    at hv hb a180 a90 ⊢
  cases d90 <;> cases d180
  all_goals simp only [if_true, if_false, Bool.false_eq_true, Bool.true_eq_false, true_imp_iff, false_imp_iff, true_and, and_true,
    false_and, or_false] at hb a180 a90 ⊢
  · constructor
    · intro hu
      omega
    · intro hu
      omega
  · subst a180
    constructor
    · intro hu
      omega
    · intro hu
      omega
  · subst a180 a90
    constructor
    · intro hu
      omega
    · intro hu
      omega

theorem relViews_nodup : (relViews y v).Nodup := by
  obtain ⟨H, Q, e2, e4, a180, a90⟩ := h.angles
  have hV := h.Vpos
  obtain ⟨V, d90, d180, sw⟩ := y
  dsimp only at e2 hV a180 a90 ⊢
  simp only [IsBasicView, relViews, e2, e4, nodup_append_ite_singleton, List.nodup_singleton, List.mem_append,
    List.mem_singleton, List.mem_ite_nil_right, true_and] at hb a180 a90 ⊢
  cases d90 <;> cases d180
  all_goals simp only [Bool.false_eq_true, Bool.true_eq_false, true_imp_iff, false_imp_iff, true_and, false_and, or_false,
    and_true] at hb a180 a90 ⊢
  all_goals omega

theorem relViews_length :
    (relViews y v).length =
      (if y.d180 = true ∧ v ≠ 0 ∧ v ≠ y.V / 2 then 2 else 1) * (if y.d90 = true ∧ v ≠ y.V / 2 / 2 then 2 else 1) := by
  obtain ⟨H, Q, e2, e4, a180, a90⟩ := h.angles
  have hV := h.Vpos
  obtain ⟨V, d90, d180, sw⟩ := y
  dsimp only at e2 hV a180 a90 ⊢
  simp only [IsBasicView, relViews, e2, e4, List.length_append, List.length_singleton, apply_ite List.length, List.length_nil]
    at hb a180 a90 ⊢
  cases d90 <;> cases d180
  all_goals simp only [Bool.false_eq_true, Bool.true_eq_false, true_imp_iff, false_imp_iff, true_and, and_true, false_and, if_false]
    at hb a180 a90 ⊢
  -- 1 + [c₂] + [c₃] + [c₂ ∧ c₃] = (1 + [c₃]) · (1 + [c₂]): in every case of the tests `omega` evaluates both sides or refutes the case
  all_goals repeat' split
  all_goals omega

end views

theorem mem_relSegs (y : Sym) (s : Int) (hs : ¬ (y.swapSeg = true ∧ s < 0)) (t : Int) :
    t ∈ relSegs y s ↔ basicSeg y t = s := by
  simp only [relSegs, basicSeg, List.mem_append, List.mem_singleton, List.mem_ite_nil_right]
  by_cases hsw : y.swapSeg = true <;>
    simp only [hsw, Bool.false_eq_true, true_and, false_and, or_false, if_false] at hs ⊢
  constructor
  · intro ht
    omega
  · intro ht
    omega

theorem relSegs_nodup (y : Sym) (s : Int) : (relSegs y s).Nodup := by
  simp only [relSegs, nodup_append_ite_singleton, List.nodup_singleton, List.mem_singleton, true_and]
  omega

theorem relSegs_length (y : Sym) (s : Int) :
    (relSegs y s).length = if y.swapSeg = true ∧ s ≠ 0 then 2 else 1 := by
  unfold relSegs
  split <;> rfl

theorem tmod_ne_zero_iff {v m : Int} (h0 : 0 ≤ v) (h1 : v ≤ m) : v.tmod m ≠ 0 ↔ v ≠ 0 ∧ v ≠ m := by
  by_cases h : v = m
  · subst h
    simp only [Int.tmod_self, ne_eq, not_true_eq_false, and_false]
  · rw [Int.tmod_eq_of_lt h0 (by omega)]
    simp only [ne_eq, h, not_false_eq_true, and_true]

theorem Sym.WF.tdiv {y : Sym} (h : y.WF) : y.V.tdiv 2 = y.V / 2 ∧ y.V.tdiv 4 = y.V / 2 / 2 := by
  have := h.Vpos
  rw [Int.tdiv_eq_ediv_of_nonneg (by omega), Int.tdiv_eq_ediv_of_nonneg (by omega)]
  omega

/-- the three tests of `get_related_view_segment_numbers` and `num_related_view_segment_numbers` (`view % view90 != 0`,
    `view % view90 != view45`, `view % view45 != 0`) on a basic view, in the terms of `relViews` -/
theorem test180_iff (y : Sym) (v : Int) (h0 : 0 ≤ v) (hb : IsBasicView y v) :
    (y.d180 && v.tmod (y.V / 2) != 0) = true ↔ y.d180 = true ∧ v ≠ 0 ∧ v ≠ y.V / 2 := by
  rw [Bool.and_eq_true, bne_iff_ne]
  refine and_congr_right fun e => tmod_ne_zero_iff h0 ?_
  cases e90 : y.d90
  · exact hb.2 e90 e
  · exact Int.le_of_lt (hb.1 e90).2.1

theorem test90_iff (y : Sym) (v : Int) (h0 : 0 ≤ v) (hb : IsBasicView y v) :
    (y.d90 && v.tmod (y.V / 2) != y.V / 2 / 2) = true ↔ y.d90 = true ∧ v ≠ y.V / 2 / 2 := by
  rw [Bool.and_eq_true, bne_iff_ne]
  refine and_congr_right fun e => ?_
  rw [Int.tmod_eq_of_lt h0 (hb.1 e).2.1]

theorem test45_iff (y : Sym) (v : Int) (h0 : 0 ≤ v) (hb : IsBasicView y v) :
    (y.d90 && v.tmod (y.V / 2 / 2) != 0) = true ↔ y.d90 = true ∧ v ≠ 0 ∧ v ≠ y.V / 2 / 2 := by
  rw [Bool.and_eq_true, bne_iff_ne]
  exact and_congr_right fun e => tmod_ne_zero_iff h0 (hb.1 e).2.2

theorem related_eq (y : Sym) (h : y.WF) (b : VS) (hb : BasicPair y b) :
    related y b = pairs (relViews y b.view) (relSegs y b.seg) := by
  obtain ⟨v, s⟩ := b
  obtain ⟨hb, h0, _⟩ := hb
  have hbv : IsBasicView y v := ((isBasic_iff y ⟨v, s⟩).1 hb).1
  dsimp only at h0
  have both : ∀ u : Int, (if (y.swapSeg && s != 0) = true then [VS.mk u s, VS.mk u (-s)] else [VS.mk u s]) =
      (relSegs y s).map (VS.mk u) := by
    intro u
    simp only [relSegs, Bool.and_eq_true, bne_iff_ne]
    split <;> rfl
  simp only [related, pairs, relViews, h.tdiv.1, h.tdiv.2, both, List.flatMap_append, List.flatMap_singleton,
    apply_ite (List.flatMap _), List.flatMap_nil, Bool.and_eq_right_iff_imp.2 fun e => (h.h90 e).1,
    test180_iff y v h0 hbv, test90_iff y v h0 hbv, test45_iff y v h0 hbv]
  cases e90 : y.d90
  · simp only [Bool.false_eq_true, false_and, if_false]
  · have hlt : v < y.V / 2 := (hbv.1 e90).2.1
    have t : (y.V / 2 - v + y.V).tmod y.V = y.V / 2 - v := by
      rw [Int.tmod_eq_emod_of_nonneg (by omega), Int.add_emod_right, Int.emod_eq_of_lt (by omega) (by omega)]
    simp only [if_pos hlt, t]

theorem mem_related_iff (y : Sym) (h : y.WF) (b : VS) (hb : BasicPair y b) (w : VS) :
    w ∈ related y b ↔ (0 ≤ w.view ∧ w.view < y.V) ∧ (findBasic y w).1 = b := by
  obtain ⟨hbv, hbs⟩ := (isBasic_iff y b).1 hb.1
  obtain ⟨v, s⟩ := b
  rw [related_eq y h _ hb, mem_pairs, mem_relViews y h v hbv hb.2, mem_relSegs y s hbs, findBasic_fst, VS.mk.injEq,
    and_assoc]

theorem related_nodup (y : Sym) (h : y.WF) (b : VS) (hb : BasicPair y b) : (related y b).Nodup := by
  rw [related_eq y h b hb]
  exact pairs_nodup (relViews_nodup y h b.view ((isBasic_iff y b).1 hb.1).1) (relSegs_nodup y b.seg)

/-- the source doubles `n` under a test -/
theorem ite_mul_two (c : Prop) [Decidable c] (a : Nat) : (if c then a * 2 else a) = a * if c then 2 else 1 := by
  split <;> simp

theorem numRelated_eq_length (y : Sym) (h : y.WF) (b : VS) (hb : BasicPair y b) :
    numRelated y b = (related y b).length := by
  have hbv := ((isBasic_iff y b).1 hb.1).1
  rw [related_eq y h b hb, pairs_length, relViews_length y h b.view hbv, relSegs_length]
  simp only [numRelated, h.tdiv.1, h.tdiv.2, test180_iff y b.view hb.2.1 hbv, test90_iff y b.view hb.2.1 hbv,
    Bool.and_eq_true, bne_iff_ne, ite_mul_two]

end StirVerif.C06
