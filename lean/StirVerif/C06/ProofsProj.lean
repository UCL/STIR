/-
C06 — the projectors' loops over subsets and TOF bins: the count of a (pair, TOF bin) in `projected` is the count of the
TOF bin times the count of the pair in `processed`.
-/
import StirVerif.C06.ProofsSubsets

namespace StirVerif.C06

open Subsets

namespace Proj

theorem count_flatMap_mul {α β γ : Type} [BEq β] [BEq γ] (L : List α) {f : α → List β} {g : α → List γ} {x : β} {z : γ}
    {c : Nat} (h : ∀ a ∈ L, (f a).count x = c * (g a).count z) : (L.flatMap f).count x = c * (L.flatMap g).count z := by
  induction L with
  | nil => simp
  | cons a L ih =>
    simp only [List.flatMap_cons, List.count_append, Nat.mul_add, h a List.mem_cons_self,
      ih fun b hb => h b (List.mem_cons_of_mem _ hb)]

theorem count_flatMap_const {α β : Type} [BEq β] (T : List α) (r : List β) (b : β) :
    (T.flatMap fun _ => r).count b = T.length * r.count b := by
  rw [List.count_flatMap, Function.comp_def, List.map_const', List.sum_replicate_nat]

theorem count_tof_block (T : List Int) (R : List VS) (k : Int) (p : VS) :
    (T.flatMap fun k' => R.map fun q => (q, k')).count (p, k) = T.count k * R.count p := by
  -- `T.count k` is a count in a loop as well: `T = T.flatMap fun k' => [k']`
  refine (count_flatMap_mul T (g := fun k' => [k']) (z := k) (c := R.count p) fun k' _ => ?_).trans ?_
  · by_cases hk : k' = k
    · subst hk
      rw [List.count_singleton_self, Nat.mul_one]
      exact List.count_map_of_injective R (fun q => (q, k')) (fun a b e => congrArg Prod.fst e) p
    · rw [List.count_singleton, if_neg (mt beq_iff_eq.1 hk), Nat.mul_zero, List.count_eq_zero]
      intro h
      obtain ⟨q, _, e⟩ := List.mem_map.1 h
      exact hk (congrArg Prod.snd e)
  · rw [List.flatMap_singleton', Nat.mul_comm]

theorem count_basics (R : VS → List VS) (B : List VS) (T : List Int) (k : Int) (p : VS) :
    (B.flatMap fun b => T.flatMap fun k' => (R b).map fun q => (q, k')).count (p, k) =
      T.count k * (B.flatMap R).count p :=
  count_flatMap_mul B fun b _ => count_tof_block T (R b) k p

theorem count_subsets (y : Sym) (minV maxV minSeg maxSeg minTof maxTof : Int) (n : Nat) (I : List Nat)
    (k : Int) (p : VS) :
    (I.flatMap fun i => projected y minV maxV minSeg maxSeg minTof maxTof i n).count (p, k) =
      (intRange minTof maxTof).count k *
        (I.flatMap fun i => processed y minV maxV minSeg maxSeg minTof maxTof i n).count p :=
  count_flatMap_mul I fun _ _ => count_basics (related y) _ _ k p

end Proj

end StirVerif.C06
