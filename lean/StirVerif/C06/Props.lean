/-
C06 — "Ordered subsets partition the data; every subset is used once per iteration".
Property theorems over the model of `Model.lean`.  All statements are for every number of views,
number of subsets and segment range (no bound).
-/
import StirVerif.C06.ProofsProj
import StirVerif.C06.ProofsRecon
import StirVerif.C06.SegRange

namespace StirVerif.C06

/-- what the constructor guarantees about the effective flags -/
theorem C06_effective_WF (V : Int) (hV : 0 < V) (a b c d : Bool) : (Sym.effective V a b c d).WF := by
  have e4 : V.tmod 4 = V % 4 := Int.tmod_eq_emod_of_nonneg (by omega)
  have e2 : V.tmod 2 = V % 2 := Int.tmod_eq_emod_of_nonneg (by omega)
  refine ⟨hV, ?_, ?_⟩
  · -- 90° survives only if `V % 4 = 0`; then `V % 2 = 0`, so 180° (requested along with 90°) survives too
    simp only [Sym.effective, e4, e2, bne_iff_ne, ne_eq, ite_not, Bool.if_false_left, Bool.if_false_right,
      Bool.and_eq_true, Bool.or_eq_true, decide_eq_true_eq, Bool.not_eq_eq_eq_not]
    rintro ⟨h4, hd, ha⟩
    exact ⟨⟨by omega, Or.inl ha⟩, h4⟩
  · simp only [Sym.effective, e2, bne_iff_ne, ne_eq, ite_not, Bool.if_false_right, Bool.and_eq_true, decide_eq_true_eq]
    exact fun h => h.1

/-- the related sets of the basic view/segment pairs partition all pairs:
    every pair lies in the related set of its basic pair … -/
theorem C06_mem_related_of_findBasic (y : Sym) (h : y.WF) (p : VS) (hv : 0 ≤ p.view ∧ p.view < y.V) :
    p ∈ related y (findBasic y p).1 ∧ isBasic y (findBasic y p).1 = true ∧
      0 ≤ (findBasic y p).1.view ∧ (findBasic y p).1.view < y.V :=
  have hb := findBasic_basic y h p hv
  ⟨(mem_related_iff y h _ hb p).2 ⟨hv, rfl⟩, hb⟩

/-- … every member of a related set has that basic pair, stays inside the view range, and only
    differs in the sign of the segment … -/
theorem C06_findBasic_of_mem_related (y : Sym) (h : y.WF) (b : VS) (hb : isBasic y b = true)
    (hv : 0 ≤ b.view ∧ b.view < y.V) (w : VS) (hw : w ∈ related y b) :
    (findBasic y w).1 = b ∧ 0 ≤ w.view ∧ w.view < y.V ∧ (w.seg = b.seg ∨ (y.swapSeg = true ∧ w.seg = -b.seg)) := by
  obtain ⟨hr, e⟩ := (mem_related_iff y h b ⟨hb, hv⟩ w).1 hw
  refine ⟨e, hr.1, hr.2, ?_⟩
  have es : basicSeg y w.seg = b.seg := by rw [← e, findBasic_fst]
  unfold basicSeg at es
  split at es
  · exact Or.inr ⟨‹_ ∧ _›.1, by omega⟩
  · exact Or.inl es

/-- … no pair is listed twice, and the reported count is the length of the list. -/
theorem C06_related_nodup (y : Sym) (h : y.WF) (b : VS) (hb : isBasic y b = true)
    (hv : 0 ≤ b.view ∧ b.view < y.V) : (related y b).Nodup ∧ numRelated y b = (related y b).length :=
  ⟨related_nodup y h b ⟨hb, hv⟩, numRelated_eq_length y h b ⟨hb, hv⟩⟩

/-- hypotheses under which the library builds subsets: `n ≥ 1` subsets, views
    `0 … V-1`, segment range symmetric if segments are swapped, and a symmetric TOF range (which
    `set_tof_mash_factor` guarantees) so that the TOF loop of `find_basic_vs_nums_in_subset` runs once -/
structure Cfg (y : Sym) (minSeg maxSeg minTof maxTof : Int) (n : Nat) : Prop where
  wf : y.WF
  npos : 0 < n
  seg : y.swapSeg = true → minSeg = -maxSeg
  tof : minTof = -maxTof ∧ 0 ≤ maxTof

/-- **membership**: a pair is processed for subset `i` iff it is a pair of the data and its basic
    pair's view is congruent to `i` modulo the number of subsets. -/
theorem C06_processed_mem_iff (y : Sym) (minSeg maxSeg minTof maxTof : Int) (n i : Nat)
    (c : Cfg y minSeg maxSeg minTof maxTof n) (hi : i < n) (p : VS) :
    p ∈ processed y 0 (y.V - 1) minSeg maxSeg minTof maxTof i n ↔
      (0 ≤ p.view ∧ p.view < y.V ∧ minSeg ≤ p.seg ∧ p.seg ≤ maxSeg ∧
        (findBasic y p).1.view % (n : Int) = i) :=
  processed_mem_iff y minSeg maxSeg minTof maxTof n i c.wf c.seg c.tof.1 hi p

/-- **no pair twice within a subset** -/
theorem C06_processed_nodup (y : Sym) (minSeg maxSeg minTof maxTof : Int) (n i : Nat)
    (c : Cfg y minSeg maxSeg minTof maxTof n) (hi : i < n) :
    (processed y 0 (y.V - 1) minSeg maxSeg minTof maxTof i n).Nodup :=
  processed_nodup y minSeg maxSeg minTof maxTof n i c.wf c.tof.1 hi

/-- **partition**: every (view, segment) of the data is processed by exactly one subset, exactly once
    (the count over the concatenation of all subsets is 1), and nothing outside the data is processed.
    (`processed` is what the correspondence run compares with the viewgrams that the real
    `BackProjectorByBin::back_project(ProjData, subset, n)` reads and `ForwardProjectorByBin::forward_project` writes,
    through `projected`, see `C06_projector_partition`; and with `TrivialDataSymmetriesForBins` = all flags off.) -/
theorem C06_subsets_partition (y : Sym) (minSeg maxSeg minTof maxTof : Int) (n : Nat)
    (c : Cfg y minSeg maxSeg minTof maxTof n) (p : VS) :
    ((List.range n).flatMap fun i => processed y 0 (y.V - 1) minSeg maxSeg minTof maxTof i n).count p =
      if 0 ≤ p.view ∧ p.view < y.V ∧ minSeg ≤ p.seg ∧ p.seg ≤ maxSeg then 1 else 0 :=
  subsets_partition y minSeg maxSeg minTof maxTof n c.wf c.npos c.seg c.tof p

/-- the TOF loop lists every basic pair `maxTof + minTof + 1` times: once iff `minTof = -maxTof` -/
theorem C06_tof_loop_multiplicity (y : Sym) (minV maxV minSeg maxSeg minTof maxTof : Int) (i n : Nat) (b : VS) :
    (basicVSInSubset y minV maxV minSeg maxSeg minTof maxTof i n).count b =
      (maxTof + minTof + 1).toNat * (basicVSInSubset y minV maxV minSeg maxSeg 0 0 i n).count b := by
  rw [Subsets.basicVSInSubset_tof_single (minTof := 0) (maxTof := 0) Int.neg_zero.symm, Subsets.basicVSInSubset_eq,
    Proj.count_flatMap_mul _ fun s _ => Proj.count_flatMap_const _ _ b, Subsets.intRange_length]
  congr 2
  omega

/-- **partition with TOF bins** — "the view/segment groups processed for the different subsets are disjoint and together
    contain every (segment, view, TOF bin) of the data exactly once": over all subsets the loops of
    `BackProjectorByBin::back_project(ProjData, subset, n)` / `ForwardProjectorByBin::forward_project(ProjData, subset, n)`
    (basic pairs of the subset × TOF bins × related pairs) touch every (view, segment, TOF bin) of the data exactly
    once and nothing else. -/
theorem C06_projector_partition (y : Sym) (minSeg maxSeg minTof maxTof : Int) (n : Nat)
    (c : Cfg y minSeg maxSeg minTof maxTof n) (p : VS) (k : Int) :
    ((List.range n).flatMap fun i => projected y 0 (y.V - 1) minSeg maxSeg minTof maxTof i n).count (p, k) =
      if (0 ≤ p.view ∧ p.view < y.V ∧ minSeg ≤ p.seg ∧ p.seg ≤ maxSeg) ∧ (minTof ≤ k ∧ k ≤ maxTof) then 1 else 0 := by
  rw [Proj.count_subsets, Subsets.count_intRange, C06_subsets_partition y minSeg maxSeg minTof maxTof n c p]
  by_cases h1 : (0 ≤ p.view ∧ p.view < y.V ∧ minSeg ≤ p.seg ∧ p.seg ≤ maxSeg)
  all_goals by_cases h2 : (minTof ≤ k ∧ k ≤ maxTof)
  all_goals simp only [h1, h2, and_self, and_false, false_and, if_true, if_false, Nat.mul_zero, Nat.mul_one]

/-- per subset the projectors touch exactly the processed pairs, each with every TOF bin (no hypothesis: also
    shows the multiplicity `maxTof + minTof + 1` of `C06_tof_loop_multiplicity` for an asymmetric TOF range) -/
theorem C06_projected_count (y : Sym) (minV maxV minSeg maxSeg minTof maxTof : Int) (i n : Nat) (p : VS) (k : Int) :
    (projected y minV maxV minSeg maxSeg minTof maxTof i n).count (p, k) =
      (intRange minTof maxTof).count k * (processed y minV maxV minSeg maxSeg minTof maxTof i n).count p :=
  Proj.count_basics (related y) _ _ k p

/-- **balance**: the reported flag is true exactly when all subsets process the same number of viewgrams
    (the correspondence run compares `balanced` with `subsets_are_approximately_balanced()` after the objective
    function's `set_up`, i.e. with the default `max_segment_num_to_process = -1` resolved by `resolveMaxSeg`, and on TOF data) -/
theorem C06_balanced_iff (y : Sym) (maxSeg : Int) (n : Nat) (h : y.WF) (hn : 0 < n) :
    balanced y 0 (y.V - 1) maxSeg n = true ↔
      ∀ i, i < n → (processed y 0 (y.V - 1) (-maxSeg) maxSeg 0 0 i n).length =
                   (processed y 0 (y.V - 1) (-maxSeg) maxSeg 0 0 0 n).length :=
  balanced_iff y maxSeg n h hn

/-- **schedule, fixed order**: in every block of `n` consecutive sub-iterations starting right after a
    multiple of `n`, each subset is used exactly once — for every start subset. -/
theorem C06_schedule_perm (n start m : Nat) (hn : 0 < n) :
    ((List.range n).map fun k => subsetNum (m * n + 1 + k) start n).Perm (List.range n) :=
  schedule_perm n start m hn

/-- **schedule, randomised order**: whatever the random draws are, the generated order is a
    permutation of the subsets (including the `index == n-i ⇒ index--` corner). -/
theorem C06_permute_perm (n : Nat) (draws : List Nat) (h : draws.length = n) :
    (permute n draws).Perm (List.range n) :=
  permute_perm n draws h

/-- **schedule of a whole run** — "within each full iteration every subset is used exactly once, also when the subset
    order is randomised or a non-zero start subset is chosen": in the list of subset numbers that
    `IterativeReconstruction::reconstruct` passes to the objective function for sub-iterations `s0 … N`, every full
    iteration `m·n+1 … (m+1)·n` that lies inside the run is a permutation of the subsets — for every start subset, start
    sub-iteration, number of sub-iterations, randomised or not, whatever `rand()` returns. -/
theorem C06_recon_full_iteration (n ss s0 N m : Nat) (rnd : Bool) (draw : Nat → Nat) (hn : 0 < n)
    (h1 : s0 ≤ m * n + 1) (h2 : (m + 1) * n ≤ N) :
    ∃ l : List Nat, ((reconSchedule n ss rnd s0 N draw).drop (m * n + 1 - s0)).take n = l.map some ∧
      l.Perm (List.range n) := by
  have hN : (m + 1) * n = m * n + n := by rw [Nat.add_mul, Nat.one_mul]
  unfold reconSchedule
  -- the sub-iterations of full iteration `m` are the `n` that follow the first `m·n + 1 - s0` of the run
  rw [Recon.reconLoop_drop, Recon.reconLoop_take, List.drop_range',
    List.take_range'_of_length_ge (by omega), Nat.mul_one, show s0 + (m * n + 1 - s0) = m * n + 1 by omega]
  exact Recon.block n ss rnd draw hn m _

/-- the schedule has one entry per sub-iteration `s0 … N`: positions in it are sub-iteration numbers minus `s0` -/
theorem C06_recon_length (n ss : Nat) (rnd : Bool) (s0 N : Nat) (draw : Nat → Nat) :
    (reconSchedule n ss rnd s0 N draw).length = N + 1 - s0 := by
  simp [reconSchedule, Recon.reconLoop_length]

/-- **every sub-iteration gets a valid subset number** — "subset schedules for all (num_subsets, start_subset,
    start_subiteration, randomise on/off)": for every start sub-iteration (also inside a full iteration), number of
    sub-iterations, start subset, randomised or not, whatever `rand()` returns, `get_subset_num` never indexes
    `_current_subset_array` outside its range and returns a number `< num_subsets`.
    (Before the repair bfafc063a this held only for fixed order or `(start_subiteration_num - 1) % num_subsets = 0`.) -/
theorem C06_recon_defined (n ss s0 N : Nat) (rnd : Bool) (draw : Nat → Nat) (hn : 0 < n) :
    ∀ e ∈ reconSchedule n ss rnd s0 N draw, ∃ x, e = some x ∧ x < n :=
  Recon.reconLoop_defined n ss rnd draw hn _ _ (Or.inl rfl)

/-- **the iteration in which a run starts**: the sub-iterations `s0, s0+1, …` up to the end of the full iteration that
    contains `s0` (all `num_subsets` of them if `s0` starts an iteration, fewer for a resumed run) use pairwise distinct
    subsets — randomised (they are read from one freshly generated permutation) or not. `1 ≤ s0` is what `set_up` enforces. -/
theorem C06_recon_first_iteration_nodup (n ss s0 N : Nat) (rnd : Bool) (draw : Nat → Nat) (hn : 0 < n) (hs : 1 ≤ s0) :
    ((reconSchedule n ss rnd s0 N draw).take (n - (s0 - 1) % n)).Nodup := by
  have hr : (s0 - 1) % n < n := Nat.mod_lt _ hn
  unfold reconSchedule
  rw [Recon.reconLoop_take, Recon.take_range'_min]
  generalize hq : min (n - (s0 - 1) % n) (N + 1 - s0) = q
  cases rnd with
  | false =>
    have h := (subsetNum_nodup n ss s0 q hs (by omega)).map (Option.some_injective _)
    rw [List.map_map] at h
    rw [Recon.reconLoop_fixed, List.range'_eq_map_range, List.map_map]
    exact h
  | true =>
    -- the entries are read from consecutive positions of one freshly generated permutation
    have hne : (⟨[], 0⟩ : SchedState).arr.length ≠ n := by
      simp
      omega
    rw [Recon.run_after_regen n ss draw ⟨[], 0⟩ s0 q hs (Or.inr hne) (by omega)]
    have hP := (Recon.gen_perm n draw ⟨[], 0⟩).nodup_iff.2 List.nodup_range
    exact ((hP.sublist (List.drop_sublist _ _)).sublist (List.take_sublist _ _)).map (Option.some_injective _)

/-- regression witness for the input on which the code before bfafc063a failed: 2 subsets, randomised order, run started
    at sub-iteration 2 of 4.  The old `get_subset_num` generated the order only when `(subiteration_num - 1) % num_subsets
    == 0`, so sub-iteration 2 indexed the still empty `_current_subset_array` (SIGSEGV).  The repaired code generates an
    order at sub-iteration 2 (array length 0 ≠ 2), reads its position 1, and generates the next one at sub-iteration 3. -/
theorem C06_recon_restart_regression :
    reconSchedule 2 0 true 2 4 (fun _ => 0) = [some 1, some 0, some 1] := by decide

example : reconSchedule 3 1 false 2 7 (fun _ => 0) = [some 2, some 0, some 1, some 2, some 0, some 1] := by decide
example : reconSchedule 3 0 true 4 9 (fun j => [2, 0, 0, 1, 1, 0].getD j 0) =
    [some 2, some 0, some 1, some 1, some 2, some 0] := by decide
example : (projected (Sym.effective 4 false true false true) 0 3 0 0 (-1) 1 1 2).length = 6 := by decide

example : Cfg (Sym.effective 16 true false true true) (-2) 2 (-3) 3 4 :=
  { wf := C06_effective_WF 16 (by decide) _ _ _ _
    npos := by decide
    seg := by
      intro _
      rfl
    tof := by decide }

/-! ### the segment range across re-use of an objective function (model `SegReq`, which the driver does not run: the harness applies
    this rule itself to find the request in force when it sets every second object up again with data of another number of
    segments, and the `balancedsu` line of that set-up goes through `balancedAfterSetUp` with that request) -/

/-- `set_up` in one piece: a default or unset range is filled in from the data (and then fits), a requested one is kept or refused -/
theorem SegReq.setUp_eq (s : SegReq) (d : Int) :
    s.setUp d = if s.value = -1 ∨ s.isDefault = true then some ⟨d, true⟩ else if s.value > d then none else some s := by
  simp only [SegReq.setUp, Bool.or_eq_true, beq_iff_eq]
  split
  · rw [if_neg (Int.lt_irrefl d)]
  · rfl

/-- a new object processes all segments of its data -/
theorem C06_new_object_uses_all_segments (d : Int) : SegReq.new.setUp d = some ⟨d, true⟩ := by
  rw [SegReq.setUp_eq]
  exact if_pos (Or.inl rfl)

/-- whatever the object went through before, a request for range `m` is what the next `set_up` uses (−1: all segments of the data;
    larger than the data: refused) — in particular when `m` is exactly the value an earlier `set_up` had filled in -/
theorem C06_requested_range_is_used (s : SegReq) (m d : Int) :
    (s.request m).setUp d = if m = -1 then some ⟨d, true⟩ else if m > d then none else some ⟨m, false⟩ := by
  simp only [SegReq.setUp_eq, SegReq.request, Bool.false_eq_true, or_false]

/-- a range that was filled in from the data follows the data the object is given next … -/
theorem C06_filled_in_range_follows_new_data (s s' : SegReq) (d d2 : Int) (h : s.setUp d = some s') (hd : s'.isDefault = true) :
    s'.setUp d2 = some ⟨d2, true⟩ := by
  -- `h` says where `s'` comes from; the conclusion holds for every `s'` with `isDefault`
  have _ := h
  rw [SegReq.setUp_eq, if_pos (Or.inr hd)]

/-- … and a range that was asked for stays (or the set-up is refused when the new data have fewer segments) -/
theorem C06_requested_range_stays (s s' : SegReq) (d d2 : Int) (h : s.setUp d = some s') (hd : s'.isDefault = false) :
    s'.setUp d2 = if s'.value > d2 then none else some s' := by
  rw [SegReq.setUp_eq] at h
  split at h
  · -- filled in from the data: `isDefault` would be set
    cases Option.some.inj h
    cases hd
  · -- kept: `s' = s`, which was neither unset nor a default
    split at h
    · cases h
    · cases Option.some.inj h
      rw [SegReq.setUp_eq, if_neg ‹_›]

/-- non-vacuity and a broken variant for comparison: set up with data of 1 segment pair, ask for 1, get data with 2: the range
    stays 1; with a setter that returns early when the value is the one in force it silently becomes 2 -/
example : ((SegReq.new.setUp 1).map fun s => (s.request 1).setUp 2) = some (some ⟨1, false⟩) := by decide
theorem C06_setter_early_return_is_wrong :
    ((SegReq.new.setUp 1).map fun s => (s.requestEarlyReturn 1).setUp 2) = some (some ⟨2, true⟩) := by decide

end StirVerif.C06
