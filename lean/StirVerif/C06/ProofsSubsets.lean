/-
C06 — the subsets partition the data: the loops of `find_basic_vs_nums_in_subset` list, for subset `i` of `n`, the basic
pairs whose view is `≡ i (mod n)`; with `mem_related_iff` a pair is processed for the subset of its basic view, once.
-/
import StirVerif.C06.ProofsSym
import StirVerif.Common.IntRange
import Mathlib.Data.List.Count

namespace StirVerif.C06

namespace Subsets

theorem mem_intRange {lo hi x : Int} : x ∈ intRange lo hi ↔ lo ≤ x ∧ x ≤ hi := by
  rw [intRange, Common.mem_map_range_add]
  omega

theorem intRange_nodup (lo hi : Int) : (intRange lo hi).Nodup := Common.nodup_map_range_add lo _

theorem intRange_length (lo hi : Int) : (intRange lo hi).length = (hi - lo + 1).toNat := by
  simp [intRange]

theorem count_intRange (lo hi k : Int) : (intRange lo hi).count k = if lo ≤ k ∧ k ≤ hi then 1 else 0 :=
  Common.count_of_nodup (intRange_nodup lo hi) mem_intRange

theorem intRange_self (a : Int) : intRange a a = [a] := by
  simp [intRange]

theorem mem_viewsOfSubset {minV maxV : Int} {i n : Nat} (npos : 0 < n) {v : Int} :
    v ∈ viewsOfSubset minV maxV i n ↔ v ≤ maxV ∧ ∃ k : Nat, v = minV + i + n * k := by
  have hn : (0 : Int) < n := by omega
  have step : ∀ k : Nat, (k : Int) ≤ (maxV - (minV + i)) / n ↔ minV + i + n * k ≤ maxV := by
    intro k
    rw [Int.le_ediv_iff_mul_le hn, Int.mul_comm]
    omega
  rw [viewsOfSubset, List.mem_ite_nil_left, List.mem_map]
  constructor
  · rintro ⟨hle, k, hk, rfl⟩
    have h0 : 0 ≤ (maxV - (minV + i)) / (n : Int) := Int.ediv_nonneg (by omega) (Int.le_of_lt hn)
    rw [List.mem_range] at hk
    exact ⟨(step k).1 (by omega), k, rfl⟩
  · rintro ⟨hv, k, rfl⟩
    have := Int.mul_nonneg (Int.le_of_lt hn) (Int.natCast_nonneg k)
    have := (step k).2 hv
    exact ⟨by omega, k, List.mem_range.2 (by omega), rfl⟩

theorem mem_viewsOfSubset_zero {V : Int} {i n : Nat} (hi : i < n) {v : Int} :
    v ∈ viewsOfSubset 0 (V - 1) i n ↔ (0 ≤ v ∧ v < V) ∧ v % (n : Int) = i := by
  have hn : (0 : Int) < n := by omega
  rw [mem_viewsOfSubset (Nat.zero_lt_of_lt hi)]
  constructor
  · rintro ⟨hle, k, rfl⟩
    have := Int.mul_nonneg (Int.le_of_lt hn) (Int.natCast_nonneg k)
    refine ⟨⟨by omega, by omega⟩, ?_⟩
    rw [Int.add_mul_emod_self_left, Int.emod_eq_of_lt (by omega) (by omega)]
    omega
  · rintro ⟨⟨h0, h1⟩, h2⟩
    have hq := Int.mul_ediv_add_emod v n
    have hq0 : 0 ≤ v / (n : Int) := Int.ediv_nonneg h0 (Int.le_of_lt hn)
    refine ⟨by omega, (v / (n : Int)).toNat, ?_⟩
    rw [Int.toNat_of_nonneg hq0]
    omega

theorem viewsOfSubset_nodup (minV maxV : Int) {i n : Nat} (npos : 0 < n) :
    (viewsOfSubset minV maxV i n).Nodup := by
  unfold viewsOfSubset
  split
  · exact List.nodup_nil
  · refine List.Nodup.map ?_ List.nodup_range
    intro a b h
    have h' : minV + (i : Int) + (n : Int) * (a : Int) = minV + i + n * b := h
    have h2 : (n : Int) * (a : Int) = n * b := by omega
    have := Int.eq_of_mul_eq_mul_left (show (n : Int) ≠ 0 by omega) h2
    omega

/-- the innermost (view) loop of `find_basic_vs_nums_in_subset` -/
def basicRow (y : Sym) (minV maxV : Int) (i n : Nat) (seg : Int) : List VS :=
  ((viewsOfSubset minV maxV i n).filter fun v => isBasic y ⟨v, seg⟩).map fun v => ⟨v, seg⟩

theorem basicVSInSubset_eq (y : Sym) (minV maxV minSeg maxSeg minTof maxTof : Int) (i n : Nat) :
    basicVSInSubset y minV maxV minSeg maxSeg minTof maxTof i n =
      (intRange minSeg maxSeg).flatMap fun seg =>
        (intRange (-minTof) maxTof).flatMap fun _ => basicRow y minV maxV i n seg := rfl

theorem basicVSInSubset_tof_single {y : Sym} {minV maxV minSeg maxSeg minTof maxTof : Int} {i n : Nat}
    (htof : minTof = -maxTof) :
    basicVSInSubset y minV maxV minSeg maxSeg minTof maxTof i n =
      (intRange minSeg maxSeg).flatMap fun seg => basicRow y minV maxV i n seg := by
  rw [basicVSInSubset_eq, htof, Int.neg_neg, intRange_self]
  simp

theorem mem_basicRow {y : Sym} {minV maxV : Int} {i n : Nat} {seg : Int} {b : VS} :
    b ∈ basicRow y minV maxV i n seg ↔
      b.seg = seg ∧ b.view ∈ viewsOfSubset minV maxV i n ∧ isBasic y b = true := by
  unfold basicRow
  simp only [List.mem_map, List.mem_filter]
  constructor
  · rintro ⟨v, ⟨hv, hb⟩, rfl⟩
    exact ⟨rfl, hv, hb⟩
  · rintro ⟨rfl, hv, hb⟩
    exact ⟨b.view, ⟨hv, hb⟩, rfl⟩

theorem mem_basicVS {y : Sym} {minSeg maxSeg minTof maxTof : Int} {i n : Nat}
    (hi : i < n) (htof : minTof = -maxTof) {b : VS} :
    b ∈ basicVSInSubset y 0 (y.V - 1) minSeg maxSeg minTof maxTof i n ↔
      BasicPair y b ∧ (minSeg ≤ b.seg ∧ b.seg ≤ maxSeg) ∧ b.view % (n : Int) = i := by
  rw [basicVSInSubset_tof_single htof]
  simp only [List.mem_flatMap, mem_intRange, mem_basicRow, mem_viewsOfSubset_zero hi]
  exact ⟨fun ⟨s, hs, e, ⟨hv, hm⟩, hb⟩ => ⟨⟨hb, hv⟩, e ▸ hs, hm⟩,
    fun ⟨⟨hb, hv⟩, hs, hm⟩ => ⟨b.seg, hs, rfl, ⟨hv, hm⟩, hb⟩⟩

theorem basicVS_nodup (y : Sym) (minV maxV minSeg maxSeg minTof maxTof : Int) {i n : Nat}
    (npos : 0 < n) (htof : minTof = -maxTof) :
    (basicVSInSubset y minV maxV minSeg maxSeg minTof maxTof i n).Nodup := by
  rw [basicVSInSubset_tof_single htof]
  exact Common.nodup_flatMap_map (intRange_nodup minSeg maxSeg) (fun _ _ => (viewsOfSubset_nodup minV maxV npos).filter _)
    fun _ _ _ _ e => ⟨congrArg VS.seg e, congrArg VS.view e⟩

end Subsets

open Subsets

/-- with swapped segments the segment range is symmetric, so a pair and its basic pair have their segments in range together -/
theorem findBasic_seg_range (y : Sym) {minSeg maxSeg : Int} (hseg : y.swapSeg = true → minSeg = -maxSeg) (p : VS) :
    minSeg ≤ (findBasic y p).1.seg ∧ (findBasic y p).1.seg ≤ maxSeg ↔ minSeg ≤ p.seg ∧ p.seg ≤ maxSeg := by
  simp only [findBasic_fst, basicSeg]
  split
  · have := hseg ‹_ ∧ _›.1
    constructor
    · intro hs
      omega
    · intro hs
      omega
  · rfl

theorem processed_mem_iff (y : Sym) (minSeg maxSeg minTof maxTof : Int) (n i : Nat)
    (wf : y.WF) (hseg : y.swapSeg = true → minSeg = -maxSeg)
    (htof : minTof = -maxTof) (hi : i < n) (p : VS) :
    p ∈ processed y 0 (y.V - 1) minSeg maxSeg minTof maxTof i n ↔
      (0 ≤ p.view ∧ p.view < y.V ∧ minSeg ≤ p.seg ∧ p.seg ≤ maxSeg ∧
        (findBasic y p).1.view % (n : Int) = i) := by
  simp only [processed, List.mem_flatMap, mem_basicVS hi htof]
  constructor
  · rintro ⟨b, ⟨hb, hs, h5⟩, hp⟩
    obtain ⟨hr, rfl⟩ := (mem_related_iff y wf b hb p).1 hp
    obtain ⟨g1, g2⟩ := (findBasic_seg_range y hseg p).1 hs
    exact ⟨hr.1, hr.2, g1, g2, h5⟩
  · rintro ⟨h1, h2, h3, h4, h5⟩
    have hb := findBasic_basic y wf p ⟨h1, h2⟩
    exact ⟨_, ⟨hb, (findBasic_seg_range y hseg p).2 ⟨h3, h4⟩, h5⟩, (mem_related_iff y wf _ hb p).2 ⟨⟨h1, h2⟩, rfl⟩⟩

theorem processed_nodup (y : Sym) (minSeg maxSeg minTof maxTof : Int) (n i : Nat)
    (wf : y.WF) (htof : minTof = -maxTof) (hi : i < n) :
    (processed y 0 (y.V - 1) minSeg maxSeg minTof maxTof i n).Nodup := by
  have basic := fun b hb =>
    ((mem_basicVS (y := y) (minSeg := minSeg) (maxSeg := maxSeg) (b := b) hi htof).1 hb).1
  -- a processed pair remembers the basic pair it is related to
  exact Common.nodup_flatMap_of_tag id (fun w => (findBasic y w).1)
    (by
      rw [List.map_id]
      exact basicVS_nodup y 0 (y.V - 1) minSeg maxSeg minTof maxTof (Nat.zero_lt_of_lt hi) htof)
    (fun b hb => related_nodup y wf b (basic b hb))
    fun b hb w hw => ((mem_related_iff y wf b (basic b hb) w).1 hw).2

theorem subsets_partition (y : Sym) (minSeg maxSeg minTof maxTof : Int) (n : Nat)
    (wf : y.WF) (npos : 0 < n) (hseg : y.swapSeg = true → minSeg = -maxSeg)
    (htof : minTof = -maxTof ∧ 0 ≤ maxTof) (p : VS) :
    ((List.range n).flatMap fun i => processed y 0 (y.V - 1) minSeg maxSeg minTof maxTof i n).count p =
      if 0 ≤ p.view ∧ p.view < y.V ∧ minSeg ≤ p.seg ∧ p.seg ≤ maxSeg then 1 else 0 := by
  have mem := fun i (hi : i ∈ List.range n) =>
    processed_mem_iff y minSeg maxSeg minTof maxTof n i wf hseg htof.1 (List.mem_range.1 hi)
  refine Common.count_of_nodup ?_ ?_
  · -- the subset of a pair is the residue of its basic view
    exact Common.nodup_flatMap_of_tag (fun i : Nat => (i : Int)) (fun w => (findBasic y w).1.view % (n : Int))
      (List.nodup_range.map fun _ _ e => Int.ofNat_inj.1 e)
      (fun i hi => processed_nodup y minSeg maxSeg minTof maxTof n i wf htof.1 (List.mem_range.1 hi))
      fun i hi w hw => ((mem i hi w).1 hw).2.2.2.2
  · rw [List.mem_flatMap]
    constructor
    · rintro ⟨i, hi, hp⟩
      obtain ⟨h1, h2, h3, h4, _⟩ := (mem i hi p).1 hp
      exact ⟨h1, h2, h3, h4⟩
    · rintro ⟨h1, h2, h3, h4⟩
      have e0 := Int.emod_nonneg (findBasic y p).1.view (show (n : Int) ≠ 0 by omega)
      have e1 := Int.emod_lt_of_pos (findBasic y p).1.view (show (0 : Int) < n by omega)
      have hi : ((findBasic y p).1.view % (n : Int)).toNat ∈ List.range n := List.mem_range.2 (by omega)
      exact ⟨_, hi, (mem _ hi p).2 ⟨h1, h2, h3, h4, by omega⟩⟩

theorem numVSInSubset_eq_length (y : Sym) (maxSeg : Int) {minTof maxTof : Int} (n i : Nat) (h : y.WF)
    (hi : i < n) (htof : minTof = -maxTof) :
    numVSInSubset y 0 (y.V - 1) maxSeg i n =
      (processed y 0 (y.V - 1) (-maxSeg) maxSeg minTof maxTof i n).length := by
  unfold processed
  rw [List.length_flatMap, List.map_congr_left fun b hb =>
      (numRelated_eq_length y h b ((mem_basicVS hi htof).1 hb).1).symm,
    basicVSInSubset_tof_single htof, List.map_flatMap]
  unfold numVSInSubset basicRow
  simp only [List.map_map]
  rfl

theorem balanced_iff (y : Sym) (maxSeg : Int) (n : Nat) (h : y.WF) (hn : 0 < n) :
    balanced y 0 (y.V - 1) maxSeg n = true ↔
      ∀ i, i < n → (processed y 0 (y.V - 1) (-maxSeg) maxSeg 0 0 i n).length =
                   (processed y 0 (y.V - 1) (-maxSeg) maxSeg 0 0 0 n).length := by
  simp only [balanced, List.all_eq_true, List.mem_range, beq_iff_eq]
  refine forall_congr' fun i => imp_congr_right fun hi => ?_
  rw [numVSInSubset_eq_length y maxSeg n i h hi Int.neg_zero.symm, numVSInSubset_eq_length y maxSeg n 0 h hn Int.neg_zero.symm]

end StirVerif.C06
