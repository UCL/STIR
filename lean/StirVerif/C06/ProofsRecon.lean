/-
C06 — the state machine of `get_subset_num` over a whole `reconstruct` run: one sub-iteration either regenerates
`_current_subset_array` or reads it, and the array is empty or a permutation of the subsets throughout.
-/
import StirVerif.C06.ProofsSched

namespace StirVerif.C06

namespace Recon

variable (n ss : Nat) (rnd : Bool) (draw : Nat → Nat)

theorem reconLoop_length (L : List Nat) : ∀ st, (reconLoop n ss rnd draw L st).length = L.length := by
  induction L with
  | nil =>
    intro st
    rfl
  | cons s L ih =>
    intro st
    simp [reconLoop, ih]

theorem reconLoop_drop (L : List Nat) : ∀ (k : Nat) st,
    (reconLoop n ss rnd draw L st).drop k =
      reconLoop n ss rnd draw (L.drop k) (reconState n ss rnd draw (L.take k) st) := by
  induction L with
  | nil =>
    intro k st
    simp [reconLoop]
  | cons s L ih =>
    intro k st
    cases k with
    | zero => rfl
    | succ k => simp [reconLoop, reconState, ih]

theorem reconLoop_take (L : List Nat) : ∀ (k : Nat) st,
    (reconLoop n ss rnd draw L st).take k = reconLoop n ss rnd draw (L.take k) st := by
  induction L with
  | nil =>
    intro k st
    simp [reconLoop]
  | cons s L ih =>
    intro k st
    cases k with
    | zero => simp [reconLoop]
    | succ k => simp [reconLoop, ih]

theorem reconLoop_append (A B : List Nat) (st : SchedState) :
    reconLoop n ss rnd draw (A ++ B) st =
      reconLoop n ss rnd draw A st ++ reconLoop n ss rnd draw B (reconState n ss rnd draw A st) :=
  (List.take_append_drop A.length _).symm.trans (by rw [reconLoop_take, reconLoop_drop, List.take_left, List.drop_left])

/-- sub-iterations that leave the state alone -/
theorem reconLoop_eq_map (f : Nat → Option Nat) (st : SchedState) (L : List Nat)
    (h : ∀ s ∈ L, getSubsetNum n ss rnd draw st s = (st, f s)) : reconLoop n ss rnd draw L st = L.map f := by
  induction L with
  | nil => rfl
  | cons s L ih =>
    rw [reconLoop, h s List.mem_cons_self, ih fun t ht => h t (List.mem_cons_of_mem _ ht), List.map_cons]

theorem reconLoop_fixed (L : List Nat) (st : SchedState) :
    reconLoop n ss false draw L st = L.map fun s => some (subsetNum s ss n) :=
  reconLoop_eq_map n ss false draw _ st L fun _ _ => rfl

/-- the order that `get_subset_num` generates in state `st` (from the next `n` draws) -/
def gen (st : SchedState) : List Nat := permute n ((List.range n).map fun i => draw (st.pos + i))

theorem gen_perm (st : SchedState) : (gen n draw st).Perm (List.range n) := permute_perm _ _ (by simp)

theorem gen_length (st : SchedState) : (gen n draw st).length = n := by
  simpa using (gen_perm n draw st).length_eq

theorem step_regen (st : SchedState) (s : Nat) (h : (s - 1) % n = 0 ∨ st.arr.length ≠ n) :
    getSubsetNum n ss true draw st s =
      (⟨gen n draw st, st.pos + n⟩, (gen n draw st)[(s - 1) % n]?) := by
  have hc : ((s - 1) % n == 0 || st.arr.length != n) = true := by
    rcases h with h | h
    · simp [h]
    · simp [h]
  simp [getSubsetNum, hc, gen]

theorem step_read (st : SchedState) (s : Nat) (h1 : (s - 1) % n ≠ 0) (h2 : st.arr.length = n) :
    getSubsetNum n ss true draw st s = (st, st.arr[(s - 1) % n]?) := by
  have hc : ((s - 1) % n == 0 || st.arr.length != n) = false := by
    simp [h1, h2]
  simp [getSubsetNum, hc]

theorem map_getElem?_range' (P : List Nat) (r q : Nat) (h : r + q ≤ P.length) :
    (List.range' r q).map (fun k => P[k]?) = ((P.drop r).take q).map some := by
  apply List.ext_getElem
  · rw [List.length_map, List.length_range', List.length_map, List.length_take, List.length_drop]
    omega
  · intro i h1 h2
    simp at h1
    simp

theorem take_range'_min (s len k : Nat) : (List.range' s len).take k = List.range' s (min k len) := by
  by_cases h : len ≤ k
  · rw [List.take_range'_of_length_le h, Nat.min_eq_right h]
  · rw [List.take_range'_of_length_ge (by omega), Nat.min_eq_left (by omega)]

/-- randomised order: `q` consecutive sub-iterations from `s ≥ 1` that stay inside one iteration, the first of which generates
    the order `P`, read `P` from position `(s - 1) % n` on -/
theorem run_after_regen (st : SchedState) (s q : Nat) (hs : 1 ≤ s)
    (h : (s - 1) % n = 0 ∨ st.arr.length ≠ n) (hq : (s - 1) % n + q ≤ n) :
    reconLoop n ss true draw (List.range' s q) st = (((gen n draw st).drop ((s - 1) % n)).take q).map some := by
  -- sub-iteration `s + j` reads position `(s - 1) % n + j`
  have idx : ∀ j, j < q → (s + j - 1) % n = (s - 1) % n + j := by
    intro j hj
    have hjn : j % n = j := Nat.mod_eq_of_lt (by omega)
    rw [show s + j - 1 = (s - 1) + j by omega, Nat.add_mod_of_add_mod_lt (by omega), hjn]
  have read : reconLoop n ss true draw (List.range' s q) st =
      (List.range' s q).map fun t => (gen n draw st)[(t - 1) % n]? := by
    cases q with
    | zero => rfl
    | succ q =>
      rw [List.range'_succ, reconLoop, step_regen n ss draw st s h,
        reconLoop_eq_map n ss true draw fun t => (gen n draw st)[(t - 1) % n]?]
      · rfl
      · intro t ht
        obtain ⟨j, hj, rfl⟩ : ∃ j, j < q ∧ t = s + (j + 1) := by
          rw [List.mem_range'_1] at ht
          exact ⟨t - (s + 1), by omega, by omega⟩
        refine step_read n ss draw _ _ ?_ (gen_length n draw st)
        rw [idx (j + 1) (by omega)]
        omega
  have hlen : (s - 1) % n + q ≤ (gen n draw st).length := by
    rw [gen_length]
    exact hq
  rw [read, ← map_getElem?_range' _ _ _ hlen, List.range'_eq_map_range,
    List.range'_eq_map_range (s := (s - 1) % n), List.map_map, List.map_map]
  refine List.map_congr_left fun j hj => ?_
  rw [Function.comp, Function.comp, idx j (List.mem_range.1 hj)]

/-- a full iteration `m·n+1 … (m+1)·n`, entered in any state, uses a permutation of the subsets -/
theorem block (hn : 0 < n) (m : Nat) (st : SchedState) :
    ∃ l : List Nat, reconLoop n ss rnd draw (List.range' (m * n + 1) n) st = l.map some ∧ l.Perm (List.range n) := by
  cases rnd with
  | false =>
    refine ⟨(List.range n).map fun k => subsetNum (m * n + 1 + k) ss n, ?_, schedule_perm n ss m hn⟩
    rw [reconLoop_fixed, List.range'_eq_map_range]
    simp [List.map_map, Function.comp_def]
  | true =>
    have h0 : (m * n + 1 - 1) % n = 0 := by simp
    refine ⟨gen n draw st, ?_, gen_perm n draw st⟩
    rw [run_after_regen n ss draw st (m * n + 1) n (by omega) (Or.inl h0) (by omega), h0, List.drop_zero,
      List.take_of_length_le (gen_length n draw st).le]

/-- the invariant of the randomised schedule: `_current_subset_array` is empty (never generated) or a permutation of the subsets -/
def ArrInv (n : Nat) (st : SchedState) : Prop := st.arr = [] ∨ st.arr.Perm (List.range n)

theorem step_defined (hn : 0 < n) (st : SchedState) (s : Nat) (hinv : ArrInv n st) :
    ArrInv n (getSubsetNum n ss rnd draw st s).1 ∧ ∃ x, (getSubsetNum n ss rnd draw st s).2 = some x ∧ x < n := by
  cases rnd with
  | false => exact ⟨hinv, _, rfl, Nat.mod_lt _ hn⟩
  | true =>
    have read : ∀ A : List Nat, A.Perm (List.range n) → ∃ x, A[(s - 1) % n]? = some x ∧ x < n := by
      intro A hA
      have hlt : (s - 1) % n < A.length := by
        rw [hA.length_eq, List.length_range]
        exact Nat.mod_lt _ hn
      exact ⟨A[(s - 1) % n], List.getElem?_eq_getElem hlt, List.mem_range.1 (hA.subset (List.getElem_mem hlt))⟩
    by_cases hc : (s - 1) % n = 0 ∨ st.arr.length ≠ n
    · rw [step_regen n ss draw st s hc]
      exact ⟨Or.inr (gen_perm n draw st), read _ (gen_perm n draw st)⟩
    · have h1 : (s - 1) % n ≠ 0 := fun h => hc (Or.inl h)
      have h2 : st.arr.length = n := Decidable.not_not.1 fun h => hc (Or.inr h)
      have hperm : st.arr.Perm (List.range n) := by
        rcases hinv with h | h
        · rw [h, List.length_nil] at h2
          omega
        · exact h
      rw [step_read n ss draw st s h1 h2]
      exact ⟨Or.inr hperm, read _ hperm⟩

theorem reconLoop_defined (hn : 0 < n) (L : List Nat) : ∀ st : SchedState, ArrInv n st →
    ∀ e ∈ reconLoop n ss rnd draw L st, ∃ x, e = some x ∧ x < n := by
  induction L with
  | nil =>
    intro st _ e he
    cases he
  | cons s L ih =>
    intro st hinv
    obtain ⟨k1, k2⟩ := step_defined n ss rnd draw hn st s hinv
    exact List.forall_mem_cons.2 ⟨k2, ih _ k1⟩

end Recon

end StirVerif.C06
