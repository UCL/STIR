import Mathlib.Data.List.Nodup
/-!
A nested loop (`flatMap`) lists nothing twice when every element it makes remembers which outer iteration made it
(`nodup_flatMap_of_tag`, `nodup_flatMap_map`).  The general form is `nodup_flatMap_of_key`: the outer elements need only have
distinct keys `ka x` (`(l.map ka).Nodup`, not `l.Nodup`), and an element made by two outer iterations forces equal keys.
And counting in a list without duplicates.
-/
namespace StirVerif.Common

theorem nodup_flatMap_of_key {α β γ : Type} {l : List α} {f : α → List β} (ka : α → γ)
    (hl : (l.map ka).Nodup) (hf : ∀ x ∈ l, (f x).Nodup)
    (hd : ∀ x ∈ l, ∀ x' ∈ l, ∀ y ∈ f x, y ∈ f x' → ka x = ka x') : (l.flatMap f).Nodup := by
  rw [List.nodup_flatMap]
  refine ⟨hf, (List.pairwise_map.mp hl).imp_of_mem fun {x x'} hx hx' hne => ?_⟩
  rw [Function.onFun, List.disjoint_left]
  exact fun y hy hy' => hne (hd x hx x' hx' y hy hy')

theorem nodup_flatMap_of_tag {α β γ : Type} {l : List α} {f : α → List β} (ka : α → γ) (tag : β → γ)
    (hl : (l.map ka).Nodup) (hf : ∀ x ∈ l, (f x).Nodup) (ht : ∀ x ∈ l, ∀ y ∈ f x, tag y = ka x) : (l.flatMap f).Nodup :=
  nodup_flatMap_of_key ka hl hf fun x hx x' hx' y hy hy' => (ht x hx y hy).symm.trans (ht x' hx' y hy')

theorem nodup_flatMap_map {α β γ : Type} {l : List α} {m : α → List β} {g : α → β → γ} (hl : l.Nodup)
    (hm : ∀ a ∈ l, (m a).Nodup) (hg : ∀ a b a' b', g a b = g a' b' → a = a' ∧ b = b') :
    (l.flatMap fun a => (m a).map (g a)).Nodup := by
  refine nodup_flatMap_of_key id (by rwa [List.map_id]) (fun a ha => (hm a ha).map fun b b' h => (hg _ _ _ _ h).2) ?_
  intro a _ a' _ y hy hy'
  obtain ⟨b, _, rfl⟩ := List.mem_map.1 hy
  obtain ⟨b', _, h⟩ := List.mem_map.1 hy'
  exact (hg _ _ _ _ h).1.symm

theorem count_of_nodup {α : Type} [DecidableEq α] {l : List α} (hl : l.Nodup) {a : α} {P : Prop} [Decidable P]
    (hmem : a ∈ l ↔ P) : l.count a = if P then 1 else 0 := by
  rw [hl.count]
  exact if_congr hmem rfl rfl

end StirVerif.Common
