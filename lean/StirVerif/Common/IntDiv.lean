/-!
C++ `/` and `%` on `int` (`Int.tdiv`, `Int.tmod`) for a non-negative dividend: the division algorithm and its uniqueness.
Beside them, independent of both: the only multiple `n * k` strictly between `-n` and `n` is `0` (`eq_zero_of_mul_lt`; both bounds are
hypotheses and force `0 < n`), which is how two remainders in `[0, n)` that differ by a multiple of `n` are seen to be equal.
-/
namespace StirVerif.Common

theorem tdiv_tmod_spec {x n : Int} (hx : 0 ≤ x) (hn : 0 < n) :
    0 ≤ x.tdiv n ∧ 0 ≤ x.tmod n ∧ x.tmod n < n ∧ x = n * x.tdiv n + x.tmod n :=
  ⟨Int.tdiv_nonneg hx (Int.le_of_lt hn), Int.tmod_nonneg n hx, Int.tmod_lt_of_pos x hn, (Int.mul_tdiv_add_tmod x n).symm⟩

theorem tdiv_tmod_of_form {q r p : Int} (hq : 0 ≤ q) (hr : 0 ≤ r) (hrp : r < p) :
    (q * p + r).tdiv p = q ∧ (q * p + r).tmod p = r := by
  have hx : 0 ≤ q * p + r := Int.add_nonneg (Int.mul_nonneg hq (by omega)) hr
  rw [Int.tdiv_eq_ediv_of_nonneg hx, Int.tmod_eq_emod_of_nonneg hx]
  exact (Int.ediv_emod_unique (by omega)).2 ⟨by rw [Int.mul_comm, Int.add_comm], hr, hrp⟩

theorem eq_zero_of_mul_lt {n k : Int} (h1 : -n < n * k) (h2 : n * k < n) : k = 0 := by
  have hn : 0 ≤ n := by omega
  have hlt : k < 1 := Int.lt_of_mul_lt_mul_left (a := n) (by omega) hn
  have hgt : -1 < k := Int.lt_of_mul_lt_mul_left (a := n) (by omega) hn
  omega

end StirVerif.Common
