import Mathlib.Algebra.Group.Defs
/-!
Folds that add: an array filled by `arr[i] += x` holds at `v` its old value plus the sum of the contributions
addressed to `v`; a running total `s + g x` is the start plus `List.sum`.
-/
namespace StirVerif.Common

theorem getD_foldl_modify_add {K : Type} [AddMonoid K] (cs : List (Nat × K)) (arr : Array K) {v : Nat} (hv : v < arr.size) :
    (cs.foldl (fun arr e => arr.modify e.1 (fun s => s + e.2)) arr).getD v 0 =
      arr.getD v 0 + (cs.map fun e => if e.1 = v then e.2 else 0).sum := by
  induction cs generalizing arr with
  | nil => simp
  | cons e cs ih =>
    rw [List.foldl_cons, ih _ (by simpa using hv), List.map_cons, List.sum_cons, ← add_assoc]
    congr 1
    simp only [Array.getD_eq_getD_getElem?, Array.getElem?_modify]
    by_cases h : e.1 = v
    · subst h
      simp [hv]
    · simp [h, hv]

theorem foldl_add_eq_sum {α K : Type} [AddMonoid K] (g : α → K) (l : List α) (s0 : K) :
    l.foldl (fun s x => s + g x) s0 = s0 + (l.map g).sum := by
  induction l generalizing s0 with
  | nil => simp
  | cons x l ih => rw [List.foldl_cons, ih, List.map_cons, List.sum_cons, add_assoc]

end StirVerif.Common
