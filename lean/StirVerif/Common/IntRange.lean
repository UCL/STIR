/-!
Consecutive integers `lo, lo+1, …, lo+n-1` as the models write them, `(List.range n).map fun k => lo + k`: unfolding a
model's `irange lo hi` / `intRange lo hi` gives this list with `n = (hi - lo + 1).toNat` or `(hi + 1 - lo).toNat`.
-/
namespace StirVerif.Common

theorem mem_map_range_add {lo x : Int} {n : Nat} :
    x ∈ (List.range n).map (fun (k : Nat) => lo + (k : Int)) ↔ lo ≤ x ∧ x < lo + n := by
  simp only [List.mem_map, List.mem_range]
  constructor
  · rintro ⟨k, hk, rfl⟩
    omega
  · rintro ⟨h1, h2⟩
    exact ⟨(x - lo).toNat, by omega, by omega⟩

theorem nodup_map_range_add (lo : Int) (n : Nat) : ((List.range n).map fun (k : Nat) => lo + (k : Int)).Nodup :=
  List.pairwise_map.2 (List.nodup_range.imp fun h e => h (Int.ofNat_inj.1 (Int.add_left_cancel e)))

theorem getElem?_map_range_add (lo : Int) {n k : Nat} (hk : k < n) :
    ((List.range n).map fun (k : Nat) => lo + (k : Int))[k]? = some (lo + k) := by
  rw [List.getElem?_map, List.getElem?_range hk]
  rfl

end StirVerif.Common
