/-
C13 — "Bin normalisation: apply and undo are inverse and match the bin efficiency".
Property theorems over the model of `Model.lean`, for every normalisation object (any nesting of chains), every bin,
every data value, every linearly ordered field `K` (the driver runs `K = Rat`) and every function `E : K → K` in the
place of `exp` (only `E (x + y) = E x * E y` and `0 < E x` are used, where stated).
`trueEff E n b` is the bin's efficiency as a field element; `Defined`, `AboveFloor`, `PosInputs` (Proofs.lean) are the
explicit side conditions.
-/
import StirVerif.C13.Proofs
import StirVerif.C13.ProofsHistory
import StirVerif.C13.ProofsParse
import Mathlib.Analysis.Complex.Exponential

namespace StirVerif.C13

-- the order instances on `K` are section variables that many statements do not need
set_option linter.unusedSectionVars false

variable {K : Type} [Field K] [LinearOrder K] [IsStrictOrderedRing K]

/-- "undoing the normalisation multiplies each bin by one fixed … factor, its efficiency": whenever `undo` returns a
    finite value at all, it is the input times `trueEff`, a factor that does not depend on the data value; and it returns
    a finite value exactly when no stored factor it divides by is zero. -/
theorem C13_undo_is_pointwise_eff (E : K → K) (n : Norm K) (b : Bin) (v : K) :
    (∀ w, undo E n b v = some w → w = v * trueEff E n b) ∧ ((undo E n b v).isSome ↔ Defined E n b) := by
  refine ⟨fun _ => undo_eq_some, fun h => ?_, fun h => ?_⟩
  · exact ((undo_eq_some_iff E n b v _).mp (Option.eq_some_of_isSome h)).1
  · rw [undo_of_defined E n b v h]
    rfl

/-- … in particular: where no stored factor that `undo` divides by is zero, `undo` returns the input times the efficiency -/
theorem C13_undo_defined (E : K → K) (n : Norm K) (b : Bin) (v : K) (h : Defined E n b) :
    undo E n b v = some (v * trueEff E n b) :=
  undo_of_defined E n b v h

/-- "… one fixed positive factor": positive factor data give a positive efficiency (and then nothing is divided by 0) -/
theorem C13_eff_pos (E : K → K) (n : Norm K) (b : Bin) (h : PosInputs E n b) :
    0 < trueEff E n b ∧ Defined E n b := by
  induction n with
  | null => exact ⟨one_pos, trivial⟩
  | trivial => exact ⟨one_pos, trivial⟩
  | table e => exact ⟨h, trivial⟩
  | calib u c br => exact ⟨div_pos h.1 (mul_pos h.2.1 h.2.2), (mul_pos h.2.1 h.2.2).ne'⟩
  | fromProjData f t => exact ⟨one_div_pos.mpr h, ne_of_gt h⟩
  | fromAtten vx row => exact ⟨one_div_pos.mpr h, ne_of_gt h⟩
  | fromComponents c => exact ⟨h, trivial⟩
  | chained n1 n2 ih1 ih2 => exact ⟨mul_pos (ih1 h.1).1 (ih2 h.2).1, (ih1 h.1).2, (ih2 h.2).2⟩

/-- "… which equals the efficiency the object reports for that bin where it reports one" -/
theorem C13_reported_is_eff (E : K → K) (n : Norm K) (b : Bin) (e : K) (h : reported n b = some e) :
    e = trueEff E n b ∧ ∀ v, undo E n b v = some (v * e) := by
  obtain ⟨rfl, hd⟩ := reported_eq E n b e h
  exact ⟨rfl, fun v => undo_of_defined E n b v hd⟩

/-- the classes that report no efficiency (`get_bin_efficiency` calls `error`), and chains containing one -/
theorem C13_reported_none (f : Bin → K) (t : Bool) (vx : K) (row : Bin → List (K × K)) (m : Norm K) (b : Bin) :
    reported (.fromProjData f t) b = none ∧ reported (.fromAtten vx row) b = none ∧
      reported (.chained (.fromProjData f t) m) b = none ∧ reported (.chained m (.fromAtten vx row)) b = none := by
  refine ⟨rfl, rfl, rfl, ?_⟩
  simp only [reported]
  cases reported m b <;> rfl

/-- "applying divides by the same factor" — where the efficiency is at least the floor `1e-20` (objects using the
    base-class `apply`) resp. non-zero (components) -/
theorem C13_apply_is_pointwise_inv (E : K → K) (floor : K) (hf : 0 < floor) (n : Norm K) (b : Bin) (v : K)
    (hd : Defined E n b) (ha : AboveFloor E floor n b) :
    apply E floor n b v = some (v / trueEff E n b) :=
  apply_of_aboveFloor E floor hf n b v hd ha

/-- "apply followed by undo restores the data wherever the efficiency is non-zero" (here: at least the floor), in both orders -/
theorem C13_apply_undo_id (E : K → K) (floor : K) (hf : 0 < floor) (n : Norm K) (b : Bin) (v : K)
    (hd : Defined E n b) (ha : AboveFloor E floor n b) :
    (apply E floor n b v).bind (undo E n b) = some v ∧ (undo E n b v).bind (apply E floor n b) = some v ∧
      trueEff E n b ≠ 0 :=
  ⟨undo_apply_id E floor hf n b v hd ha, apply_undo_id E floor hf n b v hd ha, trueEff_ne_zero E floor hf n b hd ha⟩

/-- the exact statement of what happens below the floor (base-class `apply`): the value is divided by the floor, so
    apply-then-undo multiplies by `efficiency / floor` instead of restoring the data -/
theorem C13_apply_below_floor (E : K → K) (floor : K) (hf : 0 < floor) (e : Bin → K) (b : Bin) (v : K)
    (h : ¬ floor < e b) :
    apply E floor (.table e) b v = some (v / floor) ∧
      (undo E (.table e) b v).bind (apply E floor (.table e) b) = some (v * e b / floor) ∧
      (apply E floor (.table e) b v).bind (undo E (.table e) b) = some (v / floor * e b) :=
  apply_table_below_floor E floor hf e b v h

/-- … and at efficiency 0 for the components class (`divide` with `0/0 = 0`): zero stays zero, anything else is not finite -/
theorem C13_components_zero_eff (E : K → K) (floor : K) (c : Components K) (b : Bin) (v : K) (h : c.invnorm b = 0) :
    apply E floor (.fromComponents c) b v = (if v = 0 then some 0 else none) ∧ undo E (.fromComponents c) b v = some 0 :=
  ⟨apply_components_zero_eff E floor c b v h, by simp only [undo, h, mul_zero]⟩

/-- the components class multiplies "efficiencies × geo × block factors" (inside the fan).  For the `comphand…`
    cases of the correspondence the three per-bin tables of the `Components` structure are built by hand from the raw component
    arrays (crystal pair of the bin, symmetry class of the pair by union-find, pair of blocks; scanners with several blocks per
    bucket), so this theorem is tied to `create_proj_data` / `apply_geo_norm` / `apply_block_norm` / `apply_efficiencies` and
    not only to the multiplication -/
theorem C13_components_eff_is_product (c : Components K) (b : Bin) :
    reported (.fromComponents c) b = some (if c.inFan b then
        (match c.block with | some B => B b | none => 1) *
        (match c.eff with | some (ea, eb) => ea b * eb b | none => 1) *
        (match c.geo with | some g => g b | none => 1)
      else 0) := by
  rw [reported, invnorm_eq]
  cases c.block <;> rcases c.eff with _ | ⟨ea, eb⟩ <;> cases c.geo <;>
    simp only [Option.elim, List.prod_cons, List.prod_nil, one_mul, mul_one, mul_assoc]

/-- `BinNormalisationFromProjData`: `apply` multiplies by the stored factor, `undo` divides by it (efficiency = 1/factor);
    `BinNormalisationWithCalibration`: efficiency = uncalibrated efficiency / (calibration factor × branching ratio) -/
theorem C13_directions (E : K → K) (floor : K) (f u : Bin → K) (t : Bool) (c br : K) (b : Bin) (v : K) :
    apply E floor (.fromProjData f t) b v = some (v * f (factorKey t b)) ∧
      trueEff E (.fromProjData f t) b = 1 / f (factorKey t b) ∧
      trueEff E (.calib u c br) b = u b / (c * br) :=
  ⟨rfl, rfl, rfl⟩

/-- "A chain has the product of its members' efficiencies": for a chain of any length, the efficiency is the product
    of the members' efficiencies; the reported efficiency is the product of the reported ones when every member
    reports one, and nothing is reported as soon as one member reports nothing -/
theorem C13_chain_eff_prod (E : K → K) (ns : List (Norm K)) (b : Bin) :
    trueEff E (chainOf ns) b = (ns.map fun n => trueEff E n b).prod ∧
      (∀ es : List K, ns.map (fun n => reported n b) = es.map some → reported (chainOf ns) b = some es.prod) ∧
      (∀ n ∈ ns, reported n b = none → reported (chainOf ns) b = none) := by
  induction ns with
  | nil =>
    refine ⟨by simp [chainOf, trueEff], fun es h => ?_, fun n hn => nomatch hn⟩
    cases es with
    | nil => rfl
    | cons e es => cases h
  | cons m ns ih =>
    obtain ⟨ih1, ih2, ih3⟩ := ih
    refine ⟨by simp [chainOf, trueEff, ih1], fun es h => ?_, fun n hn h => ?_⟩
    · cases es with
      | nil => cases h
      | cons e es =>
        simp only [List.map_cons, List.cons.injEq] at h
        simp [chainOf, reported, h.1, ih2 es h.2]
    · rcases List.mem_cons.mp hn with rfl | hm
      · simp [chainOf, reported, h]
      · simp only [chainOf, reported, ih3 n hm h]
        cases reported m b <;> rfl

/-- binary chains (the class itself): product, independent of the order of the members (for chains with a null
    member on either side see `C13_chain_null_member`; the correspondence also runs nested chains that are set up again after
    their members' factors were changed in place / for another geometry: only the outer chain's `set_up` is called, the model is
    given the members as they are then) -/
theorem C13_chain_binary (E : K → K) (n1 n2 : Norm K) (b : Bin) :
    trueEff E (.chained n1 n2) b = trueEff E n1 b * trueEff E n2 b ∧
      trueEff E (.chained n1 n2) b = trueEff E (.chained n2 n1) b :=
  ⟨rfl, mul_comm _ _⟩

/-- "apply followed by undo restores the data" for a chain of any length: where every member is defined and at least the floor
    (resp. non-zero), in both orders -/
theorem C13_chain_apply_undo (E : K → K) (floor : K) (hf : 0 < floor) (ns : List (Norm K)) (b : Bin) (v : K)
    (hd : ∀ n ∈ ns, Defined E n b) (ha : ∀ n ∈ ns, AboveFloor E floor n b) :
    (apply E floor (chainOf ns) b v).bind (undo E (chainOf ns) b) = some v ∧
      (undo E (chainOf ns) b v).bind (apply E floor (chainOf ns) b) = some v :=
  (apply_undo_inverse E floor hf _ b v ((defined_chainOf E ns b).mpr hd) ((aboveFloor_chainOf E floor ns b).mpr ha)).2

/-- "a normalisation that reports itself trivial changes nothing" — with the tolerance of `is_trivial` set to 0,
    for bins inside the fan, and provided the recorded min/max of each component bound its values -/
theorem C13_trivial_id_partial (E : K → K) (floor : K) (n : Norm K) (h : isTrivial 0 n = true)
    (hr : ∀ c, n = .fromComponents c → c.RangeOK) (b : Bin) (hb : ∀ c, n = .fromComponents c → c.inFan b = true) (v : K) :
    apply E floor n b v = some v ∧ undo E n b v = some v ∧ reported n b = some 1 := by
  cases n with
  | trivial => simp [apply, undo, reported]
  | fromComponents c =>
    have h1 := invnorm_of_trivial c (hr c rfl) h b (hb c rfl)
    simp [apply, undo, reported, h1, divide0, fdiv]
  | _ => simp [isTrivial] at h

/-- … and with the real tolerance (`.0001` per component array, any `0 ≤ tol ≤ 1`): a components object that reports itself
    trivial changes every in-fan bin by a factor between `(1-tol)^4` and `(1+tol)^4` (block × two crystals × geometric factor) -/
theorem C13_trivial_within_tolerance (E : K → K) (tol : K) (c : Components K) (h0 : 0 ≤ tol) (h1 : tol ≤ 1)
    (hr : c.RangeOK) (ht : isTrivial tol (.fromComponents c) = true) (b : Bin) (hb : c.inFan b = true) (v : K) (hv : 0 ≤ v) :
    ∃ w, undo E (.fromComponents c) b v = some w ∧ v * (1 - tol) ^ 4 ≤ w ∧ w ≤ v * (1 + tol) ^ 4 := by
  obtain ⟨lo, hi⟩ := invnorm_within c tol h0 h1 hr ht b hb
  exact ⟨v * c.invnorm b, rfl, mul_le_mul_of_nonneg_left lo hv, mul_le_mul_of_nonneg_left hi hv⟩

/-- "A chain has the product of its members' efficiencies" — for the partial application of a chain
    (`ChainedBinNormalisation::apply_only_first/second`, `undo_only_first/second`): each half multiplies (divides) by the
    efficiency of that member alone, the two halves one after the other are the chain, and each half is inverted by its own
    counterpart under that member's side conditions -/
theorem C13_chain_partial (E : K → K) (floor : K) (hf : 0 < floor) (n1 n2 : Norm K) (b : Bin) (v : K) :
    (applyOnlyFirst E floor n1 n2 b v).bind (applyOnlySecond E floor n1 n2 b) = apply E floor (.chained n1 n2) b v ∧
      (undoOnlyFirst E n1 n2 b v).bind (undoOnlySecond E n1 n2 b) = undo E (.chained n1 n2) b v ∧
      (∀ w, undoOnlyFirst E n1 n2 b v = some w → w = v * trueEff E n1 b) ∧
      (∀ w, undoOnlySecond E n1 n2 b v = some w → w = v * trueEff E n2 b) ∧
      trueEff E (.chained n1 n2) b = trueEff E n1 b * trueEff E n2 b ∧
      (Defined E n1 b → AboveFloor E floor n1 b →
        applyOnlyFirst E floor n1 n2 b v = some (v / trueEff E n1 b) ∧
        (applyOnlyFirst E floor n1 n2 b v).bind (undoOnlyFirst E n1 n2 b) = some v ∧
        (undoOnlyFirst E n1 n2 b v).bind (applyOnlyFirst E floor n1 n2 b) = some v) ∧
      (Defined E n2 b → AboveFloor E floor n2 b →
        applyOnlySecond E floor n1 n2 b v = some (v / trueEff E n2 b) ∧
        (applyOnlySecond E floor n1 n2 b v).bind (undoOnlySecond E n1 n2 b) = some v ∧
        (undoOnlySecond E n1 n2 b v).bind (applyOnlySecond E floor n1 n2 b) = some v) :=
  ⟨rfl, rfl, fun _ => undo_eq_some, fun _ => undo_eq_some, rfl,
   apply_undo_inverse E floor hf n1 b v, apply_undo_inverse E floor hf n2 b v⟩

/-- a chain with one null member (either side) is its other member: same `apply`, `undo`, efficiency and reported
    efficiency; the half that addresses the null member does nothing and `is_first/second_trivial` of it is an error -/
theorem C13_chain_null_member (E : K → K) (floor tol : K) (n : Norm K) (b : Bin) (v : K) :
    apply E floor (.chained n .null) b v = apply E floor n b v ∧ apply E floor (.chained .null n) b v = apply E floor n b v ∧
      undo E (.chained n .null) b v = undo E n b v ∧ undo E (.chained .null n) b v = undo E n b v ∧
      trueEff E (.chained n .null) b = trueEff E n b ∧ trueEff E (.chained .null n) b = trueEff E n b ∧
      reported (.chained n .null) b = reported n b ∧ reported (.chained .null n) b = reported n b ∧
      applyOnlySecond E floor n .null b v = some v ∧ undoOnlySecond E n .null b v = some v ∧
      applyOnlyFirst E floor .null n b v = some v ∧ undoOnlyFirst E .null n b v = some v ∧
      isSecondTrivial tol n .null = none ∧ isFirstTrivial tol .null n = none :=
  ⟨apply_chain_null_right E floor n b v, apply_chain_null_left E floor n b v, undo_chain_null_right E n b v,
   undo_chain_null_left E n b v, mul_one _, one_mul _, reported_chain_null_right n b,
   reported_chain_null_left n b, rfl, rfl, rfl, rfl, rfl, rfl⟩

/-- "a normalisation that reports itself trivial changes nothing" — for a member of a chain asked through
    `is_first_trivial()` / `is_second_trivial()`: the corresponding half of the chain changes nothing (same side
    conditions as `C13_trivial_id_partial`: tolerance 0, in-fan bins, recorded ranges bound the values) -/
theorem C13_chain_member_trivial_partial (E : K → K) (floor : K) (n1 n2 : Norm K) (b : Bin) (v : K) :
    (isFirstTrivial 0 n1 n2 = some true → (∀ c, n1 = .fromComponents c → c.RangeOK ∧ c.inFan b = true) →
        applyOnlyFirst E floor n1 n2 b v = some v ∧ undoOnlyFirst E n1 n2 b v = some v) ∧
      (isSecondTrivial 0 n1 n2 = some true → (∀ c, n2 = .fromComponents c → c.RangeOK ∧ c.inFan b = true) →
        applyOnlySecond E floor n1 n2 b v = some v ∧ undoOnlySecond E n1 n2 b v = some v) := by
  have key : ∀ n : Norm K, isTrivial 0 n = true → (∀ c, n = .fromComponents c → c.RangeOK ∧ c.inFan b = true) →
      apply E floor n b v = some v ∧ undo E n b v = some v := fun n h hc =>
    have := C13_trivial_id_partial E floor n h (fun c hn => (hc c hn).1) b (fun c hn => (hc c hn).2) v
    ⟨this.1, this.2.1⟩
  -- `isSecondTrivial tol n1 n2` is by definition `isFirstTrivial tol n2 n1` (the same `match` on the member asked)
  exact ⟨fun h => key n1 (isTrivial_of_isFirstTrivial 0 n1 n2 h), fun h => key n2 (isTrivial_of_isFirstTrivial 0 n2 n1 h)⟩

/-- "`_already_set_up / proj_data_info_sptr`: geometry the object was set up for (checked on use)":
    `apply/undo(RelatedViewgrams&)` of any object (any nesting of chains) runs iff every member that has a check was set up for
    a geometry `>=` that of the data — the set-up state of a chain itself, of a `TrivialBinNormalisation` and of null members
    is not looked at; the whole-data versions additionally need the object's own state and equal `ExamInfo` -/
theorem C13_use_is_checked (examEq : Bool) (t : UseTree) :
    (useRV t = true ↔ t.AllSetUp) ∧
      (useWhole examEq t = true ↔ ownCheck t = true ∧ examEq = true ∧ t.AllSetUp) := by
  refine ⟨useRV_iff t, ?_⟩
  simp [useWhole, useRV_iff, and_assoc]

/-- the two refusals by `error()` in `set_up`: the attenuation class on TOF data (TOF mashing factor `> 0`: also TOF data mashed
    to ONE TOF bin — repaired code, fix C13-2, see `fromAttenSetUp` in Model.lean), the components class on TOF data, data with view mashing or data with
    axial compression -/
theorem C13_set_up_refusals (tofMashFactor : Int) (tof mash span : Bool) :
    (fromAttenSetUp tofMashFactor = true ↔ tofMashFactor ≤ 0) ∧
      (componentsSetUp tof mash span = true ↔ tof = false ∧ mash = false ∧ span = false) := by
  constructor
  · simp [fromAttenSetUp, isTofData]
  · simp [componentsSetUp, and_assoc]

/-- "whether called on related viewgrams with any symmetries or on a whole data set": processing the data group by
    group, for ANY grouping of bins in which no bin occurs twice, normalises exactly the bins of the groups, each once … -/
theorem C13_whole_data_eq_per_viewgram (f : Bin → K → Option K) (gs : List (List Bin)) (d : Bin → Option K)
    (h : gs.flatten.Nodup) (b : Bin) :
    onGroups f gs d b = if b ∈ gs.flatten then (d b).bind (f b) else d b := by
  induction gs generalizing d with
  | nil => rfl
  | cons g gs ih =>
    simp only [List.flatten_cons, List.nodup_append] at h
    obtain ⟨_, h2, h3⟩ := h
    rw [onGroups, List.foldl_cons, ← onGroups, ih _ h2]
    by_cases hg : b ∈ g
    · have hn : b ∉ gs.flatten := fun hx => h3 b hg b hx rfl
      simp [hg, hn, onGroup]
    · simp [hg, onGroup]

/-- … hence two such groupings of the same bins (two symmetry settings, or all bins in one group) give the same data set -/
theorem C13_grouping_irrelevant (f : Bin → K → Option K) (gs gs' : List (List Bin)) (d : Bin → Option K)
    (h : gs.flatten.Nodup) (h' : gs'.flatten.Nodup) (hsame : ∀ b, b ∈ gs.flatten ↔ b ∈ gs'.flatten) :
    onGroups f gs d = onGroups f gs' d := by
  funext b
  rw [C13_whole_data_eq_per_viewgram f gs d h b, C13_whole_data_eq_per_viewgram f gs' d h' b]
  exact if_congr (hsame b) rfl rfl

/-- "TOF … data with non-TOF factors": the same stored factor (the one at timing position 0) for every TOF bin;
    with TOF factors the bin's own timing position is used.  (The correspondence runs this on TOF data with mashing factor 1, a proper divisor of the scanner's number of TOF bins, and the maximum — ONE TOF bin, whose only timing
    position is 0: the factor is the stored one there too, not a fraction of it; that `set_up` accepts all of these is
    `C13_set_up_tof_data_nontof_factors`.) -/
theorem C13_tof_data_nontof_factor (E : K → K) (floor : K) (f : Bin → K) (b : Bin) (t : Int) (v : K) :
    apply E floor (.fromProjData f false) { b with tof := t } v = some (v * f { b with tof := 0 }) ∧
      undo E (.fromProjData f false) { b with tof := t } v = undo E (.fromProjData f false) b v ∧
      apply E floor (.fromProjData f true) b v = some (v * f b) :=
  ⟨rfl, rfl, rfl⟩

/-- "the attenuation correction factors obtained from an attenuation map given in cm^-1 are the exponentials of its
    line integrals along the lines of response": `apply` multiplies by `E` of `Σ_j (a_bj · vx) · (μ_j / 10)` — the
    matrix elements `a_bj` are lengths in units of the x voxel size `vx` (mm), `μ_j / 10` is the attenuation in mm^-1.
    (The correspondence runs the class with a ray-tracing matrix projector and with its default projector
    `ForwardProjectorByBinUsingRayTracing`; in both cases the rows are data from a separate matrix object.
    It also runs attenuation images with NON-SQUARE in-plane voxels
    (x : y = 1.5 and 1.1, both ways round, z different from both): `vx` is the X voxel size, so a rescale of the map with
    the y size is a disagreement on every row; and attenuation objects that are set up again for other geometries.
    For the expectation without matrix rows see `C13_atten_box_interval` / `C13_atten_box_acf`.) -/
theorem C13_atten_is_exp_line_integral (E : K → K) (floor vx : K) (row : Bin → List (K × K)) (b : Bin) (v : K) :
    apply E floor (.fromAtten vx row) b v = some (v * E (((row b).map fun p => (p.1 * vx) * (p.2 / 10)).sum)) ∧
      trueEff E (.fromAtten vx row) b = 1 / E (((row b).map fun p => (p.1 * vx) * (p.2 / 10)).sum) := by
  simp only [apply, trueEff, lineIntegral_eq, and_self]

/-- Beer–Lambert form: if `E` turns sums into products and is positive, the correction factor is the product over the
    voxels on the line of `E(length × μ)`, it is positive, and `undo` is defined -/
theorem C13_atten_beer_lambert (E : K → K) (hadd : ∀ x y, E (x + y) = E x * E y) (hpos : ∀ x, 0 < E x)
    (floor vx : K) (row : Bin → List (K × K)) (b : Bin) (v : K) :
    apply E floor (.fromAtten vx row) b v = some (v * ((row b).map fun p => E ((p.1 * vx) * (p.2 / 10))).prod) ∧
      PosInputs E (.fromAtten vx row) b := by
  constructor
  · rw [(C13_atten_is_exp_line_integral E floor vx row b v).1, E_sum hadd (hpos 0).ne', List.map_map]
    rfl
  · exact hpos _


/-! ### one object set up several times (the harness runs such histories on ONE object of every class) -/

/-- "undoing the normalisation multiplies each bin by … its efficiency, which equals the efficiency the object reports … a
    normalisation that reports itself trivial changes nothing" — for a `BinNormalisationPETFromComponents` object that is
    RE-USED: whatever the object held before (never set up, set up for other factors, for another geometry), `set_up` on an
    allocated object succeeds and leaves an object whose `is_trivial`, `get_bin_efficiency`, `undo` and `apply` are those of
    the component arrays as they are at that call (`c`); so every theorem above about `Norm.fromComponents c` applies to the
    re-used object.  (`set_up` recomputes `_is_trivial` AND rebuilds the efficiency data, both unconditionally.) -/
theorem C13_components_set_up_refreshes (E : K → K) (floor tol : K) (o : CompObj K) (c : Components K)
    (h : o.allocated = true) :
    ∃ o', o.setUp tol c = some o' ∧ o'.allocated = true ∧ o'.isTrivial = some (isTrivial tol (.fromComponents c)) ∧
      ∀ b v, o'.reported b = reported (.fromComponents c) b ∧ o'.undo b v = undo E (.fromComponents c) b v ∧
        o'.apply b v = apply E floor (.fromComponents c) b v :=
  ⟨_, (compObj_setUp_eq_some_iff tol o _ c).mpr ⟨h, rfl⟩, rfl, rfl, fun _ _ => ⟨rfl, rfl, rfl⟩⟩

/-- the same for whole histories: after ANY sequence of `allocate` / `set_up` calls on a new object that ends with a
    `set_up` for the arrays `c` (and in which no call failed), the object answers exactly as a fresh object that was
    allocated and set up once; and a `set_up` without any `allocate` before it is refused -/
theorem C13_components_history (E : K → K) (floor tol : K) (hs : List (CompStep K)) (c : Components K) (o : CompObj K)
    (h : CompObj.run tol CompObj.new (hs ++ [.setUp c]) = some o) :
    (∃ o₀, CompObj.run tol CompObj.new [.allocate, .setUp c] = some o₀ ∧ o₀.isTrivial = o.isTrivial ∧
        ∀ b v, o₀.reported b = o.reported b ∧ o₀.undo b v = o.undo b v ∧ o₀.apply b v = o.apply b v) ∧
      o.isTrivial = some (isTrivial tol (.fromComponents c)) ∧
      (∀ b v, o.reported b = reported (.fromComponents c) b ∧ o.undo b v = undo E (.fromComponents c) b v ∧
        o.apply b v = apply E floor (.fromComponents c) b v) ∧
      CompObj.run tol (CompObj.new : CompObj K) [.setUp c] = none := by
  obtain rfl := compObj_run_setUp_last tol _ o hs c h
  exact ⟨⟨_, rfl, rfl, fun _ _ => ⟨rfl, rfl, rfl⟩⟩, rfl, fun _ _ => ⟨rfl, rfl, rfl⟩, rfl⟩

/-- "a normalisation that reports itself trivial changes nothing" for a re-used components object (same side conditions as
    `C13_trivial_id_partial`: tolerance 0, the recorded min/max bound the arrays, in-fan bin) -/
theorem C13_components_history_trivial_partial (E : K → K) (floor : K) (hs : List (CompStep K)) (c : Components K)
    (o : CompObj K) (h : CompObj.run 0 CompObj.new (hs ++ [.setUp c]) = some o) (ht : o.isTrivial = some true)
    (hr : c.RangeOK) (b : Bin) (hb : c.inFan b = true) (v : K) :
    o.apply b v = some v ∧ o.undo b v = some v ∧ o.reported b = some 1 := by
  obtain rfl := compObj_run_setUp_last 0 _ o hs c h
  exact C13_trivial_id_partial E floor (.fromComponents c) (Option.some.inj ht)
    (fun c' hc => Norm.fromComponents.inj hc ▸ hr) b (fun c' hc => Norm.fromComponents.inj hc ▸ hb) v

/-- `BinNormalisationWithCalibration` re-used: after ANY history of `set_calibration_factor` / `set_radionuclide` / `set_up`
    calls, a final `set_up` leaves an object whose efficiency, `undo` and `apply` are those of `Norm.calib` with the
    calibration factor and branching ratio the object holds NOW (the product stored by an earlier `set_up` is replaced) -/
theorem C13_calibration_history (E : K → K) (floor : K) (hs : List (CalibStep K)) (u : Bin → K) (b : Bin) (v : K) :
    (CalibObj.run CalibObj.new (hs ++ [.setUp])).reported u b =
        reported (.calib u (CalibObj.run CalibObj.new hs).calibration (CalibObj.run CalibObj.new hs).branching) b ∧
      (CalibObj.run CalibObj.new (hs ++ [.setUp])).undo u b v =
        undo E (.calib u (CalibObj.run CalibObj.new hs).calibration (CalibObj.run CalibObj.new hs).branching) b v ∧
      (CalibObj.run CalibObj.new (hs ++ [.setUp])).apply floor u b v =
        apply E floor (.calib u (CalibObj.run CalibObj.new hs).calibration (CalibObj.run CalibObj.new hs).branching) b v := by
  rw [calibObj_run_append]
  exact ⟨rfl, rfl, rfl⟩

/-- … where "holds now" means: the calibration factor is the one given to the last `set_calibration_factor`, which also
    invalidates the set-up state (`undo`/`apply`/`get_bin_efficiency` are refused until the next `set_up`); the branching
    ratio is the one of the last `set_radionuclide` (1 if unknown, i.e. `<= 0`), which does NOT invalidate anything: until the
    next `set_up` the object keeps answering with the product stored by the previous one; `set_up` changes neither -/
theorem C13_calibration_setters (floor : K) (o : CalibObj K) (c br : K) (u : Bin → K) (b : Bin) (v : K) :
    (o.setCalibration c).calibration = c ∧ (o.setCalibration c).branching = o.branching ∧
      (o.setCalibration c).reported u b = none ∧ (o.setCalibration c).undo u b v = none ∧
      (o.setCalibration c).apply floor u b v = none ∧
      (o.setRadionuclide br).branching = (if 0 < br then br else 1) ∧ (o.setRadionuclide br).calibration = o.calibration ∧
      (o.setRadionuclide br).reported u b = o.reported u b ∧
      o.setUp.calibration = o.calibration ∧ o.setUp.branching = o.branching :=
  ⟨rfl, rfl, rfl, rfl, rfl, rfl, rfl, rfl, rfl, rfl⟩

/-- "the attenuation correction factors obtained from an attenuation map given in cm^-1 are the exponentials of its line
    integrals along the lines of response" — the expectation side used for images with NON-SQUARE voxels: for the LOR from
    `p` to `q`, the parameters `t` kept by `boxInterval` are exactly those `t ∈ [0,1]` for which the point `p + t (q - p)`
    lies in the box `[x0,x1] × [y0,y1]` (mm); no voxel size, matrix row or projector enters -/
theorem C13_atten_box_interval (px py qx qy x0 x1 y0 y1 t : K) :
    ((boxInterval px py qx qy x0 x1 y0 y1).1 ≤ t ∧ t ≤ (boxInterval px py qx qy x0 x1 y0 y1).2) ↔
      (0 ≤ t ∧ t ≤ 1 ∧ x0 ≤ px + t * (qx - px) ∧ px + t * (qx - px) ≤ x1 ∧
        y0 ≤ py + t * (qy - py) ∧ py + t * (qy - py) ≤ y1) := by
  rw [boxInterval, slab_iff, slab_iff, and_assoc, and_assoc, and_assoc]

/-- … and the model's correction factor is `E` of `μ/10` (mm^-1) times the length (mm) of that part of the LOR:
    `len` × (length of the parameter interval), `E 0` if the LOR misses the box -/
theorem C13_atten_box_acf (E : K → K) (mu len px py qx qy x0 x1 y0 y1 : K) :
    acfBox E mu len px py qx qy x0 x1 y0 y1 =
      E (mu / 10 * (len * (if (boxInterval px py qx qy x0 x1 y0 y1).1 < (boxInterval px py qx qy x0 x1 y0 y1).2
        then (boxInterval px py qx qy x0 x1 y0 y1).2 - (boxInterval px py qx qy x0 x1 y0 y1).1 else 0))) := by
  simp [acfBox, boxFraction, ten_eq]

/-- "TOF and non-TOF data with non-TOF factors": for factors that are not TOF data (mashing factor 0) and data that
    ARE TOF data — ANY mashing factor `≥ 1`, the scanner's maximum (a single TOF bin) included: `is_tof_data()` looks at the
    mashing factor, not at the number of TOF bins — `BinNormalisationFromProjData::set_up` decides by comparing the factors with
    the NON-TOF CLONE of the data geometry, the comparison with the data geometry as it is (which fails on the mashing factor)
    plays no role; so data whose non-TOF clone is the geometry of the factors are accepted.  In every other combination (TOF
    factors, or non-TOF data) the data geometry is compared as it is. -/
theorem C13_set_up_tof_data_nontof_factors (normMash dataMash : Int) (asIs nonTofClone : GeomCmp) :
    (normMash ≤ 0 → 0 < dataMash →
        fromProjDataSetUpTof normMash dataMash asIs nonTofClone = nonTofClone.accepts ∧
          (nonTofClone.equal = true → fromProjDataSetUpTof normMash dataMash asIs nonTofClone = true)) ∧
      ((0 < normMash ∨ dataMash ≤ 0) → fromProjDataSetUpTof normMash dataMash asIs nonTofClone = asIs.accepts) := by
  simp only [fromProjDataSetUpTof, fromProjDataUsesNonTofClone_iff]
  refine ⟨fun hn hd => ?_, fun h => if_neg (by omega)⟩
  rw [if_pos ⟨hn, hd⟩]
  exact ⟨rfl, fun he => by simp [GeomCmp.accepts, fromProjDataSetUp, he]⟩

/-! ### one object through constructors, `parse` and `set_up` (the harness runs such histories on ONE object of every class
    that has parsing keys) -/

/-- "undoing the normalisation multiplies each bin by one fixed positive factor … applying divides by the same factor" — for a
    `BinNormalisationFromProjData` object that is PARSED AGAIN: after ANY history of `parse` / `set_up` calls on ANY object
    (default-constructed, constructed from a file or a `ProjData`, parsed before with another file, set up or not) that ends
    with parsing the file `f` and a `set_up`, the object is set up and its `undo` and `apply` are those of the factors of THAT
    file — `parse` replaces the stored factors unconditionally; so every theorem above about `Norm.fromProjData f` applies
    (`C13_directions`, `C13_tof_data_nontof_factor`, `C13_apply_undo_id`, …).  `set_up` on its own never changes the factors,
    and an object that was never given factors cannot be set up (the C++ dereferences a null pointer). -/
theorem C13_fromProjData_parse_history (E : K → K) (floor : K) (hs : List (FpdStep K)) (o o' : FpdObj K)
    (f : (Bin → K) × Bool) (acc : Bool) (h : FpdObj.run o (hs ++ [.parse f, .setUp acc]) = some o') :
    o' = ⟨some f, true⟩ ∧ o'.norm? = some (.fromProjData f.1 f.2) ∧
      (∀ b v, o'.undo E b v = undo E (.fromProjData f.1 f.2) b v ∧
        o'.apply E floor b v = apply E floor (.fromProjData f.1 f.2) b v) ∧
      (∀ (o₁ o₂ : FpdObj K) (a r : Bool), o₁.setUp a = some (o₂, r) → o₂.factors = o₁.factors ∧ r = a) ∧
      (FpdObj.new : FpdObj K).setUp acc = none := by
  rw [fpdObj_run_append] at h
  obtain ⟨o1, -, h2⟩ := Option.bind_eq_some_iff.mp h
  rw [fpdObj_parse_setUp] at h2
  cases h2
  exact ⟨rfl, rfl, fun _ _ => ⟨rfl, rfl⟩, fpdObj_setUp_factors, rfl⟩

/-- "the attenuation correction factors obtained from an attenuation map given in cm^-1 are the exponentials of its line
    integrals" — for a `BinNormalisationFromAttenuationImage` object that is PARSED AGAIN: whatever the object held before
    (nothing, the image of an earlier text, an image given to a constructor — rescaled or not), parsing a text that names the
    image file `file` makes it hold THAT image, rescaled once; after a `set_up` its `undo` / `apply` are those of
    `Norm.fromAtten` for that image (so `C13_atten_is_exp_line_integral` applies), and the same holds for the two constructors.
    (Repaired code, fix C13-1, see `AttenObj.postProcessing` in Model.lean.) -/
theorem C13_atten_parse_history {ι : Type} (E : K → K) (floor : K) (o o₁ o₂ : AttenObj ι K) (file : ι)
    (numTofPoss : Int) (images : ι → K × (Bin → List (K × K)))
    (h1 : o.postProcessing (some file) = some o₁) (h2 : o₁.setUp numTofPoss images = some o₂) :
    (∀ b v, o₂.undo E b v = undo E (.fromAtten (images file).1 (images file).2) b v ∧
        o₂.apply E b v = apply E floor (.fromAtten (images file).1 (images file).2) b v) ∧
      (AttenObj.ofFile file : Option (AttenObj ι K)) = some ⟨some (file, 1), false, fun _ => 0⟩ ∧
      (AttenObj.ofImage file : Option (AttenObj ι K)) = some ⟨some (file, 1), false, fun _ => 0⟩ := by
  rw [attenObj_postProcessing_file o file, Option.some.injEq] at h1
  subst h1
  exact ⟨attenObj_setUp_observe E floor _ o₂ file numTofPoss images rfl h2, rfl, rfl⟩

/-- … and a `post_processing` without a file name (an object constructed from an image, parsed with a text that names no file)
    leaves an image that was rescaled as it is: it is never rescaled twice -/
theorem C13_atten_post_processing_rescales_once {ι : Type} (o o₁ : AttenObj ι K) (i : ι) (k : Nat)
    (h0 : o.img = some (i, k + 1)) (h1 : o.postProcessing none = some o₁) : o₁.img = some (i, k + 1) := by
  rw [attenObj_postProcessing_held o i k h0, Option.some.injEq] at h1
  subst h1
  rfl

/-- "A chain has the product of its members' efficiencies" — for a `ChainedBinNormalisation` object that is PARSED AGAIN: a text
    that gives both member keys replaces both members (`None` gives a null member), whatever the object held before; after
    `set_up` the object is `Norm.chained` of the members of the LAST text (every theorem about chains applies:
    `C13_chain_binary`, `C13_chain_partial`, `C13_chain_null_member`); the new members were never set up, so until `set_up`
    the object is not usable if it has a member with a check; a text without a member key leaves that member alone -/
theorem C13_chain_parse_history {ι : Type} (o : ChainObj ι) (a b : Option ι) (resolve : ι → Norm K) :
    (∃ o₁, o.parse (some a) (some b) true = some o₁ ∧ o₁.membersSetUp = false ∧ o₁.setUp.membersSetUp = true ∧
        o₁.setUp.norm resolve = .chained ((a.map resolve).getD .null) ((b.map resolve).getD .null)) ∧
      (∃ o₁, o.parse none (some b) true = some o₁ ∧ o₁.first = o.first ∧ o₁.second = b) ∧
      o.parse (some a) (some b) false = none :=
  ⟨⟨_, chainObj_parse_second o (some a) b, rfl, rfl, rfl⟩, ⟨_, chainObj_parse_second o none b, rfl, rfl⟩, rfl⟩


def exBin : Bin := ⟨1, 2, 0, -1, 2⟩

/-- chain of: stored factors 2 (non-TOF), a table efficiency depending on the TOF position, a calibrated table -/
def exChain : Norm ℚ :=
  .chained (.fromProjData (fun b => if b.tof = 0 then 2 else 5) false)
    (.chained (.table fun b => 3 + b.tof) (.calib (fun _ => 4) 2 (1 / 2)))

def exFloor : ℚ := 1 / 10 ^ 20

example : Defined (fun _ => (1 : ℚ)) exChain exBin ∧ AboveFloor (fun _ => (1 : ℚ)) exFloor exChain exBin ∧
    PosInputs (fun _ => (1 : ℚ)) exChain exBin := by
  simp only [exChain, Defined, AboveFloor, PosInputs]
  decide +kernel

/-- the efficiency of `exChain` at `exBin` is `(1/2) · 5 · 4 = 10` (non-TOF factor 2, not the TOF one) -/
example : trueEff (fun _ => (1 : ℚ)) exChain exBin = 10 ∧ undo (fun _ => (1 : ℚ)) exChain exBin 3 = some 30 ∧
    apply (fun _ => (1 : ℚ)) exFloor exChain exBin 3 = some (3 / 10) := by
  decide +kernel

/-- a chain with a null member, partial application: the first half of `exChain` multiplies by `1/2`, the second by `20` -/
example : undoOnlyFirst (fun _ => (1 : ℚ)) (.fromProjData (fun b => if b.tof = 0 then 2 else 5) false)
      (.chained (.table fun b => 3 + b.tof) (.calib (fun _ => 4) 2 (1 / 2))) exBin 3 = some (3 / 2) ∧
    undoOnlySecond (fun _ => (1 : ℚ)) (.fromProjData (fun b => if b.tof = 0 then 2 else 5) false)
      (.chained (.table fun b => 3 + b.tof) (.calib (fun _ => 4) 2 (1 / 2))) exBin 3 = some 60 ∧
    undo (fun _ => (1 : ℚ)) (.chained (.table fun _ => 7) .null) exBin 3 = some 21 ∧
    isFirstTrivial (0 : ℚ) .trivial (.table fun _ => 7) = some true ∧ isSecondTrivial (0 : ℚ) .trivial (.table fun _ => 7) = some false := by
  decide +kernel

/-- set-up states: a chain that was never set up whose members were (accepted on related viewgrams, refused on whole data);
    a member set up for a smaller geometry (refused); refusals of `set_up` -/
example : useRV (.chain false true (.checked true true) (.chain false true (.noCheck false true) .null)) = true ∧
    useWhole true (.chain false true (.checked true true) (.checked true true)) = false ∧
    useRV (.chain true true (.checked true true) (.checked true false)) = false ∧
    useWhole false (.checked true true) = false ∧ useWhole true (.checked true true) = true ∧
    fromAttenSetUp 5 = false ∧ fromAttenSetUp 0 = true ∧ componentsSetUp true false false = false ∧
    componentsSetUp false false false = true := by
  decide

/-- `Real.exp` satisfies the hypotheses on `E` -/
example : (∀ x y : ℝ, Real.exp (x + y) = Real.exp x * Real.exp y) ∧ ∀ x : ℝ, 0 < Real.exp x :=
  ⟨Real.exp_add, Real.exp_pos⟩

/-- an attenuation row of two voxels (lengths 1 and 2 voxels of 2.5 mm, μ = 0.1 and 0.2 cm^-1): line integral 0.125 -/
example : lineIntegral (5 / 2 : ℚ) [(1, 1 / 10), (2, 2 / 10)] = 1 / 8 := by
  decide +kernel

/-- a components object with all factors 1: trivial, range OK, in-fan bins unchanged -/
def exComp (fan : Bin → Bool) : Components ℚ :=
  { inFan := fan, eff := some (fun _ => 1, fun _ => 1), geo := none, block := some fun _ => 1,
    effRange := (1, 1), geoRange := (1, 1), blockRange := (1, 1) }

example (fan : Bin → Bool) : (exComp fan).isTrivial 0 = true ∧ (exComp fan).RangeOK := by
  refine ⟨by simp [exComp, Components.isTrivial, nearOne], ?_, ?_, ?_⟩
  · intro ea eb h b
    cases h
    exact ⟨⟨le_rfl, le_rfl⟩, le_rfl, le_rfl⟩
  · intro g h
    cases h
  · intro B h b
    cases h
    exact ⟨le_rfl, le_rfl⟩

/-- … and one with all factors within 1e-4 of 1 is trivial at the real tolerance -/
example : ({ inFan := fun _ => true, eff := some (fun _ => 1 + 1 / 20000, fun _ => 1 - 1 / 20000), geo := none, block := none,
             effRange := (1 - 1 / 20000, 1 + 1 / 20000), geoRange := (1, 1), blockRange := (1, 1) } : Components ℚ).isTrivial (1 / 10000) = true := by
  decide +kernel

/-- component arrays with crystal efficiencies 2 and 3 (efficiency 6 per bin) -/
def exCompRandom : Components ℚ :=
  { inFan := fun _ => true, eff := some (fun _ => 2, fun _ => 3), geo := none, block := none,
    effRange := (2, 3), geoRange := (1, 1), blockRange := (1, 1) }

/-- a components object re-used: allocated, set up with `exCompRandom`, then — the arrays having been overwritten with ones — set
    up again: it now reports itself trivial and changes nothing; the hypotheses of `C13_components_history` hold for this
    history; without `allocate` the first `set_up` is refused (next example) -/
example : ∃ o : CompObj ℚ,
    CompObj.run 0 CompObj.new ([.allocate, .setUp exCompRandom] ++ [.setUp (exComp fun _ => true)]) = some o ∧
      o.isTrivial = some true ∧ o.undo exBin 5 = some 5 ∧ o.apply exBin 5 = some 5 ∧ o.reported exBin = some 1 := by
  exact ⟨_, rfl, by decide +kernel⟩

example : ∃ o : CompObj ℚ, CompObj.run 0 CompObj.new [.allocate, .setUp exCompRandom] = some o ∧
    o.isTrivial = some false ∧ o.undo exBin 5 = some 30 ∧ o.reported exBin = some 6 ∧
    CompObj.run 0 (CompObj.new : CompObj ℚ) [.setUp exCompRandom, .allocate] = none := by
  exact ⟨_, rfl, by decide +kernel⟩

/-- a calibrated object re-used: calibration 2, branching ratio 1/2, set up (efficiency `u/1`); the radionuclide is changed to
    branching ratio 1/4: still `u/1` (not invalidated) until the next `set_up`, then `u/(1/2)`; after
    `set_calibration_factor` the object is refused until it is set up again -/
example :
    (CalibObj.run (CalibObj.new : CalibObj ℚ) [.setCalibration 2, .setRadionuclide (1 / 2), .setUp]).reported (fun _ => 3) exBin = some 3 ∧
      (CalibObj.run (CalibObj.new : CalibObj ℚ) [.setCalibration 2, .setRadionuclide (1 / 2), .setUp, .setRadionuclide (1 / 4)]).reported
        (fun _ => 3) exBin = some 3 ∧
      (CalibObj.run (CalibObj.new : CalibObj ℚ) [.setCalibration 2, .setRadionuclide (1 / 2), .setUp, .setRadionuclide (1 / 4), .setUp]).reported
        (fun _ => 3) exBin = some 6 ∧
      (CalibObj.run (CalibObj.new : CalibObj ℚ) [.setCalibration 2, .setUp, .setCalibration 5]).undo (fun _ => 3) exBin 1 = none ∧
      (CalibObj.run (CalibObj.new : CalibObj ℚ) [.setRadionuclide (-1), .setCalibration 4, .setUp]).undo (fun _ => 3) exBin 8 = some 6 := by
  decide +kernel

/-- a LOR from (-10, 0) to (10, 0) through the box [-2,3] × [-1,1]: parameters 8/20 … 13/20, a quarter of its length;
    a LOR parallel to it outside the box, and one parallel to the y axis (`d = 0` in x): nothing / the y extent -/
example : boxInterval (-10 : ℚ) 0 10 0 (-2) 3 (-1) 1 = (2 / 5, 13 / 20) ∧
    boxFraction (-10 : ℚ) 0 10 0 (-2) 3 (-1) 1 = 1 / 4 ∧
    boxFraction (-10 : ℚ) 2 10 2 (-2) 3 (-1) 1 = 0 ∧
    boxFraction (1 : ℚ) (-10) 1 10 (-2) 3 (-1) 1 = 1 / 10 ∧
    acfBox (fun x => 1 + x) (1 / 10 : ℚ) 20 (-10) 0 10 0 (-2) 3 (-1) 1 = 1 + 1 / 20 := by
  decide +kernel

example : ([[(⟨0, 0, 0, 0, 0⟩ : Bin), ⟨0, 1, 0, 0, 0⟩], [⟨0, 2, 0, 0, 0⟩, ⟨0, 3, 0, 0, 0⟩]] : List (List Bin)).flatten.Nodup ∧
    ([[(⟨0, 0, 0, 0, 0⟩ : Bin), ⟨0, 3, 0, 0, 0⟩, ⟨0, 2, 0, 0, 0⟩, ⟨0, 1, 0, 0, 0⟩]] : List (List Bin)).flatten.Nodup := by
  decide

/-- TOF data with one TOF bin (5 TOF bins mashed by 5) and non-TOF factors of the geometry of its non-TOF clone: the geometries as
    they are differ (mashing factor), the clone is equal: accepted; with the roles exchanged (TOF factors, non-TOF data): refused -/
example : fromProjDataSetUpTof 0 5 ⟨false, false, true, true, true⟩ ⟨true, true, true, true, true⟩ = true ∧
    fromProjDataSetUpTof 5 0 ⟨false, false, true, true, true⟩ ⟨true, true, true, true, true⟩ = false ∧ isTofData 5 = true := by
  decide

/-- a `BinNormalisationFromProjData` object: default-constructed, parsed with a file of factors 2, set up, parsed with a file of
    factors 5 (TOF), set up: it multiplies by 5 -/
example : ∃ o : FpdObj ℚ,
    FpdObj.run FpdObj.new ([.parse (fun _ => 2, false), .setUp true] ++ [.parse (fun _ => 5, true), .setUp true]) = some o ∧
      o.apply (fun _ => 1) exFloor exBin 3 = some 15 ∧ o.undo (fun _ => 1) exBin 15 = some 3 := by
  exact ⟨_, rfl, by decide +kernel⟩

/-- two attenuation images (`false`: one voxel of 2 cm^-1, `true`: 4 cm^-1; x voxel size 5 mm, row element 1) -/
def exImages : Bool → ℚ × (Bin → List (ℚ × ℚ)) := fun i => (5, fun _ => [(1, if i then 4 else 2)])

/-- what `AttenObj.setUp` is told about non-TOF data: TOF mashing factor 0 -/
def exNonTof : Int := 0

/-- parsed once with image `true`: the exponent is 1 · 4 · 5/10 = 2 -/
example : ∃ o₁ o₂ : AttenObj Bool ℚ, (AttenObj.new : AttenObj Bool ℚ).postProcessing (some true) = some o₁ ∧
    o₁.setUp exNonTof exImages = some o₂ ∧ o₂.li exBin = 2 ∧ o₂.apply id exBin 3 = some 6 := by
  exact ⟨_, _, rfl, rfl, by decide +kernel⟩

/-- a chain object parsed with members `1`, `2`, then with (`None`, `3`): it is the chain (null, member 3) -/
example : ∃ o₁ o₂ : ChainObj Nat, (ChainObj.new : ChainObj Nat).parse (some (some 1)) (some (some 2)) true = some o₁ ∧
    o₁.setUp.parse (some none) (some (some 3)) true = some o₂ ∧ o₂.membersSetUp = false ∧
    o₂.setUp.norm (fun m => (.table fun _ => (m : ℚ)) : Nat → Norm ℚ) = .chained .null (.table fun _ => 3) := by
  exact ⟨_, _, rfl, rfl, rfl, rfl⟩

/-- below the floor apply-then-undo does NOT restore the data: efficiency 0 gives 0, efficiency `1e-25` scales by `1e-5` -/
theorem C13_apply_undo_below_floor_fails :
    (apply (fun _ => (1 : ℚ)) exFloor (.table fun _ => 0) exBin 3).bind (undo (fun _ => (1 : ℚ)) (.table fun _ => 0) exBin) = some 0 ∧
      (apply (fun _ => (1 : ℚ)) exFloor (.table fun _ => 1 / 10 ^ 25) exBin 3).bind
          (undo (fun _ => (1 : ℚ)) (.table fun _ => 1 / 10 ^ 25) exBin) = some (3 / 10 ^ 5) := by
  decide +kernel

/-- a components object with all factors 1 reports itself trivial, but a bin outside the fan (data with an even number
    of tangential positions) is set to 0 by `undo` and made non-finite by `apply` (replayed on the implementation:
    known-finding key `components:even-number-of-tangential-positions:…`) -/
theorem C13_trivial_id_fails :
    (exComp fun b => decide (b.tang ≠ -3)).isTrivial 0 = true ∧
      undo (fun _ => (1 : ℚ)) (.fromComponents (exComp fun b => decide (b.tang ≠ -3))) ⟨0, 0, 0, -3, 0⟩ 3 = some 0 ∧
      apply (fun _ => (1 : ℚ)) exFloor (.fromComponents (exComp fun b => decide (b.tang ≠ -3))) ⟨0, 0, 0, -3, 0⟩ 3 = none := by
  decide +kernel

/-- if a bin occurs in two groups it is normalised twice (why the groups must partition the data, C06) -/
theorem C13_overlapping_groups_fail :
    onGroups (fun _ (v : ℚ) => some (v * 2)) [[exBin], [exBin]] (fun _ => some 1) exBin = some 4 := by
  decide +kernel

/-- ONE `BinNormalisationFromAttenuationImage` object parsed twice (regression witness for fix C13-1, `fixed:` in
    known_findings.txt: the unrepaired code kept image `false`, rescaled twice, exponent 1/2): default-constructed, parsed with image `false` (2 cm^-1), parsed with image
    `true` (4 cm^-1), set up: the exponent is the line integral 1 · 4 · 5/10 = 2 of the image named by the last text -/
theorem C13_atten_second_parse :
    ∃ o₁ o₂ o₃ : AttenObj Bool ℚ, (AttenObj.new : AttenObj Bool ℚ).postProcessing (some false) = some o₁ ∧
      o₁.postProcessing (some true) = some o₂ ∧ o₂.setUp exNonTof exImages = some o₃ ∧ o₃.img = some (true, 1) ∧
      o₃.li exBin = 2 ∧ lineIntegral (exImages true).1 ((exImages true).2 exBin) = 2 := by
  exact ⟨_, _, _, rfl, rfl, rfl, rfl, by decide +kernel⟩

end StirVerif.C13
