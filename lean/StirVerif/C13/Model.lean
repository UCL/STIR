/-
C13 — executable model of bin normalisation (apply / undo / get_bin_efficiency / is_trivial).

One constructor of `Norm` per normalisation class, one `def` per C++ function that matters:

* `Norm.table`           any class that implements only `get_bin_efficiency` and inherits
                         `BinNormalisation::apply/undo(RelatedViewgrams&)`
                         (src/recon_buildblock/BinNormalisation.cxx:91-120): `undo` multiplies by
                         `get_bin_efficiency(bin)`, `apply` divides by `std::max(1.E-20F, get_bin_efficiency(bin))`.
* `Norm.calib`           `BinNormalisationWithCalibration` (src/include/stir/recon_buildblock/BinNormalisationWithCalibration.h:66,
                         src/recon_buildblock/BinNormalisationWithCalibration.cxx:57-65):
                         `get_bin_efficiency = get_uncalibrated_bin_efficiency / (calibration_factor * branching_ratio)`, apply/undo inherited.
* `Norm.fromProjData`    `BinNormalisationFromProjData::{apply,undo,get_bin_efficiency}`
                         (src/recon_buildblock/BinNormalisationFromProjData.cxx:129-157): `apply` MULTIPLIES by the stored factor,
                         `undo` divides; the factor is looked up at timing position 0 unless the stored data are TOF;
                         `get_bin_efficiency` calls `error`.  `fromProjDataSetUp` transcribes the decision of `set_up` (:81-121).
* `Norm.fromAtten`       `BinNormalisationFromAttenuationImage` (src/recon_buildblock/BinNormalisationFromAttenuationImage.cxx:56-109
                         `post_processing`: image (cm^-1) `*= grid_spacing.x()/10`; :154-168 `apply`: forward project, `in_place_exp`,
                         multiply; `undo`: divide; :188 `get_bin_efficiency` calls `error`).  The forward projection is
                         `Σ_j a_bj · μ̃_j` with the matrix row `a_b.` given as data (rows are C03/C04's business); `E` is `exp`.
* `Norm.fromComponents`  `BinNormalisationPETFromComponents` (src/recon_buildblock/BinNormalisationPETFromComponents.cxx:
                         `create_proj_data` :177-202, `apply` :205-222 with `divide(…, 0.F)` (src/include/stir/numerics/divide.inl),
                         `undo` :224-231, `get_bin_efficiency` :233-239, `is_trivial` flag computed in `set_up` :100-104).
                         The crystal pair of a bin and the symmetry expansion of the geometric factors are data (C01 / C20).
* `Norm.chained`         `ChainedBinNormalisation::{apply,undo,get_bin_efficiency}` (src/recon_buildblock/ChainedBinNormalisation.cxx:91-98, :137-144, :186-190; constructor check :49-54),
                         `Norm.null` is a null `shared_ptr` member (skipped, efficiency 1).
                         `applyOnlyFirst/Second`, `undoOnlyFirst/Second` (:110-136, :159-185), `isFirstTrivial`, `isSecondTrivial`
                         (:194-208): the partial application of a chain with members `n1 n2`.
* `fromAttenSetUp`       the TOF refusal of `BinNormalisationFromAttenuationImage::set_up` (:138-146);
  `componentsSetUp`      what `BinNormalisationPETFromComponents::set_up` → `create_proj_data` → `make_fan_data_remove_gaps` /
                         `get_fan_info` (src/buildblock/ML_norm.cxx:974-995, :1138-1146) refuse with `error`.
* `UseTree`, `useRV`, `useWhole`  which set-up states are checked before any data are touched (`BinNormalisation::check`,
                         called by `apply/undo` of every class except `TrivialBinNormalisation` and `ChainedBinNormalisation`
                         on related viewgrams, and by the whole-data loops of all of them).
* `Norm.trivial`         `TrivialBinNormalisation` (src/include/stir/recon_buildblock/TrivialBinNormalisation.h).
* `CompObj`, `CompStep`  ONE `BinNormalisationPETFromComponents` object through several `allocate()` / `set_up()` calls
                         (src/recon_buildblock/BinNormalisationPETFromComponents.cxx:69-108 `set_up`: `error` without allocation, base-class
                         `set_up`, `_is_trivial = …`, `create_proj_data()` — both UNCONDITIONALLY at every call; :118-175 `allocate`;
                         :110-115 `is_trivial`): the state is what `apply/undo/get_bin_efficiency/is_trivial` read
                         (`_already_allocated`, `_already_set_up`, `_is_trivial`, `invnorm_proj_data_sptr`).
* `CalibObj`             ONE `BinNormalisationWithCalibration` object through `set_calibration_factor` (resets `_already_set_up`,
                         src/recon_buildblock/BinNormalisationWithCalibration.cxx:86-91), `set_radionuclide` (:105-109, does not) and
                         `set_up` (:57-65: `_calib_decay_branching_ratio = calibration_factor * get_branching_ratio()`,
                         `get_branching_ratio` :93-103 gives 1 for a ratio `<= 0`).
* `isTofData`, `GeomCmp`, `fromProjDataUsesNonTofClone`, `fromProjDataSetUpTof`  WHICH geometry `BinNormalisationFromProjData::set_up`
                         compares the factors with (src/recon_buildblock/BinNormalisationFromProjData.cxx:88-96): the non-TOF clone of the
                         data geometry iff the factors are not TOF data and the data are — `is_tof_data()`, i.e. the TOF mashing factor,
                         so also for data mashed to ONE TOF bin; `fromProjDataIsTofOnly` = `is_TOF_only_norm()` (:73-79).
* `FpdObj`, `FpdStep`    ONE `BinNormalisationFromProjData` object through constructors / `parse` / `set_up` (`post_processing` :51-58
                         replaces the stored factors unconditionally; `ParsingObject::parse`, src/buildblock/ParsingObject.cxx:65-85, does
                         not call `set_defaults`; `set_up` calls the base class before it compares).
* `AttenObj`             ONE `BinNormalisationFromAttenuationImage` object: which image it holds and how many times `post_processing`
                         (src/recon_buildblock/BinNormalisationFromAttenuationImage.cxx:56-109) has rescaled it — repaired code (fix C13-1): the file is read
                         whenever a file name is known, the image is rescaled once.
* `ChainObj`, `MemberKey`  ONE `ChainedBinNormalisation` object: members replaced per parsing key (`None` = null pointer), new members
                         are not set up until the chain's `set_up`.
* `slab`, `boxInterval`, `acfBox`  the expectation side of the clause "attenuation correction factors … are the exponentials of its line
                         integrals": for a uniform box-shaped attenuation map (all planes) the line integral along the LOR from `p` to `q`
                         is `μ × (length of the part of the LOR inside the box)`, computed by clipping the parameter interval `[0,1]` of
                         `p + t (q - p)` against the two slabs.  No matrix rows, no projector, no voxel size enter.
* `onGroup`, `onGroups`   the whole-`ProjData` loops `BinNormalisation::apply/undo(ProjData&, symmetries)`
                         (src/recon_buildblock/BinNormalisation.cxx:123-226): for every basic view/segment and TOF position get the
                         related viewgrams, normalise them, write them back.

Numbers: the definitions are written once for a type `K` with `+ - * / 0 1 <`; the driver runs them at `K = Rat`
(every `float` is a dyadic rational; `exp` enters only through the parameter `E`), the theorems are for an arbitrary
linearly ordered field.  A result that is not a finite number in IEEE arithmetic (division by zero) is `none`.
Float rounding is not modelled (see the comparison rule in checks/c13.py).  Core Lean only.
-/
namespace StirVerif.C13

/-- `stir::Bin` indices -/
structure Bin where
  seg : Int
  view : Int
  ax : Int
  tang : Int
  tof : Int
  deriving DecidableEq, Hashable, Repr, Inhabited

section
variable {K : Type} [Add K] [Sub K] [Mul K] [Div K] [Zero K] [One K] [LT K] [DecidableEq K] [DecidableLT K]

/-- `std::max(a, b)` is `(a < b) ? b : a` -/
def cmax (a b : K) : K := if a < b then b else a

/-- `x / y` in IEEE arithmetic, `none` if the result is not finite (`y == 0`) -/
def fdiv (x y : K) : Option K := if y = 0 then none else some (x / y)

/-- `stir::divide(num_begin, num_end, den_begin, small_num = 0)` for one element
    (src/include/stir/numerics/divide.inl:26-47; with `small_num = 0` the threshold `small_value` is 0):
    `0/0 = 0`, everything else is the IEEE quotient -/
def divide0 (x y : K) : Option K := if y = 0 ∧ x = 0 then some 0 else fdiv x y

/-- the literal `10` (mm per cm) of `BinNormalisationFromAttenuationImage::post_processing` -/
def ten : K := (1 + 1) * ((1 + 1) * (1 + 1) + 1)

/-- `post_processing`: `rescale = get_grid_spacing()[3] / 10` (x voxel size in mm; the projectors return lengths in
    units of the x voxel size) -/
def attenRescale (vx : K) : K := vx / ten

/-- forward projection of the rescaled attenuation image along one matrix row: the row is a list of
    (matrix element `a_bj`, original voxel value `μ_j` in cm^-1) -/
def lineIntegral (vx : K) (row : List (K × K)) : K :=
  row.foldl (fun acc p => acc + p.1 * (p.2 * attenRescale vx)) 0

/-- the three optional components of `BinNormalisationPETFromComponents`, already looked up for the crystal pair
    `(ra,a),(rb,b)` of each bin, and the min / max of each component array (used by `is_trivial`) -/
structure Components (K : Type) where
  /-- the bin is written by `set_fan_data_add_gaps` (|tangential_pos| ≤ half fan size, no virtual crystal) -/
  inFan : Bin → Bool
  /-- `efficiencies[ra][a]`, `efficiencies[rb][b]` -/
  eff : Option ((Bin → K) × (Bin → K))
  /-- geometric factor of the pair after symmetry expansion (`apply_geo_norm`) -/
  geo : Option (Bin → K)
  /-- `block_data(ra/…, a/…, rb/…, b/…)` -/
  block : Option (Bin → K)
  effRange : K × K
  geoRange : K × K
  blockRange : K × K

/-- `if (fan_data(..) == 0) continue; fan_data(..) *= x` (apply_block_norm / apply_efficiencies / apply_geo_norm) -/
def mulSkip (v x : K) : K := if v = 0 then v else v * x

/-- `create_proj_data`: fill with 1, multiply by block, crystal-pair and geometric factors, zero outside the fan -/
def Components.invnorm (c : Components K) (b : Bin) : K :=
  if c.inFan b then
    let v : K := 1
    let v := match c.block with
      | some B => mulSkip v (B b)
      | none => v
    let v := match c.eff with
      | some (ea, eb) => mulSkip v (ea b * eb b)
      | none => v
    match c.geo with
      | some g => mulSkip v (g b)
      | none => v
  else 0

/-- `fabs(min - 1) <= tol && fabs(max - 1) <= tol` -/
def nearOne (tol : K) (r : K × K) : Bool :=
  !(decide (tol < r.1 - 1)) && !(decide (tol < 1 - r.1)) && !(decide (tol < r.2 - 1)) && !(decide (tol < 1 - r.2))

/-- the `_is_trivial` flag computed by `BinNormalisationPETFromComponents::set_up` (`tol` = `.0001`) -/
def Components.isTrivial (tol : K) (c : Components K) : Bool :=
  (c.eff.isNone || nearOne tol c.effRange) && (c.geo.isNone || nearOne tol c.geoRange)
    && (c.block.isNone || nearOne tol c.blockRange)

/-- a bin normalisation object after `set_up` -/
inductive Norm (K : Type) where
  /-- a null `shared_ptr<BinNormalisation>` member of a chain -/
  | null
  | trivial
  /-- `get_bin_efficiency(bin) = e bin`, apply/undo inherited from `BinNormalisation` -/
  | table (e : Bin → K)
  /-- `BinNormalisationWithCalibration`: uncalibrated efficiency, calibration factor, branching ratio -/
  | calib (u : Bin → K) (calibration branching : K)
  /-- stored factors and whether the stored projection data are TOF -/
  | fromProjData (f : Bin → K) (normIsTof : Bool)
  /-- x voxel size in mm and, for every bin, the matrix row paired with the voxel values (cm^-1) -/
  | fromAtten (vx : K) (row : Bin → List (K × K))
  | fromComponents (c : Components K)
  | chained (first second : Norm K)

/-- `timing_pos_num = norm is TOF ? viewgrams.get_basic_timing_pos_num() : 0` -/
def factorKey (normIsTof : Bool) (b : Bin) : Bin := if normIsTof then b else { b with tof := 0 }

/-- `get_bin_efficiency(bin)`; `none` where the class calls `error` (or the quotient is not finite) -/
def reported : Norm K → Bin → Option K
  | .null, _ => some 1
  | .trivial, _ => some 1
  | .table e, b => some (e b)
  | .calib u c br, b => fdiv (u b) (c * br)
  | .fromProjData _ _, _ => none
  | .fromAtten _ _, _ => none
  | .fromComponents c, b => some (c.invnorm b)
  | .chained n1 n2, b =>
    match reported n1 b, reported n2 b with
    | some x, some y => some (x * y)
    | _, _ => none

/-- `undo(RelatedViewgrams&)` for one bin holding the value `v` (`E` = `exp`) -/
def undo (E : K → K) : Norm K → Bin → K → Option K
  | .null, _, v => some v
  | .trivial, _, v => some v
  | .table e, b, v => some (v * e b)
  | .calib u c br, b, v => (fdiv (u b) (c * br)).bind fun e => some (v * e)
  | .fromProjData f t, b, v => fdiv v (f (factorKey t b))
  | .fromAtten vx row, b, v => fdiv v (E (lineIntegral vx (row b)))
  | .fromComponents c, b, v => some (v * c.invnorm b)
  | .chained n1 n2, b, v => (undo E n1 b v).bind (undo E n2 b)

/-- `apply(RelatedViewgrams&)` for one bin holding the value `v` (`floor` = `1.E-20F`) -/
def apply (E : K → K) (floor : K) : Norm K → Bin → K → Option K
  | .null, _, v => some v
  | .trivial, _, v => some v
  | .table e, b, v => fdiv v (cmax floor (e b))
  | .calib u c br, b, v => (fdiv (u b) (c * br)).bind fun e => fdiv v (cmax floor e)
  | .fromProjData f t, b, v => some (v * f (factorKey t b))
  | .fromAtten vx row, b, v => some (v * E (lineIntegral vx (row b)))
  | .fromComponents c, b, v => divide0 v (c.invnorm b)
  | .chained n1 n2, b, v => (apply E floor n1 b v).bind (apply E floor n2 b)

/-- `is_trivial()` (`tol` = `.0001`); `ChainedBinNormalisation` does not override the base class (`false`) -/
def isTrivial (tol : K) : Norm K → Bool
  | .trivial => true
  | .fromComponents c => c.isTrivial tol
  | _ => false

/-- the factor by which `undo` multiplies (the bin's efficiency), as an element of the field
    (`x / 0` is Lean's junk value 0 here; `Defined` says when no such quotient occurs) -/
def trueEff (E : K → K) : Norm K → Bin → K
  | .null, _ => 1
  | .trivial, _ => 1
  | .table e, b => e b
  | .calib u c br, b => u b / (c * br)
  | .fromProjData f t, b => 1 / f (factorKey t b)
  | .fromAtten vx row, b => 1 / E (lineIntegral vx (row b))
  | .fromComponents c, b => c.invnorm b
  | .chained n1 n2, b => trueEff E n1 b * trueEff E n2 b

/-- right-nested chain of a list of members: `[a,b,c] ↦ Chained(a, Chained(b, Chained(c, null)))` -/
def chainOf : List (Norm K) → Norm K
  | [] => .null
  | n :: ns => .chained n (chainOf ns)

/-- `ChainedBinNormalisation::post_processing`: `error` iff both members have a calibration factor `> 0`
    (`get_calibration_factor()` is `-1` for classes without one) -/
def chainCtorOk (cal1 cal2 : K) : Bool := !(decide (0 < cal1) && decide (0 < cal2))

/-- the decision of `BinNormalisationFromProjData::set_up` (:88-120) given the results of the `ProjDataInfo`
    comparisons on (norm info, emission info made non-TOF if the norm is not TOF) -/
def fromProjDataSetUp (equal ge tangMinEq tangMaxEq axialRangesEq : Bool) : Bool :=
  if equal then true else ge && tangMinEq && tangMaxEq && axialRangesEq

/-! ### `ChainedBinNormalisation`: partial application (the chain has members `n1 n2`, either may be `Norm.null`) -/

/-- `apply_only_first(RelatedViewgrams&)` (:110-115; the `ProjData&` version :117-122 is the same per bin): `if (!is_null_ptr(apply_first)) apply_first->apply(viewgrams)` -/
def applyOnlyFirst (E : K → K) (floor : K) (n1 _n2 : Norm K) (b : Bin) (v : K) : Option K := apply E floor n1 b v
/-- `apply_only_second(RelatedViewgrams&)` (:124-129, :131-136) -/
def applyOnlySecond (E : K → K) (floor : K) (_n1 n2 : Norm K) (b : Bin) (v : K) : Option K := apply E floor n2 b v
/-- `undo_only_first(RelatedViewgrams&)` (:159-164, :166-171) -/
def undoOnlyFirst (E : K → K) (n1 _n2 : Norm K) (b : Bin) (v : K) : Option K := undo E n1 b v
/-- `undo_only_second(RelatedViewgrams&)` (:173-178, :180-185) -/
def undoOnlySecond (E : K → K) (_n1 n2 : Norm K) (b : Bin) (v : K) : Option K := undo E n2 b v

/-- `is_first_trivial()` (:194-200): `error` (here `none`) if the member is null, else the member's `is_trivial()` -/
def isFirstTrivial (tol : K) (n1 _n2 : Norm K) : Option Bool :=
  match n1 with
  | .null => none
  | n => some (isTrivial tol n)
/-- `is_second_trivial()` (:202-208) -/
def isSecondTrivial (tol : K) (_n1 n2 : Norm K) : Option Bool :=
  match n2 with
  | .null => none
  | n => some (isTrivial tol n)

/-! ### set-up decisions and the check on use -/

/-- `BinNormalisation::check(const ProjDataInfo&)` (src/recon_buildblock/BinNormalisation.cxx:70-78), called by every
    `apply`/`undo`: `error` unless `set_up` was called and the geometry of `set_up` is `>=` the geometry of the data -/
def checkUse (alreadySetUp setUpGeometryGE : Bool) : Bool := alreadySetUp && setUpGeometryGE

/-- `ProjDataInfo::is_tof_data()` (src/include/stir/ProjDataInfo.inl:180-198) for consistent data: TOF data are the data with a
    TOF mashing factor `> 0` — whatever the number of TOF bins; data mashed by the maximum number of TOF bins of the scanner
    are TOF data with ONE TOF bin -/
def isTofData (tofMashFactor : Int) : Bool := decide (0 < tofMashFactor)

/-- `BinNormalisationFromAttenuationImage::set_up`: `error` iff `proj_data_info_ptr->is_tof_data()` (repaired code, fix C13-2:
    before it the test was `get_num_tof_poss() > 1`, which let TOF data mashed to one TOF bin pass); the argument is the TOF
    mashing factor of the data -/
def fromAttenSetUp (tofMashFactor : Int) : Bool := !(isTofData tofMashFactor)

/-- `BinNormalisationPETFromComponents::set_up` (:69-108): the comparison with the geometry given to `allocate` comes after
    the base class has overwritten `proj_data_info_sptr` (so it cannot fail); then `create_proj_data` calls
    `make_fan_data_remove_gaps`, which calls `error` for TOF data, view mashing, or axial compression (span > 1) -/
def componentsSetUp (tofData viewMashing axialCompression : Bool) : Bool :=
  !tofData && !viewMashing && !axialCompression

/-- the set-up state of an object (tree for chains), as far as `check` looks at it:
    `setUp` = `_already_set_up`, `ge` = (geometry given to `set_up`) `>=` (geometry of the data) -/
inductive UseTree where
  /-- a null member of a chain -/
  | null
  /-- `TrivialBinNormalisation`: `apply/undo(RelatedViewgrams&)` are empty (no check) -/
  | noCheck (setUp ge : Bool)
  /-- every class whose `apply/undo(RelatedViewgrams&)` starts with `this->check(...)` -/
  | checked (setUp ge : Bool)
  /-- `ChainedBinNormalisation`: `apply/undo(RelatedViewgrams&)` only call the members -/
  | chain (setUp ge : Bool) (first second : UseTree)

/-- does `apply/undo(RelatedViewgrams&)` run without `error`? -/
def useRV : UseTree → Bool
  | .null => true
  | .noCheck _ _ => true
  | .checked su ge => checkUse su ge
  | .chain _ _ f s => useRV f && useRV s

/-- the object's own `_already_set_up` / geometry (what `BinNormalisation::apply/undo(ProjData&, …)` checks first;
    a null pointer has no such call) -/
def ownCheck : UseTree → Bool
  | .null => true
  | .noCheck su ge => checkUse su ge
  | .checked su ge => checkUse su ge
  | .chain su ge _ _ => checkUse su ge

/-- does `apply/undo(ProjData&, symmetries)` run without `error`?  (`check(ProjDataInfo)`, `check(ExamInfo)`, then the
    related-viewgrams version for every group) -/
def useWhole (examEq : Bool) (t : UseTree) : Bool := ownCheck t && examEq && useRV t

/-! ### one object through several `set_up` calls -/

/-- what `apply/undo/get_bin_efficiency/is_trivial` of ONE `BinNormalisationPETFromComponents` object read:
    `_already_allocated`, `_already_set_up`, `_is_trivial`, and the efficiency data `invnorm_proj_data_sptr` built by
    `create_proj_data` (meaningless before the first `set_up`).  The component arrays themselves are not part of this state:
    nothing but `set_up` reads them, and `set_up` is given them (as they are at the moment of the call, looked up for the
    geometry of the call) as a `Components` value. -/
structure CompObj (K : Type) where
  allocated : Bool
  setUpDone : Bool
  trivialFlag : Bool
  invnorm : Bin → K

/-- the default constructor (`set_defaults`) -/
def CompObj.new : CompObj K := ⟨false, false, false, fun _ => 0⟩

/-- `allocate(…)` (:118-175): (re)sizes the arrays, `_already_allocated = true`; neither `_already_set_up` nor the efficiency
    data of a previous `set_up` are touched -/
def CompObj.allocate (o : CompObj K) : CompObj K := { o with allocated := true }

/-- `set_up(exam_info, proj_data_info)` (:69-108) for a geometry that `create_proj_data` accepts (`componentsSetUp`):
    `error` without allocation (nothing changed); otherwise `_already_set_up = true`, `_is_trivial` is recomputed from the
    arrays and `create_proj_data()` rebuilds the efficiency data from them — whatever the object held before -/
def CompObj.setUp (tol : K) (o : CompObj K) (c : Components K) : Option (CompObj K) :=
  if o.allocated then some { o with setUpDone := true, trivialFlag := c.isTrivial tol, invnorm := c.invnorm } else none

/-- `is_trivial()` (:110-115): `error` before `set_up` -/
def CompObj.isTrivial (o : CompObj K) : Option Bool := if o.setUpDone then some o.trivialFlag else none

/-- `get_bin_efficiency(bin)` (:233-239) (before the first `set_up` the C++ dereferences a null pointer; `none` here) -/
def CompObj.reported (o : CompObj K) (b : Bin) : Option K := if o.setUpDone then some (o.invnorm b) else none

/-- `undo(RelatedViewgrams&)` (:224-231) for one bin: `check()` then multiply with the stored efficiency data -/
def CompObj.undo (o : CompObj K) (b : Bin) (v : K) : Option K := if o.setUpDone then some (v * o.invnorm b) else none

/-- `apply(RelatedViewgrams&)` (:205-222) for one bin: `check()` then `divide(…, 0.F)` by the stored efficiency data -/
def CompObj.apply (o : CompObj K) (b : Bin) (v : K) : Option K := if o.setUpDone then divide0 v (o.invnorm b) else none

/-- the calls that change such an object (writing into `crystal_efficiencies()` / `geometric_factors()` / `block_factors()`
    changes only what the next `setUp` is given) -/
inductive CompStep (K : Type) where
  | allocate
  | setUp (c : Components K)

/-- a history of calls; `none` as soon as one of them calls `error` -/
def CompObj.run (tol : K) : CompObj K → List (CompStep K) → Option (CompObj K)
  | o, [] => some o
  | o, .allocate :: r => CompObj.run tol o.allocate r
  | o, .setUp c :: r => (o.setUp tol c).bind fun o' => CompObj.run tol o' r

/-- ONE `BinNormalisationWithCalibration` object: `calibration_factor`, the branching ratio of `radionuclide`,
    `_already_set_up`, and `_calib_decay_branching_ratio` (computed by `set_up` only) -/
structure CalibObj (K : Type) where
  calibration : K
  branching : K
  setUpDone : Bool
  stored : K

/-- `set_defaults`: calibration factor 1; a default `Radionuclide` has no known branching ratio (→ 1) -/
def CalibObj.new : CalibObj K := ⟨1, 1, false, 0⟩

/-- `set_calibration_factor` (:86-91): also resets `_already_set_up` -/
def CalibObj.setCalibration (o : CalibObj K) (c : K) : CalibObj K := { o with calibration := c, setUpDone := false }

/-- `set_radionuclide` (:105-109) as seen through `get_branching_ratio` (:93-103: a ratio `<= 0` counts as 1);
    `_already_set_up` and the stored product are NOT touched -/
def CalibObj.setRadionuclide (o : CalibObj K) (br : K) : CalibObj K := { o with branching := if 0 < br then br else 1 }

/-- `set_up` (:57-65) -/
def CalibObj.setUp (o : CalibObj K) : CalibObj K := { o with setUpDone := true, stored := o.calibration * o.branching }

/-- `get_bin_efficiency` (BinNormalisationWithCalibration.h:66) with the uncalibrated efficiency `u` of the subclass:
    `get_calib_decay_branching_ratio_factor` calls `error` unless set up -/
def CalibObj.reported (o : CalibObj K) (u : Bin → K) (b : Bin) : Option K := if o.setUpDone then fdiv (u b) o.stored else none

/-- base-class `undo` (BinNormalisation.cxx:107-120) -/
def CalibObj.undo (o : CalibObj K) (u : Bin → K) (b : Bin) (v : K) : Option K :=
  (o.reported u b).bind fun e => some (v * e)

/-- base-class `apply` (BinNormalisation.cxx:91-105) -/
def CalibObj.apply (floor : K) (o : CalibObj K) (u : Bin → K) (b : Bin) (v : K) : Option K :=
  (o.reported u b).bind fun e => fdiv v (cmax floor e)

/-- the calls that change such an object -/
inductive CalibStep (K : Type) where
  | setCalibration (c : K)
  | setRadionuclide (br : K)
  | setUp

/-- a history of calls (none of them can fail) -/
def CalibObj.run : CalibObj K → List (CalibStep K) → CalibObj K
  | o, [] => o
  | o, .setCalibration c :: r => CalibObj.run (o.setCalibration c) r
  | o, .setRadionuclide br :: r => CalibObj.run (o.setRadionuclide br) r
  | o, .setUp :: r => CalibObj.run o.setUp r

/-! ### TOF data with non-TOF factors: which geometry `BinNormalisationFromProjData::set_up` compares -/

/-- the five comparisons `set_up` makes between the geometry of the factors and a data geometry
    (`==`, `>=`, min / max tangential position equal, axial ranges of the data's segments equal) -/
structure GeomCmp where
  equal : Bool
  ge : Bool
  tangMinEq : Bool
  tangMaxEq : Bool
  axialRangesEq : Bool

/-- `fromProjDataSetUp` on a `GeomCmp` -/
def GeomCmp.accepts (c : GeomCmp) : Bool := fromProjDataSetUp c.equal c.ge c.tangMinEq c.tangMaxEq c.axialRangesEq

/-- `BinNormalisationFromProjData::set_up` (:88-94): `if (!norm_proj.is_tof_data() && proj_data_info_sptr->is_tof_data())
    proj_to_check_sptr = proj_data_info_sptr->create_non_tof_clone();` — the condition looks at `is_tof_data()` of both
    geometries (the mashing factors), NOT at the numbers of TOF bins -/
def fromProjDataUsesNonTofClone (normTofMash dataTofMash : Int) : Bool := !isTofData normTofMash && isTofData dataTofMash

/-- the decision of `BinNormalisationFromProjData::set_up` (:81-121) given the comparisons of the factor geometry with the data
    geometry as it is (`asIs`) and with its non-TOF clone (`nonTofClone`) -/
def fromProjDataSetUpTof (normTofMash dataTofMash : Int) (asIs nonTofClone : GeomCmp) : Bool :=
  if fromProjDataUsesNonTofClone normTofMash dataTofMash then nonTofClone.accepts else asIs.accepts

/-- `BinNormalisationFromProjData::is_TOF_only_norm()` (:73-79): `get_num_tof_poss() > 1` of the factors -/
def fromProjDataIsTofOnly (normNumTofPoss : Int) : Bool := decide (1 < normNumTofPoss)

/-! ### one object through constructors, `parse` and `set_up`

`ParsingObject::parse` (src/buildblock/ParsingObject.cxx:65-85) is `initialise_keymap` (first time only), `set_key_values`,
`parser.parse`, `post_processing`: it does NOT call `set_defaults`, so whatever the object held before stays unless a key of the
text or `post_processing` replaces it; in particular `_already_set_up` is not reset. -/

/-- ONE `BinNormalisationFromProjData` object: `norm_proj_data_ptr` (the stored factors and whether they are TOF data; null after
    the default constructor) and `_already_set_up` -/
structure FpdObj (K : Type) where
  factors : Option ((Bin → K) × Bool)
  setUpDone : Bool

/-- the default constructor (`set_defaults`, :36-41: the pointer is default-constructed, i.e. null) -/
def FpdObj.new : FpdObj K := ⟨none, false⟩

/-- the constructors from a file name / from a `shared_ptr<ProjData>` (:63-69) -/
def FpdObj.ofData (f : Bin → K) (isTof : Bool) : FpdObj K := ⟨some (f, isTof), false⟩

/-- `parse` → `post_processing` (:51-58): `norm_proj_data_ptr = ProjData::read_from_file(normalisation_projdata_filename)` —
    UNCONDITIONALLY, whatever the object held before (`file` = the content of the file named in the text; `none`: it cannot be
    read, `error`) -/
def FpdObj.parse (o : FpdObj K) (file : Option ((Bin → K) × Bool)) : Option (FpdObj K) :=
  file.map fun f => { o with factors := some f }

/-- `set_up` (:81-121) with the decision `accepted` of the geometry comparison: the base class is called FIRST
    (`_already_set_up = true` also when `Succeeded::no` is returned afterwards); without factors the C++ dereferences a null
    pointer (`none`).  Returns the new state and what `set_up` returned. -/
def FpdObj.setUp (o : FpdObj K) (accepted : Bool) : Option (FpdObj K × Bool) :=
  match o.factors with
  | none => none
  | some _ => some ({ o with setUpDone := true }, accepted)

/-- the `Norm` such an object is, once it holds factors -/
def FpdObj.norm? (o : FpdObj K) : Option (Norm K) :=
  if o.setUpDone then o.factors.map fun f => .fromProjData f.1 f.2 else none

/-- `undo` / `apply(RelatedViewgrams&)` (:129-151) for one bin: `check()` (set up?) and then the stored factors AS THEY ARE NOW -/
def FpdObj.undo (E : K → K) (o : FpdObj K) (b : Bin) (v : K) : Option K := o.norm?.bind fun n => C13.undo E n b v
def FpdObj.apply (E : K → K) (floor : K) (o : FpdObj K) (b : Bin) (v : K) : Option K := o.norm?.bind fun n => C13.apply E floor n b v

/-- the calls that change such an object -/
inductive FpdStep (K : Type) where
  | parse (file : (Bin → K) × Bool)
  | setUp (accepted : Bool)

/-- a history of calls (`none` as soon as one of them is undefined behaviour: `set_up` without factors) -/
def FpdObj.run : FpdObj K → List (FpdStep K) → Option (FpdObj K)
  | o, [] => some o
  | o, .parse f :: r => (o.parse (some f)).bind fun o' => FpdObj.run o' r
  | o, .setUp a :: r => (o.setUp a).bind fun p => FpdObj.run p.1 r

/-- ONE `BinNormalisationFromAttenuationImage` object.  `img`: which attenuation image `attenuation_image_ptr` holds (an
    identifier of type `ι`: the images exist outside the object, as files or as objects given to a constructor) and HOW MANY
    TIMES `post_processing` has multiplied the object's copy by `rescale = voxel_size_x / 10` (:91-106); `li`: the forward
    projection of the object's copy for the geometry of the last `set_up`. -/
structure AttenObj (ι K : Type) where
  img : Option (ι × Nat)
  setUpDone : Bool
  li : Bin → K

/-- the default constructor (`set_defaults`, :37-44: both pointers null) -/
def AttenObj.new {ι : Type} : AttenObj ι K := ⟨none, false, fun _ => 0⟩

/-- `post_processing()`, called by `parse` AND by the two constructors (`file`: the image in the file named by
    `attenuation_image_filename`, `none` if no file name is known — the constructor from an image object).  Repaired code
    (fix C13-1; before it the file was read only while the object held no image, and whatever the object held was rescaled at
    every call): `if (!attenuation_image_filename.empty()) { attenuation_image_ptr = read_from_file(...); _image_is_rescaled =
    false; }` — the file is read WHENEVER a file name is known; then `if (_image_is_rescaled) return …;` and otherwise
    `attenuation_image_ptr = clone * rescale; _image_is_rescaled = true`.
    `none`: no image (the function returns `true`, `parse` fails). -/
def AttenObj.postProcessing {ι : Type} (o : AttenObj ι K) (file : Option ι) : Option (AttenObj ι K) :=
  let held : Option (ι × Nat) :=
    match file with
    | some f => some (f, 0)
    | none => o.img
  held.map fun h => { o with img := some (h.1, if h.2 = 0 then 1 else h.2) }

/-- the constructor from a file name: `attenuation_image_ptr.reset(); post_processing();` -/
def AttenObj.ofFile {ι : Type} (file : ι) : Option (AttenObj ι K) := (AttenObj.new (K := K)).postProcessing (some file)

/-- the constructor from an image object (:126-135): the pointer is a clone of the image given; `post_processing()` -/
def AttenObj.ofImage {ι : Type} (image : ι) : Option (AttenObj ι K) :=
  (⟨some (image, 0), false, fun _ => 0⟩ : AttenObj ι K).postProcessing none

/-- `x * rescale^k` -/
def rescaled (vx : K) : Nat → K → K
  | 0, x => x
  | k + 1, x => rescaled vx k x * attenRescale vx

/-- forward projection of the object's copy along one matrix row (elements paired with the voxel values of the image as it was
    read / given, cm^-1), after `k` rescalings -/
def lineIntegralK (vx : K) (k : Nat) (row : List (K × K)) : K :=
  row.foldl (fun acc p => acc + p.1 * rescaled vx k p.2) 0

/-- `set_up` (:138-151): `error` for TOF data; the forward projector is set up for the image the object
    holds (null pointer: `none`).  `images i` = (x voxel size of image `i`, its matrix rows for the geometry of this call). -/
def AttenObj.setUp {ι : Type} (o : AttenObj ι K) (tofMashFactor : Int) (images : ι → K × (Bin → List (K × K))) :
    Option (AttenObj ι K) :=
  if fromAttenSetUp tofMashFactor then
    o.img.map fun h => { o with setUpDone := true, li := fun b => lineIntegralK (images h.1).1 h.2 ((images h.1).2 b) }
  else none

/-- `undo` / `apply(RelatedViewgrams&)` (:154-185) for one bin -/
def AttenObj.undo {ι : Type} (E : K → K) (o : AttenObj ι K) (b : Bin) (v : K) : Option K :=
  if o.setUpDone then fdiv v (E (o.li b)) else none
def AttenObj.apply {ι : Type} (E : K → K) (o : AttenObj ι K) (b : Bin) (v : K) : Option K :=
  if o.setUpDone then some (v * E (o.li b)) else none

/-- ONE `ChainedBinNormalisation` object: which members it holds (identifiers of type `ι`: the members are objects of their
    own, made by the parser from the text of the block / given to the constructor; `none` = null pointer), the chain's own
    `_already_set_up`, and whether the members it holds NOW have been set up (`set_up` of the chain sets up its members;
    a member made by the parser is a new object that was never set up) -/
structure ChainObj (ι : Type) where
  first : Option ι
  second : Option ι
  ownSetUp : Bool
  membersSetUp : Bool

/-- the default constructor (`set_defaults`, :30-36) -/
def ChainObj.new {ι : Type} : ChainObj ι := ⟨none, none, false, false⟩

/-- what a text says about one member: the parsing key does not occur (`none`: the member is left alone), or it occurs and
    REPLACES the member — by a null pointer for the value `None` (`some none`: the registry's default entry, factory 0), else by
    a new object made by the parser (`some (some m)`) -/
abbrev MemberKey (ι : Type) := Option (Option ι)

/-- the member after parsing a text that says `k` about it -/
def MemberKey.applyTo {ι : Type} (k : MemberKey ι) (old : Option ι) : Option ι :=
  match k with
  | none => old
  | some m => m

/-- `parse` (:38-56): the parsing keys of the text, then `post_processing`: `error` iff both members have a calibration factor
    `> 0` (`okCal`).  New member objects were never set up. -/
def ChainObj.parse {ι : Type} (o : ChainObj ι) (first second : MemberKey ι) (okCal : Bool) : Option (ChainObj ι) :=
  if okCal then
    some { o with first := first.applyTo o.first, second := second.applyTo o.second,
                  membersSetUp := o.membersSetUp && first.isNone && second.isNone }
  else none

/-- `set_up` (:78-89) for a geometry all members accept -/
def ChainObj.setUp {ι : Type} (o : ChainObj ι) : ChainObj ι := { o with ownSetUp := true, membersSetUp := true }

/-- the `Norm` such an object is for the geometry of its last `set_up`, `resolve m` being what member `m` is for that geometry -/
def ChainObj.norm {ι : Type} (o : ChainObj ι) (resolve : ι → Norm K) : Norm K :=
  .chained ((o.first.map resolve).getD .null) ((o.second.map resolve).getD .null)

/-! ### line integral of a uniform box along a line of response (no matrix rows) -/

/-- `std::min(a, b)` is `(b < a) ? b : a` -/
def cmin (a b : K) : K := if b < a then b else a

/-- restrict the parameter interval `I` of the line `p + t·d` (one coordinate) to `lo ≤ p + t·d ≤ hi`;
    `(1, 0)` is the empty interval -/
def slab (p d lo hi : K) (I : K × K) : K × K :=
  if 0 < d then (cmax I.1 ((lo - p) / d), cmin I.2 ((hi - p) / d))
  else if d < 0 then (cmax I.1 ((hi - p) / d), cmin I.2 ((lo - p) / d))
  else if p < lo ∨ hi < p then (1, 0) else I

/-- the parameters `t ∈ [0,1]` for which the point `p + t (q - p)` of the LOR lies in `[x0,x1] × [y0,y1]` -/
def boxInterval (px py qx qy x0 x1 y0 y1 : K) : K × K :=
  slab py (qy - py) y0 y1 (slab px (qx - px) x0 x1 (0, 1))

/-- fraction of the LOR from `p` to `q` that lies inside the box -/
def boxFraction (px py qx qy x0 x1 y0 y1 : K) : K :=
  let I := boxInterval px py qx qy x0 x1 y0 y1
  if I.1 < I.2 then I.2 - I.1 else 0

/-- attenuation correction factor of a map that is `μ` (cm^-1) inside the box (all planes) and 0 outside, for the LOR from
    `p` to `q` of length `len` (mm, in 3D): `E (μ/10 × len × fraction inside)` -/
def acfBox (E : K → K) (mu len px py qx qy x0 x1 y0 y1 : K) : K :=
  E (mu / ten * (len * boxFraction px py qx qy x0 x1 y0 y1))

/-! ### whole data sets -/

/-- one call of `undo`/`apply` on a group of bins (the bins of one set of related viewgrams) of a data set:
    the bins of the group are normalised, all others are left alone -/
def onGroup (f : Bin → K → Option K) (g : List Bin) (d : Bin → Option K) : Bin → Option K :=
  fun b => if b ∈ g then (d b).bind (f b) else d b

/-- the loop of `BinNormalisation::apply/undo(ProjData&, symmetries)`: one group after the other
    (get_related_viewgrams, normalise, set_related_viewgrams) -/
def onGroups (f : Bin → K → Option K) (gs : List (List Bin)) (d : Bin → Option K) : Bin → Option K :=
  gs.foldl (fun d g => onGroup f g d) d

end
end StirVerif.C13
