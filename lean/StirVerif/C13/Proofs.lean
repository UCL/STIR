/-
C13 — the bin-normalisation model over an arbitrary linearly ordered field `K` (the driver runs the same definitions at
`K = Rat`) and an abstract `E : K → K` in the place of `exp`.  `undo_eq_some_iff` says what `undo` returns and when,
`apply_of_aboveFloor` the same for `apply` under the side conditions, `reported_eq` ties the reported efficiency to `trueEff`;
the inverse laws, chains and the objects that report themselves trivial follow from these.
-/
import StirVerif.C13.Model
import StirVerif.Common.ArrayFold
import Mathlib.Algebra.Order.Field.Basic
import Mathlib.Algebra.BigOperators.Group.List.Basic
import Mathlib.Tactic.Ring
import Mathlib.Tactic.NormNum

namespace StirVerif.C13

-- the order instances on `K` are section variables that many statements do not need
set_option linter.unusedSectionVars false

variable {K : Type} [Field K] [LinearOrder K] [IsStrictOrderedRing K]

/-- no quotient with a zero divisor occurs in `undo` / `get_bin_efficiency` for this bin -/
def Defined (E : K → K) : Norm K → Bin → Prop
  | .calib _ c br, _ => c * br ≠ 0
  | .fromProjData f t, b => f (factorKey t b) ≠ 0
  | .fromAtten vx row, b => E (lineIntegral vx (row b)) ≠ 0
  | .chained n1 n2, b => Defined E n1 b ∧ Defined E n2 b
  | _, _ => True

/-- `apply` really divides by the efficiency: it is at least the floor `1e-20` (classes using the base-class `apply`),
    respectively non-zero (components); the other classes multiply in `apply` and need no condition -/
def AboveFloor (E : K → K) (floor : K) : Norm K → Bin → Prop
  | .table e, b => floor ≤ e b
  | .calib u c br, _b => floor ≤ u _b / (c * br)
  | .fromComponents c, b => c.invnorm b ≠ 0
  | .chained n1 n2, b => AboveFloor E floor n1 b ∧ AboveFloor E floor n2 b
  | _, _ => True

/-- all factor data that enter the efficiency of this bin are positive -/
def PosInputs (E : K → K) : Norm K → Bin → Prop
  | .table e, b => 0 < e b
  | .calib u c br, b => 0 < u b ∧ 0 < c ∧ 0 < br
  | .fromProjData f t, b => 0 < f (factorKey t b)
  | .fromAtten vx row, b => 0 < E (lineIntegral vx (row b))
  | .fromComponents c, b => 0 < c.invnorm b
  | .chained n1 n2, b => PosInputs E n1 b ∧ PosInputs E n2 b
  | _, _ => True

theorem fdiv_of_ne {x y : K} (h : y ≠ 0) : fdiv x y = some (x / y) := if_neg h

theorem fdiv_zero (x : K) : fdiv x (0 : K) = none := if_pos rfl

theorem fdiv_eq_some_iff {x y w : K} : fdiv x y = some w ↔ y ≠ 0 ∧ w = x / y := by
  by_cases h : y = 0
  · simp [h, fdiv_zero]
  · simp [h, fdiv_of_ne h, eq_comm]

theorem mulSkip_eq (v x : K) : mulSkip v x = v * x := by
  unfold mulSkip
  split
  · next h => rw [h, zero_mul]
  · rfl

theorem cmax_eq_max (a b : K) : cmax a b = max a b := (max_def_lt a b).symm

theorem cmin_eq_min (a b : K) : cmin a b = min a b := (min_def_lt' a b).symm

theorem ten_eq : (ten : K) = 10 := by
  unfold ten
  norm_num

theorem lineIntegral_eq (vx : K) (row : List (K × K)) :
    lineIntegral vx row = (row.map fun p => (p.1 * vx) * (p.2 / 10)).sum := by
  unfold lineIntegral
  rw [Common.foldl_add_eq_sum, zero_add]
  congr 1
  apply List.map_congr_left
  intro p _
  simp only [attenRescale, ten_eq]
  ring

theorem E_sum {E : K → K} (hadd : ∀ x y, E (x + y) = E x * E y) (h0 : E 0 ≠ 0) (l : List K) :
    E l.sum = (l.map E).prod := by
  induction l with
  | nil =>
    have h := hadd 0 0
    rw [add_zero] at h
    exact (mul_eq_left₀ h0).mp h.symm
  | cons x l ih => simp [hadd, ih]

theorem slab_iff (p d lo hi : K) (I : K × K) (t : K) :
    ((slab p d lo hi I).1 ≤ t ∧ t ≤ (slab p d lo hi I).2) ↔ ((I.1 ≤ t ∧ t ≤ I.2) ∧ lo ≤ p + t * d ∧ p + t * d ≤ hi) := by
  -- clear the division by `d`: for `d < 0` the inequalities flip, which is why `slab` exchanges `lo` and `hi` there; for `d = 0`
  -- the constraint does not involve `t`, and `(1, 0)` is the empty interval
  unfold slab
  split
  · next hd =>
    simp only [cmax_eq_max, cmin_eq_min, max_le_iff, le_min_iff, div_le_iff₀ hd, le_div_iff₀ hd, sub_le_iff_le_add',
      le_sub_iff_add_le']
    exact and_and_and_comm
  · split
    · next hd =>
      simp only [cmax_eq_max, cmin_eq_min, max_le_iff, le_min_iff, div_le_iff_of_neg hd, le_div_iff_of_neg hd,
        sub_le_iff_le_add', le_sub_iff_add_le']
      exact and_and_and_comm.trans (and_congr_right' and_comm)
    · next h1 h2 =>
      have hd : d = 0 := le_antisymm (not_lt.mp h1) (not_lt.mp h2)
      subst hd
      simp only [mul_zero, add_zero]
      split
      · next hout =>
        refine ⟨fun h => absurd (h.1.trans h.2) (not_le.mpr zero_lt_one), fun h => ?_⟩
        rcases hout with h' | h'
        · exact absurd h.2.1 (not_le.mpr h')
        · exact absurd h.2.2 (not_le.mpr h')
      · next hin =>
        rw [not_or, not_lt, not_lt] at hin
        exact (and_iff_left hin).symm

/-- the product form of `create_proj_data`: block factor, the two crystal efficiencies, geometric factor; an absent component
    contributes the factor 1 -/
theorem invnorm_eq (c : Components K) (b : Bin) :
    c.invnorm b = if c.inFan b then
        [c.block.elim 1 (· b), c.eff.elim 1 (·.1 b), c.eff.elim 1 (·.2 b), c.geo.elim 1 (· b)].prod
      else 0 := by
  unfold Components.invnorm
  split
  · cases c.block <;> rcases c.eff with _ | ⟨ea, eb⟩ <;> cases c.geo <;>
      simp only [mulSkip_eq, Option.elim, List.prod_cons, List.prod_nil, one_mul, mul_one, mul_assoc]
  · rfl

theorem undo_eq_some_iff (E : K → K) (n : Norm K) (b : Bin) (v w : K) :
    undo E n b v = some w ↔ Defined E n b ∧ w = v * trueEff E n b := by
  induction n generalizing v w with
  | null => simp only [undo, Defined, trueEff, mul_one, true_and, Option.some.injEq, eq_comm]
  | trivial => simp only [undo, Defined, trueEff, mul_one, true_and, Option.some.injEq, eq_comm]
  | table e => simp only [undo, Defined, trueEff, true_and, Option.some.injEq, eq_comm]
  | calib u c br =>
    simp only [undo, Option.bind_eq_some_iff, fdiv_eq_some_iff, Defined, trueEff]
    constructor
    · rintro ⟨_, ⟨hc, rfl⟩, h⟩
      exact ⟨hc, (Option.some.inj h).symm⟩
    · rintro ⟨hc, rfl⟩
      exact ⟨_, ⟨hc, rfl⟩, rfl⟩
  | fromProjData f t => simp only [undo, Defined, trueEff, fdiv_eq_some_iff, mul_one_div]
  | fromAtten vx row => simp only [undo, Defined, trueEff, fdiv_eq_some_iff, mul_one_div]
  | fromComponents c => simp only [undo, Defined, trueEff, true_and, Option.some.injEq, eq_comm]
  | chained n1 n2 ih1 ih2 =>
    simp only [undo, Option.bind_eq_some_iff, ih1, ih2, Defined, trueEff]
    constructor
    · rintro ⟨_, ⟨d1, rfl⟩, d2, rfl⟩
      exact ⟨⟨d1, d2⟩, mul_assoc ..⟩
    · rintro ⟨⟨d1, d2⟩, rfl⟩
      exact ⟨_, ⟨d1, rfl⟩, d2, (mul_assoc ..).symm⟩

theorem undo_eq_some {E : K → K} {n : Norm K} {b : Bin} {v w : K} (h : undo E n b v = some w) : w = v * trueEff E n b :=
  ((undo_eq_some_iff E n b v w).mp h).2

theorem undo_of_defined (E : K → K) (n : Norm K) (b : Bin) (v : K) (h : Defined E n b) :
    undo E n b v = some (v * trueEff E n b) :=
  (undo_eq_some_iff E n b v _).mpr ⟨h, rfl⟩

theorem reported_eq (E : K → K) (n : Norm K) (b : Bin) (e : K) (h : reported n b = some e) :
    e = trueEff E n b ∧ Defined E n b := by
  induction n generalizing e with
  | calib u c br =>
    obtain ⟨hne, he⟩ := fdiv_eq_some_iff.mp h
    exact ⟨he, hne⟩
  | fromProjData f t => cases h
  | fromAtten vx row => cases h
  | chained n1 n2 ih1 ih2 =>
    simp only [reported] at h
    split at h
    · next x y h1 h2 =>
      obtain ⟨e1, d1⟩ := ih1 x h1
      obtain ⟨e2, d2⟩ := ih2 y h2
      exact ⟨by rw [← Option.some.inj h, e1, e2, trueEff], d1, d2⟩
    · cases h
  | _ => exact ⟨(Option.some.inj h).symm, trivial⟩

theorem trueEff_ne_zero (E : K → K) (floor : K) (hf : 0 < floor) (n : Norm K) (b : Bin)
    (hd : Defined E n b) (ha : AboveFloor E floor n b) : trueEff E n b ≠ 0 := by
  induction n with
  | null => exact one_ne_zero
  | trivial => exact one_ne_zero
  | table e => exact (hf.trans_le ha).ne'
  | calib u c br => exact (hf.trans_le ha).ne'
  | fromProjData f t => exact one_div_ne_zero hd
  | fromAtten vx row => exact one_div_ne_zero hd
  | fromComponents c => exact ha
  | chained n1 n2 ih1 ih2 => exact mul_ne_zero (ih1 hd.1 ha.1) (ih2 hd.2 ha.2)

theorem div_one_div_eq_mul (v x : K) : v / (1 / x) = v * x := by
  rw [one_div, div_inv_eq_mul]

theorem apply_of_aboveFloor (E : K → K) (floor : K) (hf : 0 < floor) (n : Norm K) (b : Bin) (v : K)
    (hd : Defined E n b) (ha : AboveFloor E floor n b) :
    apply E floor n b v = some (v / trueEff E n b) := by
  induction n generalizing v with
  | null => exact congrArg some (div_one v).symm
  | trivial => exact congrArg some (div_one v).symm
  | table e =>
    have h : floor ≤ e b := ha
    simp only [apply, cmax_eq_max, max_eq_right h, fdiv_of_ne (hf.trans_le h).ne', trueEff]
  | calib u c br =>
    have h : floor ≤ u b / (c * br) := ha
    have hc : c * br ≠ 0 := hd
    simp only [apply, fdiv_of_ne hc, Option.bind_some, cmax_eq_max, max_eq_right h, fdiv_of_ne (hf.trans_le h).ne', trueEff]
  | fromProjData f t => exact congrArg some (div_one_div_eq_mul v _).symm
  | fromAtten vx row => exact congrArg some (div_one_div_eq_mul v _).symm
  | fromComponents c =>
    have h : c.invnorm b ≠ 0 := ha
    simp only [apply, divide0, h, false_and, if_false, fdiv_of_ne h, trueEff]
  | chained n1 n2 ih1 ih2 =>
    simp only [apply, ih1 v hd.1 ha.1, Option.bind_some, ih2 _ hd.2 ha.2, div_div, trueEff]

/-- names as compositions: `undo_apply_id` is `undo ∘ apply = id` (apply, THEN undo), `apply_undo_id` the other order -/
theorem undo_apply_id (E : K → K) (floor : K) (hf : 0 < floor) (n : Norm K) (b : Bin) (v : K)
    (hd : Defined E n b) (ha : AboveFloor E floor n b) :
    (apply E floor n b v).bind (undo E n b) = some v := by
  rw [apply_of_aboveFloor E floor hf n b v hd ha, Option.bind_some, undo_of_defined E n b _ hd,
    div_mul_cancel₀ _ (trueEff_ne_zero E floor hf n b hd ha)]

theorem apply_undo_id (E : K → K) (floor : K) (hf : 0 < floor) (n : Norm K) (b : Bin) (v : K)
    (hd : Defined E n b) (ha : AboveFloor E floor n b) :
    (undo E n b v).bind (apply E floor n b) = some v := by
  rw [undo_of_defined E n b v hd, Option.bind_some, apply_of_aboveFloor E floor hf n b _ hd ha,
    mul_div_cancel_right₀ _ (trueEff_ne_zero E floor hf n b hd ha)]

/-- the three together, as the halves of a chain need them -/
theorem apply_undo_inverse (E : K → K) (floor : K) (hf : 0 < floor) (n : Norm K) (b : Bin) (v : K)
    (hd : Defined E n b) (ha : AboveFloor E floor n b) :
    apply E floor n b v = some (v / trueEff E n b) ∧ (apply E floor n b v).bind (undo E n b) = some v ∧
      (undo E n b v).bind (apply E floor n b) = some v :=
  ⟨apply_of_aboveFloor E floor hf n b v hd ha, undo_apply_id E floor hf n b v hd ha, apply_undo_id E floor hf n b v hd ha⟩

theorem chainOf_iff (Q : Norm K → Prop) (hnull : Q .null) (hchain : ∀ n1 n2, Q (.chained n1 n2) ↔ Q n1 ∧ Q n2)
    (ns : List (Norm K)) : Q (chainOf ns) ↔ ∀ n ∈ ns, Q n := by
  induction ns with
  | nil => exact ⟨fun _ _ h => (nomatch h), fun _ => hnull⟩
  | cons n ns ih => rw [chainOf, hchain, ih, List.forall_mem_cons]

theorem defined_chainOf (E : K → K) (ns : List (Norm K)) (b : Bin) :
    Defined E (chainOf ns) b ↔ ∀ n ∈ ns, Defined E n b :=
  chainOf_iff (Defined E · b) trivial (fun _ _ => Iff.rfl) ns

theorem aboveFloor_chainOf (E : K → K) (floor : K) (ns : List (Norm K)) (b : Bin) :
    AboveFloor E floor (chainOf ns) b ↔ ∀ n ∈ ns, AboveFloor E floor n b :=
  chainOf_iff (AboveFloor E floor · b) trivial (fun _ _ => Iff.rfl) ns

/-- the min/max recorded for each present component really bound its values -/
def Components.RangeOK (c : Components K) : Prop :=
  (∀ ea eb, c.eff = some (ea, eb) → ∀ b, (c.effRange.1 ≤ ea b ∧ ea b ≤ c.effRange.2) ∧ (c.effRange.1 ≤ eb b ∧ eb b ≤ c.effRange.2)) ∧
  (∀ g, c.geo = some g → ∀ b, c.geoRange.1 ≤ g b ∧ g b ≤ c.geoRange.2) ∧
  (∀ B, c.block = some B → ∀ b, c.blockRange.1 ≤ B b ∧ B b ≤ c.blockRange.2)

theorem nearOne_iff {tol : K} {r : K × K} :
    nearOne tol r = true ↔ (r.1 - 1 ≤ tol ∧ 1 - r.1 ≤ tol) ∧ r.2 - 1 ≤ tol ∧ 1 - r.2 ≤ tol := by
  simp only [nearOne, Bool.and_eq_true, Bool.not_eq_true', decide_eq_false_iff_not, not_lt, and_assoc]

theorem optFactor_near {α : Type} {tol : K} (h0 : 0 ≤ tol) {o : Option α} {r : K × K} (f : α → K)
    (ht : o.isNone = true ∨ nearOne tol r = true) (hr : ∀ a, o = some a → r.1 ≤ f a ∧ f a ≤ r.2) :
    1 - tol ≤ o.elim 1 f ∧ o.elim 1 f ≤ 1 + tol := by
  cases o with
  | none => exact ⟨sub_le_self 1 h0, le_add_of_nonneg_right h0⟩
  | some a =>
    obtain ⟨⟨_, h1⟩, h2, _⟩ := nearOne_iff.mp (ht.resolve_left Bool.false_ne_true)
    exact ⟨(sub_le_comm.mp h1).trans (hr a rfl).1, (hr a rfl).2.trans (sub_le_iff_le_add'.mp h2)⟩

theorem prod_bounds {lo hi : K} (h0 : 0 ≤ lo) (l : List K) (h : ∀ x ∈ l, lo ≤ x ∧ x ≤ hi) :
    lo ^ l.length ≤ l.prod ∧ l.prod ≤ hi ^ l.length := by
  induction l with
  | nil => exact ⟨(pow_zero lo).le, (pow_zero hi).ge⟩
  | cons x l ih =>
    obtain ⟨hx, hl⟩ := List.forall_mem_cons.mp h
    obtain ⟨i1, i2⟩ := ih hl
    rw [List.prod_cons, List.length_cons, pow_succ', pow_succ']
    exact ⟨mul_le_mul hx.1 i1 (pow_nonneg h0 _) (h0.trans hx.1),
      mul_le_mul hx.2 i2 ((pow_nonneg h0 _).trans i1) (h0.trans hx.1 |>.trans hx.2)⟩

/-- a components object that reports itself trivial at tolerance `tol`: every in-fan efficiency is the product of four
    numbers within `tol` of 1 (block factor, two crystal efficiencies, geometric factor) -/
theorem invnorm_within (c : Components K) (tol : K) (h0 : 0 ≤ tol) (h1 : tol ≤ 1) (hr : c.RangeOK)
    (ht : c.isTrivial tol = true) (b : Bin) (hb : c.inFan b = true) :
    (1 - tol) ^ 4 ≤ c.invnorm b ∧ c.invnorm b ≤ (1 + tol) ^ 4 := by
  simp only [Components.isTrivial, Bool.and_eq_true, Bool.or_eq_true] at ht
  obtain ⟨⟨he, hg⟩, hB⟩ := ht
  obtain ⟨re, rg, rB⟩ := hr
  rw [invnorm_eq, if_pos hb]
  -- the list is given by its shape: the unifier meets `?l.length =?= 4` before `?l.prod`
  refine prod_bounds (sub_nonneg.mpr h1) [_, _, _, _] ?_
  simp only [List.forall_mem_cons]
  exact ⟨optFactor_near h0 _ hB fun B hc => rB B hc b, optFactor_near h0 _ he fun p hc => (re p.1 p.2 hc b).1,
    optFactor_near h0 _ he fun p hc => (re p.1 p.2 hc b).2, optFactor_near h0 _ hg fun g hc => rg g hc b, fun _ h => nomatch h⟩

theorem invnorm_of_trivial (c : Components K) (hr : c.RangeOK) (ht : c.isTrivial 0 = true) (b : Bin) (hb : c.inFan b = true) :
    c.invnorm b = 1 := by
  have h := invnorm_within c 0 le_rfl zero_le_one hr ht b hb
  rw [sub_zero, add_zero, one_pow] at h
  exact le_antisymm h.2 h.1

/-- below the floor the base-class `apply` divides by the floor, not by the efficiency -/
theorem apply_table_below_floor (E : K → K) (floor : K) (hf : 0 < floor) (e : Bin → K) (b : Bin) (v : K)
    (h : ¬ floor < e b) :
    apply E floor (.table e) b v = some (v / floor) ∧
      (undo E (.table e) b v).bind (apply E floor (.table e) b) = some (v * e b / floor) ∧
      (apply E floor (.table e) b v).bind (undo E (.table e) b) = some (v / floor * e b) := by
  simp only [apply, undo, cmax_eq_max, max_eq_left (not_lt.mp h), fdiv_of_ne hf.ne', Option.bind_some, and_self]

/-- components: `0/0 = 0`, `x/0` is not finite -/
theorem apply_components_zero_eff (E : K → K) (floor : K) (c : Components K) (b : Bin) (v : K)
    (h : c.invnorm b = 0) :
    apply E floor (.fromComponents c) b v = if v = 0 then some 0 else none := by
  simp only [apply, divide0, h, fdiv_zero, true_and]

/-- a null member is a unit of the chain: its `apply`/`undo` is `some`, so the chain's `bind` is the other member -/
theorem apply_chain_null_right (E : K → K) (floor : K) (n : Norm K) (b : Bin) (v : K) :
    apply E floor (.chained n .null) b v = apply E floor n b v :=
  Option.bind_fun_some _

theorem apply_chain_null_left (E : K → K) (floor : K) (n : Norm K) (b : Bin) (v : K) :
    apply E floor (.chained .null n) b v = apply E floor n b v := rfl

theorem undo_chain_null_right (E : K → K) (n : Norm K) (b : Bin) (v : K) :
    undo E (.chained n .null) b v = undo E n b v :=
  Option.bind_fun_some _

theorem undo_chain_null_left (E : K → K) (n : Norm K) (b : Bin) (v : K) :
    undo E (.chained .null n) b v = undo E n b v := rfl

theorem reported_chain_null_right (n : Norm K) (b : Bin) : reported (.chained n .null) b = reported n b := by
  cases h : reported n b <;> simp [reported, h]

theorem reported_chain_null_left (n : Norm K) (b : Bin) : reported (.chained .null n) b = reported n b := by
  cases h : reported n b <;> simp [reported, h]

theorem isTrivial_of_isFirstTrivial (tol : K) (n1 n2 : Norm K) (h : isFirstTrivial tol n1 n2 = some true) :
    isTrivial tol n1 = true := by
  cases n1 <;> simp_all [isFirstTrivial]

theorem fromProjDataUsesNonTofClone_iff (normMash dataMash : Int) :
    fromProjDataUsesNonTofClone normMash dataMash = true ↔ normMash ≤ 0 ∧ 0 < dataMash := by
  simp [fromProjDataUsesNonTofClone, isTofData]

/-- every member that checks its set-up state was set up, for a geometry `>=` that of the data -/
def UseTree.AllSetUp : UseTree → Prop
  | .null => True
  | .noCheck _ _ => True
  | .checked su ge => su = true ∧ ge = true
  | .chain _ _ f s => f.AllSetUp ∧ s.AllSetUp

theorem useRV_iff (t : UseTree) : useRV t = true ↔ t.AllSetUp := by
  induction t with
  | null => simp [useRV, UseTree.AllSetUp]
  | noCheck su ge => simp [useRV, UseTree.AllSetUp]
  | checked su ge => simp [useRV, UseTree.AllSetUp, checkUse]
  | chain su ge f s ihf ihs => simp [useRV, UseTree.AllSetUp, ihf, ihs]

end StirVerif.C13
