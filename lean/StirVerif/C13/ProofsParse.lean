import StirVerif.C13.Proofs

namespace StirVerif.C13

-- the order instances on `K` are section variables that many statements do not need
set_option linter.unusedSectionVars false

variable {K : Type} [Field K] [LinearOrder K] [IsStrictOrderedRing K]

theorem fpdObj_run_append (o : FpdObj K) (hs hs' : List (FpdStep K)) :
    FpdObj.run o (hs ++ hs') = (FpdObj.run o hs).bind fun o' => FpdObj.run o' hs' := by
  induction hs generalizing o with
  | nil => simp [FpdObj.run]
  | cons s r ih =>
    cases s with
    | parse f =>
      simp only [List.cons_append, FpdObj.run, FpdObj.parse, Option.map_some, Option.bind_some]
      exact ih _
    | setUp a =>
      simp only [List.cons_append, FpdObj.run]
      cases o.setUp a with
      | none => rfl
      | some p => simp [ih]

theorem fpdObj_parse_setUp (o : FpdObj K) (f : (Bin → K) × Bool) (acc : Bool) :
    FpdObj.run o [.parse f, .setUp acc] = some ⟨some f, true⟩ := rfl

theorem fpdObj_setUp_factors (o o' : FpdObj K) (acc r : Bool) (h : o.setUp acc = some (o', r)) :
    o'.factors = o.factors ∧ r = acc := by
  unfold FpdObj.setUp at h
  split at h
  · cases h
  · cases h
    exact ⟨rfl, rfl⟩

theorem lineIntegralK_one (vx : K) (row : List (K × K)) : lineIntegralK vx 1 row = lineIntegral vx row := rfl

theorem lineIntegralK_succ (vx : K) (k : Nat) (row : List (K × K)) :
    lineIntegralK vx (k + 1) row = lineIntegralK vx k row * attenRescale vx := by
  -- multiplying by the rescale factor commutes with every step of the fold
  have h := List.foldl_hom (· * attenRescale vx) (l := row) (init := 0)
    (g₁ := fun acc p => acc + p.1 * rescaled vx k p.2) (g₂ := fun acc p => acc + p.1 * rescaled vx (k + 1) p.2)
    fun acc p => by
      rw [add_mul, mul_assoc]
      rfl
  rwa [zero_mul] at h

theorem attenObj_postProcessing_file {ι : Type} (o : AttenObj ι K) (file : ι) :
    o.postProcessing (some file) = some { o with img := some (file, 1) } := rfl

theorem attenObj_postProcessing_held {ι : Type} (o : AttenObj ι K) (i : ι) (k : Nat) (h : o.img = some (i, k + 1)) :
    o.postProcessing none = some { o with img := some (i, k + 1) } := by
  simp [AttenObj.postProcessing, h]

theorem attenObj_setUp_observe {ι : Type} (E : K → K) (floor : K) (o o' : AttenObj ι K) (i : ι) (tofMashFactor : Int)
    (images : ι → K × (Bin → List (K × K))) (hi : o.img = some (i, 1)) (h : o.setUp tofMashFactor images = some o')
    (b : Bin) (v : K) : o'.undo E b v = undo E (.fromAtten (images i).1 (images i).2) b v ∧
      o'.apply E b v = apply E floor (.fromAtten (images i).1 (images i).2) b v := by
  unfold AttenObj.setUp at h
  split at h
  · rw [hi] at h
    cases h
    exact ⟨rfl, rfl⟩
  · cases h

theorem chainObj_parse_second {ι : Type} (o : ChainObj ι) (k : MemberKey ι) (b : Option ι) :
    o.parse k (some b) true = some ⟨k.applyTo o.first, b, o.ownSetUp, false⟩ := by
  simp [ChainObj.parse, MemberKey.applyTo]

end StirVerif.C13
