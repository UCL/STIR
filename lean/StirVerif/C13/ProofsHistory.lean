import StirVerif.C13.Proofs

namespace StirVerif.C13

-- the order instances on `K` are section variables that many statements do not need
set_option linter.unusedSectionVars false

variable {K : Type} [Field K] [LinearOrder K] [IsStrictOrderedRing K]

theorem compObj_run_append (tol : K) (o : CompObj K) (hs hs' : List (CompStep K)) :
    CompObj.run tol o (hs ++ hs') = (CompObj.run tol o hs).bind fun o' => CompObj.run tol o' hs' := by
  induction hs generalizing o with
  | nil => simp [CompObj.run]
  | cons s r ih =>
    cases s with
    | allocate => simp [CompObj.run, ih]
    | setUp c =>
      simp only [List.cons_append, CompObj.run]
      cases o.setUp tol c with
      | none => rfl
      | some o1 => simp [ih]

theorem compObj_run_allocated (tol : K) (o o' : CompObj K) (hs : List (CompStep K)) (h : CompObj.run tol o hs = some o')
    (ha : o.allocated = true) : o'.allocated = true := by
  induction hs generalizing o with
  | nil =>
    simp only [CompObj.run, Option.some.injEq] at h
    exact h ▸ ha
  | cons s r ih =>
    cases s with
    | allocate => exact ih o.allocate h rfl
    | setUp c =>
      simp only [CompObj.run, CompObj.setUp, ha, if_true, Option.bind_some] at h
      exact ih _ h rfl

/-- `set_up` succeeds exactly on an allocated object, and what it leaves behind does not depend on what the object held before -/
theorem compObj_setUp_eq_some_iff (tol : K) (o o' : CompObj K) (c : Components K) :
    o.setUp tol c = some o' ↔ o.allocated = true ∧ o' = ⟨true, true, c.isTrivial tol, c.invnorm⟩ := by
  rw [CompObj.setUp, Option.ite_none_right_eq_some, Option.some.injEq]
  exact and_congr_right fun ha => by rw [ha, eq_comm]

theorem compObj_run_setUp_last (tol : K) (o o' : CompObj K) (hs : List (CompStep K)) (c : Components K)
    (h : CompObj.run tol o (hs ++ [.setUp c]) = some o') : o' = ⟨true, true, c.isTrivial tol, c.invnorm⟩ := by
  rw [compObj_run_append] at h
  obtain ⟨o1, -, h2⟩ := Option.bind_eq_some_iff.mp h
  obtain ⟨o2, h3, h4⟩ := Option.bind_eq_some_iff.mp h2
  cases h4
  exact ((compObj_setUp_eq_some_iff tol o1 o' c).mp h3).2

theorem calibObj_run_append (o : CalibObj K) (hs hs' : List (CalibStep K)) :
    CalibObj.run o (hs ++ hs') = CalibObj.run (CalibObj.run o hs) hs' := by
  induction hs generalizing o with
  | nil => rfl
  | cons s r ih => cases s <;> simp [CalibObj.run, ih]

end StirVerif.C13
