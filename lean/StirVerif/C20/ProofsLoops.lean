import StirVerif.C20.Model
import StirVerif.Common.IntRange
import StirVerif.Common.ListNodup
import StirVerif.Common.ArrayFold
import Mathlib.Algebra.BigOperators.Group.List.Basic
import Mathlib.Algebra.BigOperators.Ring.List
import Mathlib.Algebra.Field.Basic
import Mathlib.Algebra.Order.Field.Basic
import Mathlib.Algebra.Order.BigOperators.Group.List
import Mathlib.Tactic.Ring
import Mathlib.Tactic.Linarith
/-! # C20 — index lists, the value containers and the loops over them; the scalar guard of the class ratio

Nothing here mentions the geometry of a `FanProjData`. -/
namespace StirVerif.C20
open Common
-- the section-wide instance arguments are more than some lemmas of the section use
set_option linter.unusedSectionVars false

theorem mem_intRange {lo hi x : Int} : x ∈ intRange lo hi ↔ lo ≤ x ∧ x ≤ hi := by
  rw [intRange, mem_map_range_add]
  omega

theorem nodup_intRange (lo hi : Int) : (intRange lo hi).Nodup :=
  nodup_map_range_add lo _

theorem intRange_ne_nil {lo hi : Int} (h : lo ≤ hi) : intRange lo hi ≠ [] :=
  List.ne_nil_of_mem (mem_intRange.2 ⟨le_rfl, h⟩)

theorem intRange_self (x : Int) : intRange x x = [x] := by
  unfold intRange
  have : (x + 1 - x).toNat = 1 := by omega
  rw [this]
  simp

theorem flatMap_intRange_self {α : Type} (x : Int) (f : Int → List α) : (intRange x x).flatMap f = f x := by
  rw [intRange_self, List.flatMap_cons, List.flatMap_nil, List.append_nil]

def loopNest (A B : List Int) (C D : Int → List Int) : List Key :=
  A.flatMap fun ra => B.flatMap fun a => (C ra).flatMap fun rb => (D a).map fun b => (ra, a, rb, b)

theorem mem_loopNest {A B : List Int} {C D : Int → List Int} {c : Key} :
    c ∈ loopNest A B C D ↔ c.1 ∈ A ∧ c.2.1 ∈ B ∧ c.2.2.1 ∈ C c.1 ∧ c.2.2.2 ∈ D c.2.1 := by
  obtain ⟨ra, a, rb, b⟩ := c
  simp only [loopNest, List.mem_flatMap, List.mem_map, Prod.mk.injEq]
  constructor
  · rintro ⟨ra', h1, a', h2, rb', h3, b', h4, rfl, rfl, rfl, rfl⟩
    exact ⟨h1, h2, h3, h4⟩
  · rintro ⟨h1, h2, h3, h4⟩
    exact ⟨ra, h1, a, h2, rb, h3, b, h4, rfl, rfl, rfl, rfl⟩

theorem loopNest_nodup {A B : List Int} {C D : Int → List Int} (hA : A.Nodup) (hB : B.Nodup) (hC : ∀ ra, (C ra).Nodup)
    (hD : ∀ a, (D a).Nodup) : (loopNest A B C D).Nodup := by
  refine nodup_flatMap_of_tag id (fun c => c.1) (by rwa [List.map_id]) (fun ra _ => ?_) (fun ra _ y hy => ?_)
  · refine nodup_flatMap_of_tag id (fun c => c.2.1) (by rwa [List.map_id]) (fun a _ => ?_) (fun a _ y hy => ?_)
    · exact nodup_flatMap_map (hC ra) (fun _ _ => hD a) fun _ _ _ _ h => by simpa using h
    · obtain ⟨rb, _, hy⟩ := List.mem_flatMap.1 hy
      obtain ⟨b, _, rfl⟩ := List.mem_map.1 hy
      rfl
  · obtain ⟨a, _, hy⟩ := List.mem_flatMap.1 hy
    obtain ⟨rb, _, hy⟩ := List.mem_flatMap.1 hy
    obtain ⟨b, _, rfl⟩ := List.mem_map.1 hy
    rfl

section containers
variable {K : Type} [OfNat K 0]

theorem Fan.get_set (F : Fan K) (k k' : Key) (v : K) : (F.set k v).get k' = if k = k' then v else F.get k' := by
  simp [Fan.get, Fan.set, Std.HashMap.getD_insert]

theorem Fan.get_set_eq (F : Fan K) (k : Key) (v : K) : (F.set k v).get k = v := by
  simp [Fan.get_set]

theorem Fan.get_set_ne (F : Fan K) {k k' : Key} (v : K) (h : k ≠ k') : (F.set k v).get k' = F.get k' := by
  simp [Fan.get_set, h]

theorem Fan.get_empty (k : Key) : ({} : Fan K).get k = 0 := by
  simp [Fan.get]

theorem Tab.get_set (T : Tab K) (k k' : Int × Int) (v : K) : (T.set k v).get k' = if k = k' then v else T.get k' := by
  simp [Tab.get, Tab.set, Std.HashMap.getD_insert]

theorem Tab.get_set_eq (T : Tab K) (k : Int × Int) (v : K) : (T.set k v).get k = v := by
  simp [Tab.get_set]

theorem Tab.get_set_ne (T : Tab K) {k k' : Int × Int} (v : K) (h : k ≠ k') : (T.set k v).get k' = T.get k' := by
  simp [Tab.get_set, h]

theorem Tab.get_empty (k : Int × Int) : ({} : Tab K).get k = 0 := by
  simp [Tab.get]

theorem tab_foldl_set_get (g : Int × Int → K) (l : List (Int × Int)) (T : Tab K) (k : Int × Int) :
    (l.foldl (fun T x => T.set x (g x)) T).get k = if k ∈ l then g k else T.get k := by
  induction l generalizing T with
  | nil => simp
  | cons x l ih =>
    rw [List.foldl_cons, ih]
    by_cases hk : k ∈ l
    · simp [hk]
    · by_cases hx : x = k
      · subst hx
        simp [hk, Tab.get_set_eq]
      · have : k ≠ x := fun h => hx h.symm
        simp only [List.mem_cons, hk, this, or_self, if_false]
        exact Tab.get_set_ne _ _ hx

/-! ### loops that write a `Fan`

Every loop of the model that fills or updates an array is a `foldl` whose step acts on the elements like a `set` of one element to a
value computed from its old one — a `set` itself (`rmwFold_get`) or an inner loop that accumulates into one element
(`acc_nested_get`).  One fact covers them (`stepFold_get`): afterwards an element holds its initial value with the steps that address
it applied in loop order.  Plain writes leave the value of one of the writers (`writes_get`; its proof picks the last); a loop over distinct elements applies its
one step (`rmw_get`); sums and products of the visits are `accFold_get` and `factorFold_get`. -/

theorem stepFold_get {α : Type} (step : Fan K → α → Fan K) (key : α → Key) (f : α → K → K)
    (hstep : ∀ G x k, (step G x).get k = if key x = k then f x (G.get (key x)) else G.get k) (l : List α) (G : Fan K) (k : Key) :
    (l.foldl step G).get k = (l.filter fun x => key x = k).foldl (fun v x => f x v) (G.get k) := by
  rw [List.foldl_filter]
  refine (List.foldl_hom (fun G : Fan K => G.get k) fun G x => ?_).symm
  rw [hstep]
  exact ite_congr decide_eq_true_eq (fun h => by rw [h]) fun _ => rfl

theorem rmwFold_get {α : Type} (key : α → Key) (f : α → K → K) (l : List α) (G : Fan K) (k : Key) :
    (l.foldl (fun G x => G.set (key x) (f x (G.get (key x)))) G).get k =
      (l.filter fun x => key x = k).foldl (fun v x => f x v) (G.get k) :=
  stepFold_get _ key f (fun _ _ _ => Fan.get_set _ _ _ _) l G k

theorem rmwFold_get_of_ne {α : Type} (key : α → Key) (f : α → K → K) (l : List α) (F : Fan K) {k : Key}
    (h : ∀ x ∈ l, key x ≠ k) : (l.foldl (fun F x => F.set (key x) (f x (F.get (key x)))) F).get k = F.get k := by
  rw [rmwFold_get, List.filter_eq_nil_iff.2 fun x hx => by simpa using h x hx]
  rfl

theorem filter_key_eq {α : Type} (key : α → Key) {l : List α} (hn : l.Nodup)
    (hinj : ∀ c ∈ l, ∀ c' ∈ l, key c = key c' → c = c') {c : α} (hc : c ∈ l) :
    (l.filter fun x => key x = key c) = [c] := by
  classical
  rw [List.filter_congr (q := fun x => decide (x = c)) fun x hx =>
    decide_eq_decide.2 ⟨fun h => hinj x hx c hc h, fun h => h ▸ rfl⟩]
  rw [List.filter_eq, List.count_eq_one_of_mem hn hc, List.replicate_one]

theorem writes_get {α : Type} (key : α → Key) (val : α → K) (l : List α) (F : Fan K) {k : Key} (h : ∃ x ∈ l, key x = k) :
    ∃ x ∈ l, key x = k ∧ (l.foldl (fun F x => F.set (key x) (val x)) F).get k = val x := by
  rw [rmwFold_get key (fun x _ => val x)]
  obtain ⟨y, hy, hk⟩ := h
  rcases List.eq_nil_or_concat (l.filter fun x => key x = k) with h0 | ⟨l', x, h1⟩
  · exact absurd (List.mem_filter.2 ⟨hy, by simpa using hk⟩) (h0 ▸ List.not_mem_nil)
  · obtain ⟨hx, hkx⟩ := List.mem_filter.1 (h1 ▸ (by simp) : x ∈ l.filter fun x => key x = k)
    refine ⟨x, hx, by simpa using hkx, ?_⟩
    rw [h1, List.concat_eq_append, List.foldl_append]
    rfl

theorem rmw_get {α : Type} (key : α → Key) (f : α → K → K) {l : List α} (hn : l.Nodup)
    (hinj : ∀ c ∈ l, ∀ c' ∈ l, key c = key c' → c = c') (G : Fan K) {c : α} (hc : c ∈ l) :
    (l.foldl (fun G c => G.set (key c) (f c (G.get (key c)))) G).get (key c) = f c (G.get (key c)) := by
  rw [rmwFold_get, filter_key_eq key hn hinj hc]
  rfl

end containers

section
variable {K : Type} [Field K] [DecidableEq K]

theorem foldl_foldl_add_eq_sum {α β : Type} (g : α → β → K) (l : List α) (m : List β) :
    l.foldl (fun s x => m.foldl (fun s y => s + g x y) s) 0 = (l.map fun x => (m.map (g x)).sum).sum := by
  have h : (fun (s : K) x => m.foldl (fun s y => s + g x y) s) = fun s x => s + (m.map (g x)).sum :=
    funext fun s => funext fun x => Common.foldl_add_eq_sum _ _ _
  rw [h, Common.foldl_add_eq_sum, zero_add]

theorem sum_map_congr {α : Type} (g g' : α → K) (l : List α) (h : ∀ x ∈ l, g x = g' x) : (l.map g).sum = (l.map g').sum := by
  rw [List.map_congr_left h]

theorem sum_map_flatMap {α β : Type} (l : List α) (f : α → List β) (G : β → K) :
    ((l.flatMap f).map G).sum = (l.map fun x => ((f x).map G).sum).sum := by
  rw [List.map_flatMap, List.flatMap_def, List.sum_flatten, List.map_map]
  rfl

theorem accFold_get {α : Type} (key : α → Key) (v : α → K) (l : List α) (B : Fan K) (k : Key) :
    (l.foldl (fun B x => B.set (key x) (B.get (key x) + v x)) B).get k = B.get k + ((l.filter fun x => key x = k).map v).sum := by
  rw [rmwFold_get key (fun x s => s + v x), Common.foldl_add_eq_sum]

theorem acc_inner_get {β : Type} (m : List β) (cond : β → Bool) (k : Key) (val : β → K) (G0 : Fan K) (k' : Key) :
    (m.foldl (fun G y => if cond y then G.set k (G.get k + val y) else G) G0).get k' =
      if k = k' then G0.get k + ((m.filter cond).map val).sum else G0.get k' := by
  rw [← List.foldl_filter, accFold_get (fun _ => k) val]
  by_cases hk : k = k'
  · simp [hk]
  · simp [hk]

/-- the doubly nested accumulation loop of `make_geo_data`: a pass of the outer loop accumulates into the one element `key x` -/
theorem acc_nested_get {α β : Type} (m : List β) (cond : α → β → Bool) (key : α → Key) (val : α → β → K) (l : List α)
    (G0 : Fan K) (k : Key) :
    (l.foldl (fun G x => m.foldl (fun G y => if cond x y then G.set (key x) (G.get (key x) + val x y) else G) G) G0).get k =
      G0.get k + ((l.filter fun x => key x = k).map fun x => ((m.filter (cond x)).map (val x)).sum).sum := by
  rw [stepFold_get _ key (fun x v => v + ((m.filter (cond x)).map (val x)).sum)
    (fun G x k => acc_inner_get m (cond x) (key x) (val x) G k), Common.foldl_add_eq_sum]

/-- the triple loop of plain writes of `apply_geo_norm` (factor, block translation, targets) is one loop over the flattened list of writes -/
theorem nested_writes_eq {α β : Type} (l : List α) (m : List β) (tg : α → β → List Key) (v : α → K) (W0 : Fan K) :
    l.foldl (fun W x => m.foldl (fun W y => (tg x y).foldl (fun W t => W.set t (v x)) W) W) W0 =
      (l.flatMap fun x => m.flatMap fun y => (tg x y).map fun t => (t, v x)).foldl (fun W w => W.set w.1 w.2) W0 := by
  rw [List.foldl_flatMap]
  congr 1
  funext W x
  rw [List.foldl_flatMap]
  congr 1
  funext W y
  rw [List.foldl_map]

theorem nested_writes_get {α β : Type} (l : List α) (m : List β) (tg : α → β → List Key) (v : α → K) (k : Key)
    (h : ∃ x ∈ l, ∃ y ∈ m, k ∈ tg x y) : ∃ x ∈ l, (∃ y ∈ m, k ∈ tg x y) ∧
      (l.foldl (fun W x => m.foldl (fun W y => (tg x y).foldl (fun W t => W.set t (v x)) W) W) ({} : Fan K)).get k = v x := by
  rw [nested_writes_eq]
  obtain ⟨x, hx, y, hy, ht⟩ := h
  obtain ⟨w, hw, hk, hv⟩ := writes_get Prod.fst Prod.snd (l.flatMap fun x => m.flatMap fun y => (tg x y).map fun t => (t, v x))
    ({} : Fan K) (k := k) ⟨(k, v x), by
      simp only [List.mem_flatMap, List.mem_map]
      exact ⟨x, hx, y, hy, k, ht, rfl⟩, rfl⟩
  simp only [List.mem_flatMap, List.mem_map] at hw
  obtain ⟨x', hx', y', hy', t, ht', rfl⟩ := hw
  exact ⟨x', hx', ⟨y', hy', hk ▸ ht'⟩, hv⟩

/-- in a field the `if (x == 0) continue;` is invisible: `x *= f` -/
theorem applyFactor_true (v f : K) : applyFactor true v f = v * f := by
  unfold applyFactor
  by_cases h : v = 0
  · simp [h]
  · simp [h]

theorem applyFactor_false (v f : K) : applyFactor false v f = v / f := by
  unfold applyFactor
  by_cases h : v = 0
  · simp [h]
  · simp [h]

/-- product of the factors of all visits of the loop nest `cs` to the array element `k` -/
def visitProd (key : Key → Key) (f : Key → K) (cs : List Key) (k : Key) : K :=
  ((cs.filter fun c => key c = k).map f).prod

theorem visitProd_cons (key : Key → Key) (f : Key → K) (c : Key) (cs : List Key) (k : Key) :
    visitProd key f (c :: cs) k = (if key c = k then f c else 1) * visitProd key f cs k := by
  unfold visitProd
  by_cases h : key c = k
  · simp [h]
  · simp [h]

theorem visitProd_of_not_mem (key : Key → Key) (f : Key → K) (cs : List Key) (k : Key) (h : ∀ c ∈ cs, key c ≠ k) :
    visitProd key f cs k = 1 := by
  unfold visitProd
  rw [List.filter_eq_nil_iff.2 (fun c hc => by simpa using h c hc)]
  simp

theorem foldl_applyFactor (f : Key → K) (apply : Bool) (l : List Key) (v : K) :
    l.foldl (fun v c => applyFactor apply v (f c)) v = applyFactor apply v (l.map f).prod := by
  induction l generalizing v with
  | nil => cases apply <;> simp [applyFactor_true, applyFactor_false]
  | cons c l ih =>
    rw [List.foldl_cons, ih, List.map_cons, List.prod_cons]
    cases apply
    · simp only [applyFactor_false, div_div]
    · simp only [applyFactor_true, mul_assoc]

theorem factorFold_get (key : Key → Key) (f : Key → K) (apply : Bool) (cs : List Key) (F : Fan K) (k : Key) :
    (cs.foldl (factorStep key f apply) F).get k = applyFactor apply (F.get k) (visitProd key f cs k) :=
  (rmwFold_get key (fun c v => applyFactor apply v (f c)) cs F k).trans (foldl_applyFactor f apply _ _)

theorem factorFold_get_key (key : Key → Key) (f : Key → K) (apply : Bool) {cs : List Key} (hn : cs.Nodup)
    (hinj : ∀ c ∈ cs, ∀ c' ∈ cs, key c = key c' → c = c') (F : Fan K) {c : Key} (hc : c ∈ cs) :
    (cs.foldl (factorStep key f apply) F).get (key c) = applyFactor apply (F.get (key c)) (f c) :=
  rmw_get key (fun c v => applyFactor apply v (f c)) hn hinj F hc

theorem visitProd_ne_zero (key : Key → Key) (f : Key → K) (cs : List Key) (k : Key) (hf : ∀ c ∈ cs, f c ≠ 0) :
    visitProd key f cs k ≠ 0 := by
  refine List.prod_ne_zero fun h => ?_
  obtain ⟨c, hc, h0⟩ := List.mem_map.1 h
  exact hf c (List.mem_filter.1 hc).1 h0

theorem factorFold_undo (key : Key → Key) (f : Key → K) (cs : List Key) (F : Fan K) (hf : ∀ c ∈ cs, f c ≠ 0) (apply : Bool)
    (k : Key) : (cs.foldl (factorStep key f !apply) (cs.foldl (factorStep key f apply) F)).get k = F.get k := by
  have h := visitProd_ne_zero key f cs k hf
  rw [factorFold_get, factorFold_get]
  cases apply
  · rw [applyFactor_false, Bool.not_false, applyFactor_true]
    exact div_mul_cancel₀ _ h
  · rw [applyFactor_true, Bool.not_true, applyFactor_false]
    exact mul_div_cancel_right₀ _ h

end

section ordered
variable {K : Type} [Field K] [LinearOrder K] [IsStrictOrderedRing K]

theorem list_sum_pos_of_pos {α : Type} (g : α → K) (l : List α) (hl : l ≠ []) (hpos : ∀ x ∈ l, 0 < g x) : 0 < (l.map g).sum :=
  List.sum_pos _ (List.forall_mem_map.2 hpos) (by simpa using hl)

theorem findMax_mono {α : Type} (l : List α) (f f' : α → K) (hff : ∀ x ∈ l, f x ≤ f' x) :
    findMax (l.map f) ≤ findMax (l.map f') := by
  unfold findMax
  rw [List.foldl_map, List.foldl_map]
  exact List.foldl_rel (r := (· ≤ ·)) le_rfl fun x hx c c' hc => by
    rw [← max_def_lt, ← max_def_lt]
    exact max_le_max hc (hff x hx)

/-- the guard of the class ratio, as a proposition -/
theorem ratioOrZero_eq (thr m n : K) : ratioOrZero thr m n = if thr ≤ m ∨ m < 10000 * n then m / n else 0 := by
  unfold ratioOrZero
  simp only [Bool.or_eq_true, Bool.not_eq_eq_eq_not, Bool.not_true, decide_eq_false_iff_not, not_lt, decide_eq_true_eq]

theorem ratioOrZero_zero_measured (thr n : K) : ratioOrZero thr 0 n = 0 := by
  rw [ratioOrZero_eq, zero_div, ite_self]

theorem ratioOrZero_fixed (thr S g : K) (hS : 0 < S) (hg : g < 10000) : ratioOrZero thr (g * S) S = g := by
  rw [ratioOrZero_eq, if_pos (Or.inr (mul_lt_mul_of_pos_right hg hS))]
  exact mul_div_cancel_right₀ _ hS.ne'

/-- **fixed point of the thresholded class ratio**: let `γ` be the factor that `iterate_geo_norm` computes from the measured
class sum `M ≥ 0` and the model class sum `S ≥ 0` (`M = 0` when the class is empty, `S = 0`) with threshold `thr`.  Then the data
`γ·S` generated from it are not larger than `M`, and with any threshold `thr' ≤ thr` the update returns `γ` again. -/
theorem ratioOrZero_refixed (thr thr' M S : K) (hM : 0 ≤ M) (hS : 0 ≤ S) (hS0 : S = 0 → M = 0) (hthr : thr' ≤ thr) :
    ratioOrZero thr' (ratioOrZero thr M S * S) S = ratioOrZero thr M S ∧ ratioOrZero thr M S * S ≤ M := by
  rw [ratioOrZero_eq thr M S]
  split_ifs with hc
  · rcases hS.eq_or_lt with hS' | hS'
    · -- empty class
      rw [hS0 hS'.symm, zero_div, zero_mul, ratioOrZero_zero_measured]
      exact ⟨rfl, le_rfl⟩
    · -- the ratio was kept: at or above the threshold, which can only go down, or below the hard-wired bound
      rw [div_mul_cancel₀ _ hS'.ne', ratioOrZero_eq, if_pos (hc.imp_left hthr.trans)]
      exact ⟨rfl, le_rfl⟩
  · -- thresholded to 0
    rw [zero_mul, ratioOrZero_zero_measured]
    exact ⟨rfl, hM⟩

end ordered
end StirVerif.C20
