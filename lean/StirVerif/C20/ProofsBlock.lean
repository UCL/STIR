import StirVerif.C20.ProofsEff
/-! # C20 — block factors: `make_block_data` as class sums, `iterate_block_norm` as a loop over the block data (the fixed point
for block factors below `10000` is read off them at `C20_block_fixed_point_nonneg_model`; the lemmas about the guard `ratioOrZero` are in
`ProofsLoops`) -/
namespace StirVerif.C20
-- the section-wide instance arguments are more than some lemmas of the section use
set_option linter.unusedSectionVars false

/-- the element of the block data addressed for the fan-data loop indices `c`:
`block_data(ra / num_axial_crystals_per_block, a / …, rb / …, b / …)` -/
def blockKey (d bd : Dims) (c : Key) : Key :=
  bd.storeKey (Int.tdiv c.1 (Int.tdiv d.R bd.R)) (Int.tdiv c.2.1 (Int.tdiv d.N bd.N)) (Int.tdiv c.2.2.1 (Int.tdiv d.R bd.R))
    (Int.tdiv c.2.2.2 (Int.tdiv d.N bd.N))

section
variable {K : Type} [Field K] [LinearOrder K] [IsStrictOrderedRing K]

theorem blockFactor_eq (d bd : Dims) (blk : Fan K) (c : Key) : blockFactor d bd blk c = blk.get (blockKey d bd c) := rfl

theorem makeBlock_eq_fold (d bd : Dims) (F : Fan K) :
    makeBlock d bd F = d.canon.foldl (fun B c => B.set (blockKey d bd c) (B.get (blockKey d bd c) + F.get (d.key c))) {} := rfl

theorem makeBlock_get (d bd : Dims) (F : Fan K) (k : Key) :
    (makeBlock d bd F).get k = ((d.canon.filter fun c => blockKey d bd c = k).map fun c => F.get (d.key c)).sum := by
  rw [makeBlock_eq_fold, accFold_get, Fan.get_empty, zero_add]

theorem iterateBlock_eq_fold (d bd : Dims) (measured model : Fan K) :
    iterateBlock d bd measured model =
      bd.canon.foldl (fun B c => B.set (bd.key c)
        (ratioOrZero (findMax (bd.canon.map fun c => measured.at bd c.1 c.2.1 c.2.2.1 c.2.2.2) / 10000) (measured.get (bd.key c))
          (B.get (bd.key c)))) (makeBlock d bd model) := rfl

/-! ## the guard `(measured >= threshold || measured < 10000*norm) ? measured/norm : 0`

`threshold = find_max()/10000` (ML_norm.cxx:395-401, 411-418, 1709-1722, 1731-1741; `ratioOrZero` in the model). -/

/-- Not in the C++ (a plausible refactoring of the duplicated guard into a helper that combines the two conditions with `&&`
instead of `||`): used only to state that it is a different function. -/
def ratioAndVariant (thr measured norm : K) : K :=
  if !(decide (measured < thr)) && decide (measured < 10000 * norm) then measured / norm else 0

end
end StirVerif.C20
