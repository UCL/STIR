import StirVerif.C20.ProofsEff
import StirVerif.C20.ProofsKL
import Mathlib.Algebra.BigOperators.Group.Finset.Basic
import Mathlib.Algebra.BigOperators.Group.Finset.Sigma
import Mathlib.Data.Fintype.Sets
import Mathlib.Tactic.Ring
import Mathlib.Tactic.Linarith
/-! # C20 — the executable `iterate_efficiencies` refines the abstract coordinate-descent sweep

`ProofsKL.lean` proves the descent for an arbitrary finite detector type `ι` and symmetric data/model `y m : ι → ι → ℝ`.  Here the
executable model is tied to it: `ι` = the detectors `Det d`, `y a b` = `data.at d ra a rb b` inside the fan / ring-difference window
and `0` outside (`pairVal`).  The steps are listed at `C20_eff_iteration_descends_on_model`. -/
namespace StirVerif.C20
open Finset

noncomputable section

def Dims.detSet (d : Dims) : Finset (Int × Int) := d.dets.toFinset

theorem mem_detSet {d : Dims} {x : Int × Int} : x ∈ d.detSet ↔ x ∈ d.dets := List.mem_toFinset

abbrev Det (d : Dims) : Type := {x : Int × Int // x ∈ d.detSet}

def Dims.win (d : Dims) (x x' : Int × Int) : Prop := d.inWindow x.1 x.2 x'.1 x'.2

instance (d : Dims) (x x' : Int × Int) : Decidable (d.win x x') := by
  unfold Dims.win
  infer_instance

def pairVal (d : Dims) (F : Fan ℝ) (x x' : Int × Int) : ℝ := if d.win x x' then F.at d x.1 x.2 x'.1 x'.2 else 0

def yOf (d : Dims) (F : Fan ℝ) : Det d → Det d → ℝ := fun a b => pairVal d F a.1 b.1

def epsOf (d : Dims) (T : Tab ℝ) : Det d → ℝ := fun a => T.get a.1

theorem win_symm {d : Dims} (wf : d.WF) {x x' : Int × Int} (h : d.win x x') : d.win x' x := inWindow_symm wf h

theorem not_win_self {d : Dims} (wf : d.WF) (x : Int × Int) : ¬ d.win x x := by
  have := wf.heven
  have := wf.hfan
  unfold Dims.win Dims.inWindow Dims.inFan Dims.minB Dims.maxB
  omega

theorem pairVal_symm {d : Dims} (wf : d.WF) (F : Fan ℝ)
    (hF : ∀ ra a rb b, d.inWindow ra a rb b → F.at d ra a rb b = F.at d rb b ra a) (x x' : Int × Int) :
    pairVal d F x x' = pairVal d F x' x :=
  if_ctx_congr ⟨win_symm wf, win_symm wf⟩ (fun h => hF _ _ _ _ (win_symm wf h)) fun _ => rfl

theorem pairData_of_model {d : Dims} (wf : d.WF) (data model : Fan ℝ)
    (hpos : ∀ c ∈ d.canon, 0 ≤ data.get (d.key c) ∧ 0 < model.get (d.key c))
    (hsym : ∀ ra a rb b, d.inWindow ra a rb b →
      data.at d ra a rb b = data.at d rb b ra a ∧ model.at d ra a rb b = model.at d rb b ra a) :
    PairData (yOf d data) (yOf d model) := by
  have hval : ∀ {x x' : Int × Int}, d.win x x' →
      0 ≤ data.at d x.1 x.2 x'.1 x'.2 ∧ 0 < model.at d x.1 x.2 x'.1 x'.2 := by
    intro x x' h
    obtain ⟨c, hc, hkey, _⟩ := exists_canon_of_inWindow wf h
    unfold Fan.at
    rw [← hkey]
    exact hpos c hc
  have hcase : ∀ x x', 0 ≤ pairVal d data x x' ∧ 0 ≤ pairVal d model x x' ∧
      (0 < pairVal d data x x' → 0 < pairVal d model x x') := by
    intro x x'
    unfold pairVal
    by_cases h : d.win x x'
    · rw [if_pos h, if_pos h]
      exact ⟨(hval h).1, (hval h).2.le, fun _ => (hval h).2⟩
    · rw [if_neg h, if_neg h]
      exact ⟨le_rfl, le_rfl, fun h0 => absurd h0 (lt_irrefl _)⟩
  have hdiag : ∀ (F : Fan ℝ) (x : Int × Int), pairVal d F x x = 0 := fun F x => if_neg (not_win_self wf x)
  exact ⟨fun a b => (hcase a.1 b.1).1, fun a b => (hcase a.1 b.1).2.1,
    fun a b => pairVal_symm wf data (fun ra a rb b h => (hsym ra a rb b h).1) _ _,
    fun a b => pairVal_symm wf model (fun ra a rb b h => (hsym ra a rb b h).2) _ _,
    fun a => hdiag data a.1, fun a => hdiag model a.1, fun a b => (hcase a.1 b.1).2.2⟩

theorem sum_fanList {d : Dims} (wf : d.WF) {x : Int × Int} (hx : x ∈ d.dets) (G : Int × Int → ℝ) :
    ((d.fanList x).map G).sum = ∑ x' ∈ d.detSet, if d.win x x' then G x' else 0 := by
  rw [← List.sum_toFinset G (fanList_nodup wf hx), ← Finset.sum_filter]
  apply Finset.sum_congr _ (fun _ _ => rfl)
  ext x'
  rw [List.mem_toFinset, Finset.mem_filter, mem_detSet]
  exact ⟨fun h => ⟨(mem_dets_of_inWindow ((mem_fanList wf hx).1 h)).2, (mem_fanList wf hx).1 h⟩, fun h => (mem_fanList wf hx).2 h.2⟩

theorem fanSumR_eq {d : Dims} (wf : d.WF) (data : Fan ℝ) (k : Det d) :
    fanSumR (yOf d data) k = (makeFanSums d data).get k.1 := by
  have hk : k.1 ∈ d.dets := mem_detSet.1 k.2
  unfold fanSumR yOf
  rw [Finset.sum_coe_sort d.detSet (fun x' => pairVal d data k.1 x'), makeFanSums_get d _ hk, fanSum_eq_fanList, sum_fanList wf hk]
  rfl

theorem denomR_eq {d : Dims} (wf : d.WF) (model : Fan ℝ) (T : Tab ℝ) (k : Det d) :
    denomR (yOf d model) (epsOf d T) k = effDenominator d model T k.1.1 k.1.2 := by
  have hk : k.1 ∈ d.dets := mem_detSet.1 k.2
  unfold denomR yOf epsOf
  rw [Finset.sum_coe_sort d.detSet (fun x' => T.get x' * pairVal d model k.1 x'), effDenominator_eq_fanList wf model T hk,
    sum_fanList wf hk]
  refine Finset.sum_congr rfl fun x' _ => ?_
  unfold pairVal
  split
  · rfl
  · rw [mul_zero]

theorem epsOf_set (d : Dims) (T : Tab ℝ) (k : Det d) (v : ℝ) : epsOf d (T.set k.1 v) = Function.update (epsOf d T) k v := by
  funext a
  rw [Function.update_apply]
  exact (Tab.get_set T k.1 a.1 v).trans (if_congr (by rw [eq_comm, Subtype.ext_iff]) rfl rfl)

theorem effStep_refines {d : Dims} (wf : d.WF) (data model : Fan ℝ) (T : Tab ℝ) (k : Det d) :
    epsOf d (effStep d (makeFanSums d data) model T k.1) = effUpdate (yOf d data) (yOf d model) (epsOf d T) k := by
  unfold effStep effUpdate
  rw [fanSumR_eq wf data k, denomR_eq wf model T k, apply_ite (epsOf d), epsOf_set, epsOf_set, ← apply_ite,
    if_congr beq_iff_eq rfl rfl]

def Dims.detList (d : Dims) : List (Det d) := d.dets.attach.map fun x => ⟨x.1, mem_detSet.2 x.2⟩

theorem detList_map_val (d : Dims) : d.detList.map Subtype.val = d.dets := by
  unfold Dims.detList
  rw [List.map_map]
  exact List.attach_map_subtype_val d.dets

theorem iterateEff_refines {d : Dims} (wf : d.WF) (data model : Fan ℝ) (eff : Tab ℝ) :
    epsOf d (iterateEff d eff (makeFanSums d data) model) = effSweep (yOf d data) (yOf d model) (epsOf d eff) d.detList := by
  unfold iterateEff effSweep
  rw [← detList_map_val, List.foldl_map]
  exact (List.foldl_hom (epsOf d) fun T k => (effStep_refines wf data model T k).symm).symm

/-- the Kullback-Leibler term of one ordered detector pair: data against `ε_x ε_x' m_xx'` (`0` against `0` outside the window) -/
def klF (d : Dims) (data model : Fan ℝ) (E : Tab ℝ) (x x' : Int × Int) : ℝ :=
  kl0 (pairVal d data x x') (E.get x * E.get x' * pairVal d model x x')

theorem klObjective_eq (d : Dims) (data model : Fan ℝ) (E : Tab ℝ) :
    klObjective (yOf d data) (yOf d model) (epsOf d E) = ∑ x ∈ d.detSet, ∑ x' ∈ d.detSet, klF d data model E x x' := by
  unfold klObjective
  rw [← Finset.sum_coe_sort d.detSet (fun x => ∑ x' ∈ d.detSet, klF d data model E x x')]
  apply Finset.sum_congr rfl
  intro a _
  rw [← Finset.sum_coe_sort d.detSet (fun x' => klF d data model E a.1 x')]
  rfl

/-- a symmetric double sum is twice the sum over the pairs selected by a relation that picks one order of every pair on which the
summand does not vanish -/
theorem sum_sum_symm {α : Type} [DecidableEq α] (D : Finset α) (f : α → α → ℝ) (r : α → α → Prop) [DecidableRel r]
    (hsymm : ∀ x x', f x x' = f x' x)
    (hsplit : ∀ x x', f x x' = (if r x x' then f x x' else 0) + (if r x' x then f x x' else 0)) :
    ∑ x ∈ D, ∑ x' ∈ D, f x x' = 2 * ∑ p ∈ (D ×ˢ D).filter (fun p => r p.1 p.2), f p.1 p.2 := by
  have hA : ∑ p ∈ (D ×ˢ D).filter (fun p => r p.1 p.2), f p.1 p.2 = ∑ x ∈ D, ∑ x' ∈ D, if r x x' then f x x' else 0 := by
    rw [Finset.sum_filter, Finset.sum_product]
  have hB : ∑ x ∈ D, ∑ x' ∈ D, (if r x' x then f x x' else 0) = ∑ x ∈ D, ∑ x' ∈ D, if r x x' then f x x' else 0 := by
    rw [Finset.sum_comm]
    apply Finset.sum_congr rfl
    intro x _
    apply Finset.sum_congr rfl
    intro x' _
    rw [hsymm x' x]
  rw [hA]
  calc ∑ x ∈ D, ∑ x' ∈ D, f x x'
      = ∑ x ∈ D, ∑ x' ∈ D, ((if r x x' then f x x' else 0) + (if r x' x then f x x' else 0)) :=
        Finset.sum_congr rfl fun x _ => Finset.sum_congr rfl fun x' _ => hsplit x x'
    _ = (∑ x ∈ D, ∑ x' ∈ D, if r x x' then f x x' else 0) + ∑ x ∈ D, ∑ x' ∈ D, if r x' x then f x x' else 0 := by
        simp only [Finset.sum_add_distrib]
    _ = 2 * ∑ x ∈ D, ∑ x' ∈ D, if r x x' then f x x' else 0 := by
        rw [hB]
        ring

/-- the index tuples over which `klPairs` sums -/
def Dims.pairList (d : Dims) : List Key :=
  d.canon.filter fun c => decide (c.1 < c.2.2.1) || decide (c.2.1 < Int.tmod c.2.2.2 d.N)

def Dims.pairOf (d : Dims) (c : Key) : (Int × Int) × (Int × Int) := ((c.1, c.2.1), (c.2.2.1, Int.tmod c.2.2.2 d.N))

/-- `x` comes before `x'` (ring first, then detector) and the pair is in the window: picks one order of every pair of the window -/
def Dims.ltw (d : Dims) (x x' : Int × Int) : Prop := (x.1 < x'.1 ∨ (x.1 = x'.1 ∧ x.2 < x'.2)) ∧ d.win x x'

instance (d : Dims) : DecidableRel d.ltw := fun x x' => by
  unfold Dims.ltw
  infer_instance

theorem mem_pairList {d : Dims} {c : Key} :
    c ∈ d.pairList ↔ c ∈ d.canon ∧ (c.1 < c.2.2.1 ∨ c.2.1 < Int.tmod c.2.2.2 d.N) := by
  unfold Dims.pairList
  simp [List.mem_filter]

theorem pairList_map_nodup {d : Dims} (wf : d.WF) : (d.pairList.map d.pairOf).Nodup := by
  refine List.Nodup.map_on (fun c hc c' hc' h => ?_) ((canon_nodup d).filter _)
  have hc := (mem_pairList.1 hc).1
  have hc' := (mem_pairList.1 hc').1
  -- the pair names the array element, and an element is addressed by one index tuple
  apply key_injOn_canon wf c hc c' hc'
  rw [key_eq_storeKey_tmod wf hc, key_eq_storeKey_tmod wf hc']
  exact congrArg (fun p : (Int × Int) × (Int × Int) => d.storeKey p.1.1 p.1.2 p.2.1 p.2.2) h

/-- the loop nest filtered by `ra < rb ∨ a < b % N` names every unordered detector pair of the window exactly once -/
theorem mem_pairList_map {d : Dims} (wf : d.WF) (p : (Int × Int) × (Int × Int)) :
    p ∈ (d.pairList.map d.pairOf).toFinset ↔ p ∈ (d.detSet ×ˢ d.detSet).filter (fun p => d.ltw p.1 p.2) := by
  rw [List.mem_toFinset, List.mem_map, Finset.mem_filter, Finset.mem_product, mem_detSet, mem_detSet]
  constructor
  · rintro ⟨c, hc, rfl⟩
    obtain ⟨hc, hf⟩ := mem_pairList.1 hc
    obtain ⟨hw, hle⟩ := inWindow_of_mem_canon wf hc
    have hw' : d.win (d.pairOf c).1 (d.pairOf c).2 := hw
    refine ⟨mem_dets_of_inWindow hw', ?_, hw'⟩
    show c.1 < c.2.2.1 ∨ (c.1 = c.2.2.1 ∧ c.2.1 < Int.tmod c.2.2.2 d.N)
    omega
  · rintro ⟨_, hlt, hw⟩
    obtain ⟨⟨ra, a⟩, ⟨rb, b⟩⟩ := p
    -- the pair is named by its lifted index tuple
    have hlt' : ra < rb ∨ (ra = rb ∧ a < b) := hlt
    obtain ⟨hmem, _, (hmod : Int.tmod (d.liftB a b) d.N = b)⟩ := canonOf_mem_key wf hw (by omega)
    refine ⟨d.canonOf (ra, a, rb, b), mem_pairList.2 ⟨hmem, ?_⟩, ?_⟩
    · show ra < rb ∨ a < Int.tmod (d.liftB a b) d.N
      rw [hmod]
      omega
    · show ((ra, a), (rb, Int.tmod (d.liftB a b) d.N)) = ((ra, a), (rb, b))
      rw [hmod]

theorem klPairs_term {d : Dims} (wf : d.WF) (data model : Fan ℝ) (E : Tab ℝ) {c : Key} (hc : c ∈ d.canon) :
    klTerm Real.log (data.get (d.key c)) ((applyEff d model E true).get (d.key c)) 0 =
      klF d data model E (d.pairOf c).1 (d.pairOf c).2 := by
  have hw : d.win (d.pairOf c).1 (d.pairOf c).2 := (inWindow_of_mem_canon wf hc).1
  unfold klF pairVal
  rw [if_pos hw, if_pos hw, applyEff_get_key wf model E true hc, applyFactor_true, key_eq_storeKey_tmod wf hc]
  unfold kl0 effFactor Fan.at Dims.pairOf
  congr 1
  ring

theorem klPairs_eq {d : Dims} (wf : d.WF) (data model : Fan ℝ) (E : Tab ℝ) :
    klPairs Real.log d data (applyEff d model E true) 0 =
      ∑ p ∈ (d.detSet ×ˢ d.detSet).filter (fun p => d.ltw p.1 p.2), klF d data model E p.1 p.2 := by
  unfold klPairs
  change d.pairList.foldl _ 0 = _
  rw [Common.foldl_add_eq_sum (fun c => klTerm Real.log (data.get (d.key c)) ((applyEff d model E true).get (d.key c)) 0), zero_add,
    sum_map_congr _ (fun c => klF d data model E (d.pairOf c).1 (d.pairOf c).2) _
      (fun c hc => klPairs_term wf data model E (mem_pairList.1 hc).1),
    ← Finset.sum_congr (Finset.ext (mem_pairList_map wf)) (fun _ _ => rfl),
    List.sum_toFinset (fun p => klF d data model E p.1 p.2) (pairList_map_nodup wf), List.map_map]
  rfl

theorem klObjective_eq_two_mul_klPairs {d : Dims} (wf : d.WF) (data model : Fan ℝ) (E : Tab ℝ)
    (hsym : ∀ ra a rb b, d.inWindow ra a rb b →
      data.at d ra a rb b = data.at d rb b ra a ∧ model.at d ra a rb b = model.at d rb b ra a) :
    klObjective (yOf d data) (yOf d model) (epsOf d E) = 2 * klPairs Real.log d data (applyEff d model E true) 0 := by
  rw [klObjective_eq, klPairs_eq wf]
  apply sum_sum_symm
  · intro x x'
    unfold klF
    rw [pairVal_symm wf data (fun ra a rb b h => (hsym ra a rb b h).1) x x',
      pairVal_symm wf model (fun ra a rb b h => (hsym ra a rb b h).2) x x',
      mul_comm (E.get x) (E.get x')]
  · intro x x'
    by_cases hw : d.win x x'
    · have hw' := win_symm wf hw
      have hne : x ≠ x' := fun h => not_win_self wf x (h ▸ hw)
      have hne' : ¬ (x.1 = x'.1 ∧ x.2 = x'.2) := fun h => hne (Prod.ext h.1 h.2)
      by_cases hlt : x.1 < x'.1 ∨ (x.1 = x'.1 ∧ x.2 < x'.2)
      · have h1 : d.ltw x x' := ⟨hlt, hw⟩
        have h2 : ¬ d.ltw x' x := fun h => by
          have := h.1
          omega
        rw [if_pos h1, if_neg h2, add_zero]
      · have h1 : ¬ d.ltw x x' := fun h => hlt h.1
        have h2 : d.ltw x' x := ⟨by omega, hw'⟩
        rw [if_neg h1, if_pos h2, zero_add]
    · have h1 : ¬ d.ltw x x' := fun h => hw h.2
      have h2 : ¬ d.ltw x' x := fun h => hw (win_symm wf h.2)
      rw [if_neg h1, if_neg h2, add_zero]
      unfold klF pairVal
      rw [if_neg hw, if_neg hw, mul_zero]
      exact kl0_of_nonpos le_rfl 0

theorem makeFanSums_pos {d : Dims} (wf : d.WF) (data : Fan ℝ) (hdata : ∀ c ∈ d.canon, 0 < data.get (d.key c))
    {x : Int × Int} (hx : x ∈ d.dets) : 0 < (makeFanSums d data).get x := by
  rw [makeFanSums_get d _ hx, fanSum_eq_fanList]
  exact list_sum_pos_of_pos _ _ (fanList_ne_nil wf x hx) fun x' hx' => at_pos_of_inWindow wf data hdata ((mem_fanList wf hx).1 hx')

end

end StirVerif.C20
