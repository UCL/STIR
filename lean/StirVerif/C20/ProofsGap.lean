import StirVerif.C20.Model
import StirVerif.Common.IntDiv
import Mathlib.Tactic.Ring
import Mathlib.Tactic.Linarith
/-! # C20 — the gap index maps (`removeGap`, `addGap`, `isVirtual`) over `Int`, unbounded -/
namespace StirVerif.C20
open Common

theorem isVirtual_eq_false_iff {x c v : Int} : isVirtual x c v = false ↔ Int.tmod x c < c - v := by
  unfold isVirtual
  simp
  omega

theorem removeGap_form {x c v : Int} : removeGap x c v = Int.tdiv x c * (c - v) + Int.tmod x c := by
  unfold removeGap
  linarith [Int.mul_tdiv_add_tmod x c]

theorem addGap_removeGap {x c v : Int} (hx : 0 ≤ x) (hv : 0 ≤ v) (hvc : v < c) (hphys : isVirtual x c v = false) :
    addGap (removeGap x c v) c v = x := by
  have hc : 0 < c := lt_of_le_of_lt hv hvc
  obtain ⟨hq, hr, _, hform⟩ := tdiv_tmod_spec hx hc
  have hr' : Int.tmod x c < c - v := isVirtual_eq_false_iff.1 hphys
  rw [removeGap_form]
  unfold addGap
  rw [(tdiv_tmod_of_form hq hr hr').1]
  linarith [hform]

theorem removeGap_injective_on_physical {x x' c v : Int} (hx : 0 ≤ x) (hx' : 0 ≤ x') (hv : 0 ≤ v) (hvc : v < c)
    (hp : isVirtual x c v = false) (hp' : isVirtual x' c v = false) (h : removeGap x c v = removeGap x' c v) : x = x' := by
  rw [← addGap_removeGap hx hv hvc hp, ← addGap_removeGap hx' hv hvc hp', h]

theorem removeGap_bounds {x c v : Int} (hx : 0 ≤ x) (hv : 0 ≤ v) (hvc : v < c) :
    0 ≤ removeGap x c v ∧ removeGap x c v ≤ x := by
  have hc : 0 < c := lt_of_le_of_lt hv hvc
  obtain ⟨hq, hr, _, hform⟩ := tdiv_tmod_spec hx hc
  rw [removeGap_form]
  constructor
  · have : 0 ≤ Int.tdiv x c * (c - v) := mul_nonneg hq (by linarith)
    linarith
  · linarith [mul_nonneg hq hv]

theorem addGap_mono {y y' c v : Int} (hv : 0 ≤ v) (hvc : v < c) (h : y ≤ y') : addGap y c v ≤ addGap y' c v := by
  unfold addGap
  have := Int.mul_le_mul_of_nonneg_right (Int.tdiv_le_tdiv (by omega : 0 < c - v) h) hv
  omega

theorem removeGap_strictMono_on_physical {x x' c v : Int} (hx : 0 ≤ x) (hv : 0 ≤ v) (hvc : v < c)
    (hp : isVirtual x c v = false) (hp' : isVirtual x' c v = false) (hlt : x < x') : removeGap x c v < removeGap x' c v := by
  have hx' : 0 ≤ x' := by omega
  -- otherwise putting the gaps back (`addGap`, monotone) would give `x' ≤ x`
  by_contra hn
  have h := addGap_mono hv hvc (not_lt.1 hn)
  rw [addGap_removeGap hx' hv hvc hp', addGap_removeGap hx hv hvc hp] at h
  omega

end StirVerif.C20
