import StirVerif.C20.ProofsGeoSym
/-! # C20 — the class structure of the geometric factors: `GeoClassOK` for all fitting dimensions

The steps are listed at `C20_geo_class_structure`.  An entry is called *direct* when its first detector lies in the first half of its
block (then it is a block translation of an index tuple of a factor, its *base*). -/
namespace StirVerif.C20

section
variable {d : Dims} {g : GeoDims}

/-- `apply_geo_norm` sets to the factor `c'`, for the translation `sh'`, the elements of the translated entry and of its transaxial
mirror image, and for in-ring entries those of the two axial mirror images -/
theorem mem_geoWriteTargets (wf : d.WF) (fits : g.Fits d) {c' : Key} (hc' : c' ∈ geoLoop d g) {sh' : Int × Int}
    (hsh' : sh' ∈ blockShifts d g) (t : Key) :
    t ∈ geoWriteTargets d g c' sh' ↔ geoShiftC g c' sh' ∈ d.canon ∧
      ∃ st ss, (ss = true → c'.1 = c'.2.2.1) ∧ t = d.Kb (geoShiftC g c' sh') st ss := by
  have hred := (geoShift_spec wf fits hc' hsh').red
  obtain ⟨l1, l2, l3, ha0, haN, hwin⟩ := geoShiftC_lin wf fits hc' hsh' rfl
  have ha : 0 ≤ (geoShiftC g c' sh').2.1 ∧ (geoShiftC g c' sh').2.1 < d.N := ⟨ha0, haN⟩
  -- the translated entry and its transaxial mirror image are in the fan: only the rings decide `is_in_data`
  obtain ⟨hb, hfan, _⟩ := fan_tmod wf ha hwin
  obtain ⟨c1, c3⟩ := isInData_rings wf l1 l2 l3 hfan
  have hcan := c1.symm.trans (hred ▸ (geoShift_spec wf fits hc' hsh').inData_iff)
  obtain ⟨c2, c4⟩ := isInData_rings wf l1 l2 l3 (inFan_mirror wf hfan)
  have k := fun st ss => Kb_red wf ha hwin st ss
  have hm : Int.tmod (2 * d.N - 1 - Int.tmod (geoShiftC g c' sh').2.2.2 d.N) d.N = d.N - 1 - Int.tmod (geoShiftC g c' sh').2.2.2 d.N := by
    rw [tmod_mirror hb.1 (by omega), Int.tmod_eq_of_lt hb.1 hb.2]
  have hΔ : c'.1 + sh'.1 * g.acpb = c'.2.2.1 + sh'.1 * g.acpb ↔ c'.1 = c'.2.2.1 := by omega
  unfold geoWriteTargets
  rw [hred]
  unfold geoShiftC at *
  simp only [hm, List.mem_append, List.mem_ite_nil_right, List.mem_singleton, c1, c2, c3, c4, hΔ, hcan]
  constructor
  · rintro (⟨h, rfl⟩ | ⟨h, rfl⟩ | ⟨⟨h, hr⟩, rfl⟩ | ⟨⟨h, hr⟩, rfl⟩)
    · exact ⟨h, false, false, nofun, (k false false).symm⟩
    · exact ⟨h, true, false, nofun, (k true false).symm⟩
    · exact ⟨h, false, true, fun _ => hr, (k false true).symm⟩
    · exact ⟨h, true, true, fun _ => hr, (k true true).symm⟩
  · rintro ⟨h, st, ss, hr, rfl⟩
    rw [k]
    cases st <;> cases ss
    · exact Or.inl ⟨h, rfl⟩
    · exact Or.inr (Or.inr (Or.inl ⟨⟨h, hr rfl⟩, rfl⟩))
    · exact Or.inr (Or.inl ⟨h, rfl⟩)
    · exact Or.inr (Or.inr (Or.inr ⟨⟨h, hr rfl⟩, rfl⟩))

theorem ite_mirror_pair {m u v u' v' : Int} {s s' : Bool} (h1 : (if s' then m - u' else u') = if s then m - u else u)
    (h2 : (if s' then m - v' else v') = if s then m - v else v) : (u' = u ∧ v' = v) ∨ (u' = m - u ∧ v' = m - v) := by
  cases s <;> cases s'
  all_goals
    simp only [if_true, if_false, Bool.false_eq_true] at h1 h2
    omega

/-- **entries of the loop nest that share an element** are images of each other under a symmetry of the loop nest (the identity,
`sig0` or `sig t`: equal or axial mirror images of each other), if their first detectors are not transaxial mirror images of each other.  The shared element is the same detector pair, named the same way or the other
way round (`storeKey_eq_iff`); rings and detectors are mirrored independently, so each pair of components is equal or mirrored
(`ite_mirror_pair`); that the rings of both entries are in order excludes all but the four cases. -/
theorem key_eq_cases (wf : d.WF) (hT : (g.half * 2) ∣ d.N) {x x' : Key} (hx : x ∈ d.canon) (hx' : x' ∈ d.canon)
    (hdir : x'.2.1 ≠ d.N - 1 - x.2.1) (st ss st' ss' : Bool) (heq : d.Kb x st ss = d.Kb x' st' ss') :
    ∃ P γ, LoopSym d g P γ ∧ P (x.2.2.1 - x.1) ∧ x' = γ x := by
  obtain ⟨_, h2, _⟩ := canon_rings hx
  obtain ⟨_, g2, _⟩ := canon_rings hx'
  have hc := canonOf_tmod wf hx
  obtain ⟨k, hw⟩ := Kb_spec wf hx st ss
  obtain ⟨k', hw'⟩ := Kb_spec wf hx' st' ss'
  rw [k, k'] at heq
  rw [← canonOf_tmod wf hx']
  rcases (storeKey_eq_iff wf hw hw').1 heq with ⟨e1, e2, e3, e4⟩ | ⟨hne, e1, e2, e3, e4⟩
  · -- the same detector pair, named the same way
    have hr := ite_mirror_pair e1 e3
    rcases ite_mirror_pair e2 e4 with ha | ha
    swap
    · exact absurd ha.1 hdir
    clear e1 e2 e3 e4 heq
    rw [ha.1, ha.2]
    rcases hr with hr | hr
    · exact ⟨_, _, loopSym_id d g, trivial, by
        rw [hr.1, hr.2]
        exact hc⟩
    · exact ⟨_, _, loopSym_sig0 d g, by omega, by
        rw [hr.1, hr.2]
        exact congrArg d.sig0 hc⟩
  · -- named the other way round: the rings differ, and are in order in both entries only if they are mirrored
    have hne' : x.1 ≠ x.2.2.1 := fun h => hne (by rw [h])
    have hr := ite_mirror_pair e1 e3
    have ha := ite_mirror_pair e2 e4
    clear e1 e2 e3 e4 heq hne
    rcases hr with hr | hr
    · omega
    rw [hr.1, hr.2]
    rcases ha with ha | ha
    · exact ⟨_, _, loopSym_sig wf hT false, by omega, by
        rw [ha.1, ha.2]
        exact (sig_eq wf hx false).symm⟩
    · exact ⟨_, _, loopSym_sig wf hT true, by omega, by
        rw [ha.1, ha.2]
        exact (sig_eq wf hx true).symm⟩

/-- the first detectors of two direct entries are not transaxial mirror images of each other -/
theorem direct_ne (fits : g.Fits d) {c c' : Key} (hc : c ∈ geoLoop d g) (hc' : c' ∈ geoLoop d g) {x x' : Key}
    (hx : LatRel g x c) (hx' : LatRel g x' c') : x'.2.1 ≠ d.N - 1 - x.2.1 := by
  obtain ⟨_, ⟨h3, h4⟩, _, _, _⟩ := mem_geoLoop.1 hc
  obtain ⟨_, ⟨g3, g4⟩, _, _, _⟩ := mem_geoLoop.1 hc'
  obtain ⟨p, q, _, hq, rfl⟩ := hx
  obtain ⟨p', q', _, hq', rfl⟩ := hx'
  simp only
  intro h
  -- `a + a' + 1` would be a multiple of `T` strictly between `0` and `T`
  have hdiv : (g.half * 2) ∣ (c.2.1 + c'.2.1 + 1) := by
    have := dvd_sub (dvd_sub fits.hT hq) hq'
    rwa [show d.N - q - q' = c.2.1 + c'.2.1 + 1 by omega] at this
  have := Int.le_of_dvd (by omega) hdiv
  omega

/-- **factors with entries that a symmetry of the loop nest maps to each other sum the same elements**: the symmetry maps the
entries of the one onto those of the other. -/
theorem terms_perm_of_map (wf : d.WF) (fits : g.Fits d) {c c' : Key} (hc : c ∈ geoLoop d g) (hc' : c' ∈ geoLoop d g)
    {P : Int → Prop} {γ : Key → Key} (S : LoopSym d g P γ) {e : Key} (he : e ∈ geoOrbit d g c) (hP : P (e.2.2.1 - e.1))
    (he' : γ e ∈ geoOrbit d g c') : (geoTermKeys d g c').Perm (geoTermKeys d g c) := by
  obtain ⟨hcan, hlat⟩ := S
  rw [geoTermKeys_eq wf fits hc, geoTermKeys_eq wf fits hc']
  obtain ⟨hec, hel⟩ := (mem_geoOrbit wf fits hc).1 he
  obtain ⟨hec', hel'⟩ := (mem_geoOrbit wf fits hc').1 he'
  have hPall : ∀ x ∈ geoOrbit d g c, x ∈ d.canon ∧ P (x.2.2.1 - x.1) := by
    intro x hx
    obtain ⟨hxc, hxl⟩ := (mem_geoOrbit wf fits hc).1 hx
    exact ⟨hxc, lat_ring_diff (hxl.trans hel.symm) ▸ hP⟩
  have hperm : (geoOrbit d g c').Perm ((geoOrbit d g c).map γ) := by
    apply (List.perm_ext_iff_of_nodup (geoOrbit_nodup wf fits hc') ?_).2
    · intro x'
      rw [mem_geoOrbit wf fits hc', List.mem_map]
      constructor
      · rintro ⟨hxc', hxl'⟩
        have hrel : LatRel g x' (γ e) := hxl'.trans hel'.symm
        have hPx' : P (x'.2.2.1 - x'.1) := lat_ring_diff hrel ▸ (hcan e hec hP).2.1
        obtain ⟨hγc, hγP, hγγ, _⟩ := hcan x' hxc' hPx'
        refine ⟨γ x', ?_, hγγ⟩
        rw [mem_geoOrbit wf fits hc]
        refine ⟨hγc, ?_⟩
        have h1 := hlat x' hxc' (γ e) (hcan e hec hP).1 hPx' hrel
        rw [(hcan e hec hP).2.2.1] at h1
        exact h1.trans hel
      · rintro ⟨x, hx, rfl⟩
        obtain ⟨hxc, hPx⟩ := hPall x hx
        obtain ⟨_, hxl⟩ := (mem_geoOrbit wf fits hc).1 hx
        refine ⟨(hcan x hxc hPx).1, ?_⟩
        exact (hlat x hxc e hec hPx (hxl.trans hel.symm)).trans hel'
    · refine List.Nodup.map_on ?_ (geoOrbit_nodup wf fits hc)
      intro x hx y hy hxy
      obtain ⟨hxc, hPx⟩ := hPall x hx
      obtain ⟨hyc, hPy⟩ := hPall y hy
      rw [← (hcan x hxc hPx).2.2.1, hxy, (hcan y hyc hPy).2.2.1]
  refine (hperm.flatMap_right _).trans ?_
  rw [List.flatMap_map]
  exact List.Perm.flatMap_left _ (fun x hx => (hcan x (hPall x hx).1 (hPall x hx).2).2.2.2)

/-- a detector or its transaxial mirror image lies in the first half of its block -/
theorem direct_or_mirror (fits : g.Fits d) (hH : 0 < g.half) (v : Int) :
    ∃ t q, (g.half * 2) ∣ q ∧ 0 ≤ d.mirT t v - q ∧ d.mirT t v - q ≤ g.half - 1 := by
  have hT : 0 < g.half * 2 := by omega
  have h1 := Int.emod_nonneg v hT.ne'
  have h2 := Int.emod_lt_of_pos v hT
  have h3 := Int.emod_add_mul_ediv v (g.half * 2)
  have hd := fits.hT
  -- name the products, which `omega` cannot take apart
  generalize hTT : g.half * 2 = T at *
  generalize hQ : T * (v / T) = Q at *
  have hQd : T ∣ Q := hQ ▸ dvd_mul_right _ _
  by_cases hlt : v % T ≤ g.half - 1
  · refine ⟨false, Q, hQd, ?_, ?_⟩
    · show 0 ≤ v - Q
      omega
    · show v - Q ≤ g.half - 1
      omega
  · refine ⟨true, d.N - Q - T, dvd_sub (dvd_sub hd hQd) (dvd_refl _), ?_, ?_⟩
    · show 0 ≤ d.N - 1 - v - (d.N - Q - T)
      omega
    · show d.N - 1 - v - (d.N - Q - T) ≤ g.half - 1
      omega

/-- a direct entry of the loop nest (`hdir`: its first detector is in the first half of its block) is a block translation of an index
tuple of a factor -/
theorem exists_base (wf : d.WF) (fits : g.Fits d) (hA : 0 < g.acpb) {x : Key} (hx : x ∈ d.canon)
    (hdir : ∃ q, (g.half * 2) ∣ q ∧ 0 ≤ x.2.1 - q ∧ x.2.1 - q ≤ g.half - 1) : ∃ c ∈ geoLoop d g, x ∈ geoOrbit d g c := by
  obtain ⟨h1, h2, h3, h4, h5, h6, h7, h8⟩ := canon_lin hx
  obtain ⟨q, hq, hq0, hq1⟩ := hdir
  have e1 := Int.emod_nonneg x.1 hA.ne'
  have e2 := Int.emod_lt_of_pos x.1 hA
  have e3 := Int.emod_add_mul_ediv x.1 g.acpb
  have e4 : 0 ≤ g.acpb * (x.1 / g.acpb) := mul_nonneg hA.le (Int.ediv_nonneg h1 hA.le)
  have hPd : g.acpb ∣ g.acpb * (x.1 / g.acpb) := dvd_mul_right _ _
  generalize g.acpb * (x.1 / g.acpb) = P at *
  have hT := Int.le_of_dvd (by omega) fits.hT
  have hc : (x.1 % g.acpb, x.2.1 - q, x.2.2.1 - P, x.2.2.2 - q) ∈ geoLoop d g := by
    refine mem_geoLoop_of_canon ?_ (by
      show x.1 % g.acpb ≤ _
      omega) hq1
    apply mem_canon_lin
    all_goals
      simp only
      omega
  refine ⟨_, hc, (mem_geoOrbit wf fits hc).2 ⟨hx, P, q, hPd, hq, ?_⟩⟩
  refine Prod.ext ?_ (Prod.ext ?_ (Prod.ext ?_ ?_))
  all_goals
    simp only
    omega

/-- factors whose entries share an element sum the same elements (so the lists of summed elements of two factors are disjoint or
equal up to order) -/
theorem terms_perm_of_Kb_eq (wf : d.WF) (fits : g.Fits d) {c c' : Key} (hc : c ∈ geoLoop d g) (hc' : c' ∈ geoLoop d g)
    {e e' : Key} (he : e ∈ geoOrbit d g c) (he' : e' ∈ geoOrbit d g c') {st ss st' ss' : Bool}
    (heq : d.Kb e st ss = d.Kb e' st' ss') : (geoTermKeys d g c').Perm (geoTermKeys d g c) := by
  obtain ⟨hec, hel⟩ := (mem_geoOrbit wf fits hc).1 he
  obtain ⟨hec', hel'⟩ := (mem_geoOrbit wf fits hc').1 he'
  obtain ⟨P, γ, S, hP, rfl⟩ := key_eq_cases wf fits.hT hec hec' (direct_ne fits hc hc' hel hel') st ss st' ss' heq
  exact terms_perm_of_map wf fits hc hc' S he hP he'

/-- every element summed into a factor is written: from the factor itself, or — the axial mirror image of a cross-ring entry —
from the factor of the same detector pair named from the other detector -/
theorem geoTermKeys_written (wf : d.WF) (fits : g.Fits d) {c : Key} (hc : c ∈ geoLoop d g) {t : Key} (ht : t ∈ geoTermKeys d g c) :
    ∃ c' ∈ geoLoop d g, ∃ sh ∈ blockShifts d g, t ∈ geoWriteTargets d g c' sh := by
  obtain ⟨hA, hH, _⟩ := geoLoop_facts wf fits hc
  rw [geoTermKeys_eq wf fits hc] at ht
  obtain ⟨e, he, ht⟩ := List.mem_flatMap.1 ht
  obtain ⟨hec, hel⟩ := (mem_geoOrbit wf fits hc).1 he
  obtain ⟨st, ss, rfl⟩ := mem_mirrorKeys d ht
  obtain ⟨sh, hsh, hval, rfl⟩ := (mem_geoOrbit_iff_shift wf fits hc).1 he
  by_cases hcross : ss = true ∧ c.1 ≠ c.2.2.1
  · obtain ⟨rfl, hne⟩ := hcross
    have hlt : (geoShiftC g c sh).1 < (geoShiftC g c sh).2.2.1 := by
      have := (canon_rings hec).2.1
      have := lat_ring_diff hel
      omega
    -- the other detector, or its transaxial mirror image, is in the first half of its block
    obtain ⟨t, hdir⟩ := direct_or_mirror (d := d) fits hH (Int.tmod (geoShiftC g c sh).2.2.2 d.N)
    obtain ⟨c', hc', hxo⟩ := exists_base wf fits hA (sig_canon wf hec t) hdir
    obtain ⟨sh', hsh', hv', he'⟩ := (mem_geoOrbit_iff_shift wf fits hc').1 hxo
    refine ⟨c', hc', sh', hsh', (mem_geoWriteTargets wf fits hc' hsh' _).2 ⟨hv', xor st t, false, nofun, ?_⟩⟩
    rw [he', Kb_sig wf hec hlt]
    cases st <;> cases t <;> rfl
  · exact ⟨c, hc, sh, hsh, (mem_geoWriteTargets wf fits hc hsh _).2
      ⟨hval, st, ss, fun h => by_contra fun hne => hcross ⟨h, hne⟩, rfl⟩⟩

theorem geoClassOK (wf : d.WF) (fits : g.Fits d) : GeoClassOK d g := by
  intro c hc t ht
  refine ⟨geoTermKeys_written wf fits hc ht, ?_⟩
  rintro c' hc' ⟨sh', hsh', hw⟩
  obtain ⟨hval', st', ss', _, rfl⟩ := (mem_geoWriteTargets wf fits hc' hsh' _).1 hw
  rw [geoTermKeys_eq wf fits hc] at ht
  obtain ⟨e, he, ht⟩ := List.mem_flatMap.1 ht
  obtain ⟨st, ss, heq⟩ := mem_mirrorKeys d ht
  exact terms_perm_of_Kb_eq wf fits hc hc' he ((mem_geoOrbit_iff_shift wf fits hc').2 ⟨sh', hsh', hval', rfl⟩) heq.symm

end
end StirVerif.C20
