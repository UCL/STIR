import StirVerif.C20.ProofsLoops
/-! # C20 — the fan / ring-difference window and the storage map of `FanProjData`

The storage map is used through three facts: its normal form on reduced detector indices (`storeKey_red`, in the proofs with `liftB`
folded: `storeKey_liftB`), that the unreduced
second index `y` of the loops addresses the same element as `y % N` (`storeKey_tmod`), and that inside the window it identifies
exactly a detector pair with itself named the other way round (`storeKey_eq_iff`).  `Dims.liftB a b` is the inverse of `y ↦ y % N`
on the fan of `a` (`liftB_spec`, `fan_tmod`). -/
namespace StirVerif.C20

/-- two of the three `assert`s of the constructor of `FanProjData` (`num_detectors_per_ring % 2 == 0`, `fan_size < num_detectors_per_ring`;
not `max_ring_diff < num_rings`, which no proof needs), and non-emptiness: at least one ring, `0 ≤ max_ring_diff`, `0 ≤ half_fan_size` -/
structure Dims.WF (d : Dims) : Prop where
  hR : 0 < d.R
  hmd : 0 ≤ d.md
  hh : 0 ≤ d.h
  heven : d.N = 2 * Int.tdiv d.N 2
  hfan : 2 * d.h + 1 < d.N

instance (d : Dims) : Decidable d.WF :=
  decidable_of_iff (0 < d.R ∧ 0 ≤ d.md ∧ 0 ≤ d.h ∧ d.N = 2 * Int.tdiv d.N 2 ∧ 2 * d.h + 1 < d.N)
    ⟨fun ⟨a, b, c, e, f⟩ => ⟨a, b, c, e, f⟩, fun ⟨a, b, c, e, f⟩ => ⟨a, b, c, e, f⟩⟩

/-- detector `b` (reduced, `0 ≤ b < N`) lies in the fan of detector `a`: `b` or `b + N` is in `get_min_b(a) .. get_max_b(a)` -/
def Dims.inFan (d : Dims) (a b : Int) : Prop :=
  (d.minB a ≤ b ∧ b ≤ d.maxB a) ∨ (d.minB a ≤ b + d.N ∧ b + d.N ≤ d.maxB a)

instance (d : Dims) (a b : Int) : Decidable (d.inFan a b) := by
  unfold Dims.inFan
  infer_instance

/-- the detector pair `(ra,a)-(rb,b)` is inside the fan / max-ring-difference window of the fan data -/
def Dims.inWindow (d : Dims) (ra a rb b : Int) : Prop :=
  0 ≤ ra ∧ ra < d.R ∧ 0 ≤ rb ∧ rb < d.R ∧ ra - rb ≤ d.md ∧ rb - ra ≤ d.md ∧ 0 ≤ a ∧ a < d.N ∧ 0 ≤ b ∧ b < d.N ∧ d.inFan a b

instance (d : Dims) (ra a rb b : Int) : Decidable (d.inWindow ra a rb b) := by
  unfold Dims.inWindow
  infer_instance

theorem Dims.inWindow.det_a {d : Dims} {ra a rb b : Int} (h : d.inWindow ra a rb b) : 0 ≤ a ∧ a < d.N :=
  ⟨h.2.2.2.2.2.2.1, h.2.2.2.2.2.2.2.1⟩

theorem Dims.inWindow.det_b {d : Dims} {ra a rb b : Int} (h : d.inWindow ra a rb b) : 0 ≤ b ∧ b < d.N :=
  ⟨h.2.2.2.2.2.2.2.2.1, h.2.2.2.2.2.2.2.2.2.1⟩

theorem Dims.inWindow.fan {d : Dims} {ra a rb b : Int} (h : d.inWindow ra a rb b) : d.inFan a b :=
  h.2.2.2.2.2.2.2.2.2.2

def Dims.liftB (d : Dims) (a b : Int) : Int := if b < d.minB a then b + d.N else b

theorem tmod_of_lt_two_mul {b N : Int} (hb : 0 ≤ b) (hN : b < 2 * N) : Int.tmod b N = if b < N then b else b - N := by
  split
  · exact Int.tmod_eq_of_lt hb ‹_›
  · rename_i h
    rw [Int.tmod_eq_emod_of_nonneg hb, ← Int.sub_emod_right b N]
    exact Int.emod_eq_of_lt (a := b - N) (b := N) (by linarith) (by linarith)

theorem inFan_symm {d : Dims} (wf : d.WF) {a b : Int} : d.inFan a b ↔ d.inFan b a := by
  have := wf.heven
  have := wf.hfan  -- not needed, but `omega` is quicker with it
  unfold Dims.inFan Dims.minB Dims.maxB
  constructor
  all_goals
    intro h
    omega

theorem inWindow_symm {d : Dims} (wf : d.WF) {ra a rb b : Int} (h : d.inWindow ra a rb b) : d.inWindow rb b ra a := by
  obtain ⟨h1, h2, h3, h4, h5, h6, h7, h8, h9, h10, h11⟩ := h
  exact ⟨h3, h4, h1, h2, h6, h5, h9, h10, h7, h8, (inFan_symm wf).1 h11⟩

theorem fan_tmod {d : Dims} (wf : d.WF) {a y : Int} (ha : 0 ≤ a ∧ a < d.N) (hy : d.minB a ≤ y ∧ y ≤ d.maxB a) :
    (0 ≤ Int.tmod y d.N ∧ Int.tmod y d.N < d.N) ∧ d.inFan a (Int.tmod y d.N) ∧ d.liftB a (Int.tmod y d.N) = y := by
  have := wf.heven
  have := wf.hfan
  unfold Dims.minB Dims.maxB at hy
  rw [tmod_of_lt_two_mul (b := y) (N := d.N) (by omega) (by omega)]
  unfold Dims.inFan Dims.liftB Dims.minB Dims.maxB
  split_ifs <;> omega

theorem liftB_spec {d : Dims} {a b : Int} (hb : 0 ≤ b ∧ b < d.N) (h : d.inFan a b) :
    (d.minB a ≤ d.liftB a b ∧ d.liftB a b ≤ d.maxB a) ∧ Int.tmod (d.liftB a b) d.N = b := by
  unfold Dims.inFan Dims.minB Dims.maxB at h
  unfold Dims.liftB Dims.minB Dims.maxB
  split
  · rw [tmod_of_lt_two_mul (b := b + d.N) (N := d.N) (by omega) (by omega), if_neg (by omega)]
    omega
  · rw [Int.tmod_eq_of_lt hb.1 hb.2]
    omega

theorem tmod_inj_fan {d : Dims} (wf : d.WF) {a b b' : Int} (ha : 0 ≤ a ∧ a < d.N)
    (hb : d.minB a ≤ b ∧ b ≤ d.maxB a) (hb' : d.minB a ≤ b' ∧ b' ≤ d.maxB a) (h : Int.tmod b d.N = Int.tmod b' d.N) :
    b = b' := by
  rw [← (fan_tmod wf ha hb).2.2, h, (fan_tmod wf ha hb').2.2]

theorem storeKey_red (d : Dims) {a b : Int} (ha : 0 ≤ a ∧ a < d.N) (hb : 0 ≤ b ∧ b < d.N) (ra rb : Int) :
    d.storeKey ra a rb b =
      if ra < rb then (ra, a, rb, if b < a + Int.tdiv d.N 2 - d.h then b + d.N else b)
      else (rb, b, ra, if a < b + Int.tdiv d.N 2 - d.h then a + d.N else a) := by
  unfold Dims.storeKey Dims.minB
  rw [Int.tmod_eq_of_lt ha.1 ha.2, Int.tmod_eq_of_lt hb.1 hb.2]

theorem storeKey_liftB (d : Dims) {a b : Int} (ha : 0 ≤ a ∧ a < d.N) (hb : 0 ≤ b ∧ b < d.N) (ra rb : Int) :
    d.storeKey ra a rb b = if ra < rb then (ra, a, rb, d.liftB a b) else (rb, b, ra, d.liftB b a) :=
  storeKey_red d ha hb ra rb

theorem storeKey_tmod {d : Dims} (wf : d.WF) {a y : Int} (ha : 0 ≤ a ∧ a < d.N) (hy : d.minB a ≤ y ∧ y ≤ d.maxB a) (ra rb : Int) :
    d.storeKey ra a rb y = d.storeKey ra a rb (Int.tmod y d.N) := by
  obtain ⟨hb, _, hl⟩ := fan_tmod wf ha hy
  rw [storeKey_liftB d ha hb, hl]
  unfold Dims.storeKey
  rw [Int.tmod_eq_of_lt ha.1 ha.2, if_neg (not_lt.2 hy.1)]
  rfl

theorem storeKey_symm (d : Dims) {ra a rb b : Int} (hne : ra ≠ rb) (ha : 0 ≤ a ∧ a < d.N) (hb : 0 ≤ b ∧ b < d.N) :
    d.storeKey ra a rb b = d.storeKey rb b ra a := by
  rw [storeKey_liftB d ha hb, storeKey_liftB d hb ha]
  rcases lt_or_gt_of_ne hne with h | h
  · rw [if_pos h, if_neg (by omega)]
  · rw [if_neg (by omega), if_pos h]

theorem storeKey_eq_iff {d : Dims} (wf : d.WF) {ra a rb b ra' a' rb' b' : Int} (h : d.inWindow ra a rb b)
    (h' : d.inWindow ra' a' rb' b') :
    d.storeKey ra a rb b = d.storeKey ra' a' rb' b' ↔
      (ra' = ra ∧ a' = a ∧ rb' = rb ∧ b' = b) ∨ (ra ≠ rb ∧ ra' = rb ∧ a' = b ∧ rb' = ra ∧ b' = a) := by
  constructor
  · intro heq
    have hs := inWindow_symm wf h
    have hs' := inWindow_symm wf h'
    -- the last component decides the second detector: `liftB` is undone by `% N`
    have hab := (liftB_spec h.det_b h.fan).2
    have hba := (liftB_spec hs.det_b hs.fan).2
    have gab := (liftB_spec h'.det_b h'.fan).2
    have gba := (liftB_spec hs'.det_b hs'.fan).2
    rw [storeKey_liftB d h.det_a h.det_b, storeKey_liftB d h'.det_a h'.det_b] at heq
    split_ifs at heq with hr hr'
    all_goals
      simp only [Prod.mk.injEq] at heq
      obtain ⟨e1, e2, e3, e4⟩ := heq
    · exact Or.inl ⟨e1.symm, e2.symm, e3.symm, by rw [← gab, ← e4, hab]⟩
    · exact Or.inr ⟨by omega, e3.symm, by rw [← gba, ← e4, hab], e1.symm, e2.symm⟩
    · exact Or.inr ⟨by omega, e1.symm, e2.symm, e3.symm, by rw [← gab, ← e4, hba]⟩
    · exact Or.inl ⟨e3.symm, by rw [← gba, ← e4, hba], e1.symm, e2.symm⟩
  · rintro (⟨rfl, rfl, rfl, rfl⟩ | ⟨hne, rfl, rfl, rfl, rfl⟩)
    · rfl
    · exact storeKey_symm d hne h.det_a h'.det_a

theorem Dims.canon_eq (d : Dims) : d.canon = loopNest (intRange 0 (d.R - 1)) (intRange 0 (d.N - 1))
    (fun ra => intRange (max ra (d.minRb ra)) (d.maxRb ra)) (fun a => intRange (d.minB a) (d.maxB a)) := rfl

theorem mem_canon {d : Dims} {c : Key} :
    c ∈ d.canon ↔ (0 ≤ c.1 ∧ c.1 < d.R) ∧ (0 ≤ c.2.1 ∧ c.2.1 < d.N) ∧
      (max c.1 (d.minRb c.1) ≤ c.2.2.1 ∧ c.2.2.1 ≤ d.maxRb c.1) ∧ (d.minB c.2.1 ≤ c.2.2.2 ∧ c.2.2.2 ≤ d.maxB c.2.1) := by
  simp only [d.canon_eq, mem_loopNest, mem_intRange, Int.le_sub_one_iff]

/-- the constructor allocates exactly the index tuples of the loop nest -/
theorem allocated_iff_mem_canon {d : Dims} {k : Key} : d.allocated k = true ↔ k ∈ d.canon := by
  simp only [Dims.allocated, Dims.loRb, mem_canon, and_assoc, Int.le_sub_one_iff]
  exact decide_eq_true_iff

theorem canon_nodup (d : Dims) : d.canon.Nodup :=
  loopNest_nodup (nodup_intRange _ _) (nodup_intRange _ _) (fun _ => nodup_intRange _ _) (fun _ => nodup_intRange _ _)

theorem mem_dets {d : Dims} {x : Int × Int} : x ∈ d.dets ↔ (0 ≤ x.1 ∧ x.1 < d.R) ∧ (0 ≤ x.2 ∧ x.2 < d.N) := by
  rw [show d.dets = (intRange 0 (d.R - 1)).product (intRange 0 (d.N - 1)) from rfl, List.pair_mem_product, mem_intRange, mem_intRange,
    Int.le_sub_one_iff, Int.le_sub_one_iff]

theorem mem_dets_of_inWindow {d : Dims} {ra a rb b : Int} (h : d.inWindow ra a rb b) : (ra, a) ∈ d.dets ∧ (rb, b) ∈ d.dets := by
  obtain ⟨h1, h2, h3, h4, _, _, h7, h8, h9, h10, _⟩ := h
  exact ⟨mem_dets.2 ⟨⟨h1, h2⟩, h7, h8⟩, mem_dets.2 ⟨⟨h3, h4⟩, h9, h10⟩⟩

theorem canon_rings {d : Dims} {c : Key} (hc : c ∈ d.canon) :
    0 ≤ c.1 ∧ c.1 ≤ c.2.2.1 ∧ c.2.2.1 ≤ d.R - 1 ∧ c.2.2.1 - c.1 ≤ d.md := by
  obtain ⟨⟨h1, _⟩, _, ⟨h5, h6⟩, _⟩ := mem_canon.1 hc
  unfold Dims.minRb at h5
  unfold Dims.maxRb at h6
  omega

theorem canon_dets {d : Dims} {c : Key} (hc : c ∈ d.canon) :
    (0 ≤ c.2.1 ∧ c.2.1 < d.N) ∧ (d.minB c.2.1 ≤ c.2.2.2 ∧ c.2.2.2 ≤ d.maxB c.2.1) :=
  ⟨(mem_canon.1 hc).2.1, (mem_canon.1 hc).2.2.2⟩

/-- membership in the loop nest with `minRb`, `maxRb`, `minB`, `maxB` unfolded to linear inequalities ("lin": the form `omega` takes) -/
theorem canon_lin {d : Dims} {x : Key} (hx : x ∈ d.canon) :
    0 ≤ x.1 ∧ x.1 ≤ x.2.2.1 ∧ x.2.2.1 ≤ d.R - 1 ∧ x.2.2.1 - x.1 ≤ d.md ∧ 0 ≤ x.2.1 ∧ x.2.1 < d.N ∧
      x.2.1 + Int.tdiv d.N 2 - d.h ≤ x.2.2.2 ∧ x.2.2.2 ≤ x.2.1 + Int.tdiv d.N 2 + d.h := by
  obtain ⟨h1, h2, h3, h4⟩ := canon_rings hx
  obtain ⟨⟨h5, h6⟩, h7, h8⟩ := canon_dets hx
  exact ⟨h1, h2, h3, h4, h5, h6, h7, h8⟩

/-- the two cases of `% N` on the unreduced last index of the loop nest -/
theorem canon_tmod {d : Dims} (wf : d.WF) {x : Key} (hx : x ∈ d.canon) :
    Int.tmod x.2.2.2 d.N = x.2.2.2 ∧ x.2.2.2 < d.N ∨ Int.tmod x.2.2.2 d.N = x.2.2.2 - d.N ∧ d.N ≤ x.2.2.2 := by
  obtain ⟨⟨h0, hN⟩, _, hl⟩ := fan_tmod wf (canon_dets hx).1 (canon_dets hx).2
  unfold Dims.liftB at hl
  split at hl <;> omega

theorem mem_canon_lin {d : Dims} {x : Key} (h1 : 0 ≤ x.1) (h2 : x.1 ≤ x.2.2.1) (h3 : x.2.2.1 ≤ d.R - 1)
    (h4 : x.2.2.1 - x.1 ≤ d.md) (h5 : 0 ≤ x.2.1) (h6 : x.2.1 < d.N) (h7 : x.2.1 + Int.tdiv d.N 2 - d.h ≤ x.2.2.2)
    (h8 : x.2.2.2 ≤ x.2.1 + Int.tdiv d.N 2 + d.h) : x ∈ d.canon := by
  refine mem_canon.2 ⟨⟨h1, by omega⟩, ⟨h5, h6⟩, ⟨?_, ?_⟩, ?_, ?_⟩
  · unfold Dims.minRb
    omega
  · unfold Dims.maxRb
    omega
  · unfold Dims.minB
    omega
  · unfold Dims.maxB
    omega

/-- the indices of the double loop of `FanProjData::sum(ra, a)` and of the denominators (`rb = get_min_rb(ra) .. get_max_rb(ra)`, all of them; the loop
nest `canon` is the half `rb ≥ ra`: `inWindow_of_mem_canon`) name a pair of the window -/
theorem fanLoop_inWindow {d : Dims} (wf : d.WF) {ra a rb b : Int} (hra : 0 ≤ ra ∧ ra < d.R) (ha : 0 ≤ a ∧ a < d.N)
    (hrb : d.minRb ra ≤ rb ∧ rb ≤ d.maxRb ra) (hb : d.minB a ≤ b ∧ b ≤ d.maxB a) : d.inWindow ra a rb (Int.tmod b d.N) := by
  obtain ⟨⟨hb0, hbN⟩, hfan, _⟩ := fan_tmod wf ha hb
  unfold Dims.minRb Dims.maxRb at hrb
  exact ⟨hra.1, hra.2, by omega, by omega, by omega, by omega, ha.1, ha.2, hb0, hbN, hfan⟩

theorem inWindow_rings {d : Dims} {ra a rb b : Int} (h : d.inWindow ra a rb b) :
    (0 ≤ ra ∧ ra < d.R) ∧ d.minRb ra ≤ rb ∧ rb ≤ d.maxRb ra := by
  obtain ⟨h1, h2, h3, h4, h5, h6, _⟩ := h
  unfold Dims.minRb Dims.maxRb
  omega

theorem inWindow_of_mem_canon {d : Dims} (wf : d.WF) {c : Key} (hc : c ∈ d.canon) :
    d.inWindow c.1 c.2.1 c.2.2.1 (Int.tmod c.2.2.2 d.N) ∧ c.1 ≤ c.2.2.1 := by
  obtain ⟨hra, ha, hrb, hb⟩ := mem_canon.1 hc
  exact ⟨fanLoop_inWindow wf hra ha ⟨(le_max_right _ _).trans hrb.1, hrb.2⟩ hb, (le_max_left _ _).trans hrb.1⟩

theorem key_eq_storeKey_tmod {d : Dims} (wf : d.WF) {c : Key} (hc : c ∈ d.canon) :
    d.key c = d.storeKey c.1 c.2.1 c.2.2.1 (Int.tmod c.2.2.2 d.N) :=
  storeKey_tmod wf (canon_dets hc).1 (canon_dets hc).2 _ _

/-- the index tuple of the loop nest of the fan data that addresses the same element as `e` (first ring ≤ second ring) -/
def Dims.canonOf (d : Dims) (e : Key) : Key := (e.1, e.2.1, e.2.2.1, d.liftB e.2.1 e.2.2.2)

theorem canonOf_tmod {d : Dims} (wf : d.WF) {x : Key} (hx : x ∈ d.canon) :
    d.canonOf (x.1, x.2.1, x.2.2.1, Int.tmod x.2.2.2 d.N) = x :=
  Prod.ext rfl (Prod.ext rfl (Prod.ext rfl (fan_tmod wf (canon_dets hx).1 (canon_dets hx).2).2.2))

theorem key_injOn_canon {d : Dims} (wf : d.WF) : ∀ c ∈ d.canon, ∀ c' ∈ d.canon, d.key c = d.key c' → c = c' := by
  intro c hc c' hc' h
  obtain ⟨hw, hle⟩ := inWindow_of_mem_canon wf hc
  obtain ⟨hw', hle'⟩ := inWindow_of_mem_canon wf hc'
  rw [key_eq_storeKey_tmod wf hc, key_eq_storeKey_tmod wf hc'] at h
  rcases (storeKey_eq_iff wf hw hw').1 h with ⟨e1, e2, e3, e4⟩ | ⟨hne, e1, e2, e3, e4⟩
  · rw [← canonOf_tmod wf hc, ← canonOf_tmod wf hc', e1, e2, e3, e4]
  · omega

theorem canonOf_mem_key {d : Dims} (wf : d.WF) {ra a rb b : Int} (h : d.inWindow ra a rb b) (hle : ra ≤ rb) :
    d.canonOf (ra, a, rb, b) ∈ d.canon ∧ d.key (d.canonOf (ra, a, rb, b)) = d.storeKey ra a rb b ∧
      Int.tmod (d.liftB a b) d.N = b := by
  obtain ⟨hl, hm⟩ := liftB_spec h.det_b h.fan
  obtain ⟨hra, hrb⟩ := inWindow_rings h
  have hmem : d.canonOf (ra, a, rb, b) ∈ d.canon :=
    mem_canon.2 ⟨hra, h.det_a, ⟨max_le hle hrb.1, hrb.2⟩, hl⟩
  refine ⟨hmem, ?_, hm⟩
  rw [key_eq_storeKey_tmod wf hmem]
  show d.storeKey ra a rb (Int.tmod (d.liftB a b) d.N) = _
  rw [hm]

theorem exists_canon_of_inWindow {d : Dims} (wf : d.WF) {ra a rb b : Int} (h : d.inWindow ra a rb b) :
    ∃ c ∈ d.canon, d.key c = d.storeKey ra a rb b ∧
      ((c.1 = ra ∧ c.2.1 = a ∧ c.2.2.1 = rb ∧ Int.tmod c.2.2.2 d.N = b) ∨
       (c.1 = rb ∧ c.2.1 = b ∧ c.2.2.1 = ra ∧ Int.tmod c.2.2.2 d.N = a)) := by
  rcases le_or_gt ra rb with hle | hlt
  · obtain ⟨hmem, hkey, hm⟩ := canonOf_mem_key wf h hle
    exact ⟨_, hmem, hkey, Or.inl ⟨rfl, rfl, rfl, hm⟩⟩
  · obtain ⟨hmem, hkey, hm⟩ := canonOf_mem_key wf (inWindow_symm wf h) hlt.le
    exact ⟨_, hmem, hkey.trans (storeKey_symm d hlt.ne h.det_b h.det_a), Or.inr ⟨rfl, rfl, rfl, hm⟩⟩

theorem exists_canon_of_allocated {d : Dims} (wf : d.WF) {k : Key} (hk : d.allocated k = true) :
    ∃ c ∈ d.canon, d.key c = k := by
  have hk := allocated_iff_mem_canon.1 hk
  obtain ⟨hw, hle⟩ := inWindow_of_mem_canon wf hk
  -- the element `[k1][k2][k3][k4]` holds the pair `(k3, k4 % N)-(k1, k2)`
  obtain ⟨c, hc, hkey, _⟩ := exists_canon_of_inWindow wf (inWindow_symm wf hw)
  refine ⟨c, hc, hkey.trans ?_⟩
  rw [storeKey_liftB d hw.det_b hw.det_a, if_neg (not_lt.2 hle)]
  exact canonOf_tmod wf hk

end StirVerif.C20
