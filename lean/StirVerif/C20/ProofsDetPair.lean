import StirVerif.C20.ProofsEff
/-! # C20 — the `DetPairData` family (`make_det_pair_data`, `set_det_pair_data`, `apply_*`, `iterate_efficiencies` on one
sinogram pair) -/
namespace StirVerif.C20
-- the section-wide instance arguments are more than some lemmas of the section use
set_option linter.unusedSectionVars false

/-- what `DetPairData::operator()` needs to be unambiguous: an even number of detectors and a fan smaller than the ring
(every data set made by `make_det_pair_data` from projection data with fewer tangential positions than detectors) -/
structure DPDims.WF (d : DPDims) : Prop where
  hh : 0 ≤ d.h
  heven : d.N = 2 * Int.tdiv d.N 2
  hfan : 2 * d.h + 1 < d.N

instance DPDims.instDecidableWF (d : DPDims) : Decidable d.WF :=
  decidable_of_iff (0 ≤ d.h ∧ d.N = 2 * Int.tdiv d.N 2 ∧ 2 * d.h + 1 < d.N)
    ⟨fun ⟨a, b, c⟩ => ⟨a, b, c⟩, fun ⟨a, b, c⟩ => ⟨a, b, c⟩⟩

/-- detector `b` (`0 ≤ b < N`) lies in the fan of detector `a`: `b` or `b + N` is in `get_min_index(a) .. get_max_index(a)` -/
def DPDims.inFan (d : DPDims) (a b : Int) : Prop :=
  (d.minB a ≤ b ∧ b ≤ d.maxB a) ∨ (d.minB a ≤ b + d.N ∧ b + d.N ≤ d.maxB a)

instance DPDims.instDecidableInFan (d : DPDims) (a b : Int) : Decidable (d.inFan a b) := by
  unfold DPDims.inFan
  infer_instance

def DPDims.inData (d : DPDims) (a b : Int) : Prop := 0 ≤ a ∧ a < d.N ∧ 0 ≤ b ∧ b < d.N ∧ d.inFan a b

instance DPDims.instDecidableInData (d : DPDims) (a b : Int) : Decidable (d.inData a b) := by
  unfold DPDims.inData
  infer_instance

/-! ## `DetPairData` has the index geometry of a one-ring `FanProjData`

The loop nests are the same lists of index tuples `(0, a, 0, b)`, a detector pair is in the data iff it is in the window of the
ring; only the array element in which a pair is kept differs (`FanProjData::operator()` stores a pair of one ring under its second
detector, `DetPairData::operator()` under its first: `storeKey a b = (0, a, 0, liftB a b)`). -/

/-- the `FanProjData` geometry of one ring with the same detectors and fan -/
def DPDims.ring (dp : DPDims) : Dims := ⟨1, dp.N, 0, dp.h⟩

theorem DPDims.ring_wf {dp : DPDims} (wf : dp.WF) : dp.ring.WF := by
  refine ⟨?_, ?_, wf.hh, wf.heven, wf.hfan⟩
  · show (0 : Int) < 1
    decide
  · show (0 : Int) ≤ 0
    decide

theorem ring_minRb (dp : DPDims) : dp.ring.minRb 0 = 0 := by
  show max ((0 : Int) - 0) 0 = 0
  decide

theorem ring_maxRb (dp : DPDims) : dp.ring.maxRb 0 = 0 := by
  show min ((0 : Int) + 0) (1 - 1) = 0
  decide

theorem ring_canon (dp : DPDims) : dp.ring.canon = dp.canon := by
  unfold Dims.canon DPDims.canon
  rw [show dp.ring.R - 1 = 0 from rfl, flatMap_intRange_self]
  refine List.flatMap_congr fun a _ => ?_
  rw [ring_maxRb, show max (0 : Int) (dp.ring.minRb 0) = 0 from rfl, flatMap_intRange_self]
  rfl

theorem ring_inWindow {dp : DPDims} {ra a rb b : Int} : dp.ring.inWindow ra a rb b ↔ ra = 0 ∧ rb = 0 ∧ dp.inData a b := by
  unfold Dims.inWindow DPDims.inData Dims.inFan DPDims.inFan
  show 0 ≤ ra ∧ ra < 1 ∧ 0 ≤ rb ∧ rb < 1 ∧ ra - rb ≤ 0 ∧ rb - ra ≤ 0 ∧ _ ↔ _
  constructor
  · rintro ⟨_, _, _, _, _, _, h⟩
    exact ⟨by omega, by omega, h⟩
  · rintro ⟨rfl, rfl, h⟩
    exact ⟨by decide, by decide, by decide, by decide, by decide, by decide, h⟩

theorem mem_dpCanon {d : DPDims} {c : Key} :
    c ∈ d.canon ↔ ∃ a b, (0 ≤ a ∧ a ≤ d.N - 1) ∧ (d.minB a ≤ b ∧ b ≤ d.maxB a) ∧ c = (0, a, 0, b) := by
  simp only [DPDims.canon, List.mem_flatMap, List.mem_map, mem_intRange]
  exact ⟨fun ⟨a, ha, b, hb, h⟩ => ⟨a, b, ha, hb, h.symm⟩, fun ⟨a, b, ha, hb, h⟩ => ⟨a, ha, b, hb, h.symm⟩⟩

theorem dpCanon_nodup (d : DPDims) : d.canon.Nodup :=
  ring_canon d ▸ canon_nodup d.ring

theorem dpStoreKey_of_le {d : DPDims} {a b : Int} (hb : d.minB a ≤ b) : d.storeKey a b = (0, a, 0, b) := by
  unfold DPDims.storeKey
  rw [if_neg (not_lt.2 hb)]

/-- in the loop nest `b` starts at `get_min_index(a)`: `operator()` addresses `[a][b]` itself -/
theorem dpKey_of_mem_canon {d : DPDims} {c : Key} (hc : c ∈ d.canon) : d.key c = c := by
  obtain ⟨a, b, _, hb, rfl⟩ := mem_dpCanon.1 hc
  exact dpStoreKey_of_le hb.1

theorem dpKey_injOn_canon (d : DPDims) : ∀ c ∈ d.canon, ∀ c' ∈ d.canon, d.key c = d.key c' → c = c' := by
  intro c hc c' hc' h
  rw [dpKey_of_mem_canon hc, dpKey_of_mem_canon hc'] at h
  exact h

theorem dpStoreKey_mem_canon {d : DPDims} (wf : d.WF) {a b : Int} (h : d.inData a b) :
    d.storeKey a b ∈ d.canon ∧ Int.tmod (d.storeKey a b).2.2.2 d.N = b := by
  obtain ⟨hmem, _, hmod⟩ := canonOf_mem_key (DPDims.ring_wf wf) (ring_inWindow.2 ⟨rfl, rfl, h⟩) le_rfl
  rw [ring_canon] at hmem
  exact ⟨hmem, hmod⟩

theorem inData_of_mem_dpCanon {d : DPDims} (wf : d.WF) {c : Key} (hc : c ∈ d.canon) : d.inData c.2.1 (Int.tmod c.2.2.2 d.N) :=
  (ring_inWindow.1 (inWindow_of_mem_canon (DPDims.ring_wf wf) (ring_canon d ▸ hc)).1).2.2

theorem dpInData_symm {d : DPDims} (wf : d.WF) {a b : Int} (h : d.inData a b) : d.inData b a :=
  (ring_inWindow.1 (inWindow_symm (DPDims.ring_wf wf) (ring_inWindow.2 ⟨rfl, rfl, h⟩))).2.2

theorem dpStoreKey_inj {d : DPDims} {a b a' b' : Int} (hb : 0 ≤ b ∧ b < d.N) (hb' : 0 ≤ b' ∧ b' < d.N)
    (h : d.storeKey a b = d.storeKey a' b') : a = a' ∧ b = b' := by
  unfold DPDims.storeKey at h
  simp only [Prod.mk.injEq, true_and] at h
  obtain ⟨h1, h2⟩ := h
  subst h1
  refine ⟨rfl, ?_⟩
  split_ifs at h2 <;> omega

section values
variable {K : Type} [OfNat K 0]

def dpWrites (d : DPDims) (e : (Int × Int) × (K × K)) : List (Key × K) :=
  [(d.storeKey e.1.1 e.1.2, e.2.1), (d.storeKey e.1.2 e.1.1, e.2.2)]

theorem makeDP_eq_writes (d : DPDims) (bins : List ((Int × Int) × (K × K))) (F : Fan K) :
    bins.foldl (makeDPStep d) F = (bins.flatMap (dpWrites d)).foldl (fun F w => F.set w.1 w.2) F := by
  rw [List.foldl_flatMap]
  rfl

/-- the hypothesis on the bins of the round trip: detector numbers inside the ring, and whenever two writes of the loop address the
same ordered detector pair they carry the same value (the detector-pair ↔ bin map of the geometry is injective: property C01;
for segment 0 the pairs `(a,b)` and `(b,a)` of one bin both carry its value) -/
def DPConsistent (d : DPDims) (bins : List ((Int × Int) × (K × K))) : Prop :=
  (∀ e ∈ bins, (0 ≤ e.1.1 ∧ e.1.1 < d.N) ∧ (0 ≤ e.1.2 ∧ e.1.2 < d.N)) ∧
  (∀ e ∈ bins, ∀ e' ∈ bins, (e'.1 = e.1 → e'.2.1 = e.2.1) ∧ (e'.1 = (e.1.2, e.1.1) → e'.2.2 = e.2.1 ∧ e'.2.1 = e.2.2) ∧
    (e'.1 = e.1 → e'.2.2 = e.2.2))

/-- After the conversion the element of the ordered detector pair `(a, b)` holds `v` if some bin names the pair and every bin that names it
writes `v` — as `(a, b)` with its first or as `(b, a)` with its second value: the last write wins, and only these address
the element (`dpStoreKey_inj`). -/
theorem makeDP_at2 {d : DPDims} (bins : List ((Int × Int) × (K × K)))
    (hrange : ∀ e ∈ bins, (0 ≤ e.1.1 ∧ e.1.1 < d.N) ∧ (0 ≤ e.1.2 ∧ e.1.2 < d.N)) {a b : Int} (hb : 0 ≤ b ∧ b < d.N) {v : K}
    (hex : ∃ e ∈ bins, e.1 = (a, b) ∨ e.1 = (b, a))
    (hall : ∀ e ∈ bins, (e.1 = (a, b) → e.2.1 = v) ∧ (e.1 = (b, a) → e.2.2 = v)) : (makeDP d bins).at2 d a b = v := by
  have hmem : ∃ w ∈ bins.flatMap (dpWrites d), w.1 = d.storeKey a b := by
    obtain ⟨e, he, h1 | h1⟩ := hex
    · exact ⟨(d.storeKey e.1.1 e.1.2, e.2.1), List.mem_flatMap.2 ⟨e, he, List.mem_pair.2 (Or.inl rfl)⟩, by rw [h1]⟩
    · exact ⟨(d.storeKey e.1.2 e.1.1, e.2.2), List.mem_flatMap.2 ⟨e, he, List.mem_pair.2 (Or.inr rfl)⟩, by rw [h1]⟩
  unfold makeDP Fan.at2
  rw [makeDP_eq_writes]
  obtain ⟨w, hw, hk, hv⟩ := writes_get Prod.fst Prod.snd (bins.flatMap (dpWrites d)) {} hmem
  rw [hv]
  obtain ⟨e, he, hw'⟩ := List.mem_flatMap.1 hw
  rcases List.mem_pair.1 hw' with rfl | rfl
  · obtain ⟨h1, h2⟩ := dpStoreKey_inj (hrange e he).2 hb hk
    exact (hall e he).1 (Prod.ext h1 h2)
  · obtain ⟨h1, h2⟩ := dpStoreKey_inj (hrange e he).1 hb hk
    exact (hall e he).2 (Prod.ext h2 h1)

end values

section field
variable {K : Type} [Field K] [DecidableEq K]

theorem dpApplyEff_get {d : DPDims} (F : Fan K) (eff : Tab K) (apply : Bool) {c : Key} (hc : c ∈ d.canon) :
    (dpApplyEff d F eff apply).get c = applyFactor apply (F.get c) (dpEffFactor d eff c) := by
  have h := factorFold_get_key d.key (dpEffFactor d eff) apply (dpCanon_nodup d) (dpKey_injOn_canon d) F hc
  rwa [dpKey_of_mem_canon hc] at h

theorem dpApplyEff_at {d : DPDims} (wf : d.WF) (F : Fan K) (eff : Tab K) (apply : Bool) {a b : Int} (h : d.inData a b) :
    (dpApplyEff d F eff apply).at2 d a b = applyFactor apply (F.at2 d a b) (eff.get (0, a) * eff.get (0, b)) := by
  obtain ⟨hc, hb⟩ := dpStoreKey_mem_canon wf h
  unfold Fan.at2
  rw [dpApplyEff_get F eff apply hc]
  unfold dpEffFactor
  rw [hb]
  rfl

theorem dpEffFactor_ne_zero {d : DPDims} (wf : d.WF) (eff : Tab K) (hne : ∀ a, 0 ≤ a → a < d.N → eff.get (0, a) ≠ 0) {c : Key}
    (hc : c ∈ d.canon) : dpEffFactor d eff c ≠ 0 := by
  obtain ⟨h1, h2, h3, h4, _⟩ := inData_of_mem_dpCanon wf hc
  unfold dpEffFactor
  exact mul_ne_zero (hne _ h1 h2) (hne _ h3 h4)

theorem dpFanSum_eq (d : DPDims) (F : Fan K) (a : Int) :
    dpFanSum d F a = ((intRange (d.minB a) (d.maxB a)).map fun b => F.get (0, a, 0, b)).sum := by
  unfold dpFanSum
  rw [Common.foldl_add_eq_sum, zero_add]

theorem dpEffDenominator_eq (d : DPDims) (model : Fan K) (eff : Tab K) (a : Int) :
    dpEffDenominator d model eff a =
      ((intRange (d.minB a) (d.maxB a)).map fun b => eff.get (0, Int.tmod b d.N) * model.at2 d a b).sum := by
  unfold dpEffDenominator
  rw [Common.foldl_add_eq_sum, zero_add]

theorem dpFanSum_applyEff {d : DPDims} (model : Fan K) (eff : Tab K) {a : Int} (ha : 0 ≤ a ∧ a ≤ d.N - 1) :
    dpFanSum d (dpApplyEff d model eff true) a = eff.get (0, a) * dpEffDenominator d model eff a := by
  rw [dpFanSum_eq, dpEffDenominator_eq, ← List.sum_map_mul_left]
  apply sum_map_congr
  intro b hb
  rw [dpApplyEff_get model eff true (mem_dpCanon.2 ⟨a, b, ha, mem_intRange.1 hb, rfl⟩), applyFactor_true]
  unfold dpEffFactor Fan.at2
  rw [dpStoreKey_of_le (mem_intRange.1 hb).1]
  ring

theorem dpMakeFanSums_get (d : DPDims) (F : Fan K) {a : Int} (ha : 0 ≤ a ∧ a ≤ d.N - 1) :
    (dpMakeFanSums d F).get (0, a) = dpFanSum d F a := by
  have h : dpMakeFanSums d F =
      ((intRange 0 (d.N - 1)).map fun a => ((0, a) : Int × Int)).foldl (fun T x => T.set x (dpFanSum d F x.2)) {} := by
    rw [List.foldl_map]
    rfl
  rw [h, tab_foldl_set_get (fun x => dpFanSum d F x.2)]
  exact if_pos (List.mem_map.2 ⟨a, mem_intRange.2 ha, rfl⟩)

end field
end StirVerif.C20
