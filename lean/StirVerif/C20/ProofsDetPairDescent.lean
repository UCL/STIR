import StirVerif.C20.ProofsDetPair
import StirVerif.C20.ProofsDescentModel
/-! # C20 — `iterate_efficiencies` on `DetPairData` descends: refinement to the one-ring `FanProjData` model

`Rep dp P F`: the one-ring fan data `F` (geometry `dp.ring`, see `ProofsDetPair.lean`) holds the detector-pair data `P`.  Under `Rep` the denominators, fan sums, efficiency
updates and the Kullback-Leibler sums of the two families coincide, so the descent theorem of the `FanProjData` model
(`C20_eff_iteration_descends_on_model`) carries over. -/
namespace StirVerif.C20

theorem ring_dets (dp : DPDims) : dp.ring.dets = (intRange 0 (dp.N - 1)).map fun a => (0, a) := by
  unfold Dims.dets
  rw [show dp.ring.R - 1 = 0 from rfl, flatMap_intRange_self]
  rfl

theorem ring_det {dp : DPDims} {a : Int} (ha : 0 ≤ a ∧ a ≤ dp.N - 1) : ((0, a) : Int × Int) ∈ dp.ring.dets := by
  rw [ring_dets]
  exact List.mem_map.2 ⟨a, mem_intRange.2 ha, rfl⟩

theorem ring_fanList (dp : DPDims) (a : Int) :
    dp.ring.fanList (0, a) = (intRange (dp.minB a) (dp.maxB a)).map fun b => (0, Int.tmod b dp.N) := by
  unfold Dims.fanList
  rw [ring_minRb, ring_maxRb, flatMap_intRange_self]
  rfl

theorem dpStoreKey_tmod {dp : DPDims} (wf : dp.WF) {c : Key} (hc : c ∈ dp.canon) :
    dp.storeKey c.2.1 (Int.tmod c.2.2.2 dp.N) = c := by
  obtain ⟨a, b, _, _, rfl⟩ := mem_dpCanon.1 hc
  exact canonOf_tmod (DPDims.ring_wf wf) (ring_canon dp ▸ hc)

section values
variable {K : Type} [OfNat K 0]

def Rep (dp : DPDims) (P F : Fan K) : Prop := ∀ a b, dp.inData a b → F.at dp.ring 0 a 0 b = P.at2 dp a b

theorem rep_at_loop {dp : DPDims} (wf : dp.WF) {P F : Fan K} (hrep : Rep dp P F) {a b : Int} (ha : 0 ≤ a ∧ a ≤ dp.N - 1)
    (hb : dp.minB a ≤ b ∧ b ≤ dp.maxB a) : F.at dp.ring 0 a 0 (Int.tmod b dp.N) = P.get (0, a, 0, b) :=
  have hc : ((0, a, 0, b) : Key) ∈ dp.canon := mem_dpCanon.2 ⟨a, b, ha, hb, rfl⟩
  (hrep _ _ (inData_of_mem_dpCanon wf hc)).trans (congrArg P.get (dpStoreKey_tmod wf hc))

theorem rep_get_key {dp : DPDims} (wf : dp.WF) {P F : Fan K} (hrep : Rep dp P F) {c : Key} (hc : c ∈ dp.canon) :
    F.get (dp.ring.key c) = P.get c := by
  rw [key_eq_storeKey_tmod (DPDims.ring_wf wf) (ring_canon dp ▸ hc)]
  obtain ⟨a, b, ha, hb, rfl⟩ := mem_dpCanon.1 hc
  exact rep_at_loop wf hrep ha hb

/-- `Rep` on the elements: the loop nests of the two families are the same list of index tuples, read through the two `operator()`s -/
theorem rep_iff_key {dp : DPDims} (wf : dp.WF) {P F : Fan K} :
    Rep dp P F ↔ ∀ c ∈ dp.canon, F.get (dp.ring.key c) = P.get c := by
  refine ⟨fun h c hc => rep_get_key wf h hc, fun h a b hab => ?_⟩
  obtain ⟨hmem, hkey, _⟩ := canonOf_mem_key (DPDims.ring_wf wf) (ring_inWindow.2 ⟨rfl, rfl, hab⟩) le_rfl
  rw [ring_canon] at hmem
  unfold Fan.at Fan.at2
  rw [← hkey, h _ hmem]
  rfl

/-- every `DetPairData` is held by a one-ring fan data -/
theorem rep_ofFun {dp : DPDims} (wf : dp.WF) (P : Fan K) : Rep dp P (Fan.ofFun dp.ring fun c => P.get c) :=
  (rep_iff_key wf).2 fun _ hc => Fan.ofFun_get (DPDims.ring_wf wf) _ (ring_canon dp ▸ hc)

end values

section field
variable {K : Type} [Field K] [DecidableEq K]

theorem rep_effDenominator {dp : DPDims} (wf : dp.WF) {P F : Fan K} (hrep : Rep dp P F) (eff : Tab K) {a : Int}
    (ha : 0 ≤ a ∧ a ≤ dp.N - 1) : effDenominator dp.ring F eff 0 a = dpEffDenominator dp P eff a := by
  rw [effDenominator_eq_fanList (DPDims.ring_wf wf) F eff (ring_det ha), dpEffDenominator_eq, ring_fanList, List.map_map]
  refine sum_map_congr _ _ _ fun b hb => ?_
  -- in the loops `DetPairData::operator()(a, b)` is the element `[a][b]`
  have hat : P.at2 dp a b = P.get (0, a, 0, b) := congrArg P.get (dpStoreKey_of_le (mem_intRange.1 hb).1)
  rw [hat, ← rep_at_loop wf hrep ha (mem_intRange.1 hb)]
  rfl

theorem rep_makeFanSums {dp : DPDims} (wf : dp.WF) {P F : Fan K} (hrep : Rep dp P F) {a : Int} (ha : 0 ≤ a ∧ a ≤ dp.N - 1) :
    (makeFanSums dp.ring F).get (0, a) = (dpMakeFanSums dp P).get (0, a) := by
  rw [makeFanSums_get _ _ (ring_det ha), dpMakeFanSums_get dp P ha, fanSum_eq_fanList, dpFanSum_eq, ring_fanList, List.map_map]
  exact sum_map_congr _ _ _ fun b hb => rep_at_loop wf hrep ha (mem_intRange.1 hb)

theorem rep_iterateEff {dp : DPDims} (wf : dp.WF) {P F : Fan K} (hrep : Rep dp P F) (eff sums sums' : Tab K)
    (hs : ∀ a, 0 ≤ a ∧ a ≤ dp.N - 1 → sums.get (0, a) = sums'.get (0, a)) :
    iterateEff dp.ring eff sums F = dpIterateEff dp eff sums' P := by
  unfold iterateEff dpIterateEff
  rw [ring_dets, List.foldl_map]
  apply List.foldl_ext
  intro T a ha
  have ha' := mem_intRange.1 ha
  unfold effStep dpEffStep
  simp only
  rw [rep_effDenominator wf hrep T ha', hs a ha']

theorem rep_applyEff {dp : DPDims} (wf : dp.WF) {P F : Fan K} (hrep : Rep dp P F) (eff : Tab K) :
    Rep dp (dpApplyEff dp P eff true) (applyEff dp.ring F eff true) := by
  intro a b h
  rw [applyEff_at (DPDims.ring_wf wf) F eff true (ring_inWindow.2 ⟨rfl, rfl, h⟩), dpApplyEff_at wf P eff true h, hrep a b h]

end field

/-- Not in the C++ (specification helper): the Kullback-Leibler distance of two `DetPairData` summed **once per detector pair** —
the entries `(a, b)` of the loop nest with `a < b % N` (`KL(const DetPairData&, …)`, `dpKL`, visits `(a,b)` and `(b,a)`). -/
def dpKLPairs {K : Type} [OfNat K 0] [LT K] [DecidableLT K] [Add K] [Sub K] [Mul K] (log : K → K) (dp : DPDims) (P1 P2 : Fan K)
    (thr : K) : K :=
  (dp.canon.filter fun c => decide (c.2.1 < Int.tmod c.2.2.2 dp.N)).foldl (fun s c => s + klTerm log (P1.get c) (P2.get c) thr) 0

section real

theorem rep_klPairs {dp : DPDims} (wf : dp.WF) {P1 F1 P2 F2 : Fan ℝ} (h1 : Rep dp P1 F1) (h2 : Rep dp P2 F2) (log : ℝ → ℝ) (thr : ℝ) :
    klPairs log dp.ring F1 F2 thr = dpKLPairs log dp P1 P2 thr := by
  unfold klPairs dpKLPairs
  rw [ring_canon]
  have hf : (dp.canon.filter fun c => decide (c.1 < c.2.2.1) || decide (c.2.1 < Int.tmod c.2.2.2 dp.ring.N)) =
      dp.canon.filter fun c => decide (c.2.1 < Int.tmod c.2.2.2 dp.N) := by
    apply List.filter_congr
    intro c hc
    obtain ⟨a, b, _, _, rfl⟩ := mem_dpCanon.1 hc
    rfl
  rw [hf, Common.foldl_add_eq_sum, Common.foldl_add_eq_sum]
  congr 1
  apply sum_map_congr
  intro c hc
  have hc' := (List.mem_filter.1 hc).1
  rw [rep_get_key wf h1 hc', rep_get_key wf h2 hc']

def dpConst (dp : DPDims) (v : ℝ) : Fan ℝ := dp.canon.foldl (fun F c => F.set c v) {}

theorem dpConst_get (dp : DPDims) (v : ℝ) {c : Key} (hc : c ∈ dp.canon) : (dpConst dp v).get c = v :=
  rmw_get (fun c => c) (fun _ _ => v) (dpCanon_nodup dp) (fun _ _ _ _ h => h) {} hc

theorem dpConst_at2 {dp : DPDims} (wf : dp.WF) (v : ℝ) {a b : Int} (h : dp.inData a b) : (dpConst dp v).at2 dp a b = v :=
  dpConst_get dp v (dpStoreKey_mem_canon wf h).1

theorem dpMakeFanSums_pos {dp : DPDims} (wf : dp.WF) (data : Fan ℝ) (hdata : ∀ c ∈ dp.canon, 0 < data.get c) {a : Int}
    (ha : 0 ≤ a ∧ a ≤ dp.N - 1) : 0 < (dpMakeFanSums dp data).get (0, a) := by
  rw [dpMakeFanSums_get dp data ha, dpFanSum_eq]
  have hrng : dp.minB a ≤ dp.maxB a := by
    have := wf.hh
    unfold DPDims.minB DPDims.maxB
    omega
  apply list_sum_pos_of_pos _ _ (intRange_ne_nil hrng)
  intro b hb
  exact hdata _ (mem_dpCanon.2 ⟨a, b, ha, mem_intRange.1 hb, rfl⟩)

end real
end StirVerif.C20
