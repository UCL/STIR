import StirVerif.C20.ProofsStore
import Mathlib.Algebra.BigOperators.Group.Finset.Basic
import Mathlib.Data.List.Perm.Basic
/-! # C20 — the index maps of `make_geo_data` and `apply_geo_norm`

The two loops over the geometric factors described without values: `geoTermKeys` (what `make_geo_data` sums into a factor),
`geoWriteTargets` (where `apply_geo_norm` writes it), `GeoClassOK` (the two agree class by class); `is_in_data` inside the fan, the two
mirror images of a detector pair and the four elements `Kb` read for an entry, and the block translations of an index tuple
(`geoShift_spec`). -/
namespace StirVerif.C20

/-- the `GeoData3D` was made for this `FanProjData`: same number of detectors per ring, the transaxial blocks tile the ring, the
axial blocks tile the rings (what `GeoData3D(num_axial_crystals_per_block, num_transaxial_crystals_per_block/2, num_rings,
num_detectors_per_ring)` gets from a scanner with an even number of transaxial crystals per block; not with an odd number or one:
then `2 * half` is not the block size) -/
structure GeoDims.Fits (g : GeoDims) (d : Dims) : Prop where
  hN : g.N = d.N
  hT : (g.half * 2) ∣ d.N
  hA : g.acpb ∣ d.R

instance (g : GeoDims) (d : Dims) : Decidable (g.Fits d) :=
  decidable_of_iff (g.N = d.N ∧ (g.half * 2) ∣ d.N ∧ g.acpb ∣ d.R) ⟨fun ⟨a, b, c⟩ => ⟨a, b, c⟩, fun ⟨a, b, c⟩ => ⟨a, b, c⟩⟩

theorem geoLoop_eq (d : Dims) (g : GeoDims) : geoLoop d g = loopNest (intRange 0 (g.acpb - 1))
    (intRange 0 (Int.tdiv (g.half * 2) 2 - 1)) (fun ra => intRange (max ra (d.minRb ra)) (d.maxRb ra))
    (fun a => intRange (d.minB a) (d.maxB a)) := rfl

theorem mem_geoLoop {d : Dims} {g : GeoDims} {c : Key} :
    c ∈ geoLoop d g ↔ (0 ≤ c.1 ∧ c.1 ≤ g.acpb - 1) ∧ (0 ≤ c.2.1 ∧ c.2.1 ≤ g.half - 1) ∧
      (max c.1 (d.minRb c.1) ≤ c.2.2.1 ∧ c.2.2.1 ≤ d.maxRb c.1) ∧ (d.minB c.2.1 ≤ c.2.2.2 ∧ c.2.2.2 ≤ d.maxB c.2.1) := by
  simp only [geoLoop_eq, mem_loopNest, mem_intRange, Int.mul_tdiv_cancel _ (by norm_num : (2 : Int) ≠ 0)]

theorem geoLoop_nodup (d : Dims) (g : GeoDims) : (geoLoop d g).Nodup :=
  loopNest_nodup (nodup_intRange _ _) (nodup_intRange _ _) (fun _ => nodup_intRange _ _) (fun _ => nodup_intRange _ _)

theorem blockShifts_eq (d : Dims) (g : GeoDims) : blockShifts d g =
    (intRange 0 (Int.tdiv d.R g.acpb - 1)).product (intRange 0 (Int.tdiv d.N (g.half * 2) - 1)) := rfl

theorem mem_blockShifts {d : Dims} {g : GeoDims} {sh : Int × Int} :
    sh ∈ blockShifts d g ↔ (0 ≤ sh.1 ∧ sh.1 ≤ Int.tdiv d.R g.acpb - 1) ∧ (0 ≤ sh.2 ∧ sh.2 ≤ Int.tdiv d.N (g.half * 2) - 1) := by
  rw [blockShifts_eq, List.pair_mem_product, mem_intRange, mem_intRange]

/-- the fan entry `(nra, na, nrb, nb)` obtained from the geometric-factor index tuple `c` by the block translation `sh` -/
def geoShift (d : Dims) (g : GeoDims) (c : Key) (sh : Int × Int) : Key :=
  (c.1 + sh.1 * g.acpb, Int.tmod (c.2.1 + sh.2 * (g.half * 2)) d.N, c.2.2.1 + sh.1 * g.acpb,
    Int.tmod (c.2.2.2 + sh.2 * (g.half * 2)) d.N)

def Dims.inDataK (d : Dims) (e : Key) : Bool := d.isInData e.1 e.2.1 e.2.2.1 e.2.2.2

/-- the `GeoData3D` element addressed by `make_geo_data` / `apply_geo_norm` for the loop indices `c` (`b % N`) -/
def geoKey (d : Dims) (g : GeoDims) (c : Key) : Key := g.storeKey c.1 c.2.1 c.2.2.1 (Int.tmod c.2.2.2 d.N)

/-- the `GeoData3D` element addressed by `iterate_geo_norm` for the loop indices `c` (`b` not reduced) -/
def geoKeyU (g : GeoDims) (c : Key) : Key := g.storeKey c.1 c.2.1 c.2.2.1 c.2.2.2

/-- the array elements read by `make_geo_data` (part 1) for the loop indices `c`: the entry, its transaxial mirror image and —
unless the LOR is its own axial mirror image — the two axial mirror images -/
def Dims.mirrorKeys (d : Dims) (c : Key) : List Key :=
  if d.fourTerms c.1 c.2.2.1 then
    [d.storeKey c.1 c.2.1 c.2.2.1 c.2.2.2,
     d.storeKey c.1 (d.N - 1 - c.2.1) c.2.2.1 (Int.tmod (2 * d.N - 1 - c.2.2.2) d.N),
     d.storeKey (d.R - 1 - c.1) c.2.1 (d.R - 1 - c.2.2.1) c.2.2.2,
     d.storeKey (d.R - 1 - c.1) (d.N - 1 - c.2.1) (d.R - 1 - c.2.2.1) (Int.tmod (2 * d.N - 1 - c.2.2.2) d.N)]
  else
    [d.storeKey c.1 c.2.1 c.2.2.1 c.2.2.2,
     d.storeKey c.1 (d.N - 1 - c.2.1) c.2.2.1 (Int.tmod (2 * d.N - 1 - c.2.2.2) d.N)]

/-- the array elements of the fan data summed into the geometric factor `c` by `make_geo_data`, with multiplicity -/
def geoTermKeys (d : Dims) (g : GeoDims) (c : Key) : List Key :=
  ((blockShifts d g).filter fun sh => d.inDataK (geoShift d g c sh)).flatMap fun sh =>
    d.mirrorKeys (d.canonOf (geoShift d g c sh))

/-- the elements of `work` that `apply_geo_norm` (part 1) sets to the geometric factor `c` for the block translation `sh` -/
def geoWriteTargets (d : Dims) (g : GeoDims) (c : Key) (sh : Int × Int) : List Key :=
  (if d.isInData (geoShift d g c sh).1 (geoShift d g c sh).2.1 (geoShift d g c sh).2.2.1 (geoShift d g c sh).2.2.2 then
      [d.storeKey (geoShift d g c sh).1 (geoShift d g c sh).2.1 (geoShift d g c sh).2.2.1 (geoShift d g c sh).2.2.2] else []) ++
  ((if d.isInData (geoShift d g c sh).1 (d.N - 1 - (geoShift d g c sh).2.1) (geoShift d g c sh).2.2.1
        (Int.tmod (2 * d.N - 1 - (geoShift d g c sh).2.2.2) d.N) then
      [d.storeKey (geoShift d g c sh).1 (d.N - 1 - (geoShift d g c sh).2.1) (geoShift d g c sh).2.2.1
        (Int.tmod (2 * d.N - 1 - (geoShift d g c sh).2.2.2) d.N)] else []) ++
  ((if d.isInData (d.R - 1 - (geoShift d g c sh).1) (geoShift d g c sh).2.1 (d.R - 1 - (geoShift d g c sh).2.2.1)
        (geoShift d g c sh).2.2.2 then
      [d.storeKey (d.R - 1 - (geoShift d g c sh).1) (geoShift d g c sh).2.1 (d.R - 1 - (geoShift d g c sh).2.2.1)
        (geoShift d g c sh).2.2.2] else []) ++
  (if d.isInData (d.R - 1 - (geoShift d g c sh).1) (d.N - 1 - (geoShift d g c sh).2.1) (d.R - 1 - (geoShift d g c sh).2.2.1)
        (Int.tmod (2 * d.N - 1 - (geoShift d g c sh).2.2.2) d.N) then
      [d.storeKey (d.R - 1 - (geoShift d g c sh).1) (d.N - 1 - (geoShift d g c sh).2.1) (d.R - 1 - (geoShift d g c sh).2.2.1)
        (Int.tmod (2 * d.N - 1 - (geoShift d g c sh).2.2.2) d.N)] else [])))

/-- **the class structure of the geometric factors**: every array element summed into a geometric factor `c` by `make_geo_data`
receives a factor in `apply_geo_norm`, and every factor `c'` that is written to it (whichever write is the last) sums exactly the
same elements as `c`.  No values involved: a statement about the index maps only. -/
def GeoClassOK (d : Dims) (g : GeoDims) : Prop :=
  ∀ c ∈ geoLoop d g, ∀ t ∈ geoTermKeys d g c,
    (∃ c' ∈ geoLoop d g, ∃ sh ∈ blockShifts d g, t ∈ geoWriteTargets d g c' sh) ∧
      ∀ c' ∈ geoLoop d g, (∃ sh ∈ blockShifts d g, t ∈ geoWriteTargets d g c' sh) → (geoTermKeys d g c').Perm (geoTermKeys d g c)

instance (d : Dims) (g : GeoDims) : Decidable (GeoClassOK d g) := by unfold GeoClassOK; infer_instance

theorem isInData_iff {d : Dims} {ra a rb b : Int} :
    d.isInData ra a rb b = true ↔ d.loRb ra ≤ rb ∧ rb ≤ d.maxRb ra ∧
      ((d.minB a ≤ b ∧ b ≤ d.maxB a) ∨ (b < d.minB a ∧ b + d.N ≤ d.maxB a)) := by
  unfold Dims.isInData
  split_ifs with h1 h2
  · simp only [Bool.or_eq_true, decide_eq_true_eq] at h1
    simp only [false_iff]
    omega
  · simp only [Bool.or_eq_true, decide_eq_true_eq] at h1 ⊢
    omega
  · simp only [Bool.or_eq_true, decide_eq_true_eq] at h1 ⊢
    omega

theorem isInData_of_inFan {d : Dims} (wf : d.WF) {ra a rb b : Int} (h : d.inFan a b) :
    d.isInData ra a rb b = true ↔ d.loRb ra ≤ rb ∧ rb ≤ d.maxRb ra := by
  have := wf.hfan
  have := wf.hh
  rw [isInData_iff]
  unfold Dims.inFan at h
  constructor
  · rintro ⟨h1, h2, _⟩
    exact ⟨h1, h2⟩
  · rintro ⟨h1, h2⟩
    exact ⟨h1, h2, by omega⟩

/-- `is_in_data` of a detector pair in the fan with its rings in order, and of its axial mirror image (rings in the other order: only
in-ring pairs pass), in terms of the rings -/
theorem isInData_rings {d : Dims} (wf : d.WF) {r r' a b : Int} (h0 : 0 ≤ r) (h1 : r ≤ r') (h2 : r' - r ≤ d.md) (hfan : d.inFan a b) :
    (d.isInData r a r' b = true ↔ r' ≤ d.R - 1) ∧
      (d.isInData (d.R - 1 - r) a (d.R - 1 - r') b = true ↔ r' ≤ d.R - 1 ∧ r = r') := by
  rw [isInData_of_inFan wf hfan, isInData_of_inFan wf hfan]
  unfold Dims.loRb Dims.minRb Dims.maxRb
  omega

/-! ## the mirror images of a detector pair

The transaxial mirror image `(a, b) ↦ (N-1-a, N-1-b)` and the axial one `(ra, rb) ↦ (R-1-ra, R-1-rb)` map the window to itself. -/

theorem tmod_mirror {N y : Int} (h0 : 0 ≤ y) (h1 : y < 2 * N) : Int.tmod (2 * N - 1 - y) N = N - 1 - Int.tmod y N := by
  rw [tmod_of_lt_two_mul (b := 2 * N - 1 - y) (by omega) (by omega), tmod_of_lt_two_mul h0 h1]
  split_ifs <;> omega

theorem inFan_mirror {d : Dims} (wf : d.WF) {a b : Int} (h : d.inFan a b) : d.inFan (d.N - 1 - a) (d.N - 1 - b) := by
  have := wf.heven
  unfold Dims.inFan Dims.minB Dims.maxB at *
  omega

/-- the lifted index of the first detector seen from the second, and the same for the transaxial mirror images -/
theorem liftB_swap {d : Dims} (wf : d.WF) {a b : Int} (h : d.inFan a b) :
    d.liftB b a = b + d.N - (d.liftB a b - a) ∧ d.liftB (d.N - 1 - b) (d.N - 1 - a) = d.N - 1 - b + (d.liftB a b - a) := by
  have := wf.heven
  have := wf.hfan
  unfold Dims.inFan Dims.minB Dims.maxB at h
  unfold Dims.liftB Dims.minB
  split_ifs <;> omega

theorem inWindow_mirror_t {d : Dims} (wf : d.WF) {ra a rb b : Int} (h : d.inWindow ra a rb b) :
    d.inWindow ra (d.N - 1 - a) rb (d.N - 1 - b) := by
  obtain ⟨h1, h2, h3, h4, h5, h6, h7, h8, h9, h10, h11⟩ := h
  exact ⟨h1, h2, h3, h4, h5, h6, by omega, by omega, by omega, by omega, inFan_mirror wf h11⟩

theorem inWindow_mirror_a {d : Dims} {ra a rb b : Int} (h : d.inWindow ra a rb b) :
    d.inWindow (d.R - 1 - ra) a (d.R - 1 - rb) b := by
  obtain ⟨h1, h2, h3, h4, h5, h6, h7⟩ := h
  exact ⟨by omega, by omega, by omega, by omega, by omega, by omega, h7⟩

/-- the element read by `make_geo_data` for the loop indices `x`: that of the entry itself (`st = ss = false`), transaxially
(`st`) and / or axially (`ss`) mirrored -/
def Dims.Kb (d : Dims) (x : Key) (st ss : Bool) : Key :=
  d.storeKey (if ss then d.R - 1 - x.1 else x.1) (if st then d.N - 1 - x.2.1 else x.2.1)
    (if ss then d.R - 1 - x.2.2.1 else x.2.2.1) (if st then Int.tmod (2 * d.N - 1 - x.2.2.2) d.N else x.2.2.2)

theorem mirrorKeys_eq (d : Dims) (x : Key) :
    d.mirrorKeys x = if d.fourTerms x.1 x.2.2.1 then [d.Kb x false false, d.Kb x true false, d.Kb x false true, d.Kb x true true]
      else [d.Kb x false false, d.Kb x true false] := rfl

theorem mem_mirrorKeys (d : Dims) {x t : Key} (h : t ∈ d.mirrorKeys x) : ∃ st ss, t = d.Kb x st ss := by
  rw [mirrorKeys_eq] at h
  split at h <;> simp only [List.mem_cons, List.not_mem_nil, or_false] at h
  · rcases h with rfl | rfl | rfl | rfl
    exacts [⟨false, false, rfl⟩, ⟨true, false, rfl⟩, ⟨false, true, rfl⟩, ⟨true, true, rfl⟩]
  · rcases h with rfl | rfl
    exacts [⟨false, false, rfl⟩, ⟨true, false, rfl⟩]

theorem Kb_red {d : Dims} (wf : d.WF) {x : Key} (ha : 0 ≤ x.2.1 ∧ x.2.1 < d.N)
    (hy : d.minB x.2.1 ≤ x.2.2.2 ∧ x.2.2.2 ≤ d.maxB x.2.1) (st ss : Bool) :
    d.Kb x st ss = d.storeKey (if ss then d.R - 1 - x.1 else x.1) (if st then d.N - 1 - x.2.1 else x.2.1)
      (if ss then d.R - 1 - x.2.2.1 else x.2.2.1) (if st then d.N - 1 - Int.tmod x.2.2.2 d.N else Int.tmod x.2.2.2 d.N) := by
  have := wf.heven
  have := wf.hfan
  unfold Dims.Kb
  cases st
  · exact storeKey_tmod wf ha hy _ _
  · unfold Dims.minB Dims.maxB at hy
    simp only [if_true]
    rw [tmod_mirror (by omega) (by omega)]

theorem Kb_spec {d : Dims} (wf : d.WF) {x : Key} (hx : x ∈ d.canon) (st ss : Bool) :
    d.Kb x st ss = d.storeKey (if ss then d.R - 1 - x.1 else x.1) (if st then d.N - 1 - x.2.1 else x.2.1)
        (if ss then d.R - 1 - x.2.2.1 else x.2.2.1) (if st then d.N - 1 - Int.tmod x.2.2.2 d.N else Int.tmod x.2.2.2 d.N) ∧
      d.inWindow (if ss then d.R - 1 - x.1 else x.1) (if st then d.N - 1 - x.2.1 else x.2.1)
        (if ss then d.R - 1 - x.2.2.1 else x.2.2.1) (if st then d.N - 1 - Int.tmod x.2.2.2 d.N else Int.tmod x.2.2.2 d.N) := by
  obtain ⟨hw, _⟩ := inWindow_of_mem_canon wf hx
  refine ⟨Kb_red wf (canon_dets hx).1 (canon_dets hx).2 st ss, ?_⟩
  cases st <;> cases ss <;> simp only [if_true, if_false, Bool.false_eq_true]
  -- the entry, its axial mirror image, its transaxial one, both
  · exact hw
  · exact inWindow_mirror_a hw
  · exact inWindow_mirror_t wf hw
  · exact inWindow_mirror_a (inWindow_mirror_t wf hw)

theorem exists_canon_of_mirrorKeys {d : Dims} (wf : d.WF) {c : Key} (hc : c ∈ d.canon) :
    ∀ t ∈ d.mirrorKeys c, ∃ c' ∈ d.canon, d.key c' = t := by
  intro t ht
  obtain ⟨st, ss, rfl⟩ := mem_mirrorKeys d ht
  obtain ⟨hk, hw⟩ := Kb_spec wf hc st ss
  obtain ⟨c', hc', hkey, _⟩ := exists_canon_of_inWindow wf hw
  exact ⟨c', hc', hkey.trans hk.symm⟩

/-- the block-translated entry as an index tuple of the loop nest of the fan data (`b` not reduced) -/
def geoShiftC (g : GeoDims) (c : Key) (sh : Int × Int) : Key :=
  (c.1 + sh.1 * g.acpb, c.2.1 + sh.2 * (g.half * 2), c.2.2.1 + sh.1 * g.acpb, c.2.2.2 + sh.2 * (g.half * 2))

section
variable {d : Dims} {g : GeoDims}

theorem geoLoop_facts (wf : d.WF) (fits : g.Fits d) {c : Key} (hc : c ∈ geoLoop d g) :
    0 < g.acpb ∧ 0 < g.half ∧ c ∈ d.canon := by
  obtain ⟨⟨h1, h2⟩, ⟨h3, h4⟩, ⟨h5, h6⟩, h7, h8⟩ := mem_geoLoop.1 hc
  have := wf.hfan
  have := wf.hh
  have hN : 0 < d.N := by omega
  have hT : g.half * 2 ≤ d.N := Int.le_of_dvd hN fits.hT
  refine ⟨by omega, by omega, mem_canon.2 ⟨⟨h1, ?_⟩, ⟨h3, by omega⟩, ⟨h5, h6⟩, h7, h8⟩⟩
  unfold Dims.maxRb at h6
  have : c.1 ≤ c.2.2.1 := le_trans (le_max_left _ _) h5  -- `omega` finds it in `h5`, more slowly
  omega

theorem geoLoop_canon (wf : d.WF) (fits : g.Fits d) {c : Key} (hc : c ∈ geoLoop d g) : c ∈ d.canon :=
  (geoLoop_facts wf fits hc).2.2

theorem mem_geoLoop_of_canon {c : Key} (hc : c ∈ d.canon) (h1 : c.1 ≤ g.acpb - 1) (h2 : c.2.1 ≤ g.half - 1) : c ∈ geoLoop d g :=
  have ⟨hra, ha, hrb, hb⟩ := mem_canon.1 hc
  mem_geoLoop.2 ⟨⟨hra.1, h1⟩, ⟨ha.1, h2⟩, hrb, hb⟩

/-- the block-translated entry satisfies what an index tuple of the loop nest of the fan data satisfies, but for the upper bound of
its second ring -/
theorem geoShiftC_lin (wf : d.WF) (fits : g.Fits d) {c : Key} (hc : c ∈ geoLoop d g) {sh : Int × Int}
    (hsh : sh ∈ blockShifts d g) {x : Key} (hx : x = geoShiftC g c sh) :
    0 ≤ x.1 ∧ x.1 ≤ x.2.2.1 ∧ x.2.2.1 - x.1 ≤ d.md ∧ 0 ≤ x.2.1 ∧ x.2.1 < d.N ∧
      x.2.1 + Int.tdiv d.N 2 - d.h ≤ x.2.2.2 ∧ x.2.2.2 ≤ x.2.1 + Int.tdiv d.N 2 + d.h := by
  obtain ⟨hA, hH, hcc⟩ := geoLoop_facts wf fits hc
  obtain ⟨h1, h2, _, h4, h5, h6, h7, h8⟩ := canon_lin hcc
  obtain ⟨_, ⟨_, h4'⟩, _, _, _⟩ := mem_geoLoop.1 hc
  obtain ⟨⟨s1, s2⟩, s3, s4⟩ := mem_blockShifts.1 hsh
  have e2 : (sh.2 + 1) * (g.half * 2) ≤ d.N := by
    calc (sh.2 + 1) * (g.half * 2) ≤ Int.tdiv d.N (g.half * 2) * (g.half * 2) := mul_le_mul_of_nonneg_right (by omega) (by omega)
      _ = d.N := Int.tdiv_mul_cancel fits.hT
  have n1 := mul_nonneg s1 hA.le
  have n2 : 0 ≤ sh.2 * (g.half * 2) := mul_nonneg s3 (by omega)
  subst hx
  unfold geoShiftC
  simp only
  refine ⟨by omega, by omega, by omega, by omega, by linarith, by omega, by omega⟩

structure GeoShiftSpec (d : Dims) (g : GeoDims) (c : Key) (sh : Int × Int) : Prop where
  red : geoShift d g c sh = ((geoShiftC g c sh).1, (geoShiftC g c sh).2.1, (geoShiftC g c sh).2.2.1,
    Int.tmod (geoShiftC g c sh).2.2.2 d.N)
  canonOf_eq : d.canonOf (geoShift d g c sh) = geoShiftC g c sh
  key_eq : d.key (geoShiftC g c sh) = d.key (geoShift d g c sh)
  inData_iff : d.inDataK (geoShift d g c sh) = true ↔ geoShiftC g c sh ∈ d.canon

theorem geoShift_spec (wf : d.WF) (fits : g.Fits d) {c : Key} (hc : c ∈ geoLoop d g) {sh : Int × Int}
    (hsh : sh ∈ blockShifts d g) : GeoShiftSpec d g c sh := by
  obtain ⟨l1, l2, l3, ha0, haN, l7, l8⟩ := geoShiftC_lin wf fits hc hsh rfl
  obtain ⟨_, hfan, hl⟩ := fan_tmod wf ⟨ha0, haN⟩ ⟨l7, l8⟩
  have hred : geoShift d g c sh = ((geoShiftC g c sh).1, (geoShiftC g c sh).2.1, (geoShiftC g c sh).2.2.1,
      Int.tmod (geoShiftC g c sh).2.2.2 d.N) := by
    unfold geoShift
    rw [Int.tmod_eq_of_lt (show 0 ≤ c.2.1 + sh.2 * (g.half * 2) from ha0) haN]
    rfl
  refine ⟨hred, ?_, ?_, ?_⟩
  · rw [hred]
    exact Prod.ext rfl (Prod.ext rfl (Prod.ext rfl hl))
  · rw [hred]
    exact storeKey_tmod wf ⟨ha0, haN⟩ ⟨l7, l8⟩ _ _
  · rw [hred]
    exact (isInData_rings wf l1 l2 l3 hfan).1.trans
      ⟨fun h => mem_canon_lin l1 l2 h l3 ha0 haN l7 l8, fun h => (canon_lin h).2.2.1⟩

end

/-- `a < N`, so `a % N = a`; `b ∈ a .. a+N-1` is the index range of `GeoData3D`: the element addressed is `[ra][a][rb][b]` itself -/
theorem geoKey_eq {d : Dims} (wf : d.WF) {g : GeoDims} (fits : g.Fits d) {c : Key} (hc : c ∈ geoLoop d g) :
    geoKey d g c = c ∧ geoKeyU g c = c := by
  obtain ⟨_, _, _, _, h5, h6, h7, h8⟩ := canon_lin (geoLoop_canon wf fits hc)
  have h9 := canon_tmod wf (geoLoop_canon wf fits hc)
  have := wf.heven
  have := wf.hfan
  unfold geoKey geoKeyU GeoDims.storeKey
  rw [fits.hN, Int.tmod_eq_of_lt h5 h6]
  constructor
  · refine Prod.ext rfl (Prod.ext rfl (Prod.ext rfl ?_))
    simp only
    split_ifs <;> omega
  · refine Prod.ext rfl (Prod.ext rfl (Prod.ext rfl ?_))
    simp only
    split_ifs <;> omega

end StirVerif.C20
