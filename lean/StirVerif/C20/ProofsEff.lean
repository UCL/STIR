import StirVerif.C20.ProofsStore
/-! # C20 — efficiencies on `FanProjData`: applying them, fan sums, the denominators and the fixed point of `iterate_efficiencies`

The two inner loops of `FanProjData::sum` and of the denominators run over the fan of a detector (`Dims.fanList`: the detectors in
coincidence with it, each once), so the three of them are one `List.sum` over it.  Then: an in-place sweep over fan sums of the form
`ε · denominator` (those of data generated from a model: `C20_fan_sums_of_model_data`) returns `ε` (`sweep_fixed`), denominators are positive for positive efficiencies and a positive
model; constant tables as witnesses; the versions "without model" are the versions with the model that is `1` on the window. -/
namespace StirVerif.C20
-- the section-wide instance arguments are more than some lemmas of the section use
set_option linter.unusedSectionVars false

/-- the fan of detector `x`: the detectors `(rb, b % N)` named by the two inner loops of `FanProjData::sum` and of the
denominators of `iterate_efficiencies`, in loop order -/
def Dims.fanList (d : Dims) (x : Int × Int) : List (Int × Int) :=
  (intRange (d.minRb x.1) (d.maxRb x.1)).flatMap fun rb =>
    (intRange (d.minB x.2) (d.maxB x.2)).map fun b => (rb, Int.tmod b d.N)

theorem fanList_nodup {d : Dims} (wf : d.WF) {x : Int × Int} (hx : x ∈ d.dets) : (d.fanList x).Nodup := by
  obtain ⟨_, ha⟩ := mem_dets.1 hx
  unfold Dims.fanList
  refine Common.nodup_flatMap_of_tag id (fun y => y.1) ?_ (fun rb _ => ?_) (fun rb _ y hy => ?_)
  · rw [List.map_id]
    exact nodup_intRange _ _
  · refine List.Nodup.map_on ?_ (nodup_intRange _ _)
    intro b hb b' hb' h
    exact tmod_inj_fan wf ha (mem_intRange.1 hb) (mem_intRange.1 hb') (Prod.ext_iff.1 h).2
  · obtain ⟨b, _, rfl⟩ := List.mem_map.1 hy
    rfl

theorem mem_fanList {d : Dims} (wf : d.WF) {x x' : Int × Int} (hx : x ∈ d.dets) :
    x' ∈ d.fanList x ↔ d.inWindow x.1 x.2 x'.1 x'.2 := by
  obtain ⟨hra, ha⟩ := mem_dets.1 hx
  unfold Dims.fanList
  simp only [List.mem_flatMap, List.mem_map, mem_intRange]
  constructor
  · rintro ⟨rb, hrb, b, hb, rfl⟩
    exact fanLoop_inWindow wf hra ha hrb hb
  · intro h
    obtain ⟨hl, hm⟩ := liftB_spec h.det_b h.fan
    exact ⟨x'.1, (inWindow_rings h).2, d.liftB x.2 x'.2, hl, by rw [hm]⟩

theorem fanList_ne_nil {d : Dims} (wf : d.WF) (x : Int × Int) (hx : x ∈ d.dets) : d.fanList x ≠ [] := by
  obtain ⟨hra, _⟩ := mem_dets.1 hx
  have := wf.hmd
  have := wf.hh
  -- the detector's own ring and the first index of its fan
  refine List.ne_nil_of_mem (List.mem_flatMap.2 ⟨x.1, mem_intRange.2 ?_, List.mem_map.2 ⟨d.minB x.2, mem_intRange.2 ?_, rfl⟩⟩)
  · unfold Dims.minRb Dims.maxRb
    omega
  · unfold Dims.minB Dims.maxB
    omega

section
variable {K : Type} [Field K] [DecidableEq K]

theorem effFactor_ne_zero {d : Dims} (wf : d.WF) (eff : Tab K) (hne : ∀ x ∈ d.dets, eff.get x ≠ 0) {c : Key} (hc : c ∈ d.canon) :
    effFactor d eff c ≠ 0 := by
  obtain ⟨h1, h2⟩ := mem_dets_of_inWindow (inWindow_of_mem_canon wf hc).1
  exact mul_ne_zero (hne _ h1) (hne _ h2)

theorem applyEff_get_key {d : Dims} (wf : d.WF) (F : Fan K) (eff : Tab K) (apply : Bool) {c : Key} (hc : c ∈ d.canon) :
    (applyEff d F eff apply).get (d.key c) = applyFactor apply (F.get (d.key c)) (effFactor d eff c) :=
  factorFold_get_key d.key _ apply (canon_nodup d) (key_injOn_canon wf) F hc

theorem applyEff_at {d : Dims} (wf : d.WF) (F : Fan K) (eff : Tab K) (apply : Bool) {ra a rb b : Int} (h : d.inWindow ra a rb b) :
    (applyEff d F eff apply).at d ra a rb b = applyFactor apply (F.at d ra a rb b) (eff.get (ra, a) * eff.get (rb, b)) := by
  obtain ⟨c, hc, hkey, hcoords⟩ := exists_canon_of_inWindow wf h
  unfold Fan.at
  rw [← hkey, applyEff_get_key wf F eff apply hc]
  unfold effFactor
  rcases hcoords with ⟨e1, e2, e3, e4⟩ | ⟨e1, e2, e3, e4⟩
  · rw [e1, e2, e3, e4]
  · rw [e1, e2, e3, e4, mul_comm (eff.get (rb, b))]

theorem applyBlock_get_key {d bd : Dims} (wf : d.WF) (F blk : Fan K) {c : Key} (hc : c ∈ d.canon) :
    (applyBlock d bd F blk true).get (d.key c) = F.get (d.key c) * blockFactor d bd blk c :=
  (factorFold_get_key d.key _ true (canon_nodup d) (key_injOn_canon wf) F hc).trans (applyFactor_true _ _)

theorem applyGeo_get_key {d : Dims} {g : GeoDims} (wf : d.WF) (F geo : Fan K) {c : Key} (hc : c ∈ d.canon) :
    (applyGeo d g F geo true).get (d.key c) = F.get (d.key c) * geoFactor d (geoWork d g geo) c :=
  (factorFold_get_key d.key _ true (canon_nodup d) (key_injOn_canon wf) F hc).trans (applyFactor_true _ _)

theorem fanSum_eq_fanList (d : Dims) (F : Fan K) (x : Int × Int) :
    fanSum d F x.1 x.2 = ((d.fanList x).map fun x' => F.at d x.1 x.2 x'.1 x'.2).sum := by
  unfold fanSum Dims.fanList
  rw [foldl_foldl_add_eq_sum, sum_map_flatMap]
  simp only [List.map_map]
  rfl

theorem effDenominator_eq_fanList {d : Dims} (wf : d.WF) (model : Fan K) (eff : Tab K) {x : Int × Int} (hx : x ∈ d.dets) :
    effDenominator d model eff x.1 x.2 = ((d.fanList x).map fun x' => eff.get x' * model.at d x.1 x.2 x'.1 x'.2).sum := by
  obtain ⟨_, ha⟩ := mem_dets.1 hx
  unfold effDenominator Dims.fanList
  rw [foldl_foldl_add_eq_sum, sum_map_flatMap]
  simp only [List.map_map]
  refine sum_map_congr _ _ _ fun rb _ => sum_map_congr _ _ _ fun b hb => ?_
  unfold Fan.at
  rw [storeKey_tmod wf ha (mem_intRange.1 hb)]
  rfl

theorem effDenominatorNM_eq_fanList (d : Dims) (eff : Tab K) (x : Int × Int) :
    effDenominatorNM d eff x.1 x.2 = ((d.fanList x).map eff.get).sum := by
  unfold effDenominatorNM Dims.fanList
  rw [foldl_foldl_add_eq_sum, sum_map_flatMap]
  simp only [List.map_map]
  rfl

theorem makeFanSums_get (d : Dims) (F : Fan K) {x : Int × Int} (hx : x ∈ d.dets) :
    (makeFanSums d F).get x = fanSum d F x.1 x.2 := by
  unfold makeFanSums
  rw [tab_foldl_set_get (fun x => fanSum d F x.1 x.2)]
  simp [hx]

theorem iterateEff_congr_sums (d : Dims) (eff : Tab K) (model : Fan K) {sums sums' : Tab K}
    (h : ∀ x ∈ d.dets, sums.get x = sums'.get x) : iterateEff d eff sums model = iterateEff d eff sums' model :=
  List.foldl_ext _ _ _ fun T x hx => by
    unfold effStep
    rw [h x hx]

/-- Fixed point of an in-place sweep of `iterate_efficiencies` over any list `l` of detectors.  `step` is the loop body: at the
index `idx x` it stores `0` if the fan sum is `0` and `fan sum / den T x` otherwise, the denominator reading the current table `T`
only through `get`.  If every fan sum is `ε · den ε` the sweep returns `ε`: each step sees a table that still agrees with `ε`. -/
theorem sweep_fixed {α : Type} {idx : α → Int × Int} {den : Tab K → α → K} {step : Tab K → α → Tab K} {sums eff : Tab K}
    {l : List α}
    (hstep : ∀ T x, step T x = if sums.get (idx x) == 0 then T.set (idx x) 0 else T.set (idx x) (sums.get (idx x) / den T x))
    (hcongr : ∀ T x, (∀ k, T.get k = eff.get k) → den T x = den eff x)
    (hsum : ∀ x ∈ l, sums.get (idx x) = eff.get (idx x) * den eff x) (hne : ∀ x ∈ l, eff.get (idx x) ≠ 0)
    (hden : ∀ x ∈ l, den eff x ≠ 0) (k : Int × Int) : (l.foldl step eff).get k = eff.get k := by
  refine List.foldlRecOn l step (motive := fun T => ∀ k, T.get k = eff.get k) (fun _ => rfl) (fun T hT x hx k' => ?_) k
  have hs : (sums.get (idx x) == 0) = false := by
    rw [hsum x hx]
    simpa using ⟨hne x hx, hden x hx⟩
  rw [hstep, hs, if_neg Bool.false_ne_true, Tab.get_set, hcongr T x hT, hsum x hx, mul_div_cancel_right₀ _ (hden x hx)]
  split
  · rename_i h
    rw [← h]
  · exact hT k'

end

section
variable {K : Type} [Field K] [LinearOrder K] [IsStrictOrderedRing K]

theorem at_pos_of_inWindow {d : Dims} (wf : d.WF) (F : Fan K) (hF : ∀ c ∈ d.canon, 0 < F.get (d.key c)) {ra a rb b : Int}
    (h : d.inWindow ra a rb b) : 0 < F.at d ra a rb b := by
  obtain ⟨c, hc, hkey, _⟩ := exists_canon_of_inWindow wf h
  unfold Fan.at
  rw [← hkey]
  exact hF c hc

theorem effDenominator_pos {d : Dims} (wf : d.WF) (model : Fan K) (eff : Tab K) (heff : ∀ x ∈ d.dets, 0 < eff.get x)
    (hmodel : ∀ c ∈ d.canon, 0 < model.get (d.key c)) {x : Int × Int} (hx : x ∈ d.dets) :
    0 < effDenominator d model eff x.1 x.2 := by
  classical
  rw [effDenominator_eq_fanList wf model eff hx]
  refine list_sum_pos_of_pos _ _ (fanList_ne_nil wf x hx) fun x' hx' => ?_
  have hw := (mem_fanList wf hx).1 hx'
  exact mul_pos (heff _ (mem_dets_of_inWindow hw).2) (at_pos_of_inWindow wf model hmodel hw)

end

section
variable {K : Type} [OfNat K 0]

def Tab.const (d : Dims) (v : K) : Tab K := d.dets.foldl (fun T x => T.set x v) {}

def Fan.ofFun (d : Dims) (f : Key → K) : Fan K := d.canon.foldl (fun F c => F.set (d.key c) (f c)) {}

theorem Fan.ofFun_get {d : Dims} (wf : d.WF) (f : Key → K) {c : Key} (hc : c ∈ d.canon) : (Fan.ofFun d f).get (d.key c) = f c :=
  rmw_get d.key (fun c _ => f c) (canon_nodup d) (key_injOn_canon wf) {} hc

theorem Fan.ofFun_at {d : Dims} (wf : d.WF) (f : Key → K) {ra a rb b : Int} (h : d.inWindow ra a rb b) :
    ∃ c ∈ d.canon, (Fan.ofFun d f).at d ra a rb b = f c ∧
      ((c.1 = ra ∧ c.2.1 = a ∧ c.2.2.1 = rb ∧ Int.tmod c.2.2.2 d.N = b) ∨
       (c.1 = rb ∧ c.2.1 = b ∧ c.2.2.1 = ra ∧ Int.tmod c.2.2.2 d.N = a)) := by
  obtain ⟨c, hc, hkey, hcoords⟩ := exists_canon_of_inWindow wf h
  refine ⟨c, hc, ?_, hcoords⟩
  unfold Fan.at
  rw [← hkey, Fan.ofFun_get wf f hc]

theorem Fan.ofFun_at_rings {d : Dims} (wf : d.WF) (g : Int → Int → K) (hg : ∀ r r', g r r' = g r' r) {ra a rb b : Int}
    (h : d.inWindow ra a rb b) : (Fan.ofFun d fun c => g c.1 c.2.2.1).at d ra a rb b = g ra rb := by
  obtain ⟨c, _, hv, hcoords⟩ := Fan.ofFun_at wf (fun c => g c.1 c.2.2.1) h
  rw [hv]
  rcases hcoords with ⟨e1, _, e3, _⟩ | ⟨e1, _, e3, _⟩
  · rw [e1, e3]
  · rw [e1, e3, hg]

def Fan.const (d : Dims) (v : K) : Fan K := d.canon.foldl (fun F c => F.set (d.key c) v) {}

theorem Fan.const_get (d : Dims) (v : K) {c : Key} (hc : c ∈ d.canon) : (Fan.const d v).get (d.key c) = v := by
  obtain ⟨_, _, _, h⟩ := writes_get d.key (fun _ => v) d.canon {} ⟨c, hc, rfl⟩
  exact h

theorem Fan.const_at {d : Dims} (wf : d.WF) (v : K) {ra a rb b : Int} (h : d.inWindow ra a rb b) :
    (Fan.const d v).at d ra a rb b = v := by
  obtain ⟨_, _, hv, _⟩ := Fan.ofFun_at wf (fun _ => v) h
  exact hv

theorem Tab.const_get (d : Dims) (v : K) {x : Int × Int} (hx : x ∈ d.dets) : (Tab.const d v).get x = v := by
  unfold Tab.const
  rw [tab_foldl_set_get (fun _ => v)]
  exact if_pos hx

end

section
variable {K : Type} [Field K] [DecidableEq K]

theorem effDenominatorNM_eq_model_one {d : Dims} (wf : d.WF) (eff : Tab K) {ra a : Int} (hdet : (ra, a) ∈ d.dets) :
    effDenominatorNM d eff ra a = effDenominator d (Fan.const d 1) eff ra a := by
  rw [effDenominator_eq_fanList wf _ eff hdet, effDenominatorNM_eq_fanList d eff (ra, a)]
  refine sum_map_congr _ _ _ fun x' hx' => ?_
  rw [Fan.const_at wf 1 ((mem_fanList wf hdet).1 hx'), mul_one]

theorem effStepNM_eq {d : Dims} (wf : d.WF) (sums eff : Tab K) {x : Int × Int} (hx : x ∈ d.dets) :
    effStepNM d sums eff x = effStep d sums (Fan.const d 1) eff x := by
  unfold effStepNM effStep
  rw [effDenominatorNM_eq_model_one wf eff hx]

theorem makeFanSumsNM_get {d : Dims} (eff : Tab K) {x : Int × Int} (hx : x ∈ d.dets) :
    (makeFanSumsNM d eff).get x = eff.get x * effDenominatorNM d eff x.1 x.2 := by
  unfold makeFanSumsNM
  rw [tab_foldl_set_get (fun x => eff.get x * effDenominatorNM d eff x.1 x.2)]
  simp [hx]

end
end StirVerif.C20
