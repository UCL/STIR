import StirVerif.C20.ProofsGap
import StirVerif.C20.ProofsStore
import StirVerif.C20.ProofsFan
import StirVerif.C20.ProofsEff
import StirVerif.C20.ProofsBlock
import StirVerif.C20.ProofsKL
import StirVerif.C20.ProofsDescentModel
import StirVerif.C20.ProofsGeoValues
import StirVerif.C20.ProofsGeoStructure
import StirVerif.C20.ProofsDetPair
import StirVerif.C20.ProofsDetPairDescent
/-!
# C20 — component-based normalisation: data conversions are lossless, ML steps descend.  Property theorems.

All statements are about the executable model `StirVerif.C20` (`Model.lean`, tied to `buildblock/ML_norm.cxx` by the
correspondence run of `checks/c20.py`), for all scanner sizes, crystals per block, numbers of virtual crystals, fan sizes,
ring differences and all values in an arbitrary field (ordered field / `ℝ` where stated).  Equality of arrays is
*observational*: equality of every element read through `get`.

The descent of the efficiency iteration (§6) and the fixed point of the geometric factors (§5) are proved for the executable model
itself; how is told at `C20_eff_iteration_descends_on_model` and `C20_geo_fixed_point`.  Nothing in this file is stated without proof.
-/
namespace StirVerif.C20

/-! ## 1. The gap index maps ("gaps are filled as requested": which crystal is a gap, and nothing else is lost) -/

/-- *"Converting … to the detector-pair representation … and back is lossless"* — index level:
adding the gaps back after removing them returns the crystal index, for every physical crystal, any crystals-per-block `c`,
any number `v < c` of virtual crystals per block, any (unbounded) index. -/
theorem C20_addGap_removeGap {x c v : Int} (hx : 0 ≤ x) (hv : 0 ≤ v) (hvc : v < c) (hphys : isVirtual x c v = false) :
    addGap (removeGap x c v) c v = x :=
  addGap_removeGap hx hv hvc hphys

/-- … and every physical index comes from exactly one physical crystal: `removeGap ∘ addGap = id`, `addGap` never produces a
virtual crystal. -/
theorem C20_removeGap_addGap {y c v : Int} (hy : 0 ≤ y) (hv : 0 ≤ v) (hvc : v < c) :
    removeGap (addGap y c v) c v = y ∧ isVirtual (addGap y c v) c v = false ∧ 0 ≤ addGap y c v := by
  have hp : 0 < c - v := by linarith
  have hc : 0 < c := lt_of_le_of_lt hv hvc
  obtain ⟨hq, hr, hrp, hform⟩ := Common.tdiv_tmod_spec hy hp
  have hadd : addGap y c v = Int.tdiv y (c - v) * c + Int.tmod y (c - v) := by
    unfold addGap
    linarith [hform, mul_sub (Int.tdiv y (c - v)) c v]
  have hrc : Int.tmod y (c - v) < c := by linarith
  obtain ⟨hdiv, hmod⟩ := Common.tdiv_tmod_of_form (p := c) hq hr hrc
  have hnn : 0 ≤ addGap y c v := by
    rw [hadd]
    positivity
  refine ⟨?_, ?_, hnn⟩
  · rw [removeGap_form, hadd, hdiv, hmod]
    linarith [hform]
  · rw [isVirtual_eq_false_iff, hadd, hmod]
    exact hrp

/-- `removeGap` is injective on physical crystals (no two crystals share a fan-data index). -/
theorem C20_removeGap_injective_on_physical {x x' c v : Int} (hx : 0 ≤ x) (hx' : 0 ≤ x') (hv : 0 ≤ v) (hvc : v < c)
    (hp : isVirtual x c v = false) (hp' : isVirtual x' c v = false) (h : removeGap x c v = removeGap x' c v) : x = x' :=
  removeGap_injective_on_physical hx hx' hv hvc hp hp' h

/-- The physical index of a physical crystal of a ring of `nb` blocks lies in `0 .. nb·(c-v) - 1`
(= the `num_physical_detectors_per_ring` of the fan data) and the order of the crystals is kept. -/
theorem C20_removeGap_range {x x' c v nb : Int} (hx : 0 ≤ x) (hv : 0 ≤ v) (hvc : v < c) (hxn : x < nb * c)
    (hp : isVirtual x c v = false) (hp' : isVirtual x' c v = false) (hlt : x < x') :
    0 ≤ removeGap x c v ∧ removeGap x c v < nb * (c - v) ∧ removeGap x c v < removeGap x' c v := by
  refine ⟨(removeGap_bounds hx hv hvc).1, ?_, removeGap_strictMono_on_physical hx hv hvc hp hp' hlt⟩
  -- `nb * c`, the first crystal after the ring, is physical and has the index `nb * (c - v)`
  have h0 : Int.tmod (nb * c) c = 0 := Int.mul_tmod_left nb c
  have h := removeGap_strictMono_on_physical hx hv hvc hp (isVirtual_eq_false_iff.2 (by omega)) hxn
  unfold removeGap at h ⊢
  rw [Int.mul_tdiv_cancel nb (by omega : c ≠ 0)] at h
  linarith [mul_sub nb c v]

/-- Detector pairs: two physical detector pairs with the same four fan-data indices are the same pair. -/
theorem C20_newCoords_injective {s : Scn} (ws : s.WF) {p p' : DetPair} (hp : p.nonneg) (hp' : p'.nonneg) {c : Key}
    (h : newCoords s p = some c) (h' : newCoords s p' = some c) : p = p' :=
  newCoords_injective ws hp hp' h h'

example : isVirtual 7 5 1 = false ∧ addGap (removeGap 7 5 1) 5 1 = 7 ∧ removeGap 7 5 1 = 6 ∧ isVirtual 9 5 1 = true := by decide
example : removeGap 13 6 2 = 9 ∧ addGap 9 6 2 = 13 ∧ removeGap (addGap 11 6 2) 6 2 = 11 := by decide
example : (⟨20, 5, 5, 3, 1, 1, 4, 2, -5, 5, 4, true, 1, 0, false⟩ : Scn).WF := by decide

/-! ## 2. The fan window and the symmetric storage of `FanProjData` -/

set_option linter.unusedVariables false in
/-- The fan window is symmetric: `b` is in the fan of `a` iff `a` is in the fan of `b`
(so a LOR can be addressed from either of its detectors). -/
theorem C20_fan_window_symmetric {d : Dims} (wf : d.WF) {a b : Int} (ha : 0 ≤ a ∧ a < d.N) (hb : 0 ≤ b ∧ b < d.N) :
    d.inFan a b ↔ d.inFan b a :=
  inFan_symm wf

/-- *Symmetric storage identity*: for detectors in different rings `fan(ra,a,rb,b)` and `fan(rb,b,ra,a)` are the same array
element (only half of the ring pairs is stored). -/
theorem C20_symmetric_storage (d : Dims) {ra a rb b : Int} (hne : ra ≠ rb) (ha : 0 ≤ a ∧ a < d.N) (hb : 0 ≤ b ∧ b < d.N) :
    d.storeKey ra a rb b = d.storeKey rb b ra a :=
  storeKey_symm d hne ha hb

/-- … but within one ring `fan(ra,a,ra,b)` and `fan(ra,b,ra,a)` are two different elements: an in-ring LOR is stored twice. -/
theorem C20_in_ring_pairs_stored_twice (d : Dims) {ra a b : Int} (ha : 0 ≤ a ∧ a < d.N) (hb : 0 ≤ b ∧ b < d.N) (hab : a ≠ b) :
    d.storeKey ra a ra b ≠ d.storeKey ra b ra a := by
  rw [storeKey_red d ha hb, storeKey_red d hb ha, if_neg (lt_irrefl _), if_neg (lt_irrefl _)]
  intro h
  exact hab (congrArg (fun k : Key => k.2.1) h).symm

/-- Inside the fan / max-ring-difference window `operator()` stays inside the index range allocated by the constructor
(the range checks of the C++ are `assert`s, compiled out). -/
theorem C20_storeKey_allocated {d : Dims} (wf : d.WF) {ra a rb b : Int} (h : d.inWindow ra a rb b) :
    d.allocated (d.storeKey ra a rb b) = true := by
  rw [allocated_iff_mem_canon, storeKey_liftB d h.det_a h.det_b]
  split
  · exact (canonOf_mem_key wf h (le_of_lt ‹_›)).1
  · exact (canonOf_mem_key wf (inWindow_symm wf h) (not_lt.1 ‹_›)).1

/-- Two detector pairs of the window share an array element iff they are the same pair, or the same pair named the other
way round with the detectors in different rings. -/
theorem C20_storeKey_eq_iff {d : Dims} (wf : d.WF) {ra a rb b ra' a' rb' b' : Int} (h : d.inWindow ra a rb b)
    (h' : d.inWindow ra' a' rb' b') :
    d.storeKey ra a rb b = d.storeKey ra' a' rb' b' ↔
      (ra' = ra ∧ a' = a ∧ rb' = rb ∧ b' = b) ∨ (ra ≠ rb ∧ ra' = rb ∧ a' = b ∧ rb' = ra ∧ b' = a) :=
  storeKey_eq_iff wf h h'

/-- *Which `(ra,a,rb,b)` are stored*: the loop nest `for ra, a, rb ≥ ra, b` used by every function visits every allocated
array element exactly once (no repetition, no two index tuples on one element, every allocated element reached). -/
theorem C20_stored_entries_visited_once {d : Dims} (wf : d.WF) :
    d.canon.Nodup ∧ (∀ c ∈ d.canon, ∀ c' ∈ d.canon, d.key c = d.key c' → c = c') ∧
      (∀ k, d.allocated k = true → ∃ c ∈ d.canon, d.key c = k) ∧ (∀ c ∈ d.canon, d.allocated (d.key c) = true) :=
  ⟨canon_nodup d, key_injOn_canon wf, fun _ hk => exists_canon_of_allocated wf hk, fun c hc => by
    rw [key_eq_storeKey_tmod wf hc]
    exact C20_storeKey_allocated wf (inWindow_of_mem_canon wf hc).1⟩

example : (Dims.ofCtor 4 16 3 9).WF := by decide
example : (Dims.ofCtor 4 16 3 9).inWindow 3 15 1 9 ∧ ¬ (Dims.ofCtor 4 16 3 9).inWindow 0 0 0 3 := by decide
example : (Dims.ofCtor 4 16 3 9).storeKey 3 15 1 9 = (1, 9, 3, 15) ∧ (Dims.ofCtor 4 16 3 9).storeKey 1 9 3 15 = (1, 9, 3, 15) := by
  decide

/-! ## 3. Projection data → fan data → projection data -/

section roundtrip
variable {K : Type} [OfNat K 0]

/-- *"each entry is the value of the bin that the geometry assigns to that detector pair"*: after
`make_fan_data_remove_gaps` the fan entry of the physical detector pair of a bin — addressed either way round — holds the
value of that bin.  `bins` is the loop of the C++ (any order); the detector-pair ↔ bin map is the parameter `Prod.fst`
(property C01): no two bins with different values may be the same unordered detector pair. -/
theorem C20_fan_entry_is_bin_value {d : Dims} (wf : d.WF) {s : Scn} (ws : s.WF) (bins : List (DetPair × K))
    (hnn : ∀ pv ∈ bins, pv.1.nonneg) (hwin : ∀ pv ∈ bins, winOK s d pv.1 = true)
    (hdist : ∀ pv ∈ bins, ∀ pv' ∈ bins, (pv'.1 = pv.1 ∨ pv'.1 = pv.1.swap) → pv'.2 = pv.2)
    {pv : DetPair × K} (hpv : pv ∈ bins) {nra na nrb nb : Int} (hc : newCoords s pv.1 = some (nra, na, nrb, nb)) :
    (makeFan s d bins).at d nra na nrb nb = pv.2 ∧ (makeFan s d bins).at d nrb nb nra na = pv.2 :=
  makeFan_at wf s bins (fun pv hpv c hc => winOK_spec (hwin pv hpv) c hc) (value_eq_of_newCoords_eq_or_swap ws bins hnn hdist) hpv hc

/-- *"Converting projection data to the detector-pair ('fan') representation … and back is lossless … and gaps are filled as
requested"*: `set_fan_data_add_gaps ∘ make_fan_data_remove_gaps` returns, for every bin of the window, its own value, and the
requested gap value for the bins with a virtual crystal. -/
theorem C20_fan_roundtrip {d : Dims} (wf : d.WF) {s : Scn} (ws : s.WF) (bins : List (DetPair × K)) (gap : K)
    (hnn : ∀ pv ∈ bins, pv.1.nonneg) (hwin : ∀ pv ∈ bins, winOK s d pv.1 = true)
    (hdist : ∀ pv ∈ bins, ∀ pv' ∈ bins, (pv'.1 = pv.1 ∨ pv'.1 = pv.1.swap) → pv'.2 = pv.2) :
    setFan s d (makeFan s d bins) gap (bins.map Prod.fst) =
      bins.map fun pv => if (newCoords s pv.1).isNone then gap else pv.2 :=
  fan_roundtrip wf s bins gap (fun pv hpv c hc => winOK_spec (hwin pv hpv) c hc) (value_eq_of_newCoords_eq_or_swap ws bins hnn hdist)

end roundtrip

example : fanDimsOf exampleScn = .ok ⟨1, 4, 0, 1⟩ := by decide
example : (⟨1, 4, 0, 1⟩ : Dims).WF ∧ exampleScn.WF := by decide
example : (∀ pv ∈ exampleBins, pv.1.nonneg) ∧ (∀ pv ∈ exampleBins, winOK exampleScn ⟨1, 4, 0, 1⟩ pv.1 = true) ∧
    (∀ pv ∈ exampleBins, ∀ pv' ∈ exampleBins, (pv'.1 = pv.1 ∨ pv'.1 = pv.1.swap) → pv'.2 = pv.2) := by decide +kernel
example : exampleBins.map (fun pv => if (newCoords exampleScn pv.1).isNone then (-3 : Int) else pv.2) = [-3, 2, -3, 4, 5, 6, -3, -3, -3] := by
  decide

/-! ## 4. Applying factors -/

section field
variable {K : Type} [Field K] [DecidableEq K]

/-- *"'un-applying' restores the data"* — efficiencies: `apply_efficiencies(·, eff, false)` after `apply_efficiencies(·, eff, true)`
returns every array element, for non-zero efficiencies, any field.  (Holds for any loop nest and index map: see
`factorFold_undo` — the same lemma gives the `DetPairData` overloads, `C20_dp_apply_unapply_id`.) -/
theorem C20_apply_unapply_id_efficiencies {d : Dims} (wf : d.WF) (F : Fan K) (eff : Tab K) (hne : ∀ x ∈ d.dets, eff.get x ≠ 0)
    (k : Key) : (applyEff d (applyEff d F eff true) eff false).get k = F.get k ∧
      (applyEff d (applyEff d F eff false) eff true).get k = F.get k :=
  ⟨factorFold_undo _ _ _ _ (fun _ hc => effFactor_ne_zero wf eff hne hc) true k,
    factorFold_undo _ _ _ _ (fun _ hc => effFactor_ne_zero wf eff hne hc) false k⟩

/-- … block factors (`apply_block_norm`), for non-zero factors of the block pairs that occur. -/
theorem C20_apply_unapply_id_block {d bd : Dims} (F blk : Fan K) (hne : ∀ c ∈ d.canon, blockFactor d bd blk c ≠ 0) (k : Key) :
    (applyBlock d bd (applyBlock d bd F blk true) blk false).get k = F.get k :=
  factorFold_undo _ _ _ _ hne true k

/-- … geometric factors (`apply_geo_norm`): the table `work` of factors per entry does not depend on `apply`. -/
theorem C20_apply_unapply_id_geo {d : Dims} {g : GeoDims} (F geo : Fan K)
    (hne : ∀ c ∈ d.canon, geoFactor d (geoWork d g geo) c ≠ 0) (k : Key) :
    (applyGeo d g (applyGeo d g F geo true) geo false).get k = F.get k :=
  factorFold_undo _ _ _ _ hne true k

/-- *"Applying efficiencies … multiplies each detector-pair entry by the product of the factors of its two detectors"*:
for every detector pair inside the window, whichever detector is named first; and un-applying divides by it. -/
theorem C20_apply_is_product_of_two_detectors {d : Dims} (wf : d.WF) (F : Fan K) (eff : Tab K) {ra a rb b : Int}
    (h : d.inWindow ra a rb b) :
    (applyEff d F eff true).at d ra a rb b = F.at d ra a rb b * (eff.get (ra, a) * eff.get (rb, b)) ∧
      (applyEff d F eff false).at d ra a rb b = F.at d ra a rb b / (eff.get (ra, a) * eff.get (rb, b)) :=
  ⟨(applyEff_at wf F eff true h).trans (applyFactor_true _ _), (applyEff_at wf F eff false h).trans (applyFactor_false _ _)⟩

/-- *"… (or its geometric class)"*: the entry addressed by the loop indices `c` is multiplied exactly once, by the factor of the
pair of blocks of its detectors (`apply_block_norm`) / by the entry of `work` (`apply_geo_norm`). -/
theorem C20_apply_block_geo_factor {d bd : Dims} {g : GeoDims} (wf : d.WF) (F X : Fan K) {c : Key} (hc : c ∈ d.canon) :
    (applyBlock d bd F X true).get (d.key c) = F.get (d.key c) * blockFactor d bd X c ∧
      (applyGeo d g F X true).get (d.key c) = F.get (d.key c) * geoFactor d (geoWork d g X) c :=
  ⟨applyBlock_get_key wf F X hc, applyGeo_get_key wf F X hc⟩

/-! ## 5. Fixed points of the maximum-likelihood iterations -/

/-- Fan sums of data generated exactly from the model: `Σ_b ε_a ε_b m_ab = ε_a · Σ_b ε_b m_ab`
(`make_fan_sum_data ∘ apply_efficiencies`, the same `Σ` as the denominator of `iterate_efficiencies`). -/
theorem C20_fan_sums_of_model_data {d : Dims} (wf : d.WF) (model : Fan K) (eff : Tab K) {x : Int × Int} (hx : x ∈ d.dets) :
    (makeFanSums d (applyEff d model eff true)).get x = eff.get x * effDenominator d model eff x.1 x.2 := by
  rw [makeFanSums_get d _ hx, fanSum_eq_fanList, effDenominator_eq_fanList wf model eff hx, ← List.sum_map_mul_left]
  refine sum_map_congr _ _ _ fun x' hx' => ?_
  rw [applyEff_at wf model eff true ((mem_fanList wf hx).1 hx'), applyFactor_true]
  ring

/-- *"For data generated exactly from a model, the model parameters are a fixed point of the maximum-likelihood iterations"* —
efficiencies: the in-place sweep of `iterate_efficiencies` on the fan sums of `ε_a ε_b m_ab` returns `ε` (non-zero
efficiencies and denominators, any field). -/
theorem C20_eff_fixed_point {d : Dims} (wf : d.WF) (model : Fan K) (eff : Tab K) (hne : ∀ x ∈ d.dets, eff.get x ≠ 0)
    (hden : ∀ x ∈ d.dets, effDenominator d model eff x.1 x.2 ≠ 0) (k : Int × Int) :
    (iterateEff d eff (makeFanSums d (applyEff d model eff true)) model).get k = eff.get k := by
  refine sweep_fixed (idx := id) (den := fun T x => effDenominator d model T x.1 x.2) (step := effStep d _ model)
    (hstep := fun _ _ => rfl) (hcongr := fun T x h => ?_) (hsum := fun x hx => C20_fan_sums_of_model_data wf model eff hx)
    (hne := hne) (hden := hden) k
  unfold effDenominator
  simp only [h]

/-- *"0 where the fan sum is 0"*: a detector with fan sum `0` gets efficiency `0` in its step of the sweep. -/
theorem C20_dead_detector_gets_zero (d : Dims) (sums : Tab K) (model : Fan K) (T : Tab K) (x : Int × Int) (h : sums.get x = 0) :
    (effStep d sums model T x).get x = 0 := by
  unfold effStep
  simp [h, Tab.get_set_eq]

end field

section ordered
variable {K : Type} [Field K] [LinearOrder K] [IsStrictOrderedRing K]

/-- The same with the natural hypotheses: positive efficiencies and a model that is positive on every detector pair of the
window (then all denominators are positive). -/
theorem C20_eff_fixed_point_positive {d : Dims} (wf : d.WF) (model : Fan K) (eff : Tab K) (heff : ∀ x ∈ d.dets, 0 < eff.get x)
    (hmodel : ∀ c ∈ d.canon, 0 < model.get (d.key c)) (k : Int × Int) :
    (iterateEff d eff (makeFanSums d (applyEff d model eff true)) model).get k = eff.get k := by
  classical
  exact C20_eff_fixed_point wf model eff (fun x hx => (heff x hx).ne') (fun x hx => (effDenominator_pos wf model eff heff hmodel hx).ne') k

/-- Geometric and block factors — the algebraic core shared by `iterate_geo_norm` and `iterate_block_norm`: if the measured
class sum is `g` times the class sum `S > 0` of the model, the update
`(measured >= threshold || measured < 10000*norm) ? measured/norm : 0` returns `g`, for any threshold, provided `g < 10000`
(the constant hard-wired in the code) … -/
theorem C20_class_ratio_fixed_point (thr S g : K) (hS : 0 < S) (hg : g < 10000) : ratioOrZero thr (g * S) S = g :=
  ratioOrZero_fixed thr S g hS hg

/-- … and the bound is sharp: a factor `≥ 10000` of a class below the threshold is replaced by `0`. -/
theorem C20_class_ratio_threshold (thr S g : K) (hS : 0 < S) (hg : 10000 ≤ g) (hthr : g * S < thr) :
    ratioOrZero thr (g * S) S = 0 := by
  rw [ratioOrZero_eq, if_neg (not_or.2 ⟨not_le.2 hthr, not_lt.2 (mul_le_mul_of_nonneg_right hg hS.le)⟩)]

/-- the guard as such: it returns `measured/norm` iff `measured ≥ threshold`, or `measured < 10000·norm`, or the ratio is `0` anyway -/
theorem C20_class_ratio_returns_ratio_iff (thr m n : K) :
    ratioOrZero thr m n = m / n ↔ (thr ≤ m ∨ m < 10000 * n ∨ m / n = 0) := by
  rw [ratioOrZero_eq, ite_eq_left_iff, ← or_iff_not_imp_left, eq_comm, or_assoc]

/-- *"For data generated exactly from a model, the model parameters are a fixed point of the maximum-likelihood iterations"* —
**exactly when the clause holds for one class** of `iterate_geo_norm` / `iterate_block_norm` (2D and 3D versions share the guard):
with a model class sum `S > 0` and measured class sum `g·S`, the factor `g` is reproduced iff the class is at or above
`threshold = find_max()/10000`, or `g < 10000`, or `g = 0`.  In particular the dynamic range of the class sums
is irrelevant as long as the *factors* stay below `10000`. -/
theorem C20_class_ratio_fixed_point_iff (thr S g : K) (hS : 0 < S) :
    ratioOrZero thr (g * S) S = g ↔ (thr ≤ g * S ∨ g < 10000 ∨ g = 0) := by
  have h := C20_class_ratio_returns_ratio_iff thr (g * S) S
  rw [mul_div_cancel_right₀ _ hS.ne'] at h
  rw [h]
  exact or_congr Iff.rfl (or_congr (mul_lt_mul_iff_of_pos_right hS) Iff.rfl)

/-- classes without counts: measured class sum exactly `0` gives the factor `0` for any model class sum (also `0`) and any
threshold.  (Field convention `0/0 = 0`; the C++ computes `0.F/0.F = NaN` only if `threshold = 0`, i.e. if **all** measured class
sums are `0` — the harness does not generate that; with some counts anywhere `0 >= threshold` and `0 < 10000·0` are both false
and the result is the literal `0`.) -/
theorem C20_class_ratio_empty_class (thr n : K) : ratioOrZero thr 0 n = 0 :=
  ratioOrZero_zero_measured thr n

/-- fixed point of one class when the model may have no counts in it (`S ≥ 0`): `g` where the model has counts, `0` where it has none -/
theorem C20_class_ratio_fixed_point_nonneg (thr S g : K) (hS : 0 ≤ S) (hg : g < 10000) :
    ratioOrZero thr (g * S) S = if S = 0 then 0 else g := by
  by_cases h0 : S = 0
  · subst h0
    rw [mul_zero, ratioOrZero_zero_measured]
    simp
  · rw [if_neg h0]
    exact ratioOrZero_fixed thr S g (lt_of_le_of_ne hS (Ne.symm h0)) hg

/-- **negative witness for the `&&` variant** of the guard (`ratioAndVariant`: a refactoring of the duplicated condition into a
helper that combines `measured >= threshold` and `measured < 10000*norm` with `&&` instead of `||`):
every class below the threshold comes back as `0`, so no positive factor of such a class is a fixed point of
it — while the code's guard reproduces it. -/
theorem C20_class_ratio_and_variant_fails (thr S g : K) (hS : 0 < S) (hg0 : 0 < g) (hg : g < 10000) (hthr : g * S < thr) :
    ratioAndVariant thr (g * S) S ≠ g ∧ ratioOrZero thr (g * S) S = g := by
  refine ⟨?_, ratioOrZero_fixed thr S g hS hg⟩
  unfold ratioAndVariant
  simp only [hthr, decide_true, Bool.not_true, Bool.false_and, Bool.false_eq_true, if_false]
  exact hg0.ne

end ordered

/-- a class 10^6 below the largest one (threshold `10^6/10^4 = 100`, class sum `3/2 · 1`): kept by the code, zeroed by the `&&` variant -/
example : ratioOrZero (100 : ℚ) ((3 / 2) * 1) 1 = 3 / 2 ∧ ratioAndVariant (100 : ℚ) ((3 / 2) * 1) 1 ≠ 3 / 2 :=
  ⟨C20_class_ratio_fixed_point 100 1 (3 / 2) (by norm_num) (by norm_num),
    (C20_class_ratio_and_variant_fails 100 1 (3 / 2) (by norm_num) (by norm_num) (by norm_num) (by norm_num)).1⟩

/-- both directions of `C20_class_ratio_fixed_point_iff` are inhabited: a factor `20000` on a class at the threshold is kept,
below it (and only there) it is lost -/
example : ratioOrZero (5 : ℚ) (20000 * 1) 1 = 20000 ∧ ratioOrZero (30000 : ℚ) (20000 * 1) 1 ≠ 20000 := by
  constructor
  · exact (C20_class_ratio_fixed_point_iff 5 1 20000 (by norm_num)).2 (Or.inl (by norm_num))
  · intro h
    rcases (C20_class_ratio_fixed_point_iff 30000 1 20000 (by norm_num)).1 h with h | h | h <;> norm_num at h

example : ratioOrZero (7 : ℚ) 0 0 = 0 ∧ ratioOrZero (7 : ℚ) 0 3 = 0 ∧ ratioOrZero (7 : ℚ) ((5 / 8) * 0) 0 = 0 :=
  ⟨C20_class_ratio_empty_class 7 0, C20_class_ratio_empty_class 7 3, by
    rw [C20_class_ratio_fixed_point_nonneg 7 0 (5 / 8) le_rfl (by norm_num)]
    simp⟩

/-- hypotheses of `C20_eff_fixed_point_positive` are satisfiable (2 rings of 8 detectors, ring difference 1, half fan 2) -/
example : ∃ (eff : Tab ℚ) (model : Fan ℚ), (⟨2, 8, 1, 2⟩ : Dims).WF ∧ (∀ x ∈ (⟨2, 8, 1, 2⟩ : Dims).dets, 0 < eff.get x) ∧
    (∀ c ∈ (⟨2, 8, 1, 2⟩ : Dims).canon, 0 < model.get ((⟨2, 8, 1, 2⟩ : Dims).key c)) :=
  ⟨Tab.const _ 1, Fan.const _ 3, by decide,
    fun x hx => by
      rw [Tab.const_get _ _ hx]
      norm_num,
    fun c hc => by
      rw [Fan.const_get _ _ hc]
      norm_num⟩

example : ratioOrZero (5 : ℚ) ((3 / 2) * 4) 4 = 3 / 2 := C20_class_ratio_fixed_point 5 4 (3 / 2) (by norm_num) (by norm_num)

section block
variable {K : Type} [Field K] [LinearOrder K] [IsStrictOrderedRing K]

/-- *"… the model parameters are a fixed point of the maximum-likelihood iterations"* — block factors, for **models with empty
classes and any dynamic range**: for data generated exactly as `block factor × model` (`apply_block_norm`) from a non-negative model
and block factors below the hard-wired `10000` (zero allowed — a dead block pair), `iterate_block_norm` on the measured block data
(`make_block_data`) returns the block factor of every block pair in which the model has counts and `0` where it has none, however
many orders of magnitude the measured block sums span (the `find_max()/10000` threshold never decides, cf.
`C20_class_ratio_fixed_point_iff`).  `halloc`: the block pairs of the window lie inside the index range of the block data
(`BlockData3D(num_axial_blocks, num_transaxial_blocks, num_axial_blocks-1, num_transaxial_blocks-1)`).  The harness oracle
`fixed-point-block-wide` / `…-zero-class` evaluates this statement on the implementation. -/
theorem C20_block_fixed_point_nonneg_model {d bd : Dims} (wf : d.WF) (wfb : bd.WF) (model blk : Fan K)
    (hmodel : ∀ c ∈ d.canon, 0 ≤ model.get (d.key c))
    (halloc : ∀ c ∈ d.canon, bd.allocated (blockKey d bd c) = true)
    (hblk : ∀ c ∈ d.canon, blk.get (blockKey d bd c) < 10000) {c : Key} (hc : c ∈ d.canon) :
    (iterateBlock d bd (makeBlock d bd (applyBlock d bd model blk true)) model).get (blockKey d bd c)
      = if (makeBlock d bd model).get (blockKey d bd c) = 0 then 0 else blk.get (blockKey d bd c) := by
  classical
  -- an allocated element of the block data is written by exactly one pass of the loop over it
  obtain ⟨c', hc', hk'⟩ := exists_canon_of_allocated wfb (halloc c hc)
  rw [iterateBlock_eq_fold, ← hk',
    rmw_get bd.key _ (canon_nodup bd) (key_injOn_canon wfb) _ hc', hk']
  have hmeas : (makeBlock d bd (applyBlock d bd model blk true)).get (blockKey d bd c)
      = blk.get (blockKey d bd c) * (makeBlock d bd model).get (blockKey d bd c) := by
    rw [makeBlock_get, makeBlock_get, ← List.sum_map_mul_left]
    apply sum_map_congr
    intro x hx
    obtain ⟨hxc, hxk⟩ := List.mem_filter.1 hx
    have hxk' : blockKey d bd x = blockKey d bd c := by simpa using hxk
    rw [applyBlock_get_key wf model blk hxc, blockFactor_eq, hxk']
    ring
  have hnn : 0 ≤ (makeBlock d bd model).get (blockKey d bd c) := by
    rw [makeBlock_get]
    exact List.sum_nonneg (List.forall_mem_map.2 fun x hx => hmodel x (List.mem_filter.1 hx).1)
  rw [hmeas]
  exact C20_class_ratio_fixed_point_nonneg _ _ _ hnn (hblk c hc)

/-- With a positive model every block pair that has a LOR in the window has counts: `iterate_block_norm` returns its block factor. -/
theorem C20_block_fixed_point {d bd : Dims} (wf : d.WF) (wfb : bd.WF) (model blk : Fan K)
    (hmodel : ∀ c ∈ d.canon, 0 < model.get (d.key c))
    (halloc : ∀ c ∈ d.canon, bd.allocated (blockKey d bd c) = true)
    (hblk : ∀ c ∈ d.canon, blk.get (blockKey d bd c) < 10000) {c : Key} (hc : c ∈ d.canon) :
    (iterateBlock d bd (makeBlock d bd (applyBlock d bd model blk true)) model).get (blockKey d bd c)
      = blk.get (blockKey d bd c) := by
  rw [C20_block_fixed_point_nonneg_model wf wfb model blk (fun c hc => (hmodel c hc).le) halloc hblk hc, if_neg]
  rw [makeBlock_get]
  refine (list_sum_pos_of_pos _ _ (List.ne_nil_of_mem (List.mem_filter.2 ⟨hc, by simp⟩)) fun x hx => ?_).ne'
  exact hmodel x (List.mem_filter.1 hx).1

end block

/-- `halloc` holds e.g. for 2 rings of 8 detectors (half fan 1) in 2 × 4 blocks of 1 × 2 crystals … -/
example : (⟨2, 8, 1, 1⟩ : Dims).WF ∧ (Dims.ofCtor 2 4 1 3).WF ∧
    ∀ c ∈ (⟨2, 8, 1, 1⟩ : Dims).canon, (Dims.ofCtor 2 4 1 3).allocated (blockKey ⟨2, 8, 1, 1⟩ (Dims.ofCtor 2 4 1 3) c) = true := by
  decide +kernel

/-- … and fails when the fan contains two crystals of one block (8 detectors in 2 blocks of 4, half fan 2: detectors 0 and 2):
there `apply_block_norm` / `make_block_data` index the block data out of range (confirmed on the implementation with
AddressSanitizer: heap-buffer-overflow in `FanProjData::operator()`, ML_norm.cxx:779; the harness does not generate such
configurations). -/
theorem C20_block_data_index_range_fails :
    ¬ ∀ c ∈ (⟨1, 8, 0, 2⟩ : Dims).canon, (Dims.ofCtor 1 2 0 1).allocated (blockKey ⟨1, 8, 0, 2⟩ (Dims.ofCtor 1 2 0 1) c) = true := by
  decide +kernel

/-- *The class structure of the geometric factors* (index maps only, no values): for every well-formed `FanProjData` and every
`GeoData3D` made for it (`g.Fits d`: `g.N = d.N`, the transaxial blocks tile the ring, `2·half ∣ N`, the axial blocks tile the
rings, `acpb ∣ R`), every array element that `make_geo_data` sums into a geometric factor `c` (`geoTermKeys`: block translations
that stay in the data, each with its 2 or 4 mirror images) is written by `apply_geo_norm` (`geoWriteTargets`), and every factor
`c'` that is written to it — whichever write is the last — sums the same elements as `c`, with the same multiplicities.
Proof (`ProofsGeoSym.lean`, `ProofsGeoStructure.lean`): the summed entries of `c` are the index tuples of the loop nest in the lattice class
of `c` (`mem_geoOrbit`); two entries sharing one of their four elements are equal or axial mirror images of each other, named from
the other detector when the rings differ (`key_eq_cases`; `is_in_data` makes `apply_geo_norm` write axial mirror images of in-ring
entries only); these mirror images are symmetries of the loop nest (`LoopSym`: involutions that respect the lattice and permute the
four elements), and a symmetry maps the entries of one factor onto those of another (`terms_perm_of_map`).  So factors whose entries
share an element sum the same elements (`terms_perm_of_Kb_eq`), and every summed element is written (`geoTermKeys_written`). -/
theorem C20_geo_class_structure {d : Dims} (wf : d.WF) {g : GeoDims} (fits : g.Fits d) : GeoClassOK d g :=
  geoClassOK wf fits

section geo
variable {K : Type} [Field K] [LinearOrder K] [IsStrictOrderedRing K]

/-- *"For data generated exactly from a model, the model parameters are a fixed point of the maximum-likelihood iterations"* —
geometric factors: for positive model and data, any ordered field, the ML estimate
`ĝ = iterate_geo_norm(make_geo_data(data), model)` is reproduced — every element of the `GeoData3D` — by `iterate_geo_norm` from the
data `apply_geo_norm(model, ĝ)` generated with it.  (Arbitrary geometric factors are *not* a fixed point: several of them describe
one class and `apply_geo_norm` lets the last one win — hence the statement is about an ML estimate.)
Value level (`ProofsGeoValues.lean`): `make_geo_data` is the sum over `geoTermKeys` (`makeGeo_get`), the table `work` of
`apply_geo_norm` holds the factor of one of the writers (`geoWork_get`), `iterate_geo_norm` is the thresholded ratio
(`iterateGeo_get`); by the class structure all writers of a class have the same `ĝ`, so the class sums of the generated data are
`ĝ·S ≤` the measured ones, the `find_max()/10000` threshold can only go down, and a factor that was kept (`≥ threshold` or
`< 10000`) or zeroed is kept or zeroed again (`ratioOrZero_refixed`).

`g.Fits d` is necessary.  Without it the statement fails on the model (evaluated with `#eval` at `ℚ`, pseudo-random positive model
and data): `d = ⟨2,6,1,0⟩, g = ⟨1,2,2,6⟩` (blocks of 4 crystals on a ring of 6: the mirror images written by `apply_geo_norm` do not
cover the ring), `d = ⟨5,8,2,1⟩, g = ⟨3,1,5,8⟩` (3 rings per block, 5 rings: `make_geo_data` sums the axial mirror image of a cross-ring
LOR, `apply_geo_norm` never writes it) and `d = ⟨2,4,1,1⟩, g = ⟨1,2,2,6⟩` (`g.N ≠ d.N`: `make_geo_data` and `iterate_geo_norm` address
different elements).  The `GeoData3D` that STIR builds fits when the scanner has an even number (at least 2) of transaxial crystals per
block; for an odd number, or one, it does not (`2·(tcpb/2) ∤ N`, `half = 0`): known findings `geo-norm:odd-number-of-transaxial-crystals-per-block`,
`geo-norm:one-transaxial-crystal-per-block:division-by-zero`. -/
theorem C20_geo_fixed_point {d : Dims} (wf : d.WF) {g : GeoDims} (fits : g.Fits d)
    (model data : Fan K) (hpos : ∀ c ∈ d.canon, 0 < model.get (d.key c) ∧ 0 < data.get (d.key c)) (k : Key) :
    (iterateGeo d g (makeGeo d g (applyGeo d g model (iterateGeo d g (makeGeo d g data) model) true)) model).get k =
      (iterateGeo d g (makeGeo d g data) model).get k :=
  geo_fixed_point_of_class wf fits (geoClassOK wf fits) model data hpos k

end geo

/-- The same over `ℚ`, in the form that the oracle of `harness/c20_mlnorm.cxx` checks on every generated configuration (odd and even
ring counts, with and without gaps). -/
theorem C20_geo_fixed_point_statement :
  ∀ (d : Dims) (g : GeoDims) (model data : Fan ℚ), d.WF → g.Fits d →
    (∀ c ∈ d.canon, 0 < model.get (d.key c) ∧ 0 < data.get (d.key c)) →
    let ghat := iterateGeo d g (makeGeo d g data) model
    ∀ k, (iterateGeo d g (makeGeo d g (applyGeo d g model ghat true)) model).get k = ghat.get k :=
  fun _ _ model data wf fits hpos k => C20_geo_fixed_point wf fits model data hpos k

/-- hypotheses of `C20_geo_fixed_point` are satisfiable (2 rings of 8 detectors in blocks of 1 × 4 crystals, ring difference 1,
half fan 2; model 3, data 5) -/
example : ∃ (model data : Fan ℚ), (⟨2, 8, 1, 2⟩ : Dims).WF ∧ (⟨1, 2, 2, 8⟩ : GeoDims).Fits ⟨2, 8, 1, 2⟩ ∧
    (∀ c ∈ (⟨2, 8, 1, 2⟩ : Dims).canon, 0 < model.get ((⟨2, 8, 1, 2⟩ : Dims).key c) ∧ 0 < data.get ((⟨2, 8, 1, 2⟩ : Dims).key c)) :=
  ⟨Fan.const _ 3, Fan.const _ 5, by decide, by decide,
    fun c hc => ⟨by
      rw [Fan.const_get _ _ hc]
      norm_num, by
      rw [Fan.const_get _ _ hc]
      norm_num⟩⟩

/-- the class structure evaluated by the kernel on a small scanner (3 rings of 4 detectors — a central ring — blocks of 1 × 4
crystals, all ring differences): an independent check of the definitions behind `C20_geo_class_structure` -/
example : (⟨3, 4, 2, 0⟩ : Dims).WF ∧ (⟨1, 2, 3, 4⟩ : GeoDims).Fits ⟨3, 4, 2, 0⟩ ∧ GeoClassOK ⟨3, 4, 2, 0⟩ ⟨1, 2, 3, 4⟩ := by decide +kernel

/-- dimensions that do not fit: blocks of 4 crystals on a ring of 6, 3 rings per block on 5 rings, a `GeoData3D` for 6 detectors per ring on
a ring of 4 -/
example : ¬ (⟨1, 2, 2, 6⟩ : GeoDims).Fits ⟨2, 6, 1, 0⟩ ∧ ¬ (⟨3, 1, 5, 8⟩ : GeoDims).Fits ⟨5, 8, 2, 1⟩ ∧
    ¬ (⟨1, 2, 2, 6⟩ : GeoDims).Fits ⟨2, 4, 1, 1⟩ := by decide

/-- `make_geo_data` adds the two axially mirrored LORs `if (ra != mra || rb != mrb)`: they are left out exactly when the LOR is
its own axial mirror (both rings are the central ring), for every number of rings and every ring pair — so no LOR is dropped
and none is counted twice. -/
theorem C20_geo_mirror_condition (d : Dims) (ra rb : Int) :
    d.fourTerms ra rb = false ↔ (d.R - 1 - ra = ra ∧ d.R - 1 - rb = rb) := by
  unfold Dims.fourTerms
  simp only [Bool.or_eq_false_iff, bne_eq_false_iff_eq]
  exact and_congr eq_comm eq_comm

/-- NOT what the code does now (see `Dims.fourTerms`): before commit 58079aa5c the condition of `make_geo_data` read
`if (ra != mra && rb != mrb)`. -/
def Dims.fourTermsOld (d : Dims) (ra rb : Int) : Bool := ra != d.R - 1 - ra && rb != d.R - 1 - rb

/-- Regression witness for the code before commit 58079aa5c (`&&` instead of `||`, `Dims.fourTermsOld`): it also dropped the
mirrored terms when exactly one ring is the central ring — 5 rings, LOR between rings 1 and 2 (mirror: rings 3 and 2) — which
broke the geometric fixed point for odd ring counts ≥ 5; the present condition does not. -/
theorem C20_geo_mirror_condition_old_code_fails :
    ¬ (∀ (d : Dims) (ra rb : Int), d.fourTermsOld ra rb = false → d.R - 1 - ra = ra ∧ d.R - 1 - rb = rb) ∧
      (⟨5, 8, 2, 2⟩ : Dims).fourTerms 1 2 = true := by
  refine ⟨fun h => ?_, by decide⟩
  exact absurd (h ⟨5, 8, 2, 2⟩ 1 2 (by decide)) (by decide)

example : (⟨5, 8, 2, 2⟩ : Dims).fourTerms 2 2 = false ∧ (⟨5, 8, 2, 2⟩ : Dims).fourTerms 2 3 = true ∧
    (⟨4, 8, 2, 2⟩ : Dims).fourTerms 1 2 = true := by decide

/-! ## 6. The efficiency iteration descends -/

section kl
variable {ι : Type} [Fintype ι] [DecidableEq ι]

/-- One assignment `ε_k ← fan_sum_k / Σ_b ε_b m_kb` (`0` where the fan sum is `0`) of `iterate_efficiencies`, with the current
values of all other detectors, does not increase the Kullback-Leibler distance `Σ KL(y_ab, ε_a ε_b m_ab, 0)` between symmetric
data and the product model: it is the exact minimiser in that coordinate (`log u ≤ u - 1`).  Abstract formulation: any
finite set of detectors, `y`/`m` zero outside the fan window. -/
theorem C20_eff_coordinate_update_descends {y m : ι → ι → ℝ} (P : PairData y m) {ε : ι → ℝ} (hε : ∀ a, 0 < ε a) (k : ι) :
    klObjective y m (effUpdate y m ε k) ≤ klObjective y m ε :=
  effUpdate_descends P hε k

/-- *"every efficiency iteration leaves the Kullback-Leibler distance between symmetric data and the product model no larger than
before"*: the in-place sweep over any sequence `l` of detectors (later detectors see the earlier updates), all of them with a
positive fan sum; the efficiencies stay positive. -/
theorem C20_eff_iteration_descends {y m : ι → ι → ℝ} (P : PairData y m) (l : List ι) (hl : ∀ k ∈ l, 0 < fanSumR y k) {ε : ι → ℝ}
    (hε : ∀ a, 0 < ε a) : klObjective y m (effSweep y m ε l) ≤ klObjective y m ε ∧ ∀ a, 0 < effSweep y m ε l a :=
  List.foldlRecOn l _ (motive := fun ε' => klObjective y m ε' ≤ klObjective y m ε ∧ ∀ a, 0 < ε' a) ⟨le_rfl, hε⟩
    fun _ h k hk => ⟨(effUpdate_descends P h.2 k).trans h.1, effUpdate_pos P h.2 (hl k hk)⟩

end kl

/-- hypotheses of the descent theorems are satisfiable: two detectors, data 3, model 2 -/
example : PairData (ι := Fin 2) (fun a b => if a = b then 0 else 3) (fun a b => if a = b then 0 else 2) where
  y_nonneg := by
    intro a b
    split <;> norm_num
  m_nonneg := by
    intro a b
    split <;> norm_num
  y_symm := by
    intro a b
    simp [eq_comm]
  m_symm := by
    intro a b
    simp [eq_comm]
  y_diag := by simp
  m_diag := by simp
  supp := by
    intro a b
    split <;> norm_num

/-- *"every efficiency iteration leaves the Kullback-Leibler distance between symmetric data and the product model no larger than
before"* — **for the executable model**: the Kullback-Leibler distance summed once per detector pair (`klPairs`) between the data
and `ε_a ε_b m_ab` (`apply_efficiencies` on the model) does not increase under `iterate_efficiencies` (`iterateEff`: the in-place
loop over the detectors on the `FanProjData` / `Array<2,float>` storage, fan sums from `make_fan_sum_data`), for every
well-formed `FanProjData` geometry.  Hypotheses: non-negative data
and positive model on every stored entry, data and model symmetric (the two stored copies of an in-ring LOR agree), positive
efficiencies, every detector has a positive fan sum.
Proof (`ProofsDescentModel.lean`): refinement to the abstract theorem `C20_eff_iteration_descends` with `ι` = the detectors,
`y_ab` / `m_ab` = `data.at` / `model.at` inside the window and `0` outside — the two inner loops of `FanProjData::sum` and of the
denominator visit every detector of the window exactly once (`mem_fanList`, `fanList_nodup`, `sum_fanList`), one pass of the loop body is the coordinate update
(`effStep_refines`), the loop is the sweep (`iterateEff_refines`), and the filtered loop nest of `klPairs` names every unordered
pair of the window exactly once, so the abstract objective is `2 · klPairs` (`klObjective_eq_two_mul_klPairs`). -/
theorem C20_eff_iteration_descends_on_model :
  ∀ (d : Dims) (data model : Fan ℝ) (eff : Tab ℝ), d.WF →
    (∀ c ∈ d.canon, 0 ≤ data.get (d.key c) ∧ 0 < model.get (d.key c)) →
    (∀ ra a rb b, d.inWindow ra a rb b → data.at d ra a rb b = data.at d rb b ra a ∧ model.at d ra a rb b = model.at d rb b ra a) →
    (∀ x ∈ d.dets, 0 < eff.get x ∧ 0 < (makeFanSums d data).get x) →
    klPairs Real.log d data (applyEff d model (iterateEff d eff (makeFanSums d data) model) true) 0 ≤
      klPairs Real.log d data (applyEff d model eff true) 0 := by
  intro d data model eff wf hpos hsym heff
  have P := pairData_of_model wf data model hpos hsym
  have hl : ∀ k ∈ d.detList, 0 < fanSumR (yOf d data) k := by
    intro k _
    rw [fanSumR_eq wf]
    exact (heff k.1 (mem_detSet.1 k.2)).2
  have hε : ∀ a : Det d, 0 < epsOf d eff a := fun a => (heff a.1 (mem_detSet.1 a.2)).1
  have hdesc := (C20_eff_iteration_descends P d.detList hl hε).1
  rw [← iterateEff_refines wf, klObjective_eq_two_mul_klPairs wf data model _ hsym,
    klObjective_eq_two_mul_klPairs wf data model _ hsym] at hdesc
  linarith

/-- The refinement behind it, one step: the body of the detector loop of `iterate_efficiencies` for detector `k`, run in place on
the current table `T`, changes exactly the entry of `k` — to `fan_sum_k / Σ_b ε_b m_kb` with the current `ε`, `0` where the fan
sum is `0` — i.e. it is the abstract coordinate update `effUpdate` on `ι` = detectors of `d`; and the whole loop is the abstract
sweep over the detectors in loop order. -/
theorem C20_eff_iteration_refines_abstract {d : Dims} (wf : d.WF) (data model : Fan ℝ) (T : Tab ℝ) :
    (∀ k : Det d, epsOf d (effStep d (makeFanSums d data) model T k.1) = effUpdate (yOf d data) (yOf d model) (epsOf d T) k) ∧
      epsOf d (iterateEff d T (makeFanSums d data) model) = effSweep (yOf d data) (yOf d model) (epsOf d T) d.detList ∧
      d.detList.map Subtype.val = d.dets :=
  ⟨fun k => effStep_refines wf data model T k, iterateEff_refines wf data model T, detList_map_val d⟩

/-- hypotheses of `C20_eff_iteration_descends_on_model` are satisfiable by non-constant data: 2 rings of 8 detectors, ring
difference 1, half fan 2; data `ra + rb + 1` (1 and 3 within the rings, 2 between them), model 2, efficiencies 1/2 -/
example : ∃ (data model : Fan ℝ) (eff : Tab ℝ), (⟨2, 8, 1, 2⟩ : Dims).WF ∧
    (∀ c ∈ (⟨2, 8, 1, 2⟩ : Dims).canon, 0 ≤ data.get ((⟨2, 8, 1, 2⟩ : Dims).key c) ∧ 0 < model.get ((⟨2, 8, 1, 2⟩ : Dims).key c)) ∧
    (∀ ra a rb b, (⟨2, 8, 1, 2⟩ : Dims).inWindow ra a rb b →
      data.at ⟨2, 8, 1, 2⟩ ra a rb b = data.at ⟨2, 8, 1, 2⟩ rb b ra a ∧ model.at ⟨2, 8, 1, 2⟩ ra a rb b = model.at ⟨2, 8, 1, 2⟩ rb b ra a) ∧
    (∀ x ∈ (⟨2, 8, 1, 2⟩ : Dims).dets, 0 < eff.get x ∧ 0 < (makeFanSums ⟨2, 8, 1, 2⟩ data).get x) ∧
    data.at ⟨2, 8, 1, 2⟩ 0 0 0 3 ≠ data.at ⟨2, 8, 1, 2⟩ 0 0 1 3 := by
  have wf : (⟨2, 8, 1, 2⟩ : Dims).WF := by decide
  have hg : ∀ r r' : Int, ((r + r' + 1 : Int) : ℝ) = ((r' + r + 1 : Int) : ℝ) := fun r r' => by rw [add_comm r r']
  have hdata : ∀ c ∈ (⟨2, 8, 1, 2⟩ : Dims).canon,
      0 < (Fan.ofFun ⟨2, 8, 1, 2⟩ fun c => ((c.1 + c.2.2.1 + 1 : Int) : ℝ)).get ((⟨2, 8, 1, 2⟩ : Dims).key c) := by
    intro c hc
    rw [Fan.ofFun_get wf _ hc]
    obtain ⟨h1, h2, _⟩ := canon_rings hc
    exact_mod_cast (by omega : 0 < c.1 + c.2.2.1 + 1)
  refine ⟨Fan.ofFun _ fun c => ((c.1 + c.2.2.1 + 1 : Int) : ℝ), Fan.const _ 2, Tab.const _ (1 / 2), wf,
    fun c hc => ⟨(hdata c hc).le, by
      rw [Fan.const_get _ _ hc]
      norm_num⟩,
    fun ra a rb b h => ⟨?_, ?_⟩, fun x hx => ⟨by
      rw [Tab.const_get _ _ hx]
      norm_num, makeFanSums_pos wf _ hdata hx⟩, ?_⟩
  · rw [Fan.ofFun_at_rings wf (fun r r' => ((r + r' + 1 : Int) : ℝ)) hg h,
      Fan.ofFun_at_rings wf (fun r r' => ((r + r' + 1 : Int) : ℝ)) hg (inWindow_symm wf h)]
    exact hg ra rb
  · rw [Fan.const_at wf _ h, Fan.const_at wf _ (inWindow_symm wf h)]
  · rw [Fan.ofFun_at_rings wf (fun r r' => ((r + r' + 1 : Int) : ℝ)) hg (by decide),
      Fan.ofFun_at_rings wf (fun r r' => ((r + r' + 1 : Int) : ℝ)) hg (by decide)]
    norm_num

/-- The loop nest names an in-ring LOR twice (as `(ra,a,ra,b)` and `(ra,b,ra,a)`, two array elements) and a LOR between rings once —
e.g. 1 ring of 4 detectors, half fan 1: `(0,0,0,2)` and `(0,2,0,4)` are the same LOR.  This is why the library's own
`KL(const FanProjData&, const FanProjData&, …)` (`klFan`, which sums over this loop nest) is *not* the distance of `klPairs`: with
several rings it weights in-ring LORs double and can go up under an efficiency iteration (`KNOWN-CANDIDATE kl-descent…` of the
oracle). -/
theorem C20_klFan_visits_each_pair_once_fails :
    ¬ ∀ c ∈ (⟨1, 4, 0, 1⟩ : Dims).canon, ∀ c' ∈ (⟨1, 4, 0, 1⟩ : Dims).canon,
        (c'.1 = c.2.2.1 ∧ c'.2.2.1 = c.1 ∧ c'.2.1 = Int.tmod c.2.2.2 4 ∧ Int.tmod c'.2.2.2 4 = c.2.1) → c' = c := by
  decide +kernel

/-! ## 7. The two-dimensional detector-pair representation (`DetPairData`: one sinogram pair `±s` at one axial position) -/

section detpair
variable {K : Type} [OfNat K 0]

set_option linter.unusedVariables false in
/-- *"each entry is the value of the bin that the geometry assigns to that detector pair"* — `make_det_pair_data`: after the loop
over `(view, tangential position)` the entry `(a, b)` of the detector pair of a bin holds the value of that bin in the sinogram of
segment `+s`, and the entry `(b, a)` its value in the sinogram of segment `-s`.  The detector-pair ↔ bin map
(`get_det_num_pair_for_view_tangential_pos_num`, property C01) is the parameter `Prod.fst`; `DPConsistent`: detector numbers inside
the ring and no two bins with different values on one ordered detector pair. -/
theorem C20_dp_entry_is_bin_value {d : DPDims} (wf : d.WF) (bins : List ((Int × Int) × (K × K))) (hc : DPConsistent d bins)
    {e : (Int × Int) × (K × K)} (he : e ∈ bins) :
    (makeDP d bins).at2 d e.1.1 e.1.2 = e.2.1 ∧ (makeDP d bins).at2 d e.1.2 e.1.1 = e.2.2 := by
  obtain ⟨hrange, hcons⟩ := hc
  exact ⟨makeDP_at2 bins hrange (hrange e he).2 ⟨e, he, Or.inl rfl⟩ fun e' he' =>
      ⟨(hcons e he e' he').1, fun h => ((hcons e he e' he').2.1 h).1⟩,
    makeDP_at2 bins hrange (hrange e he).1 ⟨e, he, Or.inr rfl⟩ fun e' he' =>
      ⟨fun h => ((hcons e he e' he').2.1 h).2, (hcons e he e' he').2.2⟩⟩

/-- *"Converting projection data to the detector-pair … representation … and back is lossless"* — `set_det_pair_data ∘
make_det_pair_data` returns to every bin of the two sinograms its own value (for `s = 0` only one sinogram is written). -/
theorem C20_dp_roundtrip {d : DPDims} (wf : d.WF) (bins : List ((Int × Int) × (K × K))) (hc : DPConsistent d bins) (segNonzero : Bool) :
    setDP d (makeDP d bins) segNonzero (bins.map Prod.fst) = bins.map fun e => (e.2.1, if segNonzero then some e.2.2 else none) := by
  unfold setDP
  rw [List.map_map]
  apply List.map_congr_left
  intro e he
  obtain ⟨h1, h2⟩ := C20_dp_entry_is_bin_value wf bins hc he
  simp only [Function.comp]
  rw [h1, h2]

end detpair

example : dpDimsOf 8 (-2) 2 = ⟨8, 2⟩ ∧ dpDimsOf 8 (-3) 2 = ⟨8, 3⟩ ∧ (⟨8, 3⟩ : DPDims).WF ∧ ¬ (dpDimsOf 8 (-4) 3).WF := by decide
example : (⟨8, 2⟩ : DPDims).inData 7 2 ∧ (⟨8, 2⟩ : DPDims).inData 2 7 ∧ ¬ (⟨8, 2⟩ : DPDims).inData 7 0 := by decide

/-- `DPConsistent` is satisfiable by bins with distinct values (segment `s ≠ 0`: two sinograms) … -/
example : DPConsistent (K := Int) ⟨4, 1⟩ [((0, 2), (5, 6)), ((1, 3), (7, 8)), ((0, 1), (2, 3)), ((1, 2), (4, 9))] := by
  unfold DPConsistent
  decide

/-- … and fails when two bins claim the same ordered detector pair with different values -/
example : ¬ DPConsistent (K := Int) ⟨4, 1⟩ [((0, 2), (5, 6)), ((2, 0), (7, 8))] := by
  unfold DPConsistent
  decide

/-- `DetPairData::is_in_data(a, b)` is **not** "`b` lies in the fan of `a`": for `b` below `get_min_index(a)` only the upper end is
tested (`b + num_detectors <= get_max_index(a)`), so detector 0 is reported in the data of detector 7 (8 detectors, half fan 1, fan of
7 = {2,3,4}) although `operator()(7, 0)` addresses `[7][8]`, outside `[7][10..12]`.  (`FanProjData::is_in_data` has the same test.  The
functions of `ML_norm.cxx` call it only with pairs for which it is right; not a clause of the property.) -/
theorem C20_dp_is_in_data_not_fan_membership :
    (⟨8, 1⟩ : DPDims).isInData 7 0 = true ∧ ¬ (⟨8, 1⟩ : DPDims).inData 7 0 ∧ (⟨1, 8, 0, 1⟩ : Dims).isInData 0 7 0 0 = true ∧
      ¬ (⟨1, 8, 0, 1⟩ : Dims).inWindow 0 7 0 0 := by decide

section detpair_field
variable {K : Type} [Field K] [DecidableEq K]

/-- *"'un-applying' restores the data"* — the `DetPairData` overloads of `apply_efficiencies`, `apply_block_norm`, `apply_geo_norm`:
every array element, non-zero factors, any field. -/
theorem C20_dp_apply_unapply_id {d : DPDims} (wf : d.WF) (F : Fan K) (eff blk geo : Tab K) (nb half : Int)
    (hne : ∀ a, 0 ≤ a → a < d.N → eff.get (0, a) ≠ 0) (hblk : ∀ c ∈ d.canon, dpBlockFactor d nb blk c ≠ 0)
    (hgeo : ∀ c ∈ d.canon, dpGeoFactor d half geo c ≠ 0) (k : Key) :
    (dpApplyEff d (dpApplyEff d F eff true) eff false).get k = F.get k ∧
      (dpApplyBlock d nb (dpApplyBlock d nb F blk true) blk false).get k = F.get k ∧
      (dpApplyGeo d half (dpApplyGeo d half F geo true) geo false).get k = F.get k :=
  ⟨factorFold_undo _ _ _ _ (fun _ hc => dpEffFactor_ne_zero wf eff hne hc) true k, factorFold_undo _ _ _ _ hblk true k,
    factorFold_undo _ _ _ _ hgeo true k⟩

/-- *"Applying efficiencies … multiplies each detector-pair entry by the product of the factors of its two detectors"* —
`apply_efficiencies(DetPairData&, …)`: every detector pair of the ring inside the fan, addressed through `operator()`; un-applying
divides by it. -/
theorem C20_dp_apply_is_product_of_two_detectors {d : DPDims} (wf : d.WF) (F : Fan K) (eff : Tab K) {a b : Int} (h : d.inData a b) :
    (dpApplyEff d F eff true).at2 d a b = F.at2 d a b * (eff.get (0, a) * eff.get (0, b)) ∧
      (dpApplyEff d F eff false).at2 d a b = F.at2 d a b / (eff.get (0, a) * eff.get (0, b)) :=
  ⟨(dpApplyEff_at wf F eff true h).trans (applyFactor_true _ _), (dpApplyEff_at wf F eff false h).trans (applyFactor_false _ _)⟩

/-- *"… (or its geometric class)"*: every entry of the loop nest is multiplied exactly once, by
`block_data[a / cpb][(b / cpb) % num_blocks]` (`apply_block_norm`) / by the geometric factor of its class, `dpGeoIndex`: translated
to the first block and mirrored into its first half (`apply_geo_norm`). -/
theorem C20_dp_apply_block_geo_factor {d : DPDims} (F X : Fan K) (T : Tab K) (nb half : Int) {c : Key} (hc : c ∈ d.canon) :
    (dpApplyBlock d nb F T true).get (d.key c) = F.get (d.key c) * dpBlockFactor d nb T c ∧
      (dpApplyGeo d half X T true).get (d.key c) = X.get (d.key c) * T.get (dpGeoIndex d half c.2.1 c.2.2.2) := by
  have hkey := fun (f : Key → K) (G : Fan K) => (factorFold_get_key d.key f true (dpCanon_nodup d)
    (dpKey_injOn_canon d) G hc).trans (applyFactor_true _ _)
  exact ⟨hkey _ F, hkey _ X⟩

/-- *"For data generated exactly from a model, the model parameters are a fixed point of the maximum-likelihood iterations"* —
`iterate_efficiencies(Array<1,float>&, fan sums, const DetPairData& model)` on the fan sums (`make_fan_sum_data`) of
`apply_efficiencies(model, ε)` returns `ε` (in-place sweep; non-zero efficiencies and denominators, any field). -/
theorem C20_dp_eff_fixed_point (d : DPDims) (model : Fan K) (eff : Tab K) (hne : ∀ a, 0 ≤ a → a ≤ d.N - 1 → eff.get (0, a) ≠ 0)
    (hden : ∀ a, 0 ≤ a → a ≤ d.N - 1 → dpEffDenominator d model eff a ≠ 0) (k : Int × Int) :
    (dpIterateEff d eff (dpMakeFanSums d (dpApplyEff d model eff true)) model).get k = eff.get k := by
  refine sweep_fixed (idx := fun a => (0, a)) (den := fun T a => dpEffDenominator d model T a) (step := dpEffStep d _ model)
    (hstep := fun _ _ => rfl) (hcongr := fun T a h => ?_) (hsum := fun a ha => ?_)
    (hne := fun a ha => hne a (mem_intRange.1 ha).1 (mem_intRange.1 ha).2)
    (hden := fun a ha => hden a (mem_intRange.1 ha).1 (mem_intRange.1 ha).2) k
  · unfold dpEffDenominator
    simp only [h]
  · rw [dpMakeFanSums_get d _ (mem_intRange.1 ha)]
    exact dpFanSum_applyEff model eff (mem_intRange.1 ha)

/-- *"0 where the fan sum is 0"* for the `DetPairData` overload -/
theorem C20_dp_dead_detector_gets_zero (d : DPDims) (sums : Tab K) (model : Fan K) (T : Tab K) (a : Int) (h : sums.get (0, a) = 0) :
    (dpEffStep d sums model T a).get (0, a) = 0 := by
  unfold dpEffStep
  simp [h, Tab.get_set_eq]

end detpair_field

/-- the geometric class of `apply_geo_norm(DetPairData&)` on 8 detectors in blocks of 4 (half fan 2): the entry `(1, 5)` of the first
half block, its translation by one block `(5, 9)`, its mirror image in the ring `(6, 2)` and its mirror image in the block `(2, 6)`
all use the geometric factor `[1][5]` -/
example : dpGeoIndex ⟨8, 2⟩ 2 1 5 = (1, 5) ∧ dpGeoIndex ⟨8, 2⟩ 2 5 9 = (1, 5) ∧ dpGeoIndex ⟨8, 2⟩ 2 6 2 = (1, 5) ∧
    dpGeoIndex ⟨8, 2⟩ 2 2 6 = (1, 5) := by decide

/-- *"every efficiency iteration leaves the Kullback-Leibler distance between symmetric data and the product model no larger than
before"* — the `DetPairData` overload `iterate_efficiencies(Array<1,float>&, fan sums, const DetPairData& model)`: the distance summed
once per detector pair (`dpKLPairs`: the entries `(a,b)` of the loop nest with `a < b % N`) between the data and `ε_a ε_b m_ab`
(`apply_efficiencies` on the model) does not increase, for every `DetPairData` geometry with a fan smaller than the ring.  Hypotheses:
non-negative data and positive model on every entry, data and model symmetric (`(a,b)` and `(b,a)`: segment 0), positive efficiencies,
every detector has a positive fan sum.
Proof (`ProofsDetPairDescent.lean`): refinement to `C20_eff_iteration_descends_on_model` on the `FanProjData` geometry of one ring
`⟨1, N, 0, h⟩` — the loop nests are the same lists of index tuples (`ring_canon`), and for fan data `F` holding the detector-pair data
`P` (`Rep`) the denominators, fan sums, in-place sweeps (`rep_iterateEff`: the same table), `apply_efficiencies` (`rep_applyEff`) and the
Kullback-Leibler sums (`rep_klPairs`) coincide.  (The library's `KL(const DetPairData&, …)`, `dpKL`, visits `(a,b)` and `(b,a)`: for
symmetric data it is twice this sum — checked on the implementation by the oracle `dp-kl-descent`, not stated here.) -/
theorem C20_dp_eff_iteration_descends {dp : DPDims} (wf : dp.WF) (data model : Fan ℝ) (eff : Tab ℝ)
    (hpos : ∀ c ∈ dp.canon, 0 ≤ data.get c ∧ 0 < model.get c)
    (hsym : ∀ a b, dp.inData a b → data.at2 dp a b = data.at2 dp b a ∧ model.at2 dp a b = model.at2 dp b a)
    (heff : ∀ a, 0 ≤ a → a ≤ dp.N - 1 → 0 < eff.get (0, a) ∧ 0 < (dpMakeFanSums dp data).get (0, a)) :
    dpKLPairs Real.log dp data (dpApplyEff dp model (dpIterateEff dp eff (dpMakeFanSums dp data) model) true) 0 ≤
      dpKLPairs Real.log dp data (dpApplyEff dp model eff true) 0 := by
  have wf' := DPDims.ring_wf wf
  have hrd := rep_ofFun wf data
  have hrm := rep_ofFun wf model
  rw [← rep_klPairs wf hrd (rep_applyEff wf hrm _) Real.log 0, ← rep_klPairs wf hrd (rep_applyEff wf hrm _) Real.log 0,
    ← rep_iterateEff wf hrm eff (makeFanSums dp.ring (Fan.ofFun dp.ring fun c => data.get c)) (dpMakeFanSums dp data)
      (fun a ha => rep_makeFanSums wf hrd ha)]
  refine C20_eff_iteration_descends_on_model _ _ _ eff wf' (fun c hc => ?_) (fun ra a rb b h => ?_) (fun x hx => ?_)
  · have hcd : c ∈ dp.canon := by
      rw [← ring_canon]
      exact hc
    rw [Fan.ofFun_get wf' _ hc, Fan.ofFun_get wf' _ hc]
    exact hpos c hcd
  · obtain ⟨rfl, rfl, hd⟩ := ring_inWindow.1 h
    have hd' := dpInData_symm wf hd
    rw [hrd a b hd, hrd b a hd', hrm a b hd, hrm b a hd']
    exact hsym a b hd
  · rw [ring_dets] at hx
    obtain ⟨a, ha, rfl⟩ := List.mem_map.1 hx
    have ha' := mem_intRange.1 ha
    rw [rep_makeFanSums wf hrd ha']
    exact heff a ha'.1 ha'.2

/-- The refinement behind it: for one-ring fan data `F` holding the detector-pair data `P`, `iterate_efficiencies` on `FanProjData`
and on `DetPairData` compute the same table (fan sums that agree on the detectors), `apply_efficiencies` keeps the representation and
the once-per-pair Kullback-Leibler sums agree. -/
theorem C20_dp_is_one_ring_fan {dp : DPDims} (wf : dp.WF) {P F : Fan ℝ} (hrep : Rep dp P F) (eff sums : Tab ℝ) :
    iterateEff dp.ring eff sums F = dpIterateEff dp eff sums P ∧ Rep dp (dpApplyEff dp P eff true) (applyEff dp.ring F eff true) ∧
      (∀ a, 0 ≤ a ∧ a ≤ dp.N - 1 → (makeFanSums dp.ring F).get (0, a) = (dpMakeFanSums dp P).get (0, a)) ∧
      ∀ {P2 F2 : Fan ℝ}, Rep dp P2 F2 → klPairs Real.log dp.ring F F2 0 = dpKLPairs Real.log dp P P2 0 :=
  ⟨rep_iterateEff wf hrep eff sums sums (fun _ _ => rfl), rep_applyEff wf hrep eff, fun _ ha => rep_makeFanSums wf hrep ha,
    fun h2 => rep_klPairs wf hrep h2 Real.log 0⟩

/-- hypotheses of `C20_dp_eff_iteration_descends` are satisfiable: 8 detectors, half fan 2, data 3, model 2, efficiencies 1/2 -/
example : ∃ (data model : Fan ℝ) (eff : Tab ℝ), (⟨8, 2⟩ : DPDims).WF ∧
    (∀ c ∈ (⟨8, 2⟩ : DPDims).canon, 0 ≤ data.get c ∧ 0 < model.get c) ∧
    (∀ a b, (⟨8, 2⟩ : DPDims).inData a b →
      data.at2 ⟨8, 2⟩ a b = data.at2 ⟨8, 2⟩ b a ∧ model.at2 ⟨8, 2⟩ a b = model.at2 ⟨8, 2⟩ b a) ∧
    (∀ a, 0 ≤ a → a ≤ (⟨8, 2⟩ : DPDims).N - 1 → 0 < eff.get (0, a) ∧ 0 < (dpMakeFanSums ⟨8, 2⟩ data).get (0, a)) := by
  have wf : (⟨8, 2⟩ : DPDims).WF := by decide
  have hdata : ∀ c ∈ (⟨8, 2⟩ : DPDims).canon, 0 < (dpConst ⟨8, 2⟩ 3).get c := fun c hc => by
    rw [dpConst_get _ _ hc]
    norm_num
  refine ⟨dpConst _ 3, dpConst _ 2, Tab.const ⟨1, 8, 0, 2⟩ (1 / 2), wf, fun c hc => ⟨(hdata c hc).le, by
      rw [dpConst_get _ _ hc]
      norm_num⟩,
    fun a b h => ?_, fun a h0 h1 => ⟨?_, dpMakeFanSums_pos wf _ hdata ⟨h0, h1⟩⟩⟩
  · rw [dpConst_at2 wf _ h, dpConst_at2 wf _ (dpInData_symm wf h), dpConst_at2 wf _ h, dpConst_at2 wf _ (dpInData_symm wf h)]
    exact ⟨rfl, rfl⟩
  · rw [Tab.const_get ⟨1, 8, 0, 2⟩ _ (ring_det (dp := ⟨8, 2⟩) ⟨h0, h1⟩)]
    norm_num

/-! ## 8. The versions without model -/

section nomodel
variable {K : Type} [Field K] [DecidableEq K]

/-- `iterate_efficiencies(efficiencies, data_fan_sums, max_ring_diff, half_fan_size)` ("version without model") **is**
`iterate_efficiencies(efficiencies, data_fan_sums, model)` with the `FanProjData` that holds `1` in every element, and
`make_fan_sum_data(fan_sums, efficiencies, max_ring_diff, half_fan_size)` gives the fan sums of `apply_efficiencies` on that model —
for every well-formed geometry, any field. -/
theorem C20_no_model_is_model_of_ones {d : Dims} (wf : d.WF) (eff sums : Tab K) :
    iterateEffNM d eff sums = iterateEff d eff sums (Fan.const d 1) ∧
      ∀ x ∈ d.dets, (makeFanSumsNM d eff).get x = (makeFanSums d (applyEff d (Fan.const d 1) eff true)).get x :=
  ⟨List.foldl_ext _ _ _ fun T x hx => effStepNM_eq wf sums T hx, fun x hx => by
    rw [makeFanSumsNM_get eff hx, C20_fan_sums_of_model_data wf _ eff hx, effDenominatorNM_eq_model_one wf eff hx]⟩

end nomodel

section nomodel_ordered
variable {K : Type} [Field K] [LinearOrder K] [IsStrictOrderedRing K]

/-- *"For data generated exactly from a model, the model parameters are a fixed point …"* — the model-free pair: fan sums made by
`make_fan_sum_data(…, efficiencies, max_ring_diff, half_fan_size)` from positive efficiencies are reproduced by the model-free
`iterate_efficiencies`. -/
theorem C20_eff_fixed_point_no_model {d : Dims} (wf : d.WF) (eff : Tab K) (heff : ∀ x ∈ d.dets, 0 < eff.get x) (k : Int × Int) :
    (iterateEffNM d eff (makeFanSumsNM d eff)).get k = eff.get k := by
  classical
  obtain ⟨h1, h2⟩ := C20_no_model_is_model_of_ones wf eff (makeFanSumsNM d eff)
  rw [h1, iterateEff_congr_sums d eff _ h2]
  exact C20_eff_fixed_point_positive wf _ eff heff (fun c hc => by
    rw [Fan.const_get d 1 hc]
    exact one_pos) k

end nomodel_ordered

/-- *"every efficiency iteration leaves the Kullback-Leibler distance between symmetric data and the product model no larger than
before"* — the model-free overload: product model `ε_a ε_b` on every LOR of the window. -/
theorem C20_eff_iteration_descends_no_model {d : Dims} (wf : d.WF) (data : Fan ℝ) (eff : Tab ℝ)
    (hpos : ∀ c ∈ d.canon, 0 ≤ data.get (d.key c))
    (hsym : ∀ ra a rb b, d.inWindow ra a rb b → data.at d ra a rb b = data.at d rb b ra a)
    (heff : ∀ x ∈ d.dets, 0 < eff.get x ∧ 0 < (makeFanSums d data).get x) :
    klPairs Real.log d data (applyEff d (Fan.const d 1) (iterateEffNM d eff (makeFanSums d data)) true) 0 ≤
      klPairs Real.log d data (applyEff d (Fan.const d 1) eff true) 0 := by
  rw [(C20_no_model_is_model_of_ones wf eff _).1]
  refine C20_eff_iteration_descends_on_model d data (Fan.const d 1) eff wf (fun c hc => ⟨hpos c hc, ?_⟩)
    (fun ra a rb b h => ⟨hsym ra a rb b h, ?_⟩) heff
  · rw [Fan.const_get d 1 hc]
    exact one_pos
  · rw [Fan.const_at wf _ h, Fan.const_at wf _ (inWindow_symm wf h)]

/-- hypotheses of `C20_eff_fixed_point_no_model` / `C20_eff_iteration_descends_no_model` are satisfiable (2 rings of 8 detectors, ring
difference 1, half fan 2; efficiencies 1/2, data 3) -/
example : ∃ (eff : Tab ℝ) (data : Fan ℝ), (⟨2, 8, 1, 2⟩ : Dims).WF ∧
    (∀ c ∈ (⟨2, 8, 1, 2⟩ : Dims).canon, 0 ≤ data.get ((⟨2, 8, 1, 2⟩ : Dims).key c)) ∧
    (∀ ra a rb b, (⟨2, 8, 1, 2⟩ : Dims).inWindow ra a rb b → data.at ⟨2, 8, 1, 2⟩ ra a rb b = data.at ⟨2, 8, 1, 2⟩ rb b ra a) ∧
    (∀ x ∈ (⟨2, 8, 1, 2⟩ : Dims).dets, 0 < eff.get x ∧ 0 < (makeFanSums ⟨2, 8, 1, 2⟩ data).get x) := by
  have wf : (⟨2, 8, 1, 2⟩ : Dims).WF := by decide
  have hdata : ∀ c ∈ (⟨2, 8, 1, 2⟩ : Dims).canon, 0 < (Fan.const ⟨2, 8, 1, 2⟩ (3 : ℝ)).get ((⟨2, 8, 1, 2⟩ : Dims).key c) := fun c hc => by
    rw [Fan.const_get _ _ hc]
    norm_num
  exact ⟨Tab.const _ (1 / 2), Fan.const _ 3, wf, fun c hc => (hdata c hc).le,
    fun ra a rb b h => by rw [Fan.const_at wf _ h, Fan.const_at wf _ (inWindow_symm wf h)],
    fun x hx => ⟨by
      rw [Tab.const_get _ _ hx]
      norm_num, makeFanSums_pos wf _ hdata hx⟩⟩

end StirVerif.C20
