import StirVerif.C20.ProofsGeoIndex
import StirVerif.C20.ProofsEff
/-! # C20 — `make_geo_data`, `apply_geo_norm`, `iterate_geo_norm` in closed form; the fixed point from the class structure

Beyond the index lemmas of `ProofsGeoIndex` (under `g.Fits d`) the value level needs of the class structure only `GeoClassOK`
(`geo_fixed_point_of_class`, thresholds of `find_max()/10000` included): nothing of `ProofsGeoSym` / `ProofsGeoStructure`. -/
namespace StirVerif.C20
-- the section-wide instance arguments are more than some lemmas of the section use
set_option linter.unusedSectionVars false

section values
variable {K : Type} [Field K] [DecidableEq K]

theorem geoMirrorSum_get_key {d : Dims} (wf : d.WF) (F : Fan K) {c : Key} (hc : c ∈ d.canon) :
    (geoMirrorSum d F).get (d.key c) = ((d.mirrorKeys c).map F.get).sum := by
  have h : geoMirrorSum d F = d.canon.foldl (fun W c => W.set (d.key c) (((d.mirrorKeys c).map F.get).sum)) {} := by
    unfold geoMirrorSum
    congr 1
    funext W c
    unfold Dims.mirrorKeys
    simp only [Fan.put, Fan.at, Dims.key]
    split
    · simp only [List.map_cons, List.map_nil, List.sum_cons, List.sum_nil]
      congr 1
      ring
    · simp only [List.map_cons, List.map_nil, List.sum_cons, List.sum_nil]
      congr 1
      ring
  rw [h]
  exact rmw_get d.key (fun c _ => ((d.mirrorKeys c).map F.get).sum) (canon_nodup d) (key_injOn_canon wf) {} hc

theorem makeGeo_eq (d : Dims) (g : GeoDims) (F : Fan K) :
    makeGeo d g F = (geoLoop d g).foldl (fun G c => (blockShifts d g).foldl (fun G sh =>
      if d.inDataK (geoShift d g c sh) then
        G.set (geoKey d g c) (G.get (geoKey d g c) + (geoMirrorSum d F).get (d.key (geoShift d g c sh)))
      else G) G) {} := rfl

theorem makeGeo_get {d : Dims} (wf : d.WF) {g : GeoDims} (fits : g.Fits d) (F : Fan K) :
    (∀ c ∈ geoLoop d g, (makeGeo d g F).get c = ((geoTermKeys d g c).map F.get).sum) ∧
      (∀ k, k ∉ geoLoop d g → (makeGeo d g F).get k = 0) := by
  have hkey : ∀ c ∈ geoLoop d g, geoKey d g c = c := fun c hc => (geoKey_eq wf fits hc).1
  rw [makeGeo_eq]
  constructor
  · intro c hc
    have hf := filter_key_eq (geoKey d g) (geoLoop_nodup d g) (fun c hc c' hc' h => by rwa [hkey c hc, hkey c' hc'] at h) hc
    rw [hkey c hc] at hf
    rw [acc_nested_get, hf, Fan.get_empty, zero_add, List.map_singleton, List.sum_singleton]
    unfold geoTermKeys
    rw [sum_map_flatMap]
    apply sum_map_congr
    intro sh hsh
    obtain ⟨hsh, hin⟩ := List.mem_filter.1 hsh
    obtain ⟨_, hcan, hkey, hin_iff⟩ := geoShift_spec wf fits hc hsh
    rw [hcan, ← hkey, geoMirrorSum_get_key wf F (hin_iff.1 hin)]
  · intro k hk
    rw [acc_nested_get, List.filter_eq_nil_iff.2 fun c hc => by
      rw [hkey c hc]
      simpa using fun h : c = k => hk (h ▸ hc), Fan.get_empty]
    simp

theorem geoWork_eq (d : Dims) (g : GeoDims) (geo : Fan K) :
    geoWork d g geo = (geoLoop d g).foldl (fun W c => (blockShifts d g).foldl (fun W sh =>
      (geoWriteTargets d g c sh).foldl (fun W t => W.set t (geo.get (geoKey d g c))) W) W) {} := by
  simp only [geoWriteTargets, List.foldl_append, apply_ite (List.foldl _ _), List.foldl_cons, List.foldl_nil]
  rfl

theorem geoWork_get (d : Dims) (g : GeoDims) (geo : Fan K) (t : Key)
    (h : ∃ c ∈ geoLoop d g, ∃ sh ∈ blockShifts d g, t ∈ geoWriteTargets d g c sh) :
    ∃ c ∈ geoLoop d g, (∃ sh ∈ blockShifts d g, t ∈ geoWriteTargets d g c sh) ∧ (geoWork d g geo).get t = geo.get (geoKey d g c) := by
  rw [geoWork_eq]
  exact nested_writes_get (geoLoop d g) (blockShifts d g) (geoWriteTargets d g) (fun c => geo.get (geoKey d g c)) t h

/-- `applyGeo_get_key` with the factor read off the work table at the element itself -/
theorem applyGeo_get_key_work {d : Dims} {g : GeoDims} (wf : d.WF) (F geo : Fan K) {c : Key} (hc : c ∈ d.canon) :
    (applyGeo d g F geo true).get (d.key c) = F.get (d.key c) * (geoWork d g geo).get (d.key c) := by
  rw [applyGeo_get_key wf F geo hc]
  unfold geoFactor Fan.at
  rw [← key_eq_storeKey_tmod wf hc]

theorem iterateGeo_eq [LinearOrder K] (d : Dims) (g : GeoDims) (measured model : Fan K) :
    iterateGeo d g measured model = (geoLoop d g).foldl (fun G c => G.set (geoKeyU g c)
      (ratioOrZero (findMax ((geoLoop d g).map fun c => measured.get (geoKeyU g c)) / 10000)
        (measured.get (geoKeyU g c)) (G.get (geoKeyU g c)))) (makeGeo d g model) := rfl

end values

section ordered
variable {K : Type} [Field K] [LinearOrder K] [IsStrictOrderedRing K]

theorem iterateGeo_get {d : Dims} (wf : d.WF) {g : GeoDims} (fits : g.Fits d) (measured model : Fan K) :
    (∀ c ∈ geoLoop d g, (iterateGeo d g measured model).get c =
      ratioOrZero (findMax ((geoLoop d g).map measured.get) / 10000) (measured.get c) ((makeGeo d g model).get c)) ∧
      (∀ k, k ∉ geoLoop d g → (iterateGeo d g measured model).get k = (makeGeo d g model).get k) := by
  classical
  have hthr : ((geoLoop d g).map fun c => measured.get (geoKeyU g c)) = (geoLoop d g).map measured.get :=
    List.map_congr_left fun c hc => by rw [(geoKey_eq wf fits hc).2]
  rw [iterateGeo_eq, hthr]
  constructor
  · intro c hc
    have := rmw_get (geoKeyU g)
      (fun c v => ratioOrZero (findMax ((geoLoop d g).map measured.get) / 10000) (measured.get (geoKeyU g c)) v)
      (geoLoop_nodup d g) (fun c₁ h₁ c₂ h₂ h => by rwa [(geoKey_eq wf fits h₁).2, (geoKey_eq wf fits h₂).2] at h)
      (makeGeo d g model) hc
    rwa [(geoKey_eq wf fits hc).2] at this
  · intro k hk
    exact rmwFold_get_of_ne (geoKeyU g)
      (fun c v => ratioOrZero (findMax ((geoLoop d g).map measured.get) / 10000) (measured.get (geoKeyU g c)) v) _ _
      (fun c hc h => hk (by
        rw [(geoKey_eq wf fits hc).2] at h
        exact h ▸ hc))

/-- The argument is told at `C20_geo_fixed_point`. -/
theorem geo_fixed_point_of_class {d : Dims} (wf : d.WF) {g : GeoDims} (fits : g.Fits d) (hclass : GeoClassOK d g)
    (model data : Fan K) (hpos : ∀ c ∈ d.canon, 0 < model.get (d.key c) ∧ 0 < data.get (d.key c)) (k : Key) :
    (iterateGeo d g (makeGeo d g (applyGeo d g model (iterateGeo d g (makeGeo d g data) model) true)) model).get k =
      (iterateGeo d g (makeGeo d g data) model).get k := by
  classical
  set ghat := iterateGeo d g (makeGeo d g data) model with hghat
  set data' := applyGeo d g model ghat true with hdata'
  obtain ⟨hg1, hg2⟩ := iterateGeo_get wf fits (makeGeo d g data) model
  obtain ⟨hs1, hs2⟩ := iterateGeo_get wf fits (makeGeo d g data') model
  by_cases hk : k ∈ geoLoop d g
  swap
  · rw [hs2 k hk, hg2 k hk]
  obtain ⟨hM, _⟩ := makeGeo_get wf fits data
  obtain ⟨hS, _⟩ := makeGeo_get wf fits model
  obtain ⟨hM', _⟩ := makeGeo_get wf fits data'
  -- every summed element is an allocated element with positive model and data
  have hterm_canon : ∀ c ∈ geoLoop d g, ∀ t ∈ geoTermKeys d g c, ∃ ct ∈ d.canon, d.key ct = t := by
    intro c hc t ht
    unfold geoTermKeys at ht
    obtain ⟨sh, hsh, ht⟩ := List.mem_flatMap.1 ht
    obtain ⟨hsh, hin⟩ := List.mem_filter.1 hsh
    obtain ⟨_, hcan, _, hin_iff⟩ := geoShift_spec wf fits hc hsh
    rw [hcan] at ht
    exact exists_canon_of_mirrorKeys wf (hin_iff.1 hin) t ht
  have hMnn : ∀ c ∈ geoLoop d g, 0 ≤ (makeGeo d g data).get c := by
    intro c hc
    rw [hM c hc]
    apply List.sum_nonneg
    intro v hv
    obtain ⟨t, ht, rfl⟩ := List.mem_map.1 hv
    obtain ⟨ct, hct, rfl⟩ := hterm_canon c hc t ht
    exact (hpos ct hct).2.le
  have hSnn : ∀ c ∈ geoLoop d g, 0 ≤ (makeGeo d g model).get c ∧ ((makeGeo d g model).get c = 0 → (makeGeo d g data).get c = 0) := by
    intro c hc
    rw [hS c hc, hM c hc]
    by_cases hnil : geoTermKeys d g c = []
    · rw [hnil]
      simp
    · have : 0 < ((geoTermKeys d g c).map model.get).sum :=
        list_sum_pos_of_pos _ _ hnil (fun t ht => by
          obtain ⟨ct, hct, rfl⟩ := hterm_canon c hc t ht
          exact (hpos ct hct).1)
      exact ⟨this.le, fun h => absurd h this.ne'⟩
  -- factors of one class agree
  have hperm : ∀ c ∈ geoLoop d g, ∀ c' ∈ geoLoop d g, (geoTermKeys d g c').Perm (geoTermKeys d g c) → ghat.get c' = ghat.get c := by
    intro c hc c' hc' hp
    rw [hg1 c hc, hg1 c' hc', hM c hc, hM c' hc', hS c hc, hS c' hc', (hp.map data.get).sum_eq, (hp.map model.get).sum_eq]
  -- the data generated from the estimate: class sums are `ĝ · S`
  have hM'eq : ∀ c ∈ geoLoop d g, (makeGeo d g data').get c = ghat.get c * (makeGeo d g model).get c := by
    intro c hc
    rw [hM' c hc, hS c hc, ← List.sum_map_mul_left]
    apply sum_map_congr
    intro t ht
    obtain ⟨ct, hct, hkt⟩ := hterm_canon c hc t ht
    obtain ⟨hex, hall⟩ := hclass c hc t ht
    obtain ⟨c', hc', hw, hv⟩ := geoWork_get d g ghat t hex
    rw [← hkt, hdata', applyGeo_get_key_work wf model ghat hct, hkt, hv, (geoKey_eq wf fits hc').1,
      hperm c hc c' hc' (hall c' hc' hw)]
    ring
  set thr := findMax ((geoLoop d g).map (makeGeo d g data).get) / 10000 with hthr
  set thr' := findMax ((geoLoop d g).map (makeGeo d g data').get) / 10000 with hthr'
  have hfix : ∀ c ∈ geoLoop d g, ∀ t' : K, t' ≤ thr →
      ratioOrZero t' (ghat.get c * (makeGeo d g model).get c) ((makeGeo d g model).get c) = ghat.get c ∧
        ghat.get c * (makeGeo d g model).get c ≤ (makeGeo d g data).get c := by
    intro c hc t' ht'
    rw [hg1 c hc]
    exact ratioOrZero_refixed thr t' _ _ (hMnn c hc) (hSnn c hc).1 (hSnn c hc).2 ht'
  have hle : thr' ≤ thr := by
    rw [hthr, hthr']
    apply div_le_div_of_nonneg_right _ (by norm_num : (0 : K) ≤ 10000)
    apply findMax_mono
    intro c hc
    rw [hM'eq c hc]
    exact (hfix c hc thr le_rfl).2
  rw [hs1 k hk, hM'eq k hk]
  exact (hfix k hk thr' hle).1

end ordered
end StirVerif.C20
