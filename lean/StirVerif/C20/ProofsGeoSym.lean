import StirVerif.C20.ProofsGeoIndex
import StirVerif.Common.IntDiv
/-! # C20 — the class structure of the geometric factors: block translations and the symmetries of the loop nest

For fitting dimensions (`T = 2·half ∣ N`, `A = acpb ∣ R`) the fan entries summed into the geometric factor `c` by `make_geo_data`
are the mirror images of the entries of `geoOrbit c`: the index tuples of the loop nest of the fan data that differ from `c` by a
lattice vector `(i·A, l·T, i·A, l·T)` (`mem_geoOrbit`).

The axial mirror image acts on index tuples as `sig0` (both detectors in one ring) and `sig t` (different rings; for `t = true` also
transaxially mirrored; *named from the other detector*, which is how it is stored).  These are symmetries of the loop nest (`LoopSym`). -/
namespace StirVerif.C20

/-- `x` and `y` differ by a whole number of axial blocks (both rings) and a whole number of transaxial blocks (both detectors) -/
def LatRel (g : GeoDims) (x y : Key) : Prop :=
  ∃ p q : Int, g.acpb ∣ p ∧ (g.half * 2) ∣ q ∧ x = (y.1 + p, y.2.1 + q, y.2.2.1 + p, y.2.2.2 + q)

theorem LatRel.refl (g : GeoDims) (x : Key) : LatRel g x x := ⟨0, 0, dvd_zero _, dvd_zero _, by simp⟩

theorem LatRel.symm {g : GeoDims} {x y : Key} (h : LatRel g x y) : LatRel g y x := by
  obtain ⟨p, q, hp, hq, rfl⟩ := h
  refine ⟨-p, -q, (dvd_neg).2 hp, (dvd_neg).2 hq, ?_⟩
  ext <;> simp

theorem LatRel.trans {g : GeoDims} {x y z : Key} (h : LatRel g x y) (h' : LatRel g y z) : LatRel g x z := by
  obtain ⟨p, q, hp, hq, rfl⟩ := h
  obtain ⟨p', q', hp', hq', rfl⟩ := h'
  refine ⟨p' + p, q' + q, dvd_add hp' hp, dvd_add hq' hq, ?_⟩
  ext <;> simp <;> ring

theorem lat_ring_diff {g : GeoDims} {x y : Key} (h : LatRel g x y) : x.2.2.1 - x.1 = y.2.2.1 - y.1 := by
  obtain ⟨p, q, _, _, rfl⟩ := h
  simp only
  omega

theorem multiple_small {k A : Int} (h0 : -A < k * A) (h1 : k * A < A) : k = 0 := by
  rw [Int.mul_comm] at h0 h1
  exact Common.eq_zero_of_mul_lt h0 h1

theorem block_number_bounds {i A c M : Int} (hA : 0 < A) (hc : 0 ≤ c ∧ c < A) (h0 : 0 ≤ c + i * A) (h1 : c + i * A < M * A) :
    0 ≤ i ∧ i ≤ M - 1 := by
  constructor
  · by_contra hneg
    have : i * A ≤ -1 * A := mul_le_mul_of_nonneg_right (by omega) hA.le
    omega
  · by_contra hbig
    have : M * A ≤ i * A := mul_le_mul_of_nonneg_right (by omega) hA.le
    omega

section
variable {d : Dims} {g : GeoDims}

/-- the index tuples of the loop nest of the fan data whose mirror images `make_geo_data` sums into the geometric factor `c` -/
def geoOrbit (d : Dims) (g : GeoDims) (c : Key) : List Key :=
  ((blockShifts d g).filter fun sh => d.inDataK (geoShift d g c sh)).map (geoShiftC g c)

theorem mem_geoOrbit_iff_shift (wf : d.WF) (fits : g.Fits d) {c : Key} (hc : c ∈ geoLoop d g) {x : Key} :
    x ∈ geoOrbit d g c ↔ ∃ sh ∈ blockShifts d g, geoShiftC g c sh ∈ d.canon ∧ geoShiftC g c sh = x := by
  unfold geoOrbit
  rw [List.mem_map]
  constructor
  · rintro ⟨sh, hsh, rfl⟩
    obtain ⟨hsh, hin⟩ := List.mem_filter.1 hsh
    exact ⟨sh, hsh, (geoShift_spec wf fits hc hsh).inData_iff.1 hin, rfl⟩
  · rintro ⟨sh, hsh, hv, rfl⟩
    exact ⟨sh, List.mem_filter.2 ⟨hsh, (geoShift_spec wf fits hc hsh).inData_iff.2 hv⟩, rfl⟩

theorem geoTermKeys_eq (wf : d.WF) (fits : g.Fits d) {c : Key} (hc : c ∈ geoLoop d g) :
    geoTermKeys d g c = (geoOrbit d g c).flatMap d.mirrorKeys := by
  unfold geoTermKeys geoOrbit
  rw [List.flatMap_map]
  apply List.flatMap_congr
  intro sh hsh
  rw [(geoShift_spec wf fits hc (List.mem_filter.1 hsh).1).canonOf_eq]

theorem geoOrbit_nodup (wf : d.WF) (fits : g.Fits d) {c : Key} (hc : c ∈ geoLoop d g) : (geoOrbit d g c).Nodup := by
  obtain ⟨hA, hH, _⟩ := geoLoop_facts wf fits hc
  unfold geoOrbit
  have hnd : (blockShifts d g).Nodup := (nodup_intRange _ _).product (nodup_intRange _ _)
  refine List.Nodup.map_on ?_ (hnd.filter _)
  intro sh _ sh' _ h
  unfold geoShiftC at h
  simp only [Prod.mk.injEq] at h
  have h1 : sh.1 = sh'.1 := by
    have : sh.1 * g.acpb = sh'.1 * g.acpb := by omega
    exact mul_right_cancel₀ hA.ne' this
  have h2 : sh.2 = sh'.2 := by
    have : sh.2 * (g.half * 2) = sh'.2 * (g.half * 2) := by omega
    exact mul_right_cancel₀ (by omega : g.half * 2 ≠ 0) this
  exact Prod.ext h1 h2

theorem mem_geoOrbit (wf : d.WF) (fits : g.Fits d) {c : Key} (hc : c ∈ geoLoop d g) {x : Key} :
    x ∈ geoOrbit d g c ↔ x ∈ d.canon ∧ LatRel g x c := by
  obtain ⟨hA, hH, _⟩ := geoLoop_facts wf fits hc
  obtain ⟨⟨h1, h2⟩, ⟨h3, h4⟩, _⟩ := mem_geoLoop.1 hc
  rw [mem_geoOrbit_iff_shift wf fits hc]
  constructor
  · rintro ⟨sh, hsh, hv, rfl⟩
    exact ⟨hv, sh.1 * g.acpb, sh.2 * (g.half * 2), dvd_mul_left _ _, dvd_mul_left _ _, rfl⟩
  · rintro ⟨hx, p, q, ⟨i, rfl⟩, ⟨l, rfl⟩, rfl⟩
    rw [mul_comm g.acpb i, mul_comm (g.half * 2) l] at hx ⊢
    obtain ⟨⟨x1, x2⟩, ⟨x3, x4⟩, _⟩ := mem_canon.1 hx
    simp only at x1 x2 x3 x4
    have hi := block_number_bounds hA ⟨h1, by omega⟩ x1 (by
      rw [Int.tdiv_mul_cancel fits.hA]
      omega)
    have hl := block_number_bounds (by omega : 0 < g.half * 2) ⟨h3, by omega⟩ x3 (by
      rw [Int.tdiv_mul_cancel fits.hT]
      omega)
    have hsh : (i, l) ∈ blockShifts d g := mem_blockShifts.2 ⟨hi, hl⟩
    exact ⟨(i, l), hsh, hx, rfl⟩

end

/-- axial mirror image of an in-ring entry -/
def Dims.sig0 (d : Dims) (x : Key) : Key := (d.R - 1 - x.1, x.2.1, d.R - 1 - x.2.2.1, x.2.2.2)

def Dims.mirT (d : Dims) (t : Bool) (a : Int) : Int := if t then d.N - 1 - a else a

/-- axial mirror image (`t = false`) / axial and transaxial mirror image (`t = true`) of a cross-ring entry, named from the other
detector (first ring ≤ second ring).  The last index is `liftB` of the first detector seen from the second (`liftB_swap`,
`sig_eq`); the explicit form is the one the lattice argument needs. -/
def Dims.sig (d : Dims) (t : Bool) (x : Key) : Key :=
  (d.R - 1 - x.2.2.1, d.mirT t (Int.tmod x.2.2.2 d.N), d.R - 1 - x.1,
    if t then d.N - 1 - Int.tmod x.2.2.2 d.N + (x.2.2.2 - x.2.1) else Int.tmod x.2.2.2 d.N + d.N - (x.2.2.2 - x.2.1))

section
variable {d : Dims}

theorem sig0_canon {x : Key} (hx : x ∈ d.canon) (hr : x.1 = x.2.2.1) : d.sig0 x ∈ d.canon := by
  obtain ⟨h1, h2, h3, h4, h5, h6, h7, h8⟩ := canon_lin hx
  apply mem_canon_lin
  all_goals
    unfold Dims.sig0
    simp only
    omega

theorem sig0_sig0 (d : Dims) (x : Key) : d.sig0 (d.sig0 x) = x := by
  unfold Dims.sig0
  ext <;> simp

theorem mirT_mirT (d : Dims) (t : Bool) (a : Int) : d.mirT t (d.mirT t a) = a := by
  cases t <;> simp [Dims.mirT]

theorem sig_eq (wf : d.WF) {x : Key} (hx : x ∈ d.canon) (t : Bool) :
    d.sig t x = d.canonOf (d.R - 1 - x.2.2.1, d.mirT t (Int.tmod x.2.2.2 d.N), d.R - 1 - x.1, d.mirT t x.2.1) := by
  obtain ⟨_, hfan, hl⟩ := fan_tmod wf (canon_dets hx).1 (canon_dets hx).2
  obtain ⟨s1, s2⟩ := liftB_swap wf hfan
  cases t
  · simp only [Dims.sig, Dims.canonOf, Dims.mirT, Bool.false_eq_true, if_false]
    rw [s1, hl]
  · simp only [Dims.sig, Dims.canonOf, Dims.mirT, if_true]
    rw [s2, hl]

theorem sig_inWindow (wf : d.WF) {x : Key} (hx : x ∈ d.canon) (t : Bool) :
    d.inWindow (d.R - 1 - x.2.2.1) (d.mirT t (Int.tmod x.2.2.2 d.N)) (d.R - 1 - x.1) (d.mirT t x.2.1) := by
  have hw := inWindow_mirror_a (inWindow_symm wf (inWindow_of_mem_canon wf hx).1)
  cases t
  · exact hw
  · exact inWindow_mirror_t wf hw

theorem sig_canon (wf : d.WF) {x : Key} (hx : x ∈ d.canon) (t : Bool) : d.sig t x ∈ d.canon := by
  have hle := (canon_rings hx).2.1
  rw [sig_eq wf hx]
  exact (canonOf_mem_key wf (sig_inWindow wf hx t) (by omega)).1

theorem sig_tmod (wf : d.WF) {x : Key} (hx : x ∈ d.canon) (t : Bool) :
    Int.tmod (d.sig t x).2.2.2 d.N = d.mirT t x.2.1 := by
  have hw := sig_inWindow wf hx t
  rw [sig_eq wf hx]
  exact (liftB_spec hw.det_b hw.fan).2

theorem sig_sig (wf : d.WF) {x : Key} (hx : x ∈ d.canon) (t : Bool) : d.sig t (d.sig t x) = x := by
  rw [sig_eq wf (sig_canon wf hx t), sig_tmod wf hx t]
  show d.canonOf (d.R - 1 - (d.R - 1 - x.1), d.mirT t (d.mirT t x.2.1), d.R - 1 - (d.R - 1 - x.2.2.1),
    d.mirT t (d.mirT t (Int.tmod x.2.2.2 d.N))) = x
  rw [sub_sub_cancel, sub_sub_cancel, mirT_mirT, mirT_mirT]
  exact canonOf_tmod wf hx

/-- the element of `sig t x` selected by the flags `st ss` is the element of `x` with the transaxial flag changed by `t` and the
axial flag reversed (the pair is the same, named the other way round: the rings differ) -/
theorem Kb_sig (wf : d.WF) {x : Key} (hx : x ∈ d.canon) (hr : x.1 < x.2.2.1) (t st ss : Bool) :
    d.Kb (d.sig t x) st ss = d.Kb x (xor st t) (!ss) := by
  obtain ⟨k, hw⟩ := Kb_spec wf (sig_canon wf hx t) st ss
  obtain ⟨k', _⟩ := Kb_spec wf hx (xor st t) (!ss)
  rw [sig_tmod wf hx t] at k hw
  have hne : (if ss then d.R - 1 - (d.sig t x).1 else (d.sig t x).1) ≠
      if ss then d.R - 1 - (d.sig t x).2.2.1 else (d.sig t x).2.2.1 := by
    cases ss
    all_goals
      simp only [Dims.sig, if_true, if_false, Bool.false_eq_true]
      omega
  rw [k, k', storeKey_symm d hne hw.det_a hw.det_b]
  -- the eight combinations of the three flags: both sides are the same `storeKey` once `sig` and `mirT` are unfolded
  cases t <;> cases st <;> cases ss <;> simp [Dims.sig, Dims.mirT]

theorem fourTerms_cross (d : Dims) {ra rb : Int} (h : ra ≠ rb) : d.fourTerms ra rb = true := by
  unfold Dims.fourTerms
  simp only [Bool.or_eq_true, bne_iff_ne, ne_eq]
  omega

theorem Kb_sig0 (d : Dims) (x : Key) (st ss : Bool) : d.Kb (d.sig0 x) st ss = d.Kb x st (!ss) := by
  cases ss <;> simp [Dims.Kb, Dims.sig0]

theorem mirrorKeys_sig0 (d : Dims) (x : Key) : (d.mirrorKeys (d.sig0 x)).Perm (d.mirrorKeys x) := by
  have hf : d.fourTerms (d.sig0 x).1 (d.sig0 x).2.2.1 = d.fourTerms x.1 x.2.2.1 := by
    unfold Dims.sig0 Dims.fourTerms
    simp only
    rw [sub_sub_cancel, sub_sub_cancel, bne_comm, bne_comm (a := d.R - 1 - x.2.2.1)]
  rw [mirrorKeys_eq, mirrorKeys_eq, hf]
  simp only [Kb_sig0, Bool.not_false, Bool.not_true]
  split
  · exact (List.perm_append_comm (l₁ := [d.Kb x false true, d.Kb x true true]) (l₂ := [d.Kb x false false, d.Kb x true false]))
  · rename_i hft
    -- the LOR is its own axial mirror image
    have : d.fourTerms x.1 x.2.2.1 = false := by simpa using hft
    unfold Dims.fourTerms at this
    simp only [Bool.or_eq_false_iff, bne_eq_false_iff_eq] at this
    unfold Dims.Kb
    simp only [if_true, if_false, Bool.false_eq_true, ← this.1, ← this.2]
    exact List.Perm.refl _

theorem mirrorKeys_sig (wf : d.WF) {x : Key} (hx : x ∈ d.canon) (hr : x.1 < x.2.2.1) (t : Bool) :
    (d.mirrorKeys (d.sig t x)).Perm (d.mirrorKeys x) := by
  have h := fun st ss => Kb_sig wf hx hr t st ss
  rw [mirrorKeys_eq, mirrorKeys_eq, fourTerms_cross d (by omega : x.1 ≠ x.2.2.1),
    fourTerms_cross d (by
      show d.R - 1 - x.2.2.1 ≠ d.R - 1 - x.1
      omega : (d.sig t x).1 ≠ (d.sig t x).2.2.1)]
  show [d.Kb (d.sig t x) false false, d.Kb (d.sig t x) true false, d.Kb (d.sig t x) false true, d.Kb (d.sig t x) true true].Perm _
  rw [h, h, h, h]
  cases t
  · exact (List.perm_append_comm (l₁ := [d.Kb x false true, d.Kb x true true]) (l₂ := [d.Kb x false false, d.Kb x true false]))
  · exact (List.reverse_perm [d.Kb x false false, d.Kb x true false, d.Kb x false true, d.Kb x true true])

theorem sig0_lat {g : GeoDims} {x y : Key} (h : LatRel g x y) : LatRel g (d.sig0 x) (d.sig0 y) := by
  obtain ⟨p, q, hp, hq, rfl⟩ := h
  refine ⟨-p, q, (dvd_neg).2 hp, hq, ?_⟩
  unfold Dims.sig0
  ext <;> simp <;> ring

theorem tmod_lat (wf : d.WF) {g : GeoDims} (hT : (g.half * 2) ∣ d.N) {x y : Key} (hx : x ∈ d.canon) (hy : y ∈ d.canon) {p q : Int}
    (hq : (g.half * 2) ∣ q) (h : x = (y.1 + p, y.2.1 + q, y.2.2.1 + p, y.2.2.2 + q)) :
    ∃ q', (g.half * 2) ∣ q' ∧ Int.tmod (y.2.2.2 + q) d.N = Int.tmod y.2.2.2 d.N + q' := by
  have h9 := canon_tmod wf hx
  have g9 := canon_tmod wf hy
  subst h
  simp only at h9
  rcases h9 with ⟨a1, _⟩ | ⟨a1, _⟩ <;> rcases g9 with ⟨a2, _⟩ | ⟨a2, _⟩
  · exact ⟨q, hq, by omega⟩
  · exact ⟨q + d.N, dvd_add hq hT, by omega⟩
  · exact ⟨q - d.N, dvd_sub hq hT, by omega⟩
  · exact ⟨q, hq, by omega⟩

theorem sig_lat (wf : d.WF) {g : GeoDims} (hT : (g.half * 2) ∣ d.N) {x y : Key} (hx : x ∈ d.canon) (hy : y ∈ d.canon)
    (h : LatRel g x y) (t : Bool) : LatRel g (d.sig t x) (d.sig t y) := by
  obtain ⟨p, q, hp, hq, h⟩ := h
  obtain ⟨q', hq', he⟩ := tmod_lat wf hT hx hy hq h
  subst h
  cases t
  · refine ⟨-p, q', (dvd_neg).2 hp, hq', ?_⟩
    simp only [Dims.sig, Dims.mirT, he, Prod.mk.injEq, Bool.false_eq_true, if_false]
    refine ⟨by ring, trivial, by ring, by ring⟩
  · refine ⟨-p, -q', (dvd_neg).2 hp, (dvd_neg).2 hq', ?_⟩
    simp only [Dims.sig, Dims.mirT, he, Prod.mk.injEq, if_true]
    refine ⟨by ring, by ring, by ring, by ring⟩

/-- a symmetry of the loop nest of the fan data on the entries whose ring difference has property `P` (a block translation does not
change the ring difference: `lat_ring_diff`): an involution that respects the lattice of block translations and permutes the elements
that `make_geo_data` reads for an entry -/
structure LoopSym (d : Dims) (g : GeoDims) (P : Int → Prop) (γ : Key → Key) : Prop where
  canon : ∀ x ∈ d.canon, P (x.2.2.1 - x.1) →
    γ x ∈ d.canon ∧ P ((γ x).2.2.1 - (γ x).1) ∧ γ (γ x) = x ∧ (d.mirrorKeys (γ x)).Perm (d.mirrorKeys x)
  lat : ∀ x ∈ d.canon, ∀ y ∈ d.canon, P (x.2.2.1 - x.1) → LatRel g x y → LatRel g (γ x) (γ y)

theorem loopSym_id (d : Dims) (g : GeoDims) : LoopSym d g (fun _ => True) id :=
  ⟨fun _ hx _ => ⟨hx, trivial, rfl, List.Perm.refl _⟩, fun _ _ _ _ _ h => h⟩

theorem loopSym_sig0 (d : Dims) (g : GeoDims) : LoopSym d g (· = 0) d.sig0 where
  canon x hx hP := by
    refine ⟨sig0_canon hx (by omega), ?_, sig0_sig0 d x, mirrorKeys_sig0 d x⟩
    show d.R - 1 - x.2.2.1 - (d.R - 1 - x.1) = 0
    omega
  lat _ _ _ _ _ hxy := sig0_lat hxy

theorem loopSym_sig (wf : d.WF) {g : GeoDims} (hT : (g.half * 2) ∣ d.N) (t : Bool) : LoopSym d g (0 < ·) (d.sig t) where
  canon x hx hP := by
    refine ⟨sig_canon wf hx t, ?_, sig_sig wf hx t, mirrorKeys_sig wf hx (by omega) t⟩
    show 0 < d.R - 1 - x.1 - (d.R - 1 - x.2.2.1)
    omega
  lat x hx y hy _ hxy := sig_lat wf hT hx hy hxy t

end
end StirVerif.C20
