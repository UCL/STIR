import StirVerif.C20.Model
import Mathlib.Analysis.SpecialFunctions.Log.Basic
import Mathlib.Algebra.BigOperators.Group.Finset.Basic
import Mathlib.Algebra.Order.BigOperators.Group.Finset
import Mathlib.Tactic.Ring
import Mathlib.Tactic.Linarith
import Mathlib.Tactic.FieldSimp
/-! # C20 — the efficiency update is exact coordinate descent of the Kullback-Leibler distance

Abstract formulation over `ℝ`: detectors are an arbitrary finite type `ι`, `y a b` the (symmetric) data and `m a b` the
(symmetric) model of the detector pair `{a,b}`, `0` for pairs outside the fan window.  The distance is summed over ordered
pairs, i.e. every detector pair counts twice — a constant factor.  `kl0` is the model's `klTerm` (the C++ `KL(a, b, 0)`)
with `log := Real.log`.  `effUpdate` is the assignment of `iterate_efficiencies` to one detector with the *current* values
of all the others (the loop is in place), `effSweep` a sequence of such assignments. -/
namespace StirVerif.C20
-- the section-wide instance arguments are more than some lemmas of the section use
set_option linter.unusedSectionVars false
open Finset

/-- `KL(a, b, 0)` of `ML_norm.h` over the reals -/
noncomputable def kl0 (a b : ℝ) : ℝ := klTerm Real.log a b 0

theorem kl0_of_nonpos {a : ℝ} (ha : a ≤ 0) (b : ℝ) : kl0 a b = b := by
  unfold kl0 klTerm
  simp [not_lt.2 ha]

theorem kl0_of_pos {a : ℝ} (ha : 0 < a) (b : ℝ) : kl0 a b = a * (Real.log a - Real.log b) + b - a := by
  unfold kl0 klTerm
  simp [ha]

section
variable {ι : Type} [Fintype ι] [DecidableEq ι]

def fanSumR (y : ι → ι → ℝ) (k : ι) : ℝ := ∑ b, y k b
def denomR (m : ι → ι → ℝ) (ε : ι → ℝ) (k : ι) : ℝ := ∑ b, ε b * m k b

/-- one assignment of `iterate_efficiencies`: `ε_k ← fan_sum_k == 0 ? 0 : fan_sum_k / Σ_b ε_b·m_kb` -/
noncomputable def effUpdate (y m : ι → ι → ℝ) (ε : ι → ℝ) (k : ι) : ι → ℝ :=
  Function.update ε k (if fanSumR y k = 0 then 0 else fanSumR y k / denomR m ε k)

noncomputable def effSweep (y m : ι → ι → ℝ) (ε : ι → ℝ) (l : List ι) : ι → ℝ := l.foldl (effUpdate y m) ε

noncomputable def klObjective (y m : ι → ι → ℝ) (ε : ι → ℝ) : ℝ := ∑ a, ∑ b, kl0 (y a b) (ε a * ε b * m a b)

/-- what the descent needs of data `y` and model `m`: non-negative and symmetric; nothing on the diagonal (a detector is not in its own
fan: `not_win_self`); data only where the model is positive (`supp`: else `log` of the model term is not controlled) -/
structure PairData (y m : ι → ι → ℝ) : Prop where
  y_nonneg : ∀ a b, 0 ≤ y a b
  m_nonneg : ∀ a b, 0 ≤ m a b
  y_symm : ∀ a b, y a b = y b a
  m_symm : ∀ a b, m a b = m b a
  y_diag : ∀ a, y a a = 0
  m_diag : ∀ a, m a a = 0
  supp : ∀ a b, 0 < y a b → 0 < m a b

theorem sum_cross (δ : ι → ι → ℝ) (k : ι) (h0 : ∀ a b, a ≠ k → b ≠ k → δ a b = 0) (hs : ∀ a, δ a k = δ k a) (hkk : δ k k = 0) :
    ∑ a, ∑ b, δ a b = 2 * ∑ b, δ k b := by
  -- row `k`, and of every other row its entry in column `k`
  rw [← Finset.add_sum_erase univ _ (mem_univ k), two_mul]
  congr 1
  rw [← Finset.add_sum_erase univ (δ k) (mem_univ k), hkk, zero_add]
  refine Finset.sum_congr rfl fun a ha => ?_
  rw [← hs a]
  exact Finset.sum_eq_single k (fun b _ hb => h0 a b (Finset.ne_of_mem_erase ha) hb) fun h => absurd (mem_univ k) h

theorem kl0_diff {yv c t t' : ℝ} (hy : 0 ≤ yv) (hsupp : 0 < yv → 0 < c) (ht : 0 < t) (ht' : 0 < yv → 0 < t') :
    kl0 yv (t' * c) - kl0 yv (t * c) = -yv * (Real.log t' - Real.log t) + (t' - t) * c := by
  rcases hy.eq_or_lt with h | h
  · rw [← h, kl0_of_nonpos le_rfl, kl0_of_nonpos le_rfl]
    ring
  · have hc' := hsupp h
    have ht'' := ht' h
    rw [kl0_of_pos h, kl0_of_pos h, Real.log_mul ht''.ne' hc'.ne', Real.log_mul ht.ne' hc'.ne']
    ring

theorem denomR_pos {y m : ι → ι → ℝ} (P : PairData y m) {ε : ι → ℝ} (hε : ∀ a, 0 < ε a) {k : ι} (hS : 0 < fanSumR y k) :
    0 < denomR m ε k := by
  obtain ⟨b, hb, hyb⟩ := (Finset.sum_pos_iff_of_nonneg fun b _ => P.y_nonneg k b).1 hS
  exact Finset.sum_pos' (fun b _ => mul_nonneg (hε b).le (P.m_nonneg k b)) ⟨b, hb, mul_pos (hε b) (P.supp k b hyb)⟩

theorem effUpdate_pos {y m : ι → ι → ℝ} (P : PairData y m) {ε : ι → ℝ} (hε : ∀ a, 0 < ε a) {k : ι} (hS : 0 < fanSumR y k) :
    ∀ a, 0 < effUpdate y m ε k a := by
  intro a
  unfold effUpdate
  by_cases ha : a = k
  · subst ha
    simp only [Function.update_self, hS.ne', if_false]
    exact div_pos hS (denomR_pos P hε hS)
  · rw [Function.update_of_ne ha]
    exact hε a

theorem effUpdate_descends {y m : ι → ι → ℝ} (P : PairData y m) {ε : ι → ℝ} (hε : ∀ a, 0 < ε a) (k : ι) :
    klObjective y m (effUpdate y m ε k) ≤ klObjective y m ε := by
  set S := fanSumR y k with hSdef
  set D := denomR m ε k with hDdef
  set t' : ℝ := if S = 0 then 0 else S / D with ht'def
  set ε' := effUpdate y m ε k with hε'def
  have hε'k : ε' k = t' := by simp [hε'def, effUpdate, ht'def, hSdef, hDdef]
  have hε'ne : ∀ a, a ≠ k → ε' a = ε a := by
    intro a ha
    simp [hε'def, effUpdate, Function.update_of_ne ha]
  have hS0 : 0 ≤ S := Finset.sum_nonneg fun b _ => P.y_nonneg k b
  have hD0 : 0 ≤ D := Finset.sum_nonneg fun b _ => mul_nonneg (hε b).le (P.m_nonneg k b)
  let δ : ι → ι → ℝ := fun a b => kl0 (y a b) (ε' a * ε' b * m a b) - kl0 (y a b) (ε a * ε b * m a b)
  have hdiff : klObjective y m ε' - klObjective y m ε = ∑ a, ∑ b, δ a b := by
    unfold klObjective
    rw [← Finset.sum_sub_distrib]
    exact Finset.sum_congr rfl fun a _ => by rw [← Finset.sum_sub_distrib]
  have h0 : ∀ a b, a ≠ k → b ≠ k → δ a b = 0 := by
    intro a b ha hb
    simp only [δ, hε'ne a ha, hε'ne b hb, sub_self]
  have hs : ∀ a, δ a k = δ k a := by
    intro a
    simp only [δ]
    rw [P.y_symm a k, P.m_symm a k, mul_comm (ε' a) (ε' k), mul_comm (ε a) (ε k)]
  have hkk : δ k k = 0 := by
    simp only [δ, P.m_diag k, mul_zero, sub_self]
  rw [← sub_nonpos, hdiff, sum_cross δ k h0 hs hkk]
  have ht'pos : 0 < S → 0 < t' := fun hS => hε'k ▸ effUpdate_pos P hε hS k
  have hrow : ∀ b, δ k b = -(y k b) * (Real.log t' - Real.log (ε k)) + (t' - ε k) * (ε b * m k b) := by
    intro b
    by_cases hb : b = k
    · subst hb
      rw [hkk, P.y_diag, P.m_diag]
      ring
    · simp only [δ, hε'k, hε'ne b hb]
      have hypos : 0 < y k b → 0 < t' := fun h =>
        ht'pos (lt_of_lt_of_le h (Finset.single_le_sum (f := fun b => y k b) (fun b _ => P.y_nonneg k b) (Finset.mem_univ b)))
      have := kl0_diff (yv := y k b) (c := ε b * m k b) (t := ε k) (t' := t') (P.y_nonneg k b)
        (fun h => mul_pos (hε b) (P.supp k b h)) (hε k) hypos
      rw [show t' * ε b * m k b = t' * (ε b * m k b) by ring, show ε k * ε b * m k b = ε k * (ε b * m k b) by ring]
      exact this
  have hsum : ∑ b, δ k b = -S * (Real.log t' - Real.log (ε k)) + (t' - ε k) * D := by
    simp_rw [hrow]
    rw [Finset.sum_add_distrib, ← Finset.sum_mul, ← Finset.mul_sum, Finset.sum_neg_distrib]
    rfl
  rw [hsum]
  -- the scalar inequality: `log u ≤ u - 1` at `u = ε_k / t'`, the ratio of the old to the new value
  suffices hmain : -S * (Real.log t' - Real.log (ε k)) + (t' - ε k) * D ≤ 0 by linarith
  rcases hS0.eq_or_lt with hS | hS
  · -- dead detector: efficiency 0
    have ht' : t' = 0 := by simp [ht'def, ← hS]
    rw [ht', ← hS]
    have := mul_nonneg (hε k).le hD0
    linarith
  · have hD : 0 < D := denomR_pos P hε hS
    have ht' : t' = S / D := by simp [ht'def, hS.ne']
    have hlog := Real.log_le_sub_one_of_pos (div_pos (hε k) (ht'pos hS))
    rw [Real.log_div (hε k).ne' (ht'pos hS).ne'] at hlog
    have h2 := mul_le_mul_of_nonneg_left hlog hS.le
    have h3 : S * (ε k / t' - 1) = (ε k - t') * D := by
      rw [ht']
      field_simp
    linarith

end
end StirVerif.C20
