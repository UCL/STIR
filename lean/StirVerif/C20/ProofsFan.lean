import StirVerif.C20.ProofsStore
import StirVerif.C20.ProofsGap
/-! # C20 — projection data → fan data → projection data (`make_fan_data_remove_gaps`, `set_fan_data_add_gaps`) -/
namespace StirVerif.C20
-- the section-wide instance arguments are more than some lemmas of the section use
set_option linter.unusedSectionVars false

def DetPair.swap (p : DetPair) : DetPair := ⟨p.b, p.rb, p.a, p.ra⟩

def swapKey (c : Key) : Key := (c.2.2.1, c.2.2.2, c.1, c.2.1)

theorem newCoords_eq_some_iff (s : Scn) (p : DetPair) (c : Key) :
    newCoords s p = some c ↔
      isVirtual p.a s.tcpb s.vt = false ∧ isVirtual p.ra s.acpb s.va = false ∧ isVirtual p.b s.tcpb s.vt = false ∧
        isVirtual p.rb s.acpb s.va = false ∧
        c = (removeGap p.ra s.acpb s.va, removeGap p.a s.tcpb s.vt, removeGap p.rb s.acpb s.va, removeGap p.b s.tcpb s.vt) := by
  simp only [newCoords, Option.ite_none_left_eq_some, Option.some.injEq, Bool.not_eq_true, eq_comm (a := c)]

theorem newCoords_eq_none_iff (s : Scn) (p : DetPair) :
    newCoords s p = none ↔
      (isVirtual p.a s.tcpb s.vt = true ∨ isVirtual p.ra s.acpb s.va = true ∨ isVirtual p.b s.tcpb s.vt = true ∨
        isVirtual p.rb s.acpb s.va = true) := by
  rw [← Option.not_isSome_iff_eq_none, Option.isSome_iff_exists]
  simp only [newCoords_eq_some_iff, exists_and_left, exists_eq, and_true, not_and_or, Bool.not_eq_false]

theorem newCoords_swap (s : Scn) (p : DetPair) (c : Key) (h : newCoords s p = some c) :
    newCoords s p.swap = some (swapKey c) := by
  obtain ⟨h1, h2, h3, h4, rfl⟩ := (newCoords_eq_some_iff s p c).1 h
  exact (newCoords_eq_some_iff s p.swap _).2 ⟨h3, h4, h1, h2, rfl⟩

/-- a scanner whose blocks have at least one physical crystal each way -/
structure Scn.WF (s : Scn) : Prop where
  hvt : 0 ≤ s.vt ∧ s.vt < s.tcpb
  hva : 0 ≤ s.va ∧ s.va < s.acpb

instance (s : Scn) : Decidable s.WF :=
  decidable_of_iff ((0 ≤ s.vt ∧ s.vt < s.tcpb) ∧ (0 ≤ s.va ∧ s.va < s.acpb)) ⟨fun ⟨a, b⟩ => ⟨a, b⟩, fun ⟨a, b⟩ => ⟨a, b⟩⟩

def DetPair.nonneg (p : DetPair) : Prop := 0 ≤ p.a ∧ 0 ≤ p.ra ∧ 0 ≤ p.b ∧ 0 ≤ p.rb

instance (p : DetPair) : Decidable p.nonneg := by unfold DetPair.nonneg; infer_instance

theorem newCoords_injective {s : Scn} (ws : s.WF) {p p' : DetPair} (hp : p.nonneg) (hp' : p'.nonneg) {c : Key}
    (h : newCoords s p = some c) (h' : newCoords s p' = some c) : p = p' := by
  obtain ⟨h1, h2, h3, h4, e⟩ := (newCoords_eq_some_iff s p c).1 h
  obtain ⟨g1, g2, g3, g4, e'⟩ := (newCoords_eq_some_iff s p' c).1 h'
  rw [e] at e'
  simp only [Prod.mk.injEq] at e'
  obtain ⟨e1, e2, e3, e4⟩ := e'
  obtain ⟨a, ra, b, rb⟩ := p
  obtain ⟨a', ra', b', rb'⟩ := p'
  obtain ⟨n1, n2, n3, n4⟩ := hp
  obtain ⟨m1, m2, m3, m4⟩ := hp'
  simp only at *
  have := removeGap_injective_on_physical n1 m1 ws.hvt.1 ws.hvt.2 h1 g1 e2
  have := removeGap_injective_on_physical n2 m2 ws.hva.1 ws.hva.2 h2 g2 e1
  have := removeGap_injective_on_physical n3 m3 ws.hvt.1 ws.hvt.2 h3 g3 e4
  have := removeGap_injective_on_physical n4 m4 ws.hva.1 ws.hva.2 h4 g4 e3
  subst_vars
  rfl

section
variable {K : Type} [OfNat K 0]

/-- the two writes of one bin (`fan_data(new_rb,new_b,new_ra,new_a)` is assigned first) -/
def fanWrites (s : Scn) (d : Dims) (pv : DetPair × K) : List (Key × K) :=
  match newCoords s pv.1 with
  | none => []
  | some c => [(d.key (swapKey c), pv.2), (d.key c, pv.2)]

theorem mem_fanWrites {s : Scn} {d : Dims} {pv : DetPair × K} {w : Key × K} :
    w ∈ fanWrites s d pv ↔ ∃ c, newCoords s pv.1 = some c ∧ (w = (d.key (swapKey c), pv.2) ∨ w = (d.key c, pv.2)) := by
  unfold fanWrites
  cases newCoords s pv.1 <;> simp

theorem makeFan_eq_writes (s : Scn) (d : Dims) (bins : List (DetPair × K)) (F : Fan K) :
    bins.foldl (makeFanStep s d) F = (bins.flatMap (fanWrites s d)).foldl (fun F w => F.set w.1 w.2) F := by
  rw [List.foldl_flatMap]
  congr 1
  funext F pv
  unfold makeFanStep fanWrites
  cases newCoords s pv.1 <;> rfl

/-- **each fan entry is the value of the bin that the geometry assigns to that detector pair**: after
`make_fan_data_remove_gaps`, `fan_data(new_ra,new_a,new_rb,new_b)` — and `fan_data(new_rb,new_b,new_ra,new_a)` — hold the
value of the bin, provided the physical detector pairs are inside the window (`hwin`) and no other bin of the loop is the same
unordered physical pair with a different value (`hinj`: the detector-pair ↔ bin map is a bijection, property C01). -/
theorem makeFan_at {d : Dims} (wf : d.WF) (s : Scn) (bins : List (DetPair × K))
    (hwin : ∀ pv ∈ bins, ∀ c, newCoords s pv.1 = some c → d.inWindow c.1 c.2.1 c.2.2.1 c.2.2.2)
    (hinj : ∀ pv ∈ bins, ∀ pv' ∈ bins, ∀ c c', newCoords s pv.1 = some c → newCoords s pv'.1 = some c' →
      (c' = c ∨ c' = swapKey c) → pv'.2 = pv.2)
    {pv : DetPair × K} (hpv : pv ∈ bins) {c : Key} (hc : newCoords s pv.1 = some c) :
    (makeFan s d bins).get (d.key c) = pv.2 ∧ (makeFan s d bins).get (d.key (swapKey c)) = pv.2 := by
  -- the element holds the value of one of its writers, and every writer is the same unordered pair
  have hget : ∀ c₀, (c₀ = c ∨ c₀ = swapKey c) → (makeFan s d bins).get (d.key c₀) = pv.2 := by
    intro c₀ hc₀
    have hw₀ : d.inWindow c₀.1 c₀.2.1 c₀.2.2.1 c₀.2.2.2 := by
      rcases hc₀ with rfl | rfl
      · exact hwin pv hpv c₀ hc
      · exact inWindow_symm wf (hwin pv hpv c hc)
    have hex : ∃ w ∈ bins.flatMap (fanWrites s d), w.1 = d.key c₀ :=
      ⟨(d.key c₀, pv.2), List.mem_flatMap.2 ⟨pv, hpv, mem_fanWrites.2 ⟨c, hc, by rcases hc₀ with rfl | rfl <;> simp⟩⟩, rfl⟩
    unfold makeFan
    rw [makeFan_eq_writes]
    obtain ⟨w, hw, hk, hv⟩ := writes_get Prod.fst Prod.snd _ _ hex
    obtain ⟨pv', hpv', hw'⟩ := List.mem_flatMap.1 hw
    obtain ⟨c', hc', hw1⟩ := mem_fanWrites.1 hw'
    have hwc' := hwin pv' hpv' c' hc'
    have hrel : w.2 = pv'.2 ∧ (c' = c₀ ∨ c' = swapKey c₀) := by
      rcases hw1 with rfl | rfl
      · rcases (storeKey_eq_iff wf (inWindow_symm wf hwc') hw₀).1 hk with ⟨e1, e2, e3, e4⟩ | ⟨_, e1, e2, e3, e4⟩
        · exact ⟨rfl, Or.inr (Prod.ext e3.symm (Prod.ext e4.symm (Prod.ext e1.symm e2.symm)))⟩
        · exact ⟨rfl, Or.inl (Prod.ext e1.symm (Prod.ext e2.symm (Prod.ext e3.symm e4.symm)))⟩
      · rcases (storeKey_eq_iff wf hwc' hw₀).1 hk with ⟨e1, e2, e3, e4⟩ | ⟨_, e1, e2, e3, e4⟩
        · exact ⟨rfl, Or.inl (Prod.ext e1.symm (Prod.ext e2.symm (Prod.ext e3.symm e4.symm)))⟩
        · exact ⟨rfl, Or.inr (Prod.ext e3.symm (Prod.ext e4.symm (Prod.ext e1.symm e2.symm)))⟩
    rw [hv, hrel.1]
    apply hinj pv hpv pv' hpv' c c' hc hc'
    rcases hc₀ with rfl | rfl
    · exact hrel.2
    · exact hrel.2.symm
  exact ⟨hget c (Or.inl rfl), hget _ (Or.inr rfl)⟩

theorem fan_roundtrip {d : Dims} (wf : d.WF) (s : Scn) (bins : List (DetPair × K)) (gap : K)
    (hwin : ∀ pv ∈ bins, ∀ c, newCoords s pv.1 = some c → d.inWindow c.1 c.2.1 c.2.2.1 c.2.2.2)
    (hinj : ∀ pv ∈ bins, ∀ pv' ∈ bins, ∀ c c', newCoords s pv.1 = some c → newCoords s pv'.1 = some c' →
      (c' = c ∨ c' = swapKey c) → pv'.2 = pv.2) :
    setFan s d (makeFan s d bins) gap (bins.map Prod.fst) =
      bins.map fun pv => if (newCoords s pv.1).isNone then gap else pv.2 := by
  unfold setFan
  rw [List.map_map]
  apply List.map_congr_left
  intro pv hpv
  simp only [Function.comp]
  cases hc : newCoords s pv.1 with
  | none => simp
  | some c =>
    simp only [Option.isNone_some, Bool.false_eq_true, if_false]
    exact (makeFan_at wf s bins hwin hinj hpv hc).1

/-- the bijection hypothesis in terms of the detector pairs themselves (this is what property C01 provides for the bins of
one data set): gap removal is injective, so distinct unordered detector pairs stay distinct. -/
theorem value_eq_of_newCoords_eq_or_swap {s : Scn} (ws : s.WF) (bins : List (DetPair × K)) (hnn : ∀ pv ∈ bins, pv.1.nonneg)
    (hdist : ∀ pv ∈ bins, ∀ pv' ∈ bins, (pv'.1 = pv.1 ∨ pv'.1 = pv.1.swap) → pv'.2 = pv.2) :
    ∀ pv ∈ bins, ∀ pv' ∈ bins, ∀ c c', newCoords s pv.1 = some c → newCoords s pv'.1 = some c' →
      (c' = c ∨ c' = swapKey c) → pv'.2 = pv.2 := by
  intro pv hpv pv' hpv' c c' hc hc' hrel
  apply hdist pv hpv pv' hpv'
  rcases hrel with rfl | rfl
  · left
    exact newCoords_injective ws (hnn pv' hpv') (hnn pv hpv) hc' hc
  · right
    have hsw := newCoords_swap s pv.1 c hc
    have hnn' : pv.1.swap.nonneg := by
      obtain ⟨h1, h2, h3, h4⟩ := hnn pv hpv
      exact ⟨h3, h4, h1, h2⟩
    exact newCoords_injective ws (hnn pv' hpv') hnn' hc' hsw

end

/-- the physical detector pair of a bin is inside the window of the fan data (always the case for at most one virtual crystal
per block — what STIR's scanners have; checked on every bin by the harness) -/
def winOK (s : Scn) (d : Dims) (p : DetPair) : Bool :=
  match newCoords s p with
  | none => true
  | some c => decide (d.inWindow c.1 c.2.1 c.2.2.1 c.2.2.2)

theorem winOK_spec {s : Scn} {d : Dims} {p : DetPair} (h : winOK s d p = true) (c : Key) (hc : newCoords s p = some c) :
    d.inWindow c.1 c.2.1 c.2.2.1 c.2.2.2 := by
  unfold winOK at h
  rw [hc] at h
  simpa using h

/-- a ring of 2 blocks of 2+1 crystals (6 detectors, 4 physical), 3 views × tangential positions -1..1 with the detector
pairs of STIR's `get_det_pair_for_bin` and distinct values -/
def exampleScn : Scn := ⟨6, 1, 3, 1, 1, 0, 2, 1, -1, 1, 0, true, 1, 0, false⟩
def exampleBins : List (DetPair × Int) :=
  [(⟨5, 0, 3, 0⟩, 1), (⟨0, 0, 3, 0⟩, 2), (⟨0, 0, 2, 0⟩, 3), (⟨0, 0, 4, 0⟩, 4), (⟨1, 0, 4, 0⟩, 5), (⟨1, 0, 3, 0⟩, 6),
   (⟨1, 0, 5, 0⟩, 7), (⟨2, 0, 5, 0⟩, 8), (⟨2, 0, 4, 0⟩, 9)]

end StirVerif.C20
