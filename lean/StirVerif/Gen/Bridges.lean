/-
Bridge theorems of tie (T) (DESIGN.md §2.2): every definition that `tools/c2lean.py` regenerates from the C++
source text (`StirVerif/Gen/Kernels.lean`, namespace `StirVerif.Gen`) is equal to the readable hand-written model
function about which the property theorems of C01, C02, C03, C06 and C20 are proved.

`Kernels.lean` is rewritten from `/repo` on every run of the checks (`tools/gen_gate.py`); this file is
hand-written.  If a kernel's semantics change in the C++, exactly the bridge of that kernel stops checking (theorem
`bridge_<kernel>`: the gate maps the failing theorem back to the kernel and then looks for a concrete disagreeing input).

The bridges hold for all integers (also the negative ones, where C `/`, `%` and `>>` differ from the mathematical
operations) except where a hypothesis says otherwise: `subset_num_fixed` on `1 ≤ subiteration_num`, `0 ≤ start_subset_num`,
`0 < num_subsets`, where the model's `Nat` arithmetic is the C arithmetic; `ax_pos_num` and the `get_index` / `get_offset`
bridges take the values of the opaque accessors (`get_num_axial_poss_per_ring_inc`, `get_max_*`) as what the model says they
are, the latter two for a layout with the view and tangential range checks; in the same way `fan_is_in_data` takes the index
ranges of `(*this)[ra][a]` and `geo_key` takes `get_min_b` as what the constructor bridges (`bridge_fan_ctor_rb_range`,
`bridge_fan_ctor_b_range`, `bridge_geo_ctor_b_range`) say is allocated; `cache_key` for coordinates that fit their bit fields.

No Mathlib: the file imports the kernels, the models (core Lean; `C20.Model` also `Std.Data.HashMap`) and two core-Lean proof
modules shared with the properties' own proofs: `StirVerif.C02.ProofsFind` (what `findIdx` returns and how a chain of `error(...)`
checks that came out `ok` reads) and `StirVerif.C03.ProofsKey` (on `C03.Model`; the bound `signBit_lt` on a sign bit of the cache key).
-/
import StirVerif.Gen.Kernels
import StirVerif.C01.Model
import StirVerif.C06.Model
import StirVerif.C03.ProofsKey
import StirVerif.C02.ProofsFind
import StirVerif.C20.Model

namespace StirVerif.Gen
open StirVerif

theorem pure_id {α : Type} (a : α) : (pure a : Id α) = a := rfl

theorem shr_one_eq_shr1 (x : Int) : shr x 1 = C01.shr1 x := by
  simp [shr, C01.shr1]

/-- `x >> 1` is `x / 2` with Lean's (floor, for a positive divisor) integer division (C06 writes `num_views / 2`) -/
theorem shr_one_eq_div (x : Int) : shr x 1 = x / 2 := by
  simp [shr, Int.fdiv_eq_ediv_of_nonneg]

/-- Reading a translated kernel: the `do` block of `Id` is its value, a C condition (`decide`, `&&`, `||`, `!`, `==`, `!=`
    on `Bool`) is the proposition the models write, and the source's `x *= -1` is `-x`.
    `kernel_simp [k, m, …]` is `simp only` with these and the given definitions. -/
macro "kernel_simp" "[" ls:Lean.Parser.Tactic.simpLemma,* "]" : tactic =>
  `(tactic| simp only [Id.run, pure_id, decide_eq_true_eq, Bool.and_eq_true, Bool.or_eq_true, Bool.not_eq_true',
      beq_iff_eq, bne_iff_ne, Int.mul_neg_one, $ls,*])

theorem bridge_find_basic_view_segment_numbers (V : Int) (d90 d180 sw : Bool) (v s : Int) :
    find_basic_view_segment_numbers V d90 d180 sw v s =
      (let r := C06.findBasic ⟨V, d90, d180, sw⟩ ⟨v, s⟩; (r.1.view, r.1.seg, r.2)) := by
  -- the source negates the segment first; the model carries the pair (segment, change) into the same tree of view tests:
  -- once the segment test is decided and the projection is pushed to the leaves, the two trees are the same
  kernel_simp [find_basic_view_segment_numbers, C06.findBasic, shr_one_eq_div,
    apply_ite (fun r : C06.VS × Bool => (r.1.view, r.1.seg, r.2))]
  by_cases hc : sw = true ∧ s < 0 <;> simp only [hc, and_self, if_true, if_false]

theorem bridge_num_related_view_segment_numbers (V : Int) (d90 d180 sw : Bool) (v s : Int) :
    num_related_view_segment_numbers V d90 d180 sw v s = (C06.numRelated ⟨V, d90, d180, sw⟩ ⟨v, s⟩ : Nat) := by
  -- the two doublings are tested in the other order
  kernel_simp [num_related_view_segment_numbers, C06.numRelated, apply_ite Nat.cast, Int.natCast_mul]
  split <;> split <;> rfl

theorem bridge_subset_num_fixed (k s n : Int) (hk : 1 ≤ k) (hs : 0 ≤ s) (hn : 0 < n) :
    subset_num_fixed k s n = (C06.subsetNum k.toNat s.toNat n.toNat : Nat) := by
  unfold subset_num_fixed C06.subsetNum
  have h : k + s - 1 = ((k.toNat + s.toNat - 1 : Nat) : Int) := by omega
  rw [h, Int.tmod_eq_emod_of_nonneg (Int.natCast_nonneg _), Int.natCast_emod, Int.toNat_of_nonneg (Int.le_of_lt hn)]

theorem bridge_det1 (N v tp : Int) : det1 N v tp = (C01.viewTangToDet N v tp).1 := by
  kernel_simp [det1, C01.viewTangToDet, shr_one_eq_shr1]

theorem bridge_det2 (N v tp : Int) : det2 N v tp = (C01.viewTangToDet N v tp).2 := by
  kernel_simp [det2, C01.viewTangToDet, shr_one_eq_shr1]

theorem bridge_det2vt (N d1 d2 : Int) : det2vt N d1 d2 = C01.detToViewTang N d1 d2 := by
  kernel_simp [det2vt, C01.detToViewTang, shr_one_eq_shr1]
  rfl

/-- axial formula of `get_segment_axial_pos_num_for_ring_pair` = `C01.Seg.axOf`; `sg.inc` is the value of
    `get_num_axial_poss_per_ring_inc(segment_num)`, `off` the value of `ax_pos_num_offset[segment_num]` -/
theorem bridge_ax_pos_num (sg : C01.Seg) (off r1 r2 inc : Int) (hinc : inc = sg.inc) :
    ax_pos_num r1 r2 off inc = sg.axOf off r1 r2 := by
  subst hinc
  rfl


/-! ## C03: the symmetry-operation classes of `SymmetryOperations_PET_CartesianGrid.inl`

One bridge per member function: the function body translated from the source equals the corresponding case of
`C03.SymOp.onBin` / `onVS` / `onVoxel`, for all integers and for every value of the constructor arguments the
function does not read.  A body without a branch and without `*= -1` agrees with the model by computation (`rfl`); `*= -1`
needs `Int.mul_neg_one` (`kernel_simp`), a branch one `split`. -/

theorem bridge_so_z_shift_bin (V a zs q seg view ax tang tof : Int) :
    so_z_shift_bin V a seg view ax tang tof =
      (let r := (⟨.z_shift, V, a, zs, q⟩ : C03.SymOp).onBin ⟨seg, view, ax, tang, tof⟩; (r.seg, r.view, r.ax, r.tang, r.tof)) :=
  rfl

theorem bridge_so_z_shift_vs (V a zs q seg view : Int) :
    so_z_shift_vs V seg view = (let r := (⟨.z_shift, V, a, zs, q⟩ : C03.SymOp).onVS ⟨view, seg⟩; (r.seg, r.view)) :=
  rfl

theorem bridge_so_z_shift_img (V a zs q z y x : Int) :
    so_z_shift_img zs q z y x = (let r := (⟨.z_shift, V, a, zs, q⟩ : C03.SymOp).onVoxel ⟨z, y, x⟩; (r.z, r.y, r.x)) :=
  rfl

theorem bridge_so_swap_xmx_zq_bin (V a zs q seg view ax tang tof : Int) :
    so_swap_xmx_zq_bin V a seg view ax tang tof =
      (let r := (⟨.swap_xmx_zq, V, a, zs, q⟩ : C03.SymOp).onBin ⟨seg, view, ax, tang, tof⟩; (r.seg, r.view, r.ax, r.tang, r.tof)) :=
  rfl

theorem bridge_so_swap_xmx_zq_vs (V a zs q seg view : Int) :
    so_swap_xmx_zq_vs V seg view = (let r := (⟨.swap_xmx_zq, V, a, zs, q⟩ : C03.SymOp).onVS ⟨view, seg⟩; (r.seg, r.view)) :=
  rfl

theorem bridge_so_swap_xmx_zq_img (V a zs q z y x : Int) :
    so_swap_xmx_zq_img zs q z y x = (let r := (⟨.swap_xmx_zq, V, a, zs, q⟩ : C03.SymOp).onVoxel ⟨z, y, x⟩; (r.z, r.y, r.x)) :=
  rfl

theorem bridge_so_swap_xmy_yx_zq_bin (V a zs q seg view ax tang tof : Int) :
    so_swap_xmy_yx_zq_bin V a seg view ax tang tof =
      (let r := (⟨.swap_xmy_yx_zq, V, a, zs, q⟩ : C03.SymOp).onBin ⟨seg, view, ax, tang, tof⟩; (r.seg, r.view, r.ax, r.tang, r.tof)) := by
  kernel_simp [so_swap_xmy_yx_zq_bin, C03.SymOp.onBin]

theorem bridge_so_swap_xmy_yx_zq_vs (V a zs q seg view : Int) :
    so_swap_xmy_yx_zq_vs V seg view = (let r := (⟨.swap_xmy_yx_zq, V, a, zs, q⟩ : C03.SymOp).onVS ⟨view, seg⟩; (r.seg, r.view)) := by
  kernel_simp [so_swap_xmy_yx_zq_vs, C03.SymOp.onVS]

theorem bridge_so_swap_xmy_yx_zq_img (V a zs q z y x : Int) :
    so_swap_xmy_yx_zq_img zs q z y x = (let r := (⟨.swap_xmy_yx_zq, V, a, zs, q⟩ : C03.SymOp).onVoxel ⟨z, y, x⟩; (r.z, r.y, r.x)) :=
  rfl

theorem bridge_so_swap_xy_yx_zq_bin (V a zs q seg view ax tang tof : Int) :
    so_swap_xy_yx_zq_bin V a seg view ax tang tof =
      (let r := (⟨.swap_xy_yx_zq, V, a, zs, q⟩ : C03.SymOp).onBin ⟨seg, view, ax, tang, tof⟩; (r.seg, r.view, r.ax, r.tang, r.tof)) :=
  rfl

theorem bridge_so_swap_xy_yx_zq_vs (V a zs q seg view : Int) :
    so_swap_xy_yx_zq_vs V seg view = (let r := (⟨.swap_xy_yx_zq, V, a, zs, q⟩ : C03.SymOp).onVS ⟨view, seg⟩; (r.seg, r.view)) :=
  rfl

theorem bridge_so_swap_xy_yx_zq_img (V a zs q z y x : Int) :
    so_swap_xy_yx_zq_img zs q z y x = (let r := (⟨.swap_xy_yx_zq, V, a, zs, q⟩ : C03.SymOp).onVoxel ⟨z, y, x⟩; (r.z, r.y, r.x)) :=
  rfl

theorem bridge_so_swap_xmy_yx_bin (V a zs q seg view ax tang tof : Int) :
    so_swap_xmy_yx_bin V a seg view ax tang tof =
      (let r := (⟨.swap_xmy_yx, V, a, zs, q⟩ : C03.SymOp).onBin ⟨seg, view, ax, tang, tof⟩; (r.seg, r.view, r.ax, r.tang, r.tof)) := by
  kernel_simp [so_swap_xmy_yx_bin, C03.SymOp.onBin]
  split <;> rfl

theorem bridge_so_swap_xmy_yx_vs (V a zs q seg view : Int) :
    so_swap_xmy_yx_vs V seg view = (let r := (⟨.swap_xmy_yx, V, a, zs, q⟩ : C03.SymOp).onVS ⟨view, seg⟩; (r.seg, r.view)) := by
  kernel_simp [so_swap_xmy_yx_vs, C03.SymOp.onVS]
  split <;> rfl

theorem bridge_so_swap_xmy_yx_img (V a zs q z y x : Int) :
    so_swap_xmy_yx_img zs q z y x = (let r := (⟨.swap_xmy_yx, V, a, zs, q⟩ : C03.SymOp).onVoxel ⟨z, y, x⟩; (r.z, r.y, r.x)) :=
  rfl

theorem bridge_so_swap_xy_yx_bin (V a zs q seg view ax tang tof : Int) :
    so_swap_xy_yx_bin V a seg view ax tang tof =
      (let r := (⟨.swap_xy_yx, V, a, zs, q⟩ : C03.SymOp).onBin ⟨seg, view, ax, tang, tof⟩; (r.seg, r.view, r.ax, r.tang, r.tof)) := by
  kernel_simp [so_swap_xy_yx_bin, C03.SymOp.onBin]
  split <;> rfl

theorem bridge_so_swap_xy_yx_vs (V a zs q seg view : Int) :
    so_swap_xy_yx_vs V seg view = (let r := (⟨.swap_xy_yx, V, a, zs, q⟩ : C03.SymOp).onVS ⟨view, seg⟩; (r.seg, r.view)) := by
  kernel_simp [so_swap_xy_yx_vs, C03.SymOp.onVS]
  split <;> rfl

theorem bridge_so_swap_xy_yx_img (V a zs q z y x : Int) :
    so_swap_xy_yx_img zs q z y x = (let r := (⟨.swap_xy_yx, V, a, zs, q⟩ : C03.SymOp).onVoxel ⟨z, y, x⟩; (r.z, r.y, r.x)) :=
  rfl

theorem bridge_so_swap_xmx_bin (V a zs q seg view ax tang tof : Int) :
    so_swap_xmx_bin V a seg view ax tang tof =
      (let r := (⟨.swap_xmx, V, a, zs, q⟩ : C03.SymOp).onBin ⟨seg, view, ax, tang, tof⟩; (r.seg, r.view, r.ax, r.tang, r.tof)) := by
  kernel_simp [so_swap_xmx_bin, C03.SymOp.onBin]
  split <;> rfl

theorem bridge_so_swap_xmx_vs (V a zs q seg view : Int) :
    so_swap_xmx_vs V seg view = (let r := (⟨.swap_xmx, V, a, zs, q⟩ : C03.SymOp).onVS ⟨view, seg⟩; (r.seg, r.view)) := by
  kernel_simp [so_swap_xmx_vs, C03.SymOp.onVS]
  split <;> rfl

theorem bridge_so_swap_xmx_img (V a zs q z y x : Int) :
    so_swap_xmx_img zs q z y x = (let r := (⟨.swap_xmx, V, a, zs, q⟩ : C03.SymOp).onVoxel ⟨z, y, x⟩; (r.z, r.y, r.x)) :=
  rfl

theorem bridge_so_swap_ymy_bin (V a zs q seg view ax tang tof : Int) :
    so_swap_ymy_bin V a seg view ax tang tof =
      (let r := (⟨.swap_ymy, V, a, zs, q⟩ : C03.SymOp).onBin ⟨seg, view, ax, tang, tof⟩; (r.seg, r.view, r.ax, r.tang, r.tof)) := by
  kernel_simp [so_swap_ymy_bin, C03.SymOp.onBin]
  split <;> rfl

theorem bridge_so_swap_ymy_vs (V a zs q seg view : Int) :
    so_swap_ymy_vs V seg view = (let r := (⟨.swap_ymy, V, a, zs, q⟩ : C03.SymOp).onVS ⟨view, seg⟩; (r.seg, r.view)) := by
  kernel_simp [so_swap_ymy_vs, C03.SymOp.onVS]
  split <;> rfl

theorem bridge_so_swap_ymy_img (V a zs q z y x : Int) :
    so_swap_ymy_img zs q z y x = (let r := (⟨.swap_ymy, V, a, zs, q⟩ : C03.SymOp).onVoxel ⟨z, y, x⟩; (r.z, r.y, r.x)) :=
  rfl

theorem bridge_so_swap_zq_bin (V a zs q seg view ax tang tof : Int) :
    so_swap_zq_bin V a seg view ax tang tof =
      (let r := (⟨.swap_zq, V, a, zs, q⟩ : C03.SymOp).onBin ⟨seg, view, ax, tang, tof⟩; (r.seg, r.view, r.ax, r.tang, r.tof)) := by
  kernel_simp [so_swap_zq_bin, C03.SymOp.onBin]

theorem bridge_so_swap_zq_vs (V a zs q seg view : Int) :
    so_swap_zq_vs V seg view = (let r := (⟨.swap_zq, V, a, zs, q⟩ : C03.SymOp).onVS ⟨view, seg⟩; (r.seg, r.view)) := by
  kernel_simp [so_swap_zq_vs, C03.SymOp.onVS]

theorem bridge_so_swap_zq_img (V a zs q z y x : Int) :
    so_swap_zq_img zs q z y x = (let r := (⟨.swap_zq, V, a, zs, q⟩ : C03.SymOp).onVoxel ⟨z, y, x⟩; (r.z, r.y, r.x)) :=
  rfl

theorem bridge_so_swap_xmx_ymy_zq_bin (V a zs q seg view ax tang tof : Int) :
    so_swap_xmx_ymy_zq_bin V a seg view ax tang tof =
      (let r := (⟨.swap_xmx_ymy_zq, V, a, zs, q⟩ : C03.SymOp).onBin ⟨seg, view, ax, tang, tof⟩; (r.seg, r.view, r.ax, r.tang, r.tof)) := by
  kernel_simp [so_swap_xmx_ymy_zq_bin, C03.SymOp.onBin]

theorem bridge_so_swap_xmx_ymy_zq_vs (V a zs q seg view : Int) :
    so_swap_xmx_ymy_zq_vs V seg view = (let r := (⟨.swap_xmx_ymy_zq, V, a, zs, q⟩ : C03.SymOp).onVS ⟨view, seg⟩; (r.seg, r.view)) :=
  rfl

theorem bridge_so_swap_xmx_ymy_zq_img (V a zs q z y x : Int) :
    so_swap_xmx_ymy_zq_img zs q z y x = (let r := (⟨.swap_xmx_ymy_zq, V, a, zs, q⟩ : C03.SymOp).onVoxel ⟨z, y, x⟩; (r.z, r.y, r.x)) :=
  rfl

theorem bridge_so_swap_xy_ymx_zq_bin (V a zs q seg view ax tang tof : Int) :
    so_swap_xy_ymx_zq_bin V a seg view ax tang tof =
      (let r := (⟨.swap_xy_ymx_zq, V, a, zs, q⟩ : C03.SymOp).onBin ⟨seg, view, ax, tang, tof⟩; (r.seg, r.view, r.ax, r.tang, r.tof)) := by
  kernel_simp [so_swap_xy_ymx_zq_bin, C03.SymOp.onBin]
  split <;> rfl

theorem bridge_so_swap_xy_ymx_zq_vs (V a zs q seg view : Int) :
    so_swap_xy_ymx_zq_vs V seg view = (let r := (⟨.swap_xy_ymx_zq, V, a, zs, q⟩ : C03.SymOp).onVS ⟨view, seg⟩; (r.seg, r.view)) := by
  kernel_simp [so_swap_xy_ymx_zq_vs, C03.SymOp.onVS]
  split <;> rfl

theorem bridge_so_swap_xy_ymx_zq_img (V a zs q z y x : Int) :
    so_swap_xy_ymx_zq_img zs q z y x = (let r := (⟨.swap_xy_ymx_zq, V, a, zs, q⟩ : C03.SymOp).onVoxel ⟨z, y, x⟩; (r.z, r.y, r.x)) :=
  rfl

theorem bridge_so_swap_xy_ymx_bin (V a zs q seg view ax tang tof : Int) :
    so_swap_xy_ymx_bin V a seg view ax tang tof =
      (let r := (⟨.swap_xy_ymx, V, a, zs, q⟩ : C03.SymOp).onBin ⟨seg, view, ax, tang, tof⟩; (r.seg, r.view, r.ax, r.tang, r.tof)) := by
  kernel_simp [so_swap_xy_ymx_bin, C03.SymOp.onBin]
  split <;> rfl

theorem bridge_so_swap_xy_ymx_vs (V a zs q seg view : Int) :
    so_swap_xy_ymx_vs V seg view = (let r := (⟨.swap_xy_ymx, V, a, zs, q⟩ : C03.SymOp).onVS ⟨view, seg⟩; (r.seg, r.view)) := by
  kernel_simp [so_swap_xy_ymx_vs, C03.SymOp.onVS]
  split <;> rfl

theorem bridge_so_swap_xy_ymx_img (V a zs q z y x : Int) :
    so_swap_xy_ymx_img zs q z y x = (let r := (⟨.swap_xy_ymx, V, a, zs, q⟩ : C03.SymOp).onVoxel ⟨z, y, x⟩; (r.z, r.y, r.x)) :=
  rfl

theorem bridge_so_swap_xmy_ymx_bin (V a zs q seg view ax tang tof : Int) :
    so_swap_xmy_ymx_bin V a seg view ax tang tof =
      (let r := (⟨.swap_xmy_ymx, V, a, zs, q⟩ : C03.SymOp).onBin ⟨seg, view, ax, tang, tof⟩; (r.seg, r.view, r.ax, r.tang, r.tof)) := by
  kernel_simp [so_swap_xmy_ymx_bin, C03.SymOp.onBin]
  split <;> rfl

theorem bridge_so_swap_xmy_ymx_vs (V a zs q seg view : Int) :
    so_swap_xmy_ymx_vs V seg view = (let r := (⟨.swap_xmy_ymx, V, a, zs, q⟩ : C03.SymOp).onVS ⟨view, seg⟩; (r.seg, r.view)) := by
  kernel_simp [so_swap_xmy_ymx_vs, C03.SymOp.onVS]
  split <;> rfl

theorem bridge_so_swap_xmy_ymx_img (V a zs q z y x : Int) :
    so_swap_xmy_ymx_img zs q z y x = (let r := (⟨.swap_xmy_ymx, V, a, zs, q⟩ : C03.SymOp).onVoxel ⟨z, y, x⟩; (r.z, r.y, r.x)) :=
  rfl

theorem bridge_so_swap_ymy_zq_bin (V a zs q seg view ax tang tof : Int) :
    so_swap_ymy_zq_bin V a seg view ax tang tof =
      (let r := (⟨.swap_ymy_zq, V, a, zs, q⟩ : C03.SymOp).onBin ⟨seg, view, ax, tang, tof⟩; (r.seg, r.view, r.ax, r.tang, r.tof)) := by
  kernel_simp [so_swap_ymy_zq_bin, C03.SymOp.onBin]

theorem bridge_so_swap_ymy_zq_vs (V a zs q seg view : Int) :
    so_swap_ymy_zq_vs V seg view = (let r := (⟨.swap_ymy_zq, V, a, zs, q⟩ : C03.SymOp).onVS ⟨view, seg⟩; (r.seg, r.view)) := by
  kernel_simp [so_swap_ymy_zq_vs, C03.SymOp.onVS]

theorem bridge_so_swap_ymy_zq_img (V a zs q z y x : Int) :
    so_swap_ymy_zq_img zs q z y x = (let r := (⟨.swap_ymy_zq, V, a, zs, q⟩ : C03.SymOp).onVoxel ⟨z, y, x⟩; (r.z, r.y, r.x)) :=
  rfl

theorem bridge_so_swap_xmx_ymy_bin (V a zs q seg view ax tang tof : Int) :
    so_swap_xmx_ymy_bin V a seg view ax tang tof =
      (let r := (⟨.swap_xmx_ymy, V, a, zs, q⟩ : C03.SymOp).onBin ⟨seg, view, ax, tang, tof⟩; (r.seg, r.view, r.ax, r.tang, r.tof)) := by
  kernel_simp [so_swap_xmx_ymy_bin, C03.SymOp.onBin]

theorem bridge_so_swap_xmx_ymy_vs (V a zs q seg view : Int) :
    so_swap_xmx_ymy_vs V seg view = (let r := (⟨.swap_xmx_ymy, V, a, zs, q⟩ : C03.SymOp).onVS ⟨view, seg⟩; (r.seg, r.view)) := by
  kernel_simp [so_swap_xmx_ymy_vs, C03.SymOp.onVS]

theorem bridge_so_swap_xmx_ymy_img (V a zs q z y x : Int) :
    so_swap_xmx_ymy_img zs q z y x = (let r := (⟨.swap_xmx_ymy, V, a, zs, q⟩ : C03.SymOp).onVoxel ⟨z, y, x⟩; (r.z, r.y, r.x)) :=
  rfl

theorem bridge_so_swap_xmy_ymx_zq_bin (V a zs q seg view ax tang tof : Int) :
    so_swap_xmy_ymx_zq_bin V a seg view ax tang tof =
      (let r := (⟨.swap_xmy_ymx_zq, V, a, zs, q⟩ : C03.SymOp).onBin ⟨seg, view, ax, tang, tof⟩; (r.seg, r.view, r.ax, r.tang, r.tof)) := by
  kernel_simp [so_swap_xmy_ymx_zq_bin, C03.SymOp.onBin]

theorem bridge_so_swap_xmy_ymx_zq_vs (V a zs q seg view : Int) :
    so_swap_xmy_ymx_zq_vs V seg view = (let r := (⟨.swap_xmy_ymx_zq, V, a, zs, q⟩ : C03.SymOp).onVS ⟨view, seg⟩; (r.seg, r.view)) := by
  kernel_simp [so_swap_xmy_ymx_zq_vs, C03.SymOp.onVS]

theorem bridge_so_swap_xmy_ymx_zq_img (V a zs q z y x : Int) :
    so_swap_xmy_ymx_zq_img zs q z y x = (let r := (⟨.swap_xmy_ymx_zq, V, a, zs, q⟩ : C03.SymOp).onVoxel ⟨z, y, x⟩; (r.z, r.y, r.x)) :=
  rfl


/-! ## C03: the decision trees choosing the symmetry operation (cylindrical branch)

`find_sym_op_bin0` / `find_sym_op_general_bin` return `new <Class>(args)`; the translator renders that as
`(class index, view180, axial_pos_shift, z_shift, q)` (class index = position in `SO_CLASSES` of tools/c2lean.py, slots a
class's constructor does not take are 0).  `soOf` reads such a tuple as a model `SymOp`.  The two opaque reads of the
source are parameters: `find_transform_z(abs(segment_num), do_symmetry_shift_z ? 0 : axial_pos_num)` ↦ `Sym.transformZ …`,
`num_planes_per_axial_pos[segment_num]` ↦ `Sym.nppa seg`. -/

def kindOfIdx (i : Int) : C03.Kind :=
  if i = 1 then .z_shift else if i = 2 then .swap_xmx_zq else if i = 3 then .swap_xmy_yx_zq else if i = 4 then .swap_xy_yx_zq
  else if i = 5 then .swap_xmy_yx else if i = 6 then .swap_xy_yx else if i = 7 then .swap_xmx else if i = 8 then .swap_ymy
  else if i = 9 then .swap_zq else if i = 10 then .swap_xmx_ymy_zq else if i = 11 then .swap_xy_ymx_zq else if i = 12 then .swap_xy_ymx
  else if i = 13 then .swap_xmy_ymx else if i = 14 then .swap_ymy_zq else if i = 15 then .swap_xmx_ymy else if i = 16 then .swap_xmy_ymx_zq
  else .trivial

def soOf (t : Int × Int × Int × Int × Int) : C03.SymOp := ⟨kindOfIdx t.1, t.2.1, t.2.2.1, t.2.2.2.1, t.2.2.2.2⟩

@[simp] theorem soOf_0 (a b c d : Int) : soOf (0, a, b, c, d) = ⟨.trivial, a, b, c, d⟩ := rfl
@[simp] theorem soOf_1 (a b c d : Int) : soOf (1, a, b, c, d) = ⟨.z_shift, a, b, c, d⟩ := rfl
@[simp] theorem soOf_2 (a b c d : Int) : soOf (2, a, b, c, d) = ⟨.swap_xmx_zq, a, b, c, d⟩ := rfl
@[simp] theorem soOf_3 (a b c d : Int) : soOf (3, a, b, c, d) = ⟨.swap_xmy_yx_zq, a, b, c, d⟩ := rfl
@[simp] theorem soOf_4 (a b c d : Int) : soOf (4, a, b, c, d) = ⟨.swap_xy_yx_zq, a, b, c, d⟩ := rfl
@[simp] theorem soOf_5 (a b c d : Int) : soOf (5, a, b, c, d) = ⟨.swap_xmy_yx, a, b, c, d⟩ := rfl
@[simp] theorem soOf_6 (a b c d : Int) : soOf (6, a, b, c, d) = ⟨.swap_xy_yx, a, b, c, d⟩ := rfl
@[simp] theorem soOf_7 (a b c d : Int) : soOf (7, a, b, c, d) = ⟨.swap_xmx, a, b, c, d⟩ := rfl
@[simp] theorem soOf_8 (a b c d : Int) : soOf (8, a, b, c, d) = ⟨.swap_ymy, a, b, c, d⟩ := rfl
@[simp] theorem soOf_9 (a b c d : Int) : soOf (9, a, b, c, d) = ⟨.swap_zq, a, b, c, d⟩ := rfl
@[simp] theorem soOf_10 (a b c d : Int) : soOf (10, a, b, c, d) = ⟨.swap_xmx_ymy_zq, a, b, c, d⟩ := rfl
@[simp] theorem soOf_11 (a b c d : Int) : soOf (11, a, b, c, d) = ⟨.swap_xy_ymx_zq, a, b, c, d⟩ := rfl
@[simp] theorem soOf_12 (a b c d : Int) : soOf (12, a, b, c, d) = ⟨.swap_xy_ymx, a, b, c, d⟩ := rfl
@[simp] theorem soOf_13 (a b c d : Int) : soOf (13, a, b, c, d) = ⟨.swap_xmy_ymx, a, b, c, d⟩ := rfl
@[simp] theorem soOf_14 (a b c d : Int) : soOf (14, a, b, c, d) = ⟨.swap_ymy_zq, a, b, c, d⟩ := rfl
@[simp] theorem soOf_15 (a b c d : Int) : soOf (15, a, b, c, d) = ⟨.swap_xmx_ymy, a, b, c, d⟩ := rfl
@[simp] theorem soOf_16 (a b c d : Int) : soOf (16, a, b, c, d) = ⟨.swap_xmy_ymx_zq, a, b, c, d⟩ := rfl

/-- The source's tree and the model's are the same tree: with `soOf` pushed to the leaves and the conditions read as
    propositions they differ only in the leaves, `soOf (i, …)` against `newOp <kind> …`, which agree by computation. -/
theorem bridge_find_sym_op_bin0 (y : C03.Sym) (seg view ax : Int) :
    soOf (find_sym_op_bin0 y.V y.d90 y.d180 y.swapSeg y.shiftZ
            (y.transformZ (C03.iabs seg) (if y.shiftZ = true then 0 else ax)) (y.nppa seg) seg view ax)
      = y.symOpBin0 seg view ax := by
  kernel_simp [find_sym_op_bin0, C03.Sym.symOpBin0, C03.Sym.mkShift, C03.Sym.newOp, C03.SymOp.triv, apply_ite soOf, and_assoc]
  rfl

theorem bridge_find_sym_op_general_bin (y : C03.Sym) (s seg view ax : Int) :
    soOf (find_sym_op_general_bin y.V y.d90 y.d180 y.swapSeg y.swapS y.shiftZ
            (y.transformZ (C03.iabs seg) (if y.shiftZ = true then 0 else ax)) (y.nppa seg) s seg view ax)
      = y.symOpGeneral s seg view ax := by
  kernel_simp [find_sym_op_general_bin, C03.Sym.symOpGeneral, C03.Sym.mkShift, C03.Sym.newOp, C03.SymOp.triv, apply_ite soOf,
    and_assoc]
  rfl


/-! ## C03: `ProjMatrixByBin::cache_key`

The 64-bit packing translated from the source (every `std::uint64_t` operation reduced modulo 2^64, the three field widths read
from the in-class initialisers of `tang_pos_bits`, `axial_pos_bits`, `timing_pos_bits`) equals the model's `cacheKey` whenever the
three coordinates of the bin fit their fields.  (`ProjMatrixByBin::set_up` tests the maxima of the data for this, `C03.keyFits`: the
axial one of segment 0 only, and only when caching is enabled.) -/

theorem u64OfInt_natAbs (x : Int) (h : x.natAbs < 18446744073709551616) : u64OfInt (iabs x) = x.natAbs := by
  unfold u64OfInt iabs
  split <;> omega

theorem u64OfInt_sign (x : Int) : u64OfInt (if (decide (x ≥ 0)) then 0 else 1) = C03.signBit x := by
  unfold u64OfInt C03.signBit
  by_cases h : x ≥ 0 <;> simp [h]

theorem u64shl_of_lt (a s : Nat) (h : a * 2 ^ s < 18446744073709551616) : u64shl a s = a <<< s := by
  unfold u64shl
  rw [Nat.shiftLeft_eq]
  exact Nat.mod_eq_of_lt h

theorem bridge_cache_key (s v ax tang tof : Int) (hax : ax.natAbs < 2 ^ 28) (htg : tang.natAbs < 2 ^ 12) (htf : tof.natAbs < 2 ^ 20) :
    cache_key ax tang tof = C03.cacheKey ⟨s, v, ax, tang, tof⟩ := by
  -- the shift amounts: sums of the field widths 20 (timing), 12 (tangential), 28 (axial) and of the sign bits below each field
  have e1 : u64add (u64add (u64add 20 12) 28) (u64OfInt 2) = 62 := by decide
  have e2 : u64add (u64add 20 12) (u64OfInt 2) = 34 := by decide
  have e3 : u64add (u64add 20 12) (u64OfInt 1) = 33 := by decide
  have e4 : u64add 20 (u64OfInt 1) = 21 := by decide
  unfold cache_key C03.cacheKey
  simp only [Id.run, pure_id, e1, e2, e3, e4, u64OfInt_sign, C03.timingPosBits, C03.tangPosBits, C03.axialPosBits]
  rw [u64OfInt_natAbs ax (by omega), u64OfInt_natAbs tang (by omega), u64OfInt_natAbs tof (by omega)]
  rw [u64shl_of_lt _ 62 (by have := C03.signBit_lt ax; omega), u64shl_of_lt _ 34 (by omega),
      u64shl_of_lt _ 33 (by have := C03.signBit_lt tang; omega), u64shl_of_lt _ 21 (by omega),
      u64shl_of_lt _ 20 (by have := C03.signBit_lt tof; omega)]


/-! ## C02: the address arithmetic of projection data (`ProjDataInMemory::get_index`, `ProjDataFromStream::get_offset`)

The whole function bodies are translated: the five range checks (`error(...)` call number k ↦ result `(k, 0)`), the two
`std::find(...) - begin()` look-ups (`vecFind`), the loop over the segments stored before the requested one (`forRange`) and the
arithmetic of both storage orders.  The bridges say: for every layout and every bin — in range or not — the translated function
returns what the model's `getIndex` / `offsetOf` return (`resOf`), given that the accessors `get_max_*` are `min + num - 1`
(`Layout.maxAx / maxView / maxTang`, definitions of `ProjDataInfo`; exercised by tie (C)) and that the layout is one with the view
and tangential range checks (`checkView`, `checkTang` are fields of `C02.Layout`; the source makes both checks, so the bridges are
for `true`).  64-bit types are unbounded `Int` here, as in the model. -/

theorem vecFind_eq (l : List Int) (a : Int) : vecFind l a = (C02.findIdx l a : Nat) := by
  induction l with
  | nil => simp [vecFind, C02.findIdx]
  | cons x xs ih =>
    simp only [vecFind, C02.findIdx, beq_iff_eq]
    split <;> simp_all

theorem forRange_sum (l : List Int) (f : Int → Int) (n : Nat) :
    ∀ (k : Nat) (s : Int), k + n ≤ l.length →
      forRange (k : Int) n (fun i acc => acc + f (vecGet l i)) s = s + (((l.drop k).take n).map f).sum := by
  induction n with
  | zero =>
    intro k s _
    simp [forRange]
  | succ n ih =>
    intro k s h
    have hk : k < l.length := by omega
    have hd : l.drop k = l[k] :: l.drop (k + 1) := List.drop_eq_getElem_cons hk
    have hg : vecGet l (k : Int) = l[k] := by
      have : ¬ ((k : Int) < 0) := by omega
      simp [vecGet, this, List.getD_eq_getElem?_getD, List.getElem?_eq_getElem hk]
    have := ih (k + 1) (s + f (vecGet l (k : Int))) (by omega)
    simp only [forRange]
    rw [show ((k : Int) + 1) = ((k + 1 : Nat) : Int) by omega, this, hd, hg]
    simp only [List.take_succ_cons, List.map_cons, List.sum_cons]
    omega

def errCode : C02.Err → Int
  | .segRange => 1 | .axRange => 2 | .tofRange => 3 | .viewRange => 4 | .tangRange => 5

def resOf : Except C02.Err Int → Int × Int
  | .error e => (errCode e, 0)
  | .ok v => (0, v)

theorem axBefore_eq (l : C02.Layout) (seg : Int) :
    forRange 0 (C02.findIdx l.segSeq seg) (fun i acc => acc + l.numAx (vecGet l.segSeq i)) 0
      = C02.axBefore l (C02.findIdx l.segSeq seg) := by
  have h := forRange_sum l.segSeq l.numAx (C02.findIdx l.segSeq seg) 0 0 (by simpa using C02.findIdx_le_length _ _)
  simpa [C02.axBefore] using h

theorem bridge_get_index (l : C02.Layout) (b : C02.Bin) (maxAx : Int → Int) (maxView maxTang : Int)
    (hax : ∀ s, maxAx s = l.maxAx s) (hv : maxView = l.maxView) (ht : maxTang = l.maxTang)
    (hcv : l.checkView = true) (hct : l.checkTang = true) :
    get_index l.segSeq l.tofSeq l.minSeg l.maxSeg l.minAx maxAx l.numAx l.minView maxView l.numViews l.minTang maxTang l.numTang
        l.minTof l.maxTof l.numTof l.offset3d b.seg b.view b.ax b.tang b.tof
      = resOf (C02.getIndex l b) := by
  subst hv ht
  kernel_simp [get_index, C02.getIndex, hax, hcv, hct, true_and, Bool.eq_false_iff, ne_eq, apply_ite resOf, vecFind_eq, Int.sub_zero,
    Int.toNat_natCast, axBefore_eq]
  -- both sides make the same five range checks
  congr 5
  split <;> rfl

/-- the value of the enumerator of `ProjDataFromStream::StorageOrder` that stands for a model order, with or without the
    `Timing_` prefix (the two are handled by the same branch of the source) -/
def orderCode (o : C02.Order) (timing : Bool) : Int :=
  match o, timing with
  | .savt, false => 0 | .savt, true => 1 | .svat, false => 2 | .svat, true => 3

theorem bridge_get_offset (l : C02.Layout) (b : C02.Bin) (maxAx : Int → Int) (maxView maxTang : Int) (timing : Bool)
    (hax : ∀ s, maxAx s = l.maxAx s) (hv : maxView = l.maxView) (ht : maxTang = l.maxTang)
    (hcv : l.checkView = true) (hct : l.checkTang = true) :
    get_offset l.segSeq l.tofSeq l.minSeg l.maxSeg l.minAx maxAx l.numAx l.minView maxView l.numViews l.minTang maxTang l.numTang
        l.minTof l.maxTof l.numTof (orderCode l.order timing) l.elemSize l.offset l.offset3d b.seg b.view b.ax b.tang b.tof
      = resOf (C02.offsetOf l b) := by
  subst hv ht
  kernel_simp [get_offset, C02.offsetOf, hax, hcv, hct, true_and, Bool.eq_false_iff, ne_eq, apply_ite resOf, vecFind_eq, Int.sub_zero,
    Int.toNat_natCast, axBefore_eq]
  congr 5
  -- in range: the storage order selects the branch of the source and of `rawOffset`
  cases ho : l.order <;> cases timing
  all_goals
    simp +decide only [C02.rawOffset, ho, if_true, if_false]
    split <;> rfl

/-- any other value of the storage order is the sixth `error(...)` call of the source (after the five range checks) -/
theorem bridge_get_offset_unsupported (l : C02.Layout) (b : C02.Bin) (ord : Int)
    (hord : ord ≠ 0 ∧ ord ≠ 1 ∧ ord ≠ 2 ∧ ord ≠ 3) (hok : ∃ v, C02.offsetOf l b = .ok v)
    (hcv : l.checkView = true) (hct : l.checkTang = true) :
    get_offset l.segSeq l.tofSeq l.minSeg l.maxSeg l.minAx l.maxAx l.numAx l.minView l.maxView l.numViews l.minTang l.maxTang l.numTang
        l.minTof l.maxTof l.numTof ord l.elemSize l.offset l.offset3d b.seg b.view b.ax b.tang b.tof = (6, 0) := by
  obtain ⟨v, hv⟩ := hok
  simp only [C02.offsetOf, hcv, hct, true_and, C02.ite_error_eq_ok] at hv
  obtain ⟨h1, h2, h3, h4, h5, -⟩ := hv
  kernel_simp [get_offset, Bool.eq_false_iff, ne_eq, h1, h2, h3, h4, h5, hord, or_self, if_false]


/-! ## C20: `FanProjData`, `GeoData3D`, `DetPairData` of ML_norm.cxx

Which element of the underlying array an access `operator()(…)` goes to (`index_tuple` kernels: the tuple of `[]` indices of the
returned element), the membership tests `is_in_data`, `get_min_rb`, and the index ranges the constructors allocate (`call_args`
kernels: the arguments of `fan_indices[ra][a].grow(…)` and of `fan_indices[ra][a][rb] = IndexRange<1>(…)`).  `get_min_b / get_max_b`
read the allocated ranges back: that the array returns what was allocated is `IndexRange` / `Array` behaviour (C11, tie (C)). -/

theorem bridge_fan_key (d : C20.Dims) (ra a rb b : Int) :
    fan_key d.N d.minB ra a rb b = d.storeKey ra a rb b := by
  kernel_simp [fan_key, C20.Dims.storeKey]

/-- `FanProjData::is_in_data`; `(*this)[ra][a].get_min_index() / get_max_index()` are the bounds the constructor allocates
    (`bridge_fan_ctor_rb_range`) -/
theorem bridge_fan_is_in_data (d : C20.Dims) (ra a rb b : Int) :
    fan_is_in_data d.N d.minB d.maxB (d.loRb ra) (d.maxRb ra) ra a rb b = d.isInData ra a rb b := by
  kernel_simp [fan_is_in_data, C20.Dims.isInData]

theorem bridge_fan_min_rb (d : C20.Dims) (ra : Int) : fan_min_rb d.md ra = d.minRb ra := by
  kernel_simp [fan_min_rb, C20.Dims.minRb]

theorem bridge_fan_ctor_rb_range (d : C20.Dims) (ra : Int) :
    fan_ctor_rb_range d.R d.md ra = (d.loRb ra, d.maxRb ra) := by
  kernel_simp [fan_ctor_rb_range, C20.Dims.loRb, C20.Dims.maxRb, C20.Dims.minRb]

/-- the `b` range allocated for `[ra][a][rb]` by the same constructor (`half_fan_size` is the member, `fan_size / 2`) -/
theorem bridge_fan_ctor_b_range (d : C20.Dims) (a : Int) :
    fan_ctor_b_range d.N d.h a = (d.minB a, d.maxB a) := by
  kernel_simp [fan_ctor_b_range, C20.Dims.minB, C20.Dims.maxB]

/-- `GeoData3D::operator()`: `get_min_b(a) = a` is the first bound of `bridge_geo_ctor_b_range` -/
theorem bridge_geo_key (g : C20.GeoDims) (ra a rb b : Int) :
    geo_key g.N (fun a => (geo_ctor_b_range g.N a).1) ra a rb b = g.storeKey ra a rb b := by
  kernel_simp [geo_key, geo_ctor_b_range, C20.GeoDims.storeKey]
  by_cases h : b < a <;> simp [h]

theorem bridge_geo_ctor_b_range (g : C20.GeoDims) (a : Int) : geo_ctor_b_range g.N a = (a, a + g.N - 1) := by
  kernel_simp [geo_ctor_b_range]

/-- `GeoData3D::GeoData3D`: `[ra][a]` holds `rb = ra .. num_rings - 1` (only the half `ra ≤ rb` is stored) -/
theorem bridge_geo_ctor_rb_range (g : C20.GeoDims) (ra : Int) : geo_ctor_rb_range g.R ra = (ra, g.R - 1) := by
  kernel_simp [geo_ctor_rb_range]

/-- `DetPairData::operator()(a, b)`: element `[a][b']` of the `Array<2,float>`; the model's key is `(0, a, 0, b')` -/
theorem bridge_dp_key (d : C20.DPDims) (a b : Int) :
    (let r := dp_key d.N d.minB a b; ((0 : Int), r.1, (0 : Int), r.2)) = d.storeKey a b := by
  kernel_simp [dp_key, C20.DPDims.storeKey]

theorem bridge_dp_is_in_data (d : C20.DPDims) (a b : Int) :
    dp_is_in_data d.N d.minB d.maxB a b = d.isInData a b := by
  kernel_simp [dp_is_in_data, C20.DPDims.isInData]


/-! the non-const overloads `float& operator()(…)`, through which every write goes, have bodies of their own in the source -/

theorem bridge_fan_key_nc (d : C20.Dims) (ra a rb b : Int) :
    fan_key_nc d.N d.minB ra a rb b = d.storeKey ra a rb b := by
  kernel_simp [fan_key_nc, C20.Dims.storeKey]

theorem bridge_geo_key_nc (g : C20.GeoDims) (ra a rb b : Int) :
    geo_key_nc g.N (fun a => (geo_ctor_b_range g.N a).1) ra a rb b = g.storeKey ra a rb b := by
  kernel_simp [geo_key_nc, geo_ctor_b_range, C20.GeoDims.storeKey]
  by_cases h : b < a <;> simp [h]

theorem bridge_dp_key_nc (d : C20.DPDims) (a b : Int) :
    (let r := dp_key_nc d.N d.minB a b; ((0 : Int), r.1, (0 : Int), r.2)) = d.storeKey a b := by
  kernel_simp [dp_key_nc, C20.DPDims.storeKey]

end StirVerif.Gen
