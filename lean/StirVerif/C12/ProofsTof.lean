/-
C12 — proofs, TOF bin table (exact rational arithmetic): for an odd number of bins `get_k(t) = t·inc` and bin `t` has the
boundaries `(t ∓ 1/2)·inc` (whence contiguous, symmetric, monotone); what `set_tof_mash_factor` builds; a time difference
inside a bin is assigned to that bin.
-/
import StirVerif.C12.Model
import StirVerif.Common.IntRange
import Mathlib.Tactic.Ring
import Mathlib.Tactic.Linarith

namespace StirVerif.C12

theorem cHalf_pos : 0 < cHalf := by
  unfold cHalf
  norm_num

/-- with an odd number of TOF bins (the only case `set_tof_mash_factor` accepts) `get_k(t) = t·inc` -/
theorem getK_odd (n : Int) (inc : Rat) (t : Int) (hodd : n.tmod 2 ≠ 0) : getK n inc t = (t : Rat) * inc := by
  unfold getK
  have : (n.tmod 2 == 0) = false := by simpa using hodd
  rw [this]
  rfl

/-- `get_sampling_in_k` is the increment, for an odd and for an even number of bins -/
theorem samplingK_eq (n : Int) (inc : Rat) (t : Int) : samplingK n inc t = inc := by
  unfold samplingK getK
  split <;>
  · push_cast
    ring

theorem tofLow_odd (n : Int) (inc : Rat) (t : Int) (hodd : n.tmod 2 ≠ 0) : tofLow n inc t = ((t : Rat) - 1/2) * inc := by
  unfold tofLow
  rw [getK_odd n inc _ hodd, samplingK_eq]
  ring

theorem tofHigh_odd (n : Int) (inc : Rat) (t : Int) (hodd : n.tmod 2 ≠ 0) : tofHigh n inc t = ((t : Rat) + 1/2) * inc := by
  unfold tofHigh
  rw [getK_odd n inc _ hodd, samplingK_eq]
  ring

theorem setTofMash_spec (maxNum : Int) (size : Rat) (mash : Int) (T : TofTable)
    (h : setTofMash maxNum size mash = some T) :
    T.numBins.tmod 2 ≠ 0 ∧ T.numBins = maxNum.tdiv mash ∧ T.maxPos = T.minPos + T.numBins - 1 ∧
      T.minPos = -(T.numBins.tdiv 2) ∧ T.inc = ((mash : Rat) * size) * cHalf ∧ mash ≤ maxNum := by
  unfold setTofMash at h
  simp only [Option.ite_none_left_eq_some, Option.some.injEq] at h
  obtain ⟨hm, hn, rfl⟩ := h
  simp only []
  have hn' : (-((maxNum.tdiv mash).tdiv 2) + maxNum.tdiv mash - 1 - -((maxNum.tdiv mash).tdiv 2) + 1) = maxNum.tdiv mash := by omega
  rw [hn'] at hn ⊢
  exact ⟨by simpa using hn, rfl, by omega, rfl, trivial, by omega⟩

theorem find?_unique {α : Type} (p : α → Bool) (l : List α) (t : α) (hmem : t ∈ l) (ht : p t = true)
    (huniq : ∀ x ∈ l, p x = true → x = t) : l.find? p = some t := by
  -- something is found, and whatever is found passes
  obtain ⟨x, hx⟩ := Option.isSome_iff_exists.mp (List.find?_isSome.mpr ⟨t, hmem, ht⟩)
  rw [hx, huniq x (List.mem_of_find?_eq_some hx) (List.find?_some hx)]

theorem mem_positions (T : TofTable) (t : Int) : t ∈ T.positions ↔ T.minPos ≤ t ∧ t ≤ T.maxPos := by
  rw [TofTable.positions, Common.mem_map_range_add]
  omega

/-- with an odd number of bins, bin `t` is the interval `[t - 1/2, t + 1/2)` of the time difference measured in bin widths -/
theorem TofTable.lowPs_le_iff (T : TofTable) (hinc : 0 < T.inc) (hodd : T.numBins.tmod 2 ≠ 0) (t : Int) (delta : Rat) :
    T.lowPs t ≤ delta ↔ (t : Rat) - 1/2 ≤ delta * cHalf / T.inc := by
  unfold TofTable.lowPs TofTable.low
  rw [tofLow_odd _ _ _ hodd, div_le_iff₀ cHalf_pos, le_div_iff₀ hinc]

theorem TofTable.lt_highPs_iff (T : TofTable) (hinc : 0 < T.inc) (hodd : T.numBins.tmod 2 ≠ 0) (t : Int) (delta : Rat) :
    delta < T.highPs t ↔ delta * cHalf / T.inc < (t : Rat) + 1/2 := by
  unfold TofTable.highPs TofTable.high
  rw [tofHigh_odd _ _ _ hodd, lt_div_iff₀ cHalf_pos, div_lt_iff₀ hinc]

theorem getTofBin_of_mem (T : TofTable) (hinc : 0 < T.inc) (hodd : T.numBins.tmod 2 ≠ 0) (t : Int)
    (ht : T.minPos ≤ t ∧ t ≤ T.maxPos) (delta : Rat) (h1 : T.lowPs t ≤ delta) (h2 : delta < T.highPs t) :
    T.getTofBin delta = t := by
  unfold TofTable.getTofBin
  rw [find?_unique _ T.positions t ((mem_positions T t).2 ht)]
  · simp only [decide_eq_true h1, decide_eq_true h2, Bool.and_self]
  · -- two bins that contain `delta` are less than one bin apart
    intro x _ hx
    simp only [Bool.and_eq_true, decide_eq_true_eq] at hx
    rw [T.lowPs_le_iff hinc hodd, T.lt_highPs_iff hinc hodd] at hx
    rw [T.lowPs_le_iff hinc hodd] at h1
    rw [T.lt_highPs_iff hinc hodd] at h2
    have g1 : (x : Rat) < (t : Rat) + 1 := by linarith
    have g2 : (t : Rat) < (x : Rat) + 1 := by linarith
    have g1' : x < t + 1 := by exact_mod_cast g1
    have g2' : t < x + 1 := by exact_mod_cast g2
    omega

theorem getTofBin_centre (T : TofTable) (hinc : 0 < T.inc) (hodd : T.numBins.tmod 2 ≠ 0) (t : Int)
    (ht : T.minPos ≤ t ∧ t ≤ T.maxPos) : T.getTofBin (T.k t / cHalf) = t := by
  have hy : T.k t / cHalf * cHalf / T.inc = (t : Rat) := by
    unfold TofTable.k
    rw [getK_odd _ _ _ hodd, div_mul_cancel₀ _ (ne_of_gt cHalf_pos), mul_div_assoc, div_self (ne_of_gt hinc), mul_one]
  apply getTofBin_of_mem T hinc hodd t ht
  · rw [T.lowPs_le_iff hinc hodd, hy]
    linarith
  · rw [T.lt_highPs_iff hinc hodd, hy]
    linarith

end StirVerif.C12
