/-
C12 — executable model of the bin-coordinate / line-of-response / detector-position bookkeeping of
`ProjDataInfoCylindrical{,NoArcCorr,ArcCorr}`, `ProjDataInfoGeneric*`, the TOF bin table of `ProjDataInfo`,
`overlap_interpolate` and `ArcCorrection`.

Three layers:
* exact integer part (`Int`): interleaving tables (copied from the C01 model, same source lines), ring pairs;
* exact rational part (`Rat`): axial coordinate `get_m`, average ring difference, TOF bin table, arc-corrected
  `get_LOR`/`get_bin` in exact arithmetic (angles in units of π), `overlap_interpolate`;
* float part (`Float`, binary64; no theorems): the trigonometric coordinates, used by the driver only.

C semantics: `/`,`%` on possibly negative `int`s are `Int.tdiv`/`Int.tmod`; `>> 1` is floor division by 2
(the source asserts `-1 >> 1 == -1`).  `stir::round` rounds half away from zero.  32-bit overflow is not modelled.
Core Lean only.
-/
namespace StirVerif.C12

/-! ## integer part (same definitions as `StirVerif.C01`, re-stated here; `ProofsTrans.lean` shows the two interleaving tables equal,
`ProofsAxial.lean` carries the ring-pair loop over through `Seg.toC01`) -/

/-- arithmetic shift right by one -/
def shr1 (x : Int) : Int := Int.fdiv x 2

/-- `uncompressed_view_tangpos_to_det1det2[v][tp]`
    (src/buildblock/ProjDataInfoCylindricalNoArcCorr.cxx:206-208, and the copy in ProjDataInfoGenericNoArcCorr.cxx) -/
def viewTangToDet (N v tp : Int) : Int × Int :=
  ((v + shr1 tp + N).tmod N, (v - shr1 (tp + 1) + N.tdiv 2).tmod N)

/-- `det1det2_to_uncompressed_view_tangpos[d1][d2]` (ProjDataInfoCylindricalNoArcCorr.cxx:266-310):
    (view, tang, flag), flag `true` = detectors not exchanged -/
def detToViewTang (N d1 d2 : Int) : Int × Int × Bool :=
  let half := N.tdiv 2
  let tang := (d1 - d2 + (3 * N).tdiv 2).tmod N
  let view := (d1 - shr1 tang + N).tmod N
  if view < half then
    if tang ≥ half then (view, N - tang, false) else (view, tang, true)
  else
    if tang ≥ half then (view - half, tang - N, true) else (view - half, -tang, false)

structure Seg where
  minRD : Int
  maxRD : Int
  numAx : Int        -- axial positions 0 … numAx-1
  deriving Repr, DecidableEq, Inhabited

/-- `get_num_axial_poss_per_ring_inc` (src/include/stir/ProjDataInfoCylindrical.inl:108) -/
def Seg.inc (s : Seg) : Int := if s.maxRD != s.minRD then 2 else 1

/-- `ax_pos_num_offset[segment]` (ProjDataInfoCylindrical.cxx:195); `none` when the source calls `error` -/
def Seg.axOff (R : Int) (s : Seg) : Option Int :=
  if (s.numAx - 1).tmod s.inc != 0 then none else some ((R - 1) - (s.numAx - 1).tdiv s.inc)

/-- `segment_axial_pos_to_ring1_plus_ring2[s][a]` (ProjDataInfoCylindrical.cxx:276) -/
def Seg.ringSum (s : Seg) (off a : Int) : Int := (2 * a).tdiv s.inc + off

/-- `get_segment_axial_pos_num_for_ring_pair` (ProjDataInfoCylindrical.inl:253), no range check in the source -/
def Seg.axOf (s : Seg) (off r1 r2 : Int) : Int := ((r1 + r2 - off) * s.inc).tdiv 2

/-- `compute_segment_axial_pos_to_ring_pair` (ProjDataInfoCylindrical.cxx:447) -/
def Seg.ringPairsOf (R : Int) (s : Seg) (off a : Int) : List (Int × Int) :=
  let sum := s.ringSum off a
  let start := s.minRD + (s.minRD + sum).tmod 2
  let cnt := if start > s.maxRD then 0 else ((s.maxRD - start) / 2).toNat + 1
  (List.range cnt).filterMap fun (k : Nat) =>
    let rd := start + 2 * (k : Int)
    let r1 := (sum - rd).tdiv 2
    let r2 := (sum + rd).tdiv 2
    if r1 < 0 ∨ r2 < 0 ∨ r1 ≥ R ∨ r2 ≥ R then none else some (r1, r2)

/-- `ProjDataInfo::ProjDataInfoCTI` (src/buildblock/ProjDataInfo.cxx:493-572): segments `0, 1, …`.
    Repaired code (fix C12-2): `max_delta < span / 2` is an error, so that segment 0 (ring differences `-span/2 … span/2`
    for even span) is never clipped on one side only. -/
def ctiPositive (span maxDelta R : Int) : Option (List Seg) :=
  if maxDelta > R - 1 ∨ span < 1 ∨ span > 2 * R - 1 ∨ maxDelta < span.tdiv 2 then none
  else
    let min0 := if span.tmod 2 == 1 then -((span - 1).tdiv 2) else -(span.tdiv 2)
    let max0 := if span.tmod 2 == 1 then min0 + span - 1 else min0 + span
    let rec go (fuel : Nat) (acc : List (Int × Int)) (curMax : Int) : List (Int × Int) :=
      match fuel with
      | 0 => acc
      | fuel + 1 =>
        if curMax < maxDelta then go fuel (acc ++ [(curMax + 1, curMax + span)]) (curMax + span) else acc
    let ranges := go R.toNat [(min0, max0)] max0
    let ranges := match ranges.getLast? with
      | some (lo, hi) => if hi > maxDelta then ranges.dropLast ++ [(lo, maxDelta)] else ranges
      | none => ranges
    some (ranges.mapIdx fun i (lo, hi) =>
      { minRD := lo, maxRD := hi,
        numAx := if span == 1 then R - i else if i == 0 then 2 * R - 1 else 2 * R - 1 - 2 * lo })

/-- mirror image of a segment: segment `-i` of the table (ProjDataInfo.cxx:548-555) -/
def Seg.mirror (s : Seg) : Seg := { s with minRD := -s.maxRD, maxRD := -s.minRD }

/-- the full segment table `-k … k` -/
def ctiSegments (span maxDelta R : Int) : Option (Int × List Seg) :=
  (ctiPositive span maxDelta R).map fun pos =>
    let neg := (pos.drop 1).reverse.map Seg.mirror
    (-(pos.length - 1 : Int), neg ++ pos)

/-- segment `s` of a table whose first entry is segment `minSeg` -/
def segAt (minSeg : Int) (segs : List Seg) (s : Int) : Option Seg :=
  if s < minSeg then none else segs[(s - minSeg).toNat]?

/-- `get_segment_num_for_ring_difference` (ProjDataInfoCylindrical.inl:218) -/
def segOfRingDiff (minSeg : Int) (segs : List Seg) (rd : Int) : Option Int :=
  match segs.getLast?, segs.head? with
  | some last, some first =>
    if rd > last.maxRD ∨ rd < first.minRD then none
    else (segs.findIdx? fun s => rd ≥ s.minRD && rd ≤ s.maxRD).map fun k => minSeg + k
  | _, _ => none

structure Bin where
  seg : Int
  view : Int
  ax : Int
  tang : Int
  tof : Int
  deriving Repr, DecidableEq, Inhabited

/-! ## axial coordinate (exact rational arithmetic) -/

/-- `get_axial_sampling` (ProjDataInfoCylindrical.inl:126) -/
def Seg.axialSampling (spacing : Rat) (s : Seg) : Rat := spacing / (s.inc : Int)

/-- `m_offset[segment]` (ProjDataInfoCylindrical.cxx:148): `((max_ax + min_ax) * sampling) / 2`, `min_ax = 0` -/
def Seg.mOffset (spacing : Rat) (s : Seg) : Rat := (((s.numAx - 1 + 0 : Int) : Rat) * s.axialSampling spacing) / 2

/-- `get_m` (ProjDataInfoCylindrical.inl:71) -/
def Seg.getM (spacing : Rat) (s : Seg) (a : Int) : Rat := (a : Rat) * s.axialSampling spacing - s.mOffset spacing

/-- `get_average_ring_difference` (ProjDataInfoCylindrical.inl:132) -/
def Seg.avgRD (s : Seg) : Rat := ((s.minRD + s.maxRD : Int) : Rat) / 2

/-- axial position of ring `r` of an `R`-ring scanner with respect to the scanner centre -/
def ringZ (spacing : Rat) (R r : Int) : Rat := spacing * ((r : Rat) - ((R - 1 : Int) : Rat) / 2)

/-- mean over a (non-empty) list -/
def ratMean (l : List Rat) : Rat := l.foldl (· + ·) 0 / (l.length : Int)

/-- the axial midpoint averaged over the ring pairs contributing to (segment, axial position) -/
def avgMCompressed (spacing : Rat) (R : Int) (s : Seg) (off a : Int) : Rat :=
  ratMean ((s.ringPairsOf R off a).map fun p => (ringZ spacing R p.1 + ringZ spacing R p.2) / 2)

/-- the ring difference averaged over the contributing ring pairs -/
def avgRDCompressed (R : Int) (s : Seg) (off a : Int) : Rat :=
  ratMean ((s.ringPairsOf R off a).map fun p => ((p.2 - p.1 : Int) : Rat))

/-! ## TOF bin table (exact rational arithmetic, distances in mm) -/

/-- `stir::round` on a rational: half away from zero -/
def roundRat (x : Rat) : Int := if x ≥ 0 then (x + 1/2).floor else -((-x + 1/2).floor)

/-- speed of light in mm/ps divided by 2 (src/include/stir/common.h:148) -/
def cHalf : Rat := (299792458 : Int) / (2000000000 : Int)

structure TofTable where
  mash : Int
  minPos : Int
  maxPos : Int
  numBins : Int
  inc : Rat          -- `tof_increament_in_mm`
  deriving Repr

/-- `get_k` (src/buildblock/ProjDataInfo.cxx:69) -/
def getK (numBins : Int) (inc : Rat) (t : Int) : Rat :=
  if numBins.tmod 2 == 0 then (t : Rat) * inc + inc / 2 else (t : Rat) * inc

/-- `get_sampling_in_k` (ProjDataInfo.cxx:84) -/
def samplingK (numBins : Int) (inc : Rat) (t : Int) : Rat := (getK numBins inc (t + 1) - getK numBins inc (t - 1)) / 2

/-- `tof_bin_boundaries_mm[t].low_lim` (ProjDataInfo.cxx:234) -/
def tofLow (numBins : Int) (inc : Rat) (t : Int) : Rat := getK numBins inc t - samplingK numBins inc t / 2
/-- `tof_bin_boundaries_mm[t].high_lim` (ProjDataInfo.cxx:235) -/
def tofHigh (numBins : Int) (inc : Rat) (t : Int) : Rat := getK numBins inc t + samplingK numBins inc t / 2

def TofTable.k (T : TofTable) (t : Int) : Rat := getK T.numBins T.inc t
def TofTable.low (T : TofTable) (t : Int) : Rat := tofLow T.numBins T.inc t
def TofTable.high (T : TofTable) (t : Int) : Rat := tofHigh T.numBins T.inc t
/-- `mm_to_tof_delta_time` of the boundaries: `tof_bin_boundaries_ps` -/
def TofTable.lowPs (T : TofTable) (t : Int) : Rat := T.low t / cHalf
def TofTable.highPs (T : TofTable) (t : Int) : Rat := T.high t / cHalf

/-- `ProjDataInfo::set_tof_mash_factor` (ProjDataInfo.cxx:174-256) for a TOF-ready scanner and `new_num > 0`;
    `none` = `error(...)`.  `maxNum` = `get_max_num_timing_poss()`, `size` = `get_size_of_timing_pos()` in ps. -/
def setTofMash (maxNum : Int) (size : Rat) (mash : Int) : Option TofTable :=
  if mash > maxNum then none
  else
    let inc := ((mash : Rat) * size) * cHalf
    let minPos := -((maxNum.tdiv mash).tdiv 2)
    let maxPos := minPos + maxNum.tdiv mash - 1
    let numBins := maxPos - minPos + 1
    if numBins.tmod 2 == 0 then none else some ⟨mash, minPos, maxPos, numBins, inc⟩

/-- the list of TOF positions `min … max` -/
def TofTable.positions (T : TofTable) : List Int :=
  (List.range (T.maxPos - T.minPos + 1).toNat).map fun (k : Nat) => T.minPos + (k : Int)

/-- `get_tof_bin` (src/include/stir/ProjDataInfo.inl:79): first bin containing `delta` (ps), **otherwise the minimum bin** -/
def TofTable.getTofBin (T : TofTable) (delta : Rat) : Int :=
  match T.positions.find? fun i => decide (T.lowPs i ≤ delta) && decide (delta < T.highPs i) with
  | some i => i
  | none => T.minPos

/-! ## arc-corrected data: `get_LOR` and `get_bin` in exact arithmetic; angles in units of π -/

/-- `modulo(a, b)` for `b > 0` (src/include/stir/modulo.h) -/
def moduloRat (a b : Rat) : Rat := a - b * ((a / b).floor : Int)

/-- `to_0_2pi` in units of π -/
def to02 (x : Rat) : Rat := moduloRat x 2

/-- `LORInAxialAndSinogramCoordinates` (`phi` in units of π) -/
structure LorS where
  z1 : Rat
  z2 : Rat
  phi : Rat
  s : Rat
  swapped : Bool
  deriving Repr, DecidableEq

/-- constructor from explicit arguments (src/include/stir/LORCoordinates.inl:77): brings `phi` into [0,π) -/
def LorS.mk' (z1 z2 phi s : Rat) (swapped : Bool) : LorS :=
  let p := to02 phi
  if p ≥ 1 then ⟨z2, z1, p - 1, -s, !swapped⟩ else ⟨z1, z2, p, s, swapped⟩

structure ArcGeom where
  V : Int              -- number of views
  binSize : Rat
  spacing : Rat
  offset : Rat         -- azimuthal angle offset in units of π
  minTang : Int
  maxTang : Int
  minSeg : Int
  segs : List Seg
  tof : Option TofTable := none
  deriving Repr

def ArcGeom.maxSeg (g : ArcGeom) : Int := g.minSeg + g.segs.length - 1
def ArcGeom.seg? (g : ArcGeom) (s : Int) : Option Seg := segAt g.minSeg g.segs s

/-- `get_tof_bin` (ProjDataInfo.inl:79): 0 for non-TOF data -/
def ArcGeom.tofBin (g : ArcGeom) (delta : Rat) : Int := match g.tof with
  | none => 0
  | some T => T.getTofBin delta

/-- `get_tof_delta_time` (ProjDataInfo.cxx:78): `mm_to_tof_delta_time(get_k(bin))`, in ps -/
def ArcGeom.deltaTime (g : ArcGeom) (t : Int) : Rat := match g.tof with
  | none => 0
  | some T => T.k t / cHalf

/-- `ProjDataInfoCylindrical::get_LOR` (ProjDataInfoCylindrical.cxx:510) for arc-corrected data.  In exact arithmetic
    `max_a * tantheta = sqrt(R²-s²) * delta*spacing/(2*sqrt(R²-s²)) = delta*spacing/2`, which is what is used here. -/
def ArcGeom.lorOf (g : ArcGeom) (b : Bin) : Option LorS :=
  (g.seg? b.seg).map fun sg =>
    let m := sg.getM g.spacing b.ax
    let h := sg.avgRD * g.spacing / 2
    LorS.mk' (m - h) (m + h) ((b.view : Rat) / (g.V : Rat) + g.offset) ((b.tang : Rat) * g.binSize) false

/-- the segment search loops of `get_bin` (ProjDataInfoCylindricalArcCorr.cxx:176-192) -/
def ArcGeom.findSegUp (g : ArcGeom) (delta : Rat) : Nat → Int → Int
  | 0, s => s
  | fuel + 1, s =>
    if s < g.maxSeg then
      match g.seg? s with
      | some sg => if delta < (sg.maxRD : Rat) + 1/2 then s else g.findSegUp delta fuel (s + 1)
      | none => s
    else s
def ArcGeom.findSegDown (g : ArcGeom) (delta : Rat) : Nat → Int → Int
  | 0, s => s
  | fuel + 1, s =>
    if s > g.minSeg then
      match g.seg? s with
      | some sg => if delta > (sg.minRD : Rat) - 1/2 then s else g.findSegDown delta fuel (s - 1)
      | none => s
    else s

/-- repaired code (fix C12-7) in `ProjDataInfoCylindricalArcCorr::get_bin`: an angle a rounding error below the azimuthal offset is
    mapped by `to_0_2pi` to just under 2π and rounds to `2·num_views`, which is view 0 (not `num_views`, which "subtract
    `num_views` when `view > max_view`" would give) -/
def wrapView (V v : Int) : Int := if v = 2 * V then 0 else v

/-- `ProjDataInfoCylindricalArcCorr::get_bin(lor, delta_time)` (ProjDataInfoCylindricalArcCorr.cxx:102-223); `none` = bin
    value -1.  Repaired code (fix C12-3): the TOF bin is `get_tof_bin(delta_time)`, its sign reversed when the direction of
    the LOR is (`lor_coords.is_swapped() != swap_direction`).  `wrapFix = false` is the code before fix C12-7 (`wrapView`). -/
def ArcGeom.getBinCore (wrapFix : Bool) (g : ArcGeom) (l : LorS) (deltaTime : Rat) : Option Bin :=
  let view0 := (if wrapFix then wrapView g.V else id) (roundRat (to02 (l.phi - g.offset) / (1 / (g.V : Rat))))
  let swap := view0 > g.V - 1
  let view := if swap then view0 - g.V else view0
  let tang0 := roundRat (l.s / g.binSize)
  let tang := if swap then -tang0 else tang0
  if tang < g.minTang ∨ tang > g.maxTang then none
  else
    let delta := (if swap then l.z1 - l.z2 else l.z2 - l.z1) / g.spacing
    match g.seg? g.maxSeg, g.seg? g.minSeg with
    | some top, some bot =>
      if delta > (top.maxRD : Rat) + 1 ∨ delta < (bot.minRD : Rat) - 1 then none
      else
        let seg := if delta ≥ 0 then g.findSegUp delta g.segs.length 0 else g.findSegDown delta g.segs.length 0
        match g.seg? seg with
        | none => none
        | some sg =>
          let m := (l.z2 + l.z1) / 2
          let ax := roundRat ((m - sg.getM g.spacing 0) / sg.axialSampling g.spacing)
          if ax < 0 ∨ ax > sg.numAx - 1 then none
          else some ⟨seg, view, ax, tang, (if (l.swapped != decide swap) then -1 else 1) * g.tofBin deltaTime⟩
    | _, _ => none

/-- `get_bin` of the repaired code -/
def ArcGeom.getBin (g : ArcGeom) (l : LorS) (deltaTime : Rat) : Option Bin := g.getBinCore true l deltaTime

/-- `ArcCorrection::set_up`: boundaries of the arc-corrected boxes (src/buildblock/ArcCorrection.cxx:122-134):
    `_arccorr_coords[tp] = (tp - .5) * sampling` for `tp = min … max + 1` (repaired code, fix C12-5: the last entry, written
    after the loop with the loop variable equal to `max + 1`, is `(tang_pos_num - .5F) * tangential_sampling`; it used to be
    `(tang_pos_num + .5F) * …`, which made the last box two bins wide). -/
def arcCorrCoords (minTang maxTang : Int) (sampling : Rat) : List Rat :=
  (List.range ((maxTang - minTang + 1).toNat + 1)).map fun (k : Nat) => (((minTang + (k : Int) : Int) : Rat) - 1/2) * sampling

/-! ## `overlap_interpolate` (src/include/stir/numerics/overlap_interpolate.inl) over `Rat`

Boxes are given by their boundaries: `outC` has one more entry than `out`, `inC` one more than `inV`.
Arrays are functions `Nat → Rat` with explicit lengths (an out-of-range read never happens for well-formed input). -/

structure OvState where
  i : Nat            -- current in-box
  j : Nat            -- current out-box
  cur : Rat          -- `current_coord`
  first : Bool       -- `first_time_for_this_out_box`
  out : Array Rat

/-- `epsilon` (overlap_interpolate.inl:83) -/
def ovEpsilon (outC inC : Nat → Rat) (nOut nIn : Nat) : Rat :=
  min ((outC nOut - outC 0) / ((nOut * 10000 : Nat) : Int)) ((inC nIn - inC 0) / ((nIn * 10000 : Nat) : Int))

/-- `out[j]` -/
def getAt (a : Array Rat) (j : Nat) : Rat := a.getD j 0
/-- `out[j] = v` -/
def setAt (a : Array Rat) (j : Nat) (v : Rat) : Array Rat := a.setIfInBounds j v

/-- one iteration of the `while (true)` loop (overlap_interpolate.inl:92-130); `Sum.inr` = the loop is left
    (`true`: by `return`, all out-boxes done; `false`: by `break`, all in-boxes done) -/
def ovStep (outC inC inV : Nat → Rat) (nOut nIn : Nat) (eps : Rat) (onlyAdd : Bool) (st : OvState) :
    OvState ⊕ (OvState × Bool) :=
  let inBeyondOut := decide (inC (st.i + 1) > outC (st.j + 1))
  let newCoord := if inBeyondOut then outC (st.j + 1) else inC (st.i + 1)
  let overlap := newCoord - st.cur
  let out' :=
    if !onlyAdd && st.first then
      (if overlap > eps then setAt st.out st.j (inV st.i * overlap) else setAt st.out st.j (getAt st.out st.j * 0))
    else
      (if overlap > eps then setAt st.out st.j (getAt st.out st.j + inV st.i * overlap) else st.out)
  let first' := if !onlyAdd && st.first then false else st.first
  if inBeyondOut then
    if st.j + 1 = nOut then .inr ({ st with j := st.j + 1, cur := newCoord, first := first', out := out' }, true)
    else .inl { i := st.i, j := st.j + 1, cur := newCoord, first := true, out := out' }
  else
    if st.i + 1 = nIn then .inr ({ st with i := st.i + 1, cur := newCoord, first := first', out := out' }, false)
    else .inl { i := st.i + 1, j := st.j, cur := newCoord, first := first', out := out' }

/-- the main loop, with fuel `(nIn - i) + (nOut - j)` -/
def ovLoop (outC inC inV : Nat → Rat) (nOut nIn : Nat) (eps : Rat) (onlyAdd : Bool) : Nat → OvState → OvState × Bool
  | 0, st => (st, true)
  | fuel + 1, st =>
    match ovStep outC inC inV nOut nIn eps onlyAdd st with
    | .inl st' => ovLoop outC inC inV nOut nIn eps onlyAdd fuel st'
    | .inr r => r

/-- skip in-boxes left of the output range (overlap_interpolate.inl:56-62); `none` = `return` -/
def ovSkipIn (outC inC : Nat → Rat) (nIn : Nat) : Nat → Nat → Option Nat
  | 0, i => some i
  | fuel + 1, i =>
    if inC (i + 1) ≤ outC 0 then (if i + 1 = nIn then none else ovSkipIn outC inC nIn fuel (i + 1)) else some i

/-- skip (and zero) out-boxes left of the input range (overlap_interpolate.inl:66-74); `none` = `return` -/
def ovSkipOut (outC : Nat → Rat) (x : Rat) (nOut : Nat) (zero : Bool) : Nat → Nat → Array Rat → Array Rat × Option Nat
  | 0, j, out => (out, some j)
  | fuel + 1, j, out =>
    if outC (j + 1) ≤ x then
      let out' := if zero then setAt out j (getAt out j * 0) else out
      if j + 1 = nOut then (out', none) else ovSkipOut outC x nOut zero fuel (j + 1) out'
    else (out, some j)

/-- "fill rest of output with 0" (overlap_interpolate.inl:134-149): boxes `j+1 … nOut-1` -/
def ovZeroRest (nOut : Nat) : Nat → Nat → Array Rat → Array Rat
  | 0, _, out => out
  | fuel + 1, j, out => if j + 1 < nOut then ovZeroRest nOut fuel (j + 1) (setAt out (j + 1) (getAt out (j + 1) * 0)) else out

/-- `overlap_interpolate(out_begin, …, only_add_to_output, assign_rest_with_zeroes)`; `out0` has `nOut` entries -/
def overlapInterpolate (outC inC inV : Nat → Rat) (nOut nIn : Nat) (out0 : Array Rat)
    (onlyAdd assignRest : Bool) : Array Rat :=
  if nOut = 0 ∨ nIn = 0 then out0
  else
    match ovSkipIn outC inC nIn nIn 0 with
    | none => out0
    | some i0 =>
      match ovSkipOut outC (inC i0) nOut (!onlyAdd && assignRest) nOut 0 out0 with
      | (out1, none) => out1
      | (out1, some j0) =>
        let eps := ovEpsilon outC inC nOut nIn
        let st0 : OvState := ⟨i0, j0, max (inC i0) (outC j0), true, out1⟩
        let (st, returned) := ovLoop outC inC inV nOut nIn eps onlyAdd ((nIn - i0) + (nOut - j0)) st0
        if returned then st.out
        else if !onlyAdd && assignRest then ovZeroRest nOut nOut st.j st.out
        else st.out

/-- `ArcCorrection::do_arc_correction` on one row: `overlap_interpolate` then `out /= tangential_sampling` -/
def arcCorrectRow (outC inC inV : Nat → Rat) (nOut nIn : Nat) (sampling : Rat) : Array Rat :=
  (overlapInterpolate outC inC inV nOut nIn (Array.replicate nOut 0) false true).map (· / sampling)

/-! ## the `ArcCorrection` object as a state machine (src/include/stir/ArcCorrection.h: private members; ArcCorrection.cxx:63-171)

An `ArcCorrection` object caches, between `set_up` and the `do_arc_correction` calls, the edges of the non-arc-corrected bins
(`_noarccorr_coords`), their widths (`_noarccorr_bin_sizes`), the edges of the arc-corrected bins (`_arccorr_coords`) and
`tangential_sampling` (plus the two `ProjDataInfo` pointers, represented here by the index ranges).  `set_up` may be called any number
of times on one object; the code resizes every array to the new range and writes every element, i.e. nothing of the previous
`set_up` survives.  The model's `setUp` takes the old state as an argument (as the member function does) and returns the new one. -/

/-- the cached members of an `ArcCorrection` object -/
structure ArcCorrState where
  inMin : Int                -- `_noarc_corr_proj_data_info_sptr->get_min_tangential_pos_num()` = first index of `_noarccorr_coords`
  inMax : Int
  noarcCoords : List Rat     -- `_noarccorr_coords[inMin … inMax+1]`
  noarcSizes : List Rat      -- `_noarccorr_bin_sizes[inMin … inMax]`
  outMin : Int               -- `_arc_corr_proj_data_info_sptr->get_min_tangential_pos_num()` = first index of `_arccorr_coords`
  outMax : Int
  arcCoords : List Rat       -- `_arccorr_coords[outMin … outMax+1]`
  sampling : Rat             -- `tangential_sampling`
  deriving Repr, BEq, DecidableEq

/-- `ArcCorrection::ArcCorrection()`: empty arrays -/
def ArcCorrState.fresh : ArcCorrState := ⟨0, -1, [], [], 0, -1, [], 0⟩

/-- what the three-argument `set_up` reads from its arguments: the tangential range of the input, the edges
    `ring_radius * sin((tp ∓ .5) * angular_increment)` for `tp = inMin … inMax + 1` (trigonometry: supplied by the driver, binary64),
    the number of arc-corrected positions and the bin size -/
structure ArcSetUpArgs where
  inMin : Int
  inMax : Int
  edges : List Rat
  numOut : Int
  binSize : Rat
  deriving Repr, BEq, DecidableEq

/-- `ProjDataInfo::set_num_tangential_poss` (ProjDataInfo.cxx:124-129): `min = -(n/2)`, `max = min + n - 1` (C division) -/
def tangRangeOfNum (n : Int) : Int × Int := (-(n.tdiv 2), -(n.tdiv 2) + n - 1)

/-- `b[i] = a[i+1] - a[i]`: `_noarccorr_bin_sizes` (ArcCorrection.cxx:119) -/
def adjacentDiffs : List Rat → List Rat
  | a :: b :: rest => (b - a) :: adjacentDiffs (b :: rest)
  | _ => []

/-- `ArcCorrection::set_up(proj_data_info, num_arccorrected_tangential_poss, bin_size)` (ArcCorrection.cxx:63-136) on an object in
    state `st`: every cached member is assigned (lines 79, 96, 105, 107-121, 122-134); nothing of `st` is read. -/
def ArcCorrState.setUp (_st : ArcCorrState) (a : ArcSetUpArgs) : ArcCorrState :=
  let (omin, omax) := tangRangeOfNum a.numOut
  { inMin := a.inMin, inMax := a.inMax,
    noarcCoords := a.edges,
    noarcSizes := adjacentDiffs a.edges,
    outMin := omin, outMax := omax,
    arcCoords := arcCorrCoords omin omax a.binSize,
    sampling := a.binSize }

/-- the bin size chosen by the overloads `set_up(pdi, n)` and `set_up(pdi)` (ArcCorrection.cxx:142-150, 157-165): the scanner's
    default bin size, or the central bin size `get_sampling_in_s(Bin(0,0,0,0))` when that is not positive; `mode = 0` is the
    three-argument overload with its own `bin_size` -/
def arcSetUpBinSize (mode : Int) (defaultBin centralBin requested : Rat) : Rat :=
  if mode = 0 then requested else if defaultBin ≤ 0 then centralBin else defaultBin

/-- a history of `set_up` calls on one object -/
def ArcCorrState.history (st : ArcCorrState) (h : List ArcSetUpArgs) : ArcCorrState := h.foldl ArcCorrState.setUp st

/-- `ArcCorrection::do_arc_correction(Array<1,float>& out, const Array<1,float>& in)` (ArcCorrection.cxx:173-189) with the cached
    arrays of the object -/
def ArcCorrState.correctRow (st : ArcCorrState) (inV : List Rat) : Array Rat :=
  arcCorrectRow (fun k => st.arcCoords.getD k 0) (fun k => st.noarcCoords.getD k 0) (fun k => inV.getD k 0)
    (st.outMax - st.outMin + 1).toNat (st.inMax - st.inMin + 1).toNat st.sampling

/-! ## detector-based `get_bin` on exact angles (candidates of the nearest-detector rounding) -/

/-- the results a correctly rounded `stir::round(x)` may give when `x` carries a small floating-point error:
    both neighbours when `x` is (within 1/1000 of) a half-integer, the nearest integer otherwise -/
def roundCandidates (x : Rat) : List Int :=
  let f := x - (x.floor : Int)
  if (1/2 : Rat) - 1/1000 < f ∧ f < 1/2 + 1/1000 then [x.floor, x.floor + 1]
  else [roundRat x]

/-- `modulo(int, int)` (modulo.h) for positive `n` -/
def moduloInt (a n : Int) : Int := let r := a.tmod n; if r < 0 then r + n else r

/-! ## ring pairs / detector pairs of a bin, and the detector-based `get_bin` on exact angles -/

/-- `get_segment_axial_pos_num_for_ring_pair` (ProjDataInfoCylindrical.inl:238) -/
def segAxOfRingPair (R minSeg : Int) (segs : List Seg) (r1 r2 : Int) : Option (Int × Int) := do
  let s ← segOfRingDiff minSeg segs (r2 - r1)
  let sg ← segAt minSeg segs s
  let off ← sg.axOff R
  pure (s, sg.axOf off r1 r2)

structure CylGeom where
  N : Int
  R : Int
  mash : Int           -- view mashing factor N/2/num_views
  minTang : Int
  maxTang : Int
  minSeg : Int
  segs : List Seg
  tof : Option TofTable
  deriving Repr

/-- `get_bin_for_det_pair` (ProjDataInfoCylindricalNoArcCorr.inl:117) -/
def CylGeom.binForDetPair (g : CylGeom) (d1 r1 d2 r2 t : Int) : Option Bin :=
  let (v, tp, keep) := detToViewTang g.N d1 d2
  let view := v.tdiv g.mash
  if keep then (segAxOfRingPair g.R g.minSeg g.segs r1 r2).map fun (s, a) => ⟨s, view, a, tp, t⟩
  else (segAxOfRingPair g.R g.minSeg g.segs r2 r1).map fun (s, a) => ⟨s, view, a, tp, -t⟩

inductive RtResult where
  | bin (b : Bin)
  | miss
  deriving Repr, DecidableEq

/-- `ProjDataInfoCylindricalNoArcCorr::get_bin` (ProjDataInfoCylindricalNoArcCorr.cxx:554-591) applied to the LOR
    of bin `b` (`get_LOR`, ProjDataInfoCylindrical.cxx:510), in exact arithmetic: the end points are at the
    detector coordinates `x1 = mash·v + (mash-1)/2 + tp/2`, `x2 = x1 - tp + N/2` (units of 2π/N, the tilt cancels)
    and at the ring coordinates `m/spacing ∓ delta/2 + (R-1)/2`; every admissible rounding of a tie is listed.
    Repaired code (fix C12-1): when both end points round to the same detector the result is a miss (bin value -1). -/
def CylGeom.roundTrip (g : CylGeom) (b : Bin) : List RtResult :=
  match segAt g.minSeg g.segs b.seg with
  | none => []
  | some sg =>
    let c : Rat := (g.mash * b.view : Int) + ((g.mash - 1 : Int) : Rat) / 2
    let x1 := c + (b.tang : Rat) / 2
    let x2 := c - (b.tang : Rat) / 2 + ((g.N : Rat) / 2)
    let m := sg.getM 1 b.ax
    let y1 := m - sg.avgRD / 2 + ((g.R - 1 : Int) : Rat) / 2
    let y2 := m + sg.avgRD / 2 + ((g.R - 1 : Int) : Rat) / 2
    let t := match g.tof with
      | none => 0
      | some T => T.getTofBin (T.k b.tof / cHalf)
    (roundCandidates x1).flatMap fun e1 => (roundCandidates x2).flatMap fun e2 =>
    (roundCandidates y1).flatMap fun r1 => (roundCandidates y2).map fun r2 =>
      let d1 := moduloInt e1 g.N
      let d2 := moduloInt e2 g.N
      if r1 < 0 ∨ r1 ≥ g.R ∨ r2 < 0 ∨ r2 ≥ g.R then RtResult.miss
      else if d1 = d2 then RtResult.miss
      else match g.binForDetPair d1 r1 d2 r2 t with
        | none => RtResult.miss
        | some nb => if nb.tang < g.minTang ∨ nb.tang > g.maxTang then RtResult.miss else RtResult.bin nb

/-- spatial detector pairs of a bin: `get_all_det_pos_pairs_for_bin(…, ignore_non_spatial_dimensions = true)`
    (ProjDataInfoCylindricalNoArcCorr.cxx:329) -/
def CylGeom.detPairs (g : CylGeom) (b : Bin) : List ((Int × Int) × (Int × Int)) :=
  match segAt g.minSeg g.segs b.seg with
  | none => []
  | some sg =>
    match sg.axOff g.R with
    | none => []
    | some off =>
      ((List.range g.mash.toNat).map fun (k : Nat) => b.view * g.mash + (k : Int)).flatMap fun uv =>
        (sg.ringPairsOf g.R off b.ax).map fun rp => (viewTangToDet g.N uv b.tang, rp)

/-! ## LOR representations and the conversions between them (src/include/stir/LORCoordinates.inl), angles in units of π

`LORInCylinderCoordinates` = two points `(z, ψ)` on the cylinder, directed from the first to the second;
`LORInAxialAndNoArcCorrSinogramCoordinates` = `(z1, z2, φ, β, swapped)` with `0 ≤ φ < 1`, `-1/2 ≤ β < 1/2` (units of π): the points
`(z1, φ + β)`, `(z2, φ - β + 1)`, in this order unless `swapped`.  (`LORInAxialAndSinogramCoordinates` is the same with
`s = R sin β` in place of `β`; `LORAs2Points` are the Cartesian points `R (sin ψ, -cos ψ)`, and
`find_LOR_intersections_with_cylinder` gives back `(z, ψ)` of the two points in the same order.) -/

structure LorCyl where
  z1 : Rat
  psi1 : Rat
  z2 : Rat
  psi2 : Rat
  deriving Repr, DecidableEq

structure LorNA where
  z1 : Rat
  z2 : Rat
  phi : Rat
  beta : Rat
  swapped : Bool
  deriving Repr, DecidableEq

/-- constructor from explicit arguments (LORCoordinates.inl:106-122): brings `phi` into [0,π) -/
def LorNA.mk' (z1 z2 phi beta : Rat) (swapped : Bool) : LorNA :=
  let p := to02 phi
  if p ≥ 1 then ⟨z2, z1, p - 1, -beta, !swapped⟩ else ⟨z1, z2, p, beta, swapped⟩

/-- `LORInCylinderCoordinates(const LORInAxialAndNoArcCorrSinogramCoordinates&)` (LORCoordinates.inl:128-139; the constructor from
    `LORInAxialAndSinogramCoordinates`, :141-152, is the same with `beta() = asin(s/R)`) -/
def LorNA.toCyl (l : LorNA) : LorCyl :=
  let p1 := to02 (l.phi + l.beta)
  let p2 := to02 (l.phi - l.beta + 1)
  if l.swapped then ⟨l.z2, p2, l.z1, p1⟩ else ⟨l.z1, p1, l.z2, p2⟩

/-- `get_sino_coords` (LORCoordinates.inl:154-220), used by the constructors of both sinogram forms from cylinder coordinates.
    `fixed = true`: repaired code (fix C12-6): in the branch `phi < π`, `beta < -π/2` the two points are exchanged, hence
    `swapped = true` (the code had `false` there, and `true` in the branch `phi ≥ π`, `beta < -π/2` that keeps the order). -/
def LorCyl.toNA (fixed : Bool) (c : LorCyl) : LorNA :=
  let b0 := to02 ((c.psi1 - c.psi2 + 1) / 2)
  let b := if b0 > 1 then b0 - 2 else b0
  let p := to02 ((c.psi1 + c.psi2 - 1) / 2)
  if p < 1 then
    if b ≥ 1/2 then ⟨c.z2, c.z1, p, 1 - b, true⟩
    else if b < -(1/2) then ⟨c.z2, c.z1, p, -1 - b, fixed⟩
    else ⟨c.z1, c.z2, p, b, false⟩
  else
    if b ≥ 1/2 then ⟨c.z1, c.z2, p - 1, b - 1, false⟩
    else if b < -(1/2) then ⟨c.z1, c.z2, p - 1, b + 1, !fixed⟩
    else ⟨c.z2, c.z1, p - 1, -b, true⟩

/-- the same line in the opposite direction -/
def LorCyl.reverse (c : LorCyl) : LorCyl := ⟨c.z2, c.psi2, c.z1, c.psi1⟩
def LorNA.reverse (l : LorNA) : LorNA := { l with swapped := !l.swapped }

/-- `ProjDataInfoCylindrical::get_LOR` (ProjDataInfoCylindrical.cxx:510) for non-arc-corrected data, in detector units: `tilt` =
    intrinsic tilt (units of π), `φ = (2·mash·v + mash - 1)/N + tilt`, `β = tp/N`, `z` in units of the ring spacing relative to the
    scanner centre (`max_a·tan θ = Δ·spacing/2` exactly) -/
def CylGeom.lorOf (g : CylGeom) (tilt : Rat) (b : Bin) : Option LorNA :=
  (segAt g.minSeg g.segs b.seg).map fun sg =>
    let m := sg.getM 1 b.ax
    LorNA.mk' (m - sg.avgRD / 2) (m + sg.avgRD / 2) (((2 * g.mash * b.view + g.mash - 1 : Int) : Rat) / (g.N : Rat) + tilt)
      ((b.tang : Rat) / (g.N : Rat)) false

/-- `ProjDataInfoCylindricalNoArcCorr::get_bin` (ProjDataInfoCylindricalNoArcCorr.cxx:554-591) on a LOR in cylinder coordinates
    (every LOR type is first converted to these): nearest detectors `round((ψ - tilt)/(2π/N))`, nearest rings
    `round(z/spacing + (R-1)/2)`; every admissible rounding of a tie is listed; `t` = `get_tof_bin(delta_time)`.
    (`LORInCylinderCoordinates::is_swapped()` is always `false`.) -/
def CylGeom.getBinCyl (g : CylGeom) (tilt : Rat) (c : LorCyl) (t : Int) : List RtResult :=
  let x1 := (c.psi1 - tilt) * (g.N : Rat) / 2
  let x2 := (c.psi2 - tilt) * (g.N : Rat) / 2
  let y1 := c.z1 + ((g.R - 1 : Int) : Rat) / 2
  let y2 := c.z2 + ((g.R - 1 : Int) : Rat) / 2
  (roundCandidates x1).flatMap fun e1 => (roundCandidates x2).flatMap fun e2 =>
  (roundCandidates y1).flatMap fun r1 => (roundCandidates y2).map fun r2 =>
    let d1 := moduloInt e1 g.N
    let d2 := moduloInt e2 g.N
    if r1 < 0 ∨ r1 ≥ g.R ∨ r2 < 0 ∨ r2 ≥ g.R then RtResult.miss
    else if d1 = d2 then RtResult.miss
    else match g.binForDetPair d1 r1 d2 r2 t with
      | none => RtResult.miss
      | some nb => if nb.tang < g.minTang ∨ nb.tang > g.maxTang then RtResult.miss else RtResult.bin nb

/-- the LOR of a bin as the harness hands it to `get_bin`: `kind` names the LOR type and direction -/
inductive LorKind where
  | na | cyl | sino | pts | str | rev | cylrev | narev | sinorev
  deriving Repr, DecidableEq

def LorKind.ofString? : String → Option LorKind
  | "na" => some .na | "cyl" => some .cyl | "sino" => some .sino | "pts" => some .pts | "str" => some .str
  | "rev" => some .rev | "cylrev" => some .cylrev | "narev" => some .narev | "sinorev" => some .sinorev
  | _ => none

/-- is the direction of the line reversed (with respect to the bin's LOR) in this kind -/
def LorKind.reversed : LorKind → Bool
  | .rev | .cylrev | .narev | .sinorev => true
  | _ => false

/-- does the arc-corrected `get_bin` reach its sinogram coordinates through cylinder coordinates (`get_sino_coords`) for this kind -/
def LorKind.viaCylinder : LorKind → Bool
  | .cyl | .pts | .str | .rev | .cylrev => true
  | _ => false

/-- cylinder coordinates of the LOR `l` handed over as `kind` (points on the cylinder, moved along the line or not, give the
    same cylinder coordinates in exact arithmetic) -/
def LorNA.cylOfKind (l : LorNA) (k : LorKind) : LorCyl :=
  match k with
  | .narev | .sinorev => l.reverse.toCyl
  | .rev | .cylrev => l.toCyl.reverse
  | _ => l.toCyl

/-- sinogram coordinates with `s` → with the angle `β = asin(s/R)/π` that belongs to `s` (supplied by the caller) -/
def LorS.withBeta (l : LorS) (beta : Rat) : LorNA := ⟨l.z1, l.z2, l.phi, beta, l.swapped⟩

/-- … and back, `s = R sin β`: the angle is the supplied one (then `s`) or its opposite (then `-s`) -/
def LorNA.withS (n : LorNA) (beta s : Rat) : LorS := ⟨n.z1, n.z2, n.phi, if n.beta = beta then s else -s, n.swapped⟩

/-- `ProjDataInfoCylindricalArcCorr::get_bin` of the LOR `l` (with `β = asin(s/R)/π`) handed over as `kind`:
    cylinder coordinates and points are converted with `get_sino_coords`, sinogram coordinates are copied -/
def ArcGeom.getBinVia (fixDir fixWrap : Bool) (g : ArcGeom) (k : LorKind) (l : LorS) (beta dt : Rat) : Option Bin :=
  if k.viaCylinder then g.getBinCore fixWrap ((((l.withBeta beta).cylOfKind k).toNA fixDir).withS beta l.s) dt
  else g.getBinCore fixWrap (if k.reversed then { l with swapped := !l.swapped } else l) dt

/-- `get_bin ∘ (representation change) ∘ get_LOR` for non-arc-corrected data -/
def CylGeom.roundTripVia (g : CylGeom) (tilt : Rat) (k : LorKind) (b : Bin) : List RtResult :=
  match g.lorOf tilt b with
  | none => []
  | some l =>
    let t := match g.tof with
      | none => 0
      | some T => T.getTofBin (T.k b.tof / cHalf)
    g.getBinCyl tilt (l.cylOfKind k) t

/-- `find_bin_given_cartesian_coordinates_of_detection` (ProjDataInfoCylindricalNoArcCorr.cxx:560) applied to the coordinates of the
    detector pair `(d1,r1)-(d2,r2)` (or to points moved outwards along the line through them): in exact arithmetic
    `find_scanner_coordinates_given_cartesian_coordinates` finds the two detectors again, in this or in the opposite order -/
def CylGeom.findBin (g : CylGeom) (d1 r1 d2 r2 : Int) : RtResult :=
  match g.binForDetPair d1 r1 d2 r2 0 with
  | none => .miss
  | some nb => if nb.tang < g.minTang ∨ nb.tang > g.maxTang then .miss else .bin nb

/-! ## float part (binary64; used by the driver, no theorems) -/

def ratToFloat (q : Rat) : Float := Float.ofInt q.num / Float.ofNat q.den

/-- exact value of a finite binary64 number -/
def floatToRat (x : Float) : Rat :=
  let b := x.toBits
  let sign : Int := if b >>> 63 == 1 then -1 else 1
  let e : Int := ((b >>> 52) &&& 0x7ff).toNat
  let mant : Int := (b &&& 0xfffffffffffff).toNat
  if e == 0 then (sign * mant : Int) / ((2 : Rat) ^ (1074 : Nat))
  else
    let mm : Int := sign * (mant + 2 ^ (52 : Nat))
    if e ≥ 1075 then ((mm * 2 ^ (e - 1075).toNat : Int) : Rat) else (mm : Rat) / ((2 : Rat) ^ (1075 - e).toNat)

def piF : Float := 3.14159265358979323846

/-- a computed float quantity with the magnitude `mag` that its rounding-error bound is relative to -/
structure FM where
  v : Float
  mag : Float

structure CylF where
  N : Int
  V : Int
  arc : Bool
  reff : Float
  spacing : Float
  binSize : Float
  tilt : Float
  spacingQ : Rat       -- the same ring spacing, exactly

def CylF.mash (c : CylF) : Int := (c.N.tdiv 2).tdiv c.V

/-- `azimuthal_angle_offset` after the constructor (ProjDataInfoCylindrical.cxx:66-92) -/
def CylF.phiOffset (c : CylF) : Float :=
  if c.N > 2 ∧ c.V * 2 ≠ c.N ∧ c.N.tmod (c.V * 2) == 0 then
    c.tilt + piF / Float.ofInt (c.N.tdiv 2) * Float.ofInt (c.mash - 1) / 2
  else c.tilt

/-- `get_s` (ProjDataInfoCylindricalNoArcCorr.inl:82 / ProjDataInfoCylindricalArcCorr.inl:30) -/
def CylF.getS (c : CylF) (tp : Int) : Float :=
  if c.arc then Float.ofInt tp * c.binSize else c.reff * Float.sin (Float.ofInt tp * (piF / Float.ofInt c.N))

/-- `get_phi` (ProjDataInfoCylindrical.inl:65) -/
def CylF.getPhi (c : CylF) (v : Int) : Float := Float.ofInt v * (piF / Float.ofInt c.V) + c.phiOffset

/-- `get_tantheta` (ProjDataInfoCylindrical.inl:85) -/
def CylF.getTanTheta (c : CylF) (sg : Seg) (tp : Int) : Float :=
  let delta := ratToFloat sg.avgRD
  if delta.abs < 0.0001 then 0
  else delta * c.spacing / (2 * Float.sqrt (c.reff * c.reff - c.getS tp * c.getS tp))

/-- conditioning of `sqrt(R² - s²)` -/
def CylF.cond (c : CylF) (tp : Int) : Float :=
  let s := c.getS tp
  (c.reff * c.reff + s * s) / (c.reff * c.reff - s * s).abs

/-- `to_0_2pi` -/
def to02piF (x : Float) : Float :=
  let r := x - 2 * piF * Float.floor (x / (2 * piF))
  if r ≥ 2 * piF then r - 2 * piF else r

/-- `find_LOR_intersections_with_cylinder` (LORCoordinates.inl:303-372) followed by `get_sino_coords`
    (LORCoordinates.inl:158): (z1, z2, phi, beta, swapped), or `none` when the line misses the cylinder -/
def sinoCoordsOfPoints (x1 y1 z1 x2 y2 z2 radius : Float) : Option (Float × Float × Float × Float × Bool) :=
  let dx := x2 - x1; let dy := y2 - y1; let dz := z2 - z1
  let a := dx * dx + dy * dy
  let b := dx * x1 + dy * y1
  let e := x1 * x1 + y1 * y1 - radius * radius
  let arg := b * b - a * e
  if arg ≤ 0 then none
  else
    let root := Float.sqrt arg
    let l1 := (-b - root) / a
    let l2 := (-b + root) / a
    let px := dx * l1 + x1; let py := dy * l1 + y1; let pz := dz * l1 + z1
    let qx := dx * l2 + x1; let qy := dy * l2 + y1; let qz := dz * l2 + z1
    let fix := fun (p : Float) => if p ≥ 0 then p else (let r := p + 2 * piF; if r ≥ 2 * piF then r - 2 * piF else r)
    let psi1 := fix (Float.atan2 px (-py))
    let psi2 := fix (Float.atan2 qx (-qy))
    -- get_sino_coords
    let beta0 := to02piF ((psi1 - psi2 + piF) / 2)
    let beta := if beta0 > piF then beta0 - 2 * piF else beta0
    let phi := to02piF ((psi1 + psi2 - piF) / 2)
    if phi < piF then
      if beta ≥ piF / 2 then some (qz, pz, phi, piF - beta, true)
      else if beta < -piF / 2 then some (qz, pz, phi, -piF - beta, false)
      else some (pz, qz, phi, beta, false)
    else
      let phi := phi - piF
      if beta ≥ piF / 2 then some (pz, qz, phi, beta - piF, false)
      else if beta < -piF / 2 then some (pz, qz, phi, beta + piF, true)
      else some (qz, pz, phi, -beta, true)

structure BlocksF where
  N : Int
  R : Int
  reff : Float
  tilt : Float
  axBlocksPerBucket : Int
  trBlocksPerBucket : Int
  axCrystPerBlock : Int
  trCrystPerBlock : Int
  axCrystSpacing : Float
  trCrystSpacing : Float
  axBlockSpacing : Float
  trBlockSpacing : Float

/-- `GeometryBlocksOnCylindrical::build_crystal_maps` (src/buildblock/GeometryBlocksOnCylindrical.cxx:54-139):
    coordinate (x, y, z) of the crystal with the given tangential and axial index, before the rounding to 0.001 mm
    done by `DetectorCoordinateMap::set_detector_map` -/
def BlocksF.crystal (g : BlocksF) (tang ax : Int) : Float × Float × Float :=
  let perBucket := g.trBlocksPerBucket * g.trCrystPerBlock
  let nBuckets := g.N.tdiv perBucket
  let trBucket := tang.tdiv perBucket
  let trBlock := (tang.tmod perBucket).tdiv g.trCrystPerBlock
  let trCrys := tang.tmod g.trCrystPerBlock
  let axPerBucket := g.axBlocksPerBucket * g.axCrystPerBlock
  let nAxBuckets := g.R.tdiv axPerBucket
  let axBucket := ax.tdiv axPerBucket
  let axBlock := (ax.tmod axPerBucket).tdiv g.axCrystPerBlock
  let axCrys := ax.tmod g.axCrystPerBlock
  let I := Float.ofInt
  let csi := piF / I nBuckets
  let transBlocksGap := g.trBlockSpacing - I g.trCrystPerBlock * g.trCrystSpacing
  let axBlocksGap := g.axBlockSpacing - I (g.axCrystPerBlock - 1) * g.axCrystSpacing
  let csiMinus := csi - (csi / g.trBlockSpacing * 2) * (g.trCrystSpacing / 2 + transBlocksGap)
  let startZ := -(g.axBlockSpacing * I g.axBlocksPerBucket * I nAxBuckets - axBlocksGap) / 2
  let startY := -g.reff
  let startX := -(((I g.trBlocksPerBucket - 1) / 2) * g.trBlockSpacing + ((I g.trCrystPerBlock - 1) / 2) * g.trCrystSpacing)
  let tz := I (axBlock + axBucket * g.axBlocksPerBucket) * g.axBlockSpacing + I axCrys * g.axCrystSpacing
  let tx := I trBlock * g.trBlockSpacing + I trCrys * g.trCrystSpacing
  let alpha := g.tilt + I trBucket * (2 * piF) / I nBuckets + csiMinus
  let z := startZ + tz; let y := startY; let x := startX + tx
  -- rotation matrix [[1,0,0],[0,cos,sin],[0,-sin,cos]] applied to (z,y,x)
  (-Float.sin alpha * y + Float.cos alpha * x, Float.cos alpha * y + Float.sin alpha * x, z)

end StirVerif.C12
