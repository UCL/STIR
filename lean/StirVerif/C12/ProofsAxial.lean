/-
C12 — proofs, axial part (exact rational arithmetic): `get_m` equals the axial midpoint of every contributing ring pair (hence
their average); opposite segments of a table of `ProjDataInfoCTI` are mirror images (the table is that of C01, `ctiPositive_toC01`)
and have the same `get_m`.
-/
import StirVerif.C12.Model
import StirVerif.C01.ProofsCTI
import Mathlib.Tactic.Ring
import Mathlib.Tactic.Linarith
import Mathlib.Tactic.FieldSimp

namespace StirVerif.C12

/-- the segment as a segment of the C01 model: the structure and its integer functions are copies, so facts about
    `C01.Seg.ringPairsOf` carry over by unfolding -/
def Seg.toC01 (s : Seg) : C01.Seg := ⟨s.minRD, s.maxRD, s.numAx⟩

theorem Seg.mem_loop_iff (R : Int) (s : Seg) (off a : Int) (r1 r2 : Int) :
    (r1, r2) ∈ s.ringPairsOf R off a ↔
      (0 ≤ r1 ∧ r1 < R ∧ 0 ≤ r2 ∧ r2 < R ∧ s.minRD ≤ r2 - r1 ∧ r2 - r1 ≤ s.maxRD ∧
        r1 + r2 = s.ringSum off a) :=
  C01.Seg.mem_loop_iff R s.toC01 off a r1 r2

theorem Seg.ringPairsOf_nodup (R : Int) (s : Seg) (off a : Int) : (s.ringPairsOf R off a).Nodup :=
  C01.Seg.ringPairsOf_nodup R s.toC01 off a

theorem Seg.inc_cases (s : Seg) : s.inc = 1 ∨ s.inc = 2 := C01.Seg.inc_cases s.toC01

theorem Seg.axialSampling_pos (spacing : Rat) (h : 0 < spacing) (s : Seg) : 0 < s.axialSampling spacing := by
  unfold Seg.axialSampling
  rcases s.inc_cases with h1 | h1
  all_goals
    rw [h1]
    simp
    linarith

/-- for a ring pair of axial position `a`: `r1 + r2 - (R - 1)` is twice its axial midpoint from the scanner centre, in ring
    spacings; `2a - (numAx - 1)` is twice the axial position from the middle of the segment, in axial samples (`2 / inc` of which
    make a ring spacing) -/
theorem Seg.ringSum_key (R : Int) (s : Seg) (off a r1 r2 : Int)
    (hoff : s.axOff R = some off) (h : (r1, r2) ∈ s.ringPairsOf R off a) :
    s.inc * (r1 + r2 - (R - 1)) = 2 * a - (s.numAx - 1) := by
  have hsum := ((Seg.mem_loop_iff R s off a r1 r2).1 h).2.2.2.2.2.2
  have hnum : s.numAx - 1 = (R - 1 - off) * s.inc := (C01.axOff_eq_some_iff R s.toC01 off).1 hoff
  have h2 : (s.ringSum off a - off) * s.inc = 2 * a := C01.Seg.ringSum_mul_inc s.toC01 off a
  rw [hsum]
  linarith

/-- `get_m` is the distance of position `a` from the middle `(numAx - 1) / 2` of the segment, in axial samples `spacing / inc` -/
theorem Seg.getM_eq (spacing : Rat) (s : Seg) (a : Int) :
    s.getM spacing a = (2 * (a : Rat) - (s.numAx - 1)) * spacing / (2 * s.inc) := by
  unfold Seg.getM Seg.mOffset Seg.axialSampling
  push_cast
  ring

theorem Seg.getM_eq_midpoint (spacing : Rat) (R : Int) (s : Seg) (off a r1 r2 : Int)
    (hoff : s.axOff R = some off) (h : (r1, r2) ∈ s.ringPairsOf R off a) :
    s.getM spacing a = (ringZ spacing R r1 + ringZ spacing R r2) / 2 := by
  have hkey : (s.inc : Rat) * ((r1 : Rat) + r2 - (R - 1)) = 2 * a - (s.numAx - 1) := by
    exact_mod_cast Seg.ringSum_key R s off a r1 r2 hoff h
  have hinc : (s.inc : Rat) ≠ 0 := by
    rcases s.inc_cases with h1 | h1
    all_goals
      rw [h1]
      norm_num
  rw [Seg.getM_eq, ← hkey]
  unfold ringZ
  push_cast
  field_simp
  ring

theorem Seg.mirror_inc (s : Seg) : s.mirror.inc = s.inc := C01.Seg.mirror_inc s.toC01

theorem Seg.mirror_avgRD (s : Seg) : s.mirror.avgRD = -s.avgRD := by
  unfold Seg.avgRD Seg.mirror
  push_cast
  ring

theorem Seg.mirror_getM (spacing : Rat) (s : Seg) (a : Int) : s.mirror.getM spacing a = s.getM spacing a := by
  rw [Seg.getM_eq, Seg.getM_eq, Seg.mirror_inc]
  rfl

/-- a table `-n … n` whose negative side mirrors the positive one: entry 0, and entry `-k` against entry `k` -/
theorem segAt_mirrored (f : Seg → Seg) (s0 : Seg) (l : List Seg) :
    segAt (-(l.length : Int)) (l.reverse.map f ++ s0 :: l) 0 = some s0 ∧
    ∀ k : Int, 0 < k → segAt (-(l.length : Int)) (l.reverse.map f ++ s0 :: l) (-k) =
      (segAt (-(l.length : Int)) (l.reverse.map f ++ s0 :: l) k).map f := by
  have hlen : (l.reverse.map f).length = l.length := by simp
  unfold segAt
  constructor
  · rw [if_neg (by omega), List.getElem?_append_right (by omega), hlen]
    have : (0 - -(l.length : Int)).toNat - l.length = 0 := by omega
    rw [this]
    rfl
  · intro k hk
    by_cases hkl : k ≤ l.length
    · rw [if_neg (by omega), if_neg (by omega), List.getElem?_append_left (by omega), List.getElem?_append_right (by omega), hlen,
        List.getElem?_map, List.getElem?_reverse (by omega)]
      have i1 : l.length - 1 - (-k - -(l.length : Int)).toNat = k.toNat - 1 := by omega
      have i2 : (k - -(l.length : Int)).toNat - l.length = (k.toNat - 1) + 1 := by omega
      rw [i1, i2, List.getElem?_cons_succ]
    · rw [if_pos (by omega), if_neg (by omega), List.getElem?_eq_none (by simp; omega)]
      rfl

theorem ctiPositive_go_eq (span maxDelta : Int) (fuel : Nat) (acc : List (Int × Int)) (c : Int) :
    ctiPositive.go span maxDelta fuel acc c = C01.ctiPositive.go span maxDelta fuel acc c := by
  induction fuel generalizing acc c with
  | zero => rfl
  | succ n ih =>
    rw [ctiPositive.go, C01.ctiPositive.go, ih]

theorem ctiPositive_toC01 (span maxDelta R : Int) :
    (ctiPositive span maxDelta R).map (List.map Seg.toC01) = C01.ctiPositive span maxDelta R := by
  unfold ctiPositive C01.ctiPositive
  split
  · rfl
  · simp only [Option.map_some, ctiPositive_go_eq]
    congr 1
    apply List.ext_getElem?
    intro i
    simp only [List.getElem?_map, List.getElem?_mapIdx]
    cases (_ : List (Int × Int))[i]? <;> rfl

/-- the table of `ProjDataInfoCTI`: segment 0 is `-span/2 … span/2`, the negative segments mirror the positive ones -/
theorem ctiSegments_mirrored (span maxDelta R minSeg : Int) (segs : List Seg)
    (h : ctiSegments span maxDelta R = some (minSeg, segs)) :
    ∃ s0 rest, minSeg = -(rest.length : Int) ∧ segs = rest.reverse.map Seg.mirror ++ s0 :: rest ∧
      s0.minRD = -(span.tdiv 2) ∧ s0.maxRD = span.tdiv 2 := by
  unfold ctiSegments at h
  obtain ⟨pos, hp, he⟩ := Option.map_eq_some_iff.1 h
  simp only [Prod.mk.injEq] at he
  have h' : C01.ctiPositive span maxDelta R = some (pos.map Seg.toC01) := by
    rw [← ctiPositive_toC01, hp]
    rfl
  obtain ⟨⟨hs, _, _⟩, n, hpos, _, _⟩ := C01.ctiPositive_closed span maxDelta R _ h'
  rw [Int.tdiv_eq_ediv_of_nonneg (by omega)]
  cases pos with
  | nil => nomatch hpos
  | cons s0 rest =>
    have h0 := (List.cons.inj hpos).1
    exact ⟨s0, rest, by rw [← he.1]; simp, he.2.symm, congrArg C01.Seg.minRD h0, congrArg C01.Seg.maxRD h0⟩

end StirVerif.C12
