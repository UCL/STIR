/-
C12 — proofs towards `C12_roundtrip_model_transaxial` (what the model's detector-based round trip `CylGeom.roundTrip`, the
function the driver executes for `rt` operations, can answer transaxially): the roundings `roundCandidates` lists for an end
point at a whole or half detector number and for one moved by whole detectors (`roundCandidates_add_int`, which `ProofsVia`
uses), and view and tangential position of the bin `binForDetPair` finds.
-/
import StirVerif.C12.ProofsArc

namespace StirVerif.C12

theorem roundCandidates_int (k : Int) : roundCandidates (k : Rat) = [k] := by
  unfold roundCandidates
  rw [Rat.floor_intCast]
  simp only [sub_self]
  rw [if_neg (by norm_num), roundRat_int]

theorem roundCandidates_int_half (k : Int) : roundCandidates ((k : Rat) + 1/2) = [k, k + 1] := by
  unfold roundCandidates
  rw [floor_int_add_half]
  have : (k : Rat) + 1/2 - (k : Rat) = 1/2 := by ring
  rw [this, if_pos (by norm_num)]

theorem roundCandidates_half (n tp : Int) :
    roundCandidates ((n : Rat) + (tp : Rat) / 2) =
      if tp % 2 = 0 then [n + tp / 2] else [n + tp / 2, n + tp / 2 + 1] := by
  -- `tp = 2 * (tp / 2) + tp % 2`: a whole number, plus a half for odd `tp`
  have hx : (n : Rat) + (tp : Rat) / 2 = ((n + tp / 2 : Int) : Rat) + ((tp % 2 : Int) : Rat) / 2 := by
    have : (tp : Rat) = 2 * ((tp / 2 : Int) : Rat) + ((tp % 2 : Int) : Rat) := by
      exact_mod_cast (Int.mul_ediv_add_emod tp 2).symm
    push_cast
    rw [this]
    ring
  rw [hx]
  rcases Int.emod_two_eq_zero_or_one tp with h | h
  · rw [h, if_pos rfl, Int.cast_zero, zero_div, add_zero, roundCandidates_int]
  · rw [h, if_neg one_ne_zero, Int.cast_one, roundCandidates_int_half]

theorem mem_roundCandidates_half {x : Rat} {n tp a : Int} (hx : x = (n : Rat) + (tp : Rat) / 2) (h : a ∈ roundCandidates x) :
    ∃ e, (e = 0 ∨ e = 1) ∧ (tp % 2 = 1 ∨ e = 0) ∧ a = n + tp / 2 + e := by
  rw [hx, roundCandidates_half] at h
  split at h
  · exact ⟨0, .inl rfl, .inr rfl, by simpa using h⟩
  · rcases List.mem_pair.1 h with h | h
    · exact ⟨0, .inl rfl, .inr rfl, by omega⟩
    · exact ⟨1, .inr rfl, .inl (by omega), h⟩

theorem roundCandidates_add_int (x : Rat) (j : Int) : roundCandidates (x + j) = (roundCandidates x).map (· + j) := by
  unfold roundCandidates
  have hfr : x + (j : Rat) - ((x.floor + j : Int) : Rat) = x - ((x.floor : Int) : Rat) := by
    push_cast
    ring
  simp only [Rat.floor_add_intCast, hfr]
  split
  · simp only [List.map_cons, List.map_nil]
    congr 2
    ring
  · rename_i hw
    have hne : x - (x.floor : Rat) ≠ 1/2 := by
      intro e
      apply hw
      rw [e]
      constructor <;> norm_num
    simp only [List.map_cons, List.map_nil]
    -- `x + j` has the fractional part of `x` (`hfr`), so it is not a half either
    rw [roundRat_eq_round _ hne, roundRat_eq_round _ (by rwa [Rat.floor_add_intCast, hfr]), round_add_intCast]

theorem binForDetPair_view_tang (g : CylGeom) (d1 r1 d2 r2 t : Int) (nb : Bin)
    (h : g.binForDetPair d1 r1 d2 r2 t = some nb) :
    nb.view = (detToViewTang g.N d1 d2).1.tdiv g.mash ∧ nb.tang = (detToViewTang g.N d1 d2).2.1 := by
  unfold CylGeom.binForDetPair at h
  simp only [] at h
  split at h
  · obtain ⟨_, _, rfl⟩ := Option.map_eq_some_iff.1 h
    exact ⟨rfl, rfl⟩
  · obtain ⟨_, _, rfl⟩ := Option.map_eq_some_iff.1 h
    exact ⟨rfl, rfl⟩

end StirVerif.C12
