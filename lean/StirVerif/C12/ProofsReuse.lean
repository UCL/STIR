/-
C12 — proofs about the `ArcCorrection` object as a state machine (`ArcCorrState`, Model.lean): `set_up` overwrites every cached
member, so an object that was set up before (any number of times, for any geometries) is, after `set_up`, the object a freshly
constructed one would be, and corrects every row in the same way; the cached boxes are those of the LAST geometry.
(That the C++ `set_up` really assigns every member — which is what `ArcCorrState.setUp` transcribes — is tied to the code by the
correspondence run: the driver keeps the state between `acsu` and `acrow` lines of one re-used C++ object.)
-/
import StirVerif.C12.Model

namespace StirVerif.C12

theorem setUp_eq_fresh (st : ArcCorrState) (a : ArcSetUpArgs) : st.setUp a = ArcCorrState.fresh.setUp a := rfl

theorem history_snoc_eq_fresh (st : ArcCorrState) (h : List ArcSetUpArgs) (a : ArcSetUpArgs) :
    st.history (h ++ [a]) = ArcCorrState.fresh.setUp a := by
  unfold ArcCorrState.history
  rw [List.foldl_append]
  exact setUp_eq_fresh (h.foldl ArcCorrState.setUp st) a

theorem adjacentDiffs_eq_zipWith : ∀ l : List Rat, adjacentDiffs l = List.zipWith (fun a b => b - a) l l.tail
  | [] => rfl
  | [_] => rfl
  | a :: b :: rest => by
    rw [adjacentDiffs, adjacentDiffs_eq_zipWith (b :: rest)]
    rfl

theorem adjacentDiffs_length (l : List Rat) : (adjacentDiffs l).length = l.length - 1 := by
  rw [adjacentDiffs_eq_zipWith, List.length_zipWith, List.length_tail]
  omega

theorem adjacentDiffs_get (l : List Rat) (k : Nat) (x y : Rat) (hx : l[k]? = some x) (hy : l[k + 1]? = some y) :
    (adjacentDiffs l)[k]? = some (y - x) := by
  rw [adjacentDiffs_eq_zipWith, List.getElem?_zipWith, hx, List.getElem?_tail, hy]

end StirVerif.C12
