/-
C12 — the ring difference averaged over the ring pairs of an axial position.  The list of ring pairs is known as a set
(`Seg.mem_loop_iff`, `Seg.ringPairsOf_nodup`); a duplicate-free list that contains `c - x` with every `x` has mean `c / 2`
(`ratMean_of_reflect`), so the average is the middle of the segment's range whenever the contributing ring differences lie
symmetrically in it: what `C12_obliqueness_is_average_partial` is an instance of.
-/
import StirVerif.C12.ProofsAxial
import Mathlib.Data.List.Nodup

namespace StirVerif.C12

/-- ring difference `rd` (of the parity of `sum`) gives a ring pair inside the scanner -/
def InScanner (R sum rd : Int) : Prop :=
  0 ≤ (sum - rd).tdiv 2 ∧ 0 ≤ (sum + rd).tdiv 2 ∧ (sum - rd).tdiv 2 < R ∧ (sum + rd).tdiv 2 < R

theorem sum_map_reflect {α : Type} (c : Rat) (f : α → Rat) (l : List α) :
    (l.map fun x => c - f x).sum = (l.length : Rat) * c - (l.map f).sum := by
  induction l with
  | nil => simp
  | cons x xs ih =>
    simp only [List.map_cons, List.sum_cons, List.length_cons, ih]
    push_cast
    ring

theorem ratMean_const (c : Rat) (l : List Rat) (hne : l ≠ []) (h : ∀ x ∈ l, x = c) : ratMean l = c := by
  have hl : (l.length : Rat) ≠ 0 := by
    exact_mod_cast fun h0 => hne (List.length_eq_zero_iff.mp h0)
  unfold ratMean
  rw [← List.sum_eq_foldl, List.eq_replicate_of_mem h, List.sum_replicate, List.length_replicate, nsmul_eq_mul]
  push_cast
  field_simp

theorem ratMean_of_reflect (c : Int) (l : List Int) (hne : l ≠ []) (hnd : l.Nodup) (hmem : ∀ x ∈ l, c - x ∈ l) :
    ratMean (l.map fun x : Int => (x : Rat)) = (c : Rat) / 2 := by
  have hinj : ∀ x ∈ l, ∀ y ∈ l, c - x = c - y → x = y := fun x _ y _ h => by omega
  -- the list is a rearrangement of its own reflection, so twice its sum is `length * c`
  have hp : l.Perm (l.map (c - ·)) := by
    refine (List.perm_ext_iff_of_nodup hnd (List.Nodup.map_on hinj hnd)).2 fun x => ⟨fun hx => ?_, fun hx => ?_⟩
    · exact List.mem_map.2 ⟨c - x, hmem x hx, by omega⟩
    · obtain ⟨y, hy, rfl⟩ := List.mem_map.1 hx
      exact hmem y hy
  have hs := (hp.map fun x : Int => (x : Rat)).sum_eq
  simp only [List.map_map, Function.comp_def, Int.cast_sub, sum_map_reflect (c : Rat) fun x : Int => (x : Rat)] at hs
  have hl : (l.length : Rat) ≠ 0 := by
    exact_mod_cast fun h0 => hne (List.length_eq_zero_iff.mp h0)
  unfold ratMean
  rw [← List.sum_eq_foldl, List.length_map]
  push_cast
  field_simp
  linarith

theorem avgRDCompressed_of_symmetric (R : Int) (s : Seg) (off a : Int) (hne : s.ringPairsOf R off a ≠ [])
    (hsym : ∀ rd ∈ (s.ringPairsOf R off a).map (fun p => p.2 - p.1),
      s.minRD + s.maxRD - rd ∈ (s.ringPairsOf R off a).map (fun p => p.2 - p.1)) :
    avgRDCompressed R s off a = s.avgRD := by
  unfold avgRDCompressed Seg.avgRD
  rw [← ratMean_of_reflect (s.minRD + s.maxRD) _ (by simpa using hne) ?_ hsym, List.map_map]
  · rfl
  · -- two pairs with the same ring sum and the same ring difference are equal
    refine List.Nodup.map_on (fun x hx y hy h => ?_) (Seg.ringPairsOf_nodup R s off a)
    have hx := (Seg.mem_loop_iff R s off a x.1 x.2).1 hx
    have hy := (Seg.mem_loop_iff R s off a y.1 y.2).1 hy
    exact Prod.ext (by omega) (by omega)

/-- when none of the pairs falls outside the scanner, the contributing ring differences are those of the segment with the parity
    of the ring sum -/
theorem mem_ringDiffs_iff (R : Int) (s : Seg) (off a : Int)
    (hcomplete : ∀ rd, s.minRD ≤ rd → rd ≤ s.maxRD → (s.ringSum off a + rd) % 2 = 0 → InScanner R (s.ringSum off a) rd)
    (rd : Int) :
    rd ∈ (s.ringPairsOf R off a).map (fun p => p.2 - p.1) ↔
      s.minRD ≤ rd ∧ rd ≤ s.maxRD ∧ (s.ringSum off a + rd) % 2 = 0 := by
  simp only [List.mem_map, Prod.exists, Seg.mem_loop_iff]
  constructor
  · rintro ⟨r1, r2, h, rfl⟩
    omega
  · rintro ⟨h1, h2, h3⟩
    obtain ⟨a1, a2, a3, a4⟩ := hcomplete rd h1 h2 h3
    obtain ⟨r2, e2⟩ : ∃ r2, s.ringSum off a + rd = 2 * r2 := ⟨(s.ringSum off a + rd) / 2, by omega⟩
    obtain ⟨r1, e1⟩ : ∃ r1, s.ringSum off a - rd = 2 * r1 := ⟨r2 - rd, by omega⟩
    rw [e1, Int.mul_tdiv_cancel_left _ (by decide)] at a1 a3
    rw [e2, Int.mul_tdiv_cancel_left _ (by decide)] at a2 a4
    exact ⟨r1, r2, by omega, by omega⟩

end StirVerif.C12
