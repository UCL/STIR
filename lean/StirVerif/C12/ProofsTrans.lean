/-
C12 — proofs, transaxial part: interleaving in angle units and the nearest-detector round trip (integers).
The two tables are literally those of `StirVerif.C01`; their characterisation by `C01.IsDetPair` is reused.  Rounding an end
point of the LOR up moves a detector by one, and the pair obtained is again the detector pair of a bin one step away.
-/
import StirVerif.C12.Model
import StirVerif.C01.ProofsTrans

namespace StirVerif.C12
open StirVerif.C01 (IsDetPair)

theorem viewTangToDet_eq_C01 : viewTangToDet = C01.viewTangToDet := rfl
theorem detToViewTang_eq_C01 : detToViewTang = C01.detToViewTang := rfl

theorem viewTangToDet_isDetPair (m v tp : Int) (hv : 0 ≤ v ∧ v < m) (ht : -m < tp ∧ tp ≤ m) :
    IsDetPair m v tp (viewTangToDet (2 * m) v tp).1 (viewTangToDet (2 * m) v tp).2 :=
  viewTangToDet_eq_C01 ▸ C01.viewTangToDet_isDetPair m v tp hv ht

theorem detToViewTang_of_isDetPair {m v tp d1 d2 : Int} (h : IsDetPair m v tp d1 d2)
    (hv : 0 ≤ v ∧ v < m) (ht : -m < tp ∧ tp < m) :
    detToViewTang (2 * m) d1 d2 = (v, tp, true) ∧ detToViewTang (2 * m) d2 d1 = (v, tp, false) :=
  detToViewTang_eq_C01 ▸ h.toViewTang hv ht

theorem viewTangToDet_explicit (m v tp : Int) (hv : 0 ≤ v ∧ v < m) (ht : -m < tp ∧ tp ≤ m) :
    ∃ k1 k2 : Int, (viewTangToDet (2 * m) v tp).1 = v + tp / 2 + 2 * m * k1 ∧
      (viewTangToDet (2 * m) v tp).2 = v - (tp + 1) / 2 + m + 2 * m * k2 :=
  (viewTangToDet_isDetPair m v tp hv ht).2.2

/-- **interleaving in angle units** (angles in units of `π/N`, detector `d` at angle `2d`): the sum of the detector
    angles is `2·(2v + m - (tp mod 2))` and their difference `2·(tp - m)`, modulo `2N` -/
theorem interleaving (m v tp : Int) (hm : 0 < m) (hv : 0 ≤ v ∧ v < m) (ht : -m < tp ∧ tp ≤ m) :
    (∃ k : Int, (viewTangToDet (2 * m) v tp).1 + (viewTangToDet (2 * m) v tp).2 = 2 * v + m - tp % 2 + 2 * m * k) ∧
    (∃ k : Int, (viewTangToDet (2 * m) v tp).1 - (viewTangToDet (2 * m) v tp).2 = tp - m + 2 * m * k) := by
  obtain ⟨k1, k2, h1, h2⟩ := viewTangToDet_explicit m v tp hv ht
  refine ⟨⟨k1 + k2, ?_⟩, ⟨k1 - k2, ?_⟩⟩
  · rw [h1, h2, Int.mul_add]
    omega
  · rw [h1, h2, Int.mul_sub]
    omega

theorem moduloInt_eq_emod (a n : Int) (hn : 0 < n) : moduloInt a n = a % n := by
  unfold moduloInt
  simp only []
  rw [Int.tmod_eq_emod]
  have h0 := Int.emod_nonneg a (Int.ne_of_gt hn)
  have h1 := Int.emod_lt_of_pos a hn
  have hnat : (n.natAbs : Int) = n := by omega
  split
  · have hz : a % n - ((0 : Nat) : Int) = a % n := by omega
    rw [hz, if_neg (by omega)]
  · rw [hnat, if_pos (by omega)]
    omega

theorem moduloInt_add_mul (e j n : Int) (hn : 0 < n) : moduloInt (e + j * n) n = moduloInt e n := by
  rw [moduloInt_eq_emod _ _ hn, moduloInt_eq_emod _ _ hn, Int.add_mul_emod_self_right]

theorem moduloInt_spec (a n : Int) (hn : 0 < n) :
    (0 ≤ moduloInt a n ∧ moduloInt a n < n) ∧ ∃ k, moduloInt a n = a + n * k := by
  rw [moduloInt_eq_emod a n hn]
  refine ⟨⟨Int.emod_nonneg a (Int.ne_of_gt hn), Int.emod_lt_of_pos a hn⟩, -(a / n), ?_⟩
  have := Int.emod_add_mul_ediv a n
  rw [Int.mul_neg]
  omega

/-- what "at most one step away" means transaxially (the flag tells whether the detectors were exchanged,
    i.e. whether segment and TOF bin change sign) -/
def StepClose (m v tp : Int) (r : Int × Int × Bool) : Prop :=
  (r.2.2 = true ∧ (r.1 = v ∨ r.1 = v + 1 ∨ r.1 + 1 = v) ∧ -1 ≤ r.2.1 - tp ∧ r.2.1 - tp ≤ 1) ∨
  (r.2.2 = false ∧ ((v = m - 1 ∧ r.1 = 0) ∨ (v = 0 ∧ r.1 = m - 1)) ∧ r.2.1 + tp = 0)

theorem StepClose.same {m v tp v' tp' : Int} (hv : v' = v ∨ v' = v + 1 ∨ v' + 1 = v)
    (ht : -1 ≤ tp' - tp ∧ tp' - tp ≤ 1) : StepClose m v tp (v', tp', true) :=
  Or.inl ⟨rfl, hv, ht⟩

theorem StepClose.exchanged {m v tp v' tp' : Int} (hv : (v = m - 1 ∧ v' = 0) ∨ (v = 0 ∧ v' = m - 1))
    (ht : tp' + tp = 0) : StepClose m v tp (v', tp', false) :=
  Or.inr ⟨rfl, hv, ht⟩

/-- The end points of the LOR of bin `(v, tp)` sit at `v + tp/2` and `v - tp/2 + m` detector spacings: on the detectors `x1`, `x2`
    for even `tp`, half-way between `x1`, `x1 + 1` and between `x2`, `x2 + 1` for odd `tp`.  Whichever way they are rounded, the
    detectors found are those of a bin: the tangential position moves by `e1 - e2`, the view by one when both go up. -/
theorem isDetPair_round (m v tp x1 x2 e1 e2 k1 k2 : Int) (hm : 0 < m)
    (h1 : x1 = v + tp / 2 + 2 * m * k1) (h2 : x2 = v - (tp + 1) / 2 + m + 2 * m * k2) :
    IsDetPair m (v + (e1 + e2 + (tp + 1) % 2) / 2) (tp + e1 - e2)
      (moduloInt (x1 + e1) (2 * m)) (moduloInt (x2 + e2) (2 * m)) := by
  obtain ⟨hA, jA, eA⟩ := moduloInt_spec (x1 + e1) (2 * m) (by omega)
  obtain ⟨hB, jB, eB⟩ := moduloInt_spec (x2 + e2) (2 * m) (by omega)
  refine ⟨hA, hB, k1 + jA, k2 + jB, ?_, ?_⟩
  · rw [Int.mul_add]
    omega
  · rw [Int.mul_add]
    omega

/-- the detectors of a neighbouring bin `(v', tp')` are looked up as a bin at most one step away; past the last view they are
    those of `(0, -tp')` exchanged -/
theorem stepClose_of_isDetPair {m v tp v' tp' A B : Int} (h : IsDetPair m v' tp' A B)
    (hv : 0 ≤ v ∧ v < m) (ht : -m < tp ∧ tp < m) (hv' : v' = v ∨ (v' = v + 1 ∧ tp' = tp))
    (ht' : -1 ≤ tp' - tp ∧ tp' - tp ≤ 1) (hne : A ≠ B) : StepClose m v tp (detToViewTang (2 * m) A B) := by
  have hx : tp' ≠ m ∧ tp' ≠ -m := ⟨fun e => hne (h.eq_of_extreme (.inl e)), fun e => hne (h.eq_of_extreme (.inr e))⟩
  by_cases hlast : v' < m
  · rw [(detToViewTang_of_isDetPair h (by omega) (by omega)).1]
    exact .same (by omega) (by omega)
  · rw [(detToViewTang_of_isDetPair h.wrap (by omega) (by omega)).2]
    exact .exchanged (.inl ⟨by omega, by omega⟩) (by omega)

/-- hence rounding the end points of the LOR of a bin, up only where they lie half-way (odd `tp`), finds a bin at most one step
    away -/
theorem nearest_detector_roundtrip (m v tp x1 x2 e1 e2 k1 k2 : Int) (hm : 0 < m) (hv : 0 ≤ v ∧ v < m) (ht : -m < tp ∧ tp < m)
    (h1 : x1 = v + tp / 2 + 2 * m * k1) (h2 : x2 = v - (tp + 1) / 2 + m + 2 * m * k2)
    (he1 : e1 = 0 ∨ e1 = 1) (he2 : e2 = 0 ∨ e2 = 1) (hodd : tp % 2 = 1 ∨ (e1 = 0 ∧ e2 = 0))
    (hne : moduloInt (x1 + e1) (2 * m) ≠ moduloInt (x2 + e2) (2 * m)) :
    StepClose m v tp (detToViewTang (2 * m) (moduloInt (x1 + e1) (2 * m)) (moduloInt (x2 + e2) (2 * m))) :=
  stepClose_of_isDetPair (isDetPair_round m v tp x1 x2 e1 e2 k1 k2 hm h1 h2) hv ht (by omega) (by omega) hne

end StirVerif.C12
