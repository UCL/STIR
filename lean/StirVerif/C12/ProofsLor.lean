/-
C12 — proofs about the LOR representations of LORCoordinates.inl (exact arithmetic, angles in units of π):
the constructor normalisation, sinogram coordinates → cylinder coordinates → sinogram coordinates, reversal of the
direction, and the view returned by the arc-corrected `get_bin`.
-/
import StirVerif.C12.Model
import StirVerif.C12.ProofsArc

namespace StirVerif.C12

theorem to02_id {x : Rat} (h0 : 0 ≤ x) (h2 : x < 2) : to02 x = x :=
  to02_of x x 0 (by simp) h0 h2

theorem to02_add2 {x : Rat} (h0 : -2 ≤ x) (h2 : x < 0) : to02 x = x + 2 :=
  to02_of x (x + 2) (-1) (by push_cast; ring) (by linarith) (by linarith)

theorem to02_sub2 {x : Rat} (h0 : 2 ≤ x) (h2 : x < 4) : to02 x = x - 2 :=
  to02_of x (x - 2) 1 (by push_cast; ring) (by linarith) (by linarith)

theorem to02_congr {x y : Rat} (k : Int) (h : x = y + 2 * (k : Rat)) : to02 x = to02 y := by
  obtain ⟨j, hj, h0, h2⟩ := to02_spec y
  exact to02_of _ _ (k - j) (by rw [h, hj]; push_cast; ring) h0 h2

theorem to02_add_two_mul (x : Rat) (k : Int) : to02 (x + 2 * (k : Rat)) = to02 x :=
  to02_congr k rfl

/-- the result of `get_sino_coords` once the two `to_0_2pi` values are known -/
def naOf (fixed : Bool) (z1 z2 b p : Rat) : LorNA :=
  if p < 1 then
    if b ≥ 1/2 then ⟨z2, z1, p, 1 - b, true⟩
    else if b < -(1/2) then ⟨z2, z1, p, -1 - b, fixed⟩
    else ⟨z1, z2, p, b, false⟩
  else
    if b ≥ 1/2 then ⟨z1, z2, p - 1, b - 1, false⟩
    else if b < -(1/2) then ⟨z1, z2, p - 1, b + 1, !fixed⟩
    else ⟨z2, z1, p - 1, -b, true⟩

theorem toNA_eq_naOf (fixed : Bool) (c : LorCyl) :
    c.toNA fixed = naOf fixed c.z1 c.z2
      (if to02 ((c.psi1 - c.psi2 + 1) / 2) > 1 then to02 ((c.psi1 - c.psi2 + 1) / 2) - 2 else to02 ((c.psi1 - c.psi2 + 1) / 2))
      (to02 ((c.psi1 + c.psi2 - 1) / 2)) := rfl

/-- `get_sino_coords` once `(ψ1 - ψ2 + π)/2` and `(ψ1 + ψ2 - π)/2` are known up to multiples of 2π, as `b ∈ (-π, π]` and
    `p ∈ [0, 2π)` -/
theorem toNA_of_reps (fixed : Bool) (z1 psi1 z2 psi2 b p : Rat) (kb kp : Int)
    (hb : (psi1 - psi2 + 1) / 2 = b + 2 * (kb : Rat)) (hb0 : -1 < b) (hb1 : b ≤ 1)
    (hp : (psi1 + psi2 - 1) / 2 = p + 2 * (kp : Rat)) (hp0 : 0 ≤ p) (hp2 : p < 2) :
    (⟨z1, psi1, z2, psi2⟩ : LorCyl).toNA fixed = naOf fixed z1 z2 b p := by
  rw [toNA_eq_naOf]
  simp only []
  rw [to02_of _ p kp hp hp0 hp2]
  rcases lt_or_ge b 0 with hn | hn
  · have hr : (psi1 - psi2 + 1) / 2 = b + 2 + 2 * ((kb - 1 : Int) : Rat) := by
      rw [hb]
      push_cast
      ring
    rw [to02_of _ (b + 2) (kb - 1) hr (by linarith) (by linarith), if_pos (by linarith), add_sub_cancel_right]
  · rw [to02_of _ b kb hb hn (by linarith), if_neg (by linarith)]

/-- `get_sino_coords` of the two points `φ + β`, `φ - β + π` of a LOR with `φ` anywhere in `[0, 2π)`, each given up to whole turns:
    only the parity of the number of turns matters, and either way the sinogram coordinates come back in the constructor's normal
    form (`φ ≥ π`: the points in the other order, reported as exchanged; for an odd number of turns and `β > 0` through the
    branches repaired by fix C12-6) -/
theorem toNA_of_turns (z1 psi1 z2 psi2 phi beta : Rat) (j1 j2 : Int) (e1 : psi1 = phi + beta + 2 * (j1 : Rat))
    (e2 : psi2 = phi - beta + 1 + 2 * (j2 : Rat)) (h0 : 0 ≤ phi) (h2 : phi < 2) (hb0 : -(1/2) < beta) (hb1 : beta < 1/2) :
    (⟨z1, psi1, z2, psi2⟩ : LorCyl).toNA true =
      if phi < 1 then ⟨z1, z2, phi, beta, false⟩ else ⟨z2, z1, phi - 1, -beta, true⟩ := by
  subst e1 e2
  obtain ⟨q, hq | hq⟩ : ∃ q, j1 + j2 = 2 * q ∨ j1 + j2 = 2 * q + 1 := ⟨(j1 + j2) / 2, by omega⟩
  · obtain rfl : j1 = 2 * q - j2 := by omega
    rw [toNA_of_reps true _ _ _ _ beta phi (q - j2) q (by push_cast; ring) (by linarith) (by linarith)
      (by push_cast; ring) h0 h2]
    simp only [naOf, if_neg (not_le.2 hb1), if_neg (not_lt.2 hb0.le)]
  · obtain rfl : j1 = 2 * q + 1 - j2 := by omega
    rcases le_or_gt beta 0 with hn | hp <;> rcases lt_or_ge phi 1 with h1 | h1
    · rw [toNA_of_reps true _ _ _ _ (beta + 1) (phi + 1) (q - j2) q (by push_cast; ring) (by linarith) (by linarith)
        (by push_cast; ring) (by linarith) (by linarith)]
      unfold naOf
      rw [if_neg (by linarith), if_pos (by linarith), if_pos h1]
      congr 1 <;> ring
    · rw [toNA_of_reps true _ _ _ _ (beta + 1) (phi - 1) (q - j2) (q + 1) (by push_cast; ring) (by linarith) (by linarith)
        (by push_cast; ring) (by linarith) (by linarith)]
      unfold naOf
      rw [if_pos (by linarith), if_pos (by linarith), if_neg (by linarith)]
      congr 1
      ring
    · rw [toNA_of_reps true _ _ _ _ (beta - 1) (phi + 1) (q - j2 + 1) q (by push_cast; ring) (by linarith) (by linarith)
        (by push_cast; ring) (by linarith) (by linarith)]
      unfold naOf
      rw [if_neg (by linarith), if_neg (by linarith), if_pos (by linarith), if_pos h1]
      congr 1 <;> ring
    · rw [toNA_of_reps true _ _ _ _ (beta - 1) (phi - 1) (q - j2 + 1) (q + 1) (by push_cast; ring) (by linarith) (by linarith)
        (by push_cast; ring) (by linarith) (by linarith)]
      unfold naOf
      rw [if_pos (by linarith), if_neg (by linarith), if_pos (by linarith), if_neg (by linarith)]
      congr 1
      ring

theorem toCyl_toNA (l : LorNA) (h0 : 0 ≤ l.phi) (h1 : l.phi < 1) (hb0 : -(1/2) < l.beta) (hb1 : l.beta < 1/2) :
    (l.toCyl).toNA true = l := by
  obtain ⟨z1, z2, phi, beta, sw⟩ := l
  simp only [] at h0 h1 hb0 hb1
  obtain ⟨k1, e1, _, _⟩ := to02_spec (phi + beta)
  obtain ⟨k2, e2, _, _⟩ := to02_spec (phi - beta + 1)
  unfold LorNA.toCyl
  cases sw <;> simp only [Bool.false_eq_true, if_true, if_false]
  · rw [toNA_of_turns _ _ _ _ phi beta k1 k2 e1 e2 h0 (by linarith) hb0 hb1, if_pos h1]
  · -- the points in the other order are those of `φ + π`, `-β`
    rw [toNA_of_turns _ _ _ _ (phi + 1) (-beta) k2 (k1 - 1) (by rw [e2]; ring) (by rw [e1]; push_cast; ring)
      (by linarith) (by linarith) (by linarith) (by linarith), if_neg (by linarith), add_sub_cancel_right, neg_neg]

theorem mk'_toCyl (z1 z2 phi beta : Rat) (sw : Bool) :
    (LorNA.mk' z1 z2 phi beta sw).toCyl = (⟨z1, z2, phi, beta, sw⟩ : LorNA).toCyl := by
  obtain ⟨k, hk, hp0, hp2⟩ := to02_spec phi
  unfold LorNA.mk'
  simp only []
  have a1 : to02 (to02 phi + beta) = to02 (phi + beta) := to02_congr k (by rw [hk]; ring)
  have a2 : to02 (to02 phi - beta + 1) = to02 (phi - beta + 1) := to02_congr k (by rw [hk]; ring)
  have a3 : to02 (to02 phi - 1 + -beta) = to02 (phi - beta + 1) := to02_congr (k - 1) (by rw [hk]; push_cast; ring)
  have a4 : to02 (to02 phi - 1 - -beta + 1) = to02 (phi + beta) := to02_congr k (by rw [hk]; ring)
  split
  · unfold LorNA.toCyl
    cases sw <;> simp only [Bool.not_false, Bool.not_true, Bool.false_eq_true, if_true, if_false, a3, a4]
  · unfold LorNA.toCyl
    cases sw <;> simp only [Bool.false_eq_true, if_true, if_false, a1, a2]

theorem LorNA.mk'_range (z1 z2 phi beta : Rat) (sw : Bool) :
    0 ≤ (LorNA.mk' z1 z2 phi beta sw).phi ∧ (LorNA.mk' z1 z2 phi beta sw).phi < 1 ∧
      ((LorNA.mk' z1 z2 phi beta sw).beta = beta ∨ (LorNA.mk' z1 z2 phi beta sw).beta = -beta) := by
  obtain ⟨k, hk, hp0, hp2⟩ := to02_spec phi
  unfold LorNA.mk'
  simp only []
  split
  · rename_i h
    exact ⟨by simp only []; linarith, by simp only []; linarith, Or.inr rfl⟩
  · rename_i h
    exact ⟨hp0, by simp only []; linarith [not_le.mp h], Or.inl rfl⟩

/-- two different detector angles in `[0, 2π)` are the cylinder coordinates of a LOR in sinogram coordinates in standard form
    (`0 ≤ φ < π`, `-π/2 < β < π/2`; angles in units of π) -/
theorem exists_standard (c : LorCyl) (h1 : 0 ≤ c.psi1 ∧ c.psi1 < 2) (h2 : 0 ≤ c.psi2 ∧ c.psi2 < 2) (hne : c.psi1 ≠ c.psi2) :
    ∃ l : LorNA, 0 ≤ l.phi ∧ l.phi < 1 ∧ -(1/2) < l.beta ∧ l.beta < 1/2 ∧ l.toCyl = c := by
  obtain ⟨z1, psi1, z2, psi2⟩ := c
  simp only [] at h1 h2 hne
  have hb : ∃ beta : Rat, -(1/2) < beta ∧ beta < 1/2 ∧ ∃ j : Int, 2 * beta = psi1 - psi2 + 1 - 2 * (j : Rat) := by
    rcases lt_or_gt_of_ne hne with h | h
    · exact ⟨(psi1 - psi2 + 1) / 2, by linarith [h1.1, h2.2], by linarith, 0, by push_cast; ring⟩
    · exact ⟨(psi1 - psi2 - 1) / 2, by linarith, by linarith [h1.2, h2.1], 1, by push_cast; ring⟩
  obtain ⟨beta, hb0, hb1, j, hj⟩ := hb
  -- the constructor brings `φ = ψ1 - β` into the standard range without changing the two points
  obtain ⟨hp0, hp1, hβ⟩ := LorNA.mk'_range z1 z2 (psi1 - beta) beta false
  refine ⟨LorNA.mk' z1 z2 (psi1 - beta) beta false, hp0, hp1, ?_, ?_, ?_⟩
  · rcases hβ with e | e
    · rw [e]
      linarith
    · rw [e]
      linarith
  · rcases hβ with e | e
    · rw [e]
      linarith
    · rw [e]
      linarith
  · rw [mk'_toCyl]
    unfold LorNA.toCyl
    simp only [Bool.false_eq_true, if_false, sub_add_cancel, to02_id h1.1 h1.2]
    rw [to02_of _ psi2 j (by linarith) h2.1 h2.2]

theorem reverse_toCyl (l : LorNA) : l.reverse.toCyl = l.toCyl.reverse := by
  obtain ⟨z1, z2, phi, beta, sw⟩ := l
  unfold LorNA.reverse LorNA.toCyl LorCyl.reverse
  cases sw <;> simp

/-- the view `get_bin` returns, from the index `W` it computes from the angle before the "subtract `num_views`" rule (`view0` of
    `getBinCore`) -/
theorem getBinCore_view (wrapFix : Bool) (g : ArcGeom) (l : LorS) (dt : Rat) (nb : Bin) (W : Int)
    (hW : (if wrapFix then wrapView g.V else id) (roundRat (to02 (l.phi - g.offset) / (1 / (g.V : Rat)))) = W)
    (h : g.getBinCore wrapFix l dt = some nb) :
    nb.view = if W > g.V - 1 then W - g.V else W := by
  unfold ArcGeom.getBinCore at h
  simp only [] at h
  rw [hW] at h
  -- the guards do not matter: name what depends on the wrap test, then follow the one path that returns a bin
  generalize (if W > g.V - 1 then W - g.V else W) = view at h ⊢
  generalize (if W > g.V - 1 then -roundRat (l.s / g.binSize) else roundRat (l.s / g.binSize)) = tang at h
  generalize (if W > g.V - 1 then l.z1 - l.z2 else l.z2 - l.z1) = dz at h
  split at h
  · nomatch h
  split at h
  · split at h
    · nomatch h
    split at h
    · nomatch h
    split at h
    · nomatch h
    cases h
    rfl
  · nomatch h

theorem getBinCore_reverse (wrapFix : Bool) (g : ArcGeom) (l : LorS) (dt : Rat) :
    g.getBinCore wrapFix { l with swapped := !l.swapped } dt = (g.getBinCore wrapFix l dt).map fun b => { b with tof := -b.tof } := by
  unfold ArcGeom.getBinCore
  simp only []
  generalize (if wrapFix then wrapView g.V else id) (roundRat (to02 (l.phi - g.offset) / (1 / (g.V : Rat)))) = w
  -- both sides take the same path; they differ in the sign in front of the TOF bin only
  generalize (if w > g.V - 1 then w - g.V else w) = view
  generalize (if w > g.V - 1 then -roundRat (l.s / g.binSize) else roundRat (l.s / g.binSize)) = tang
  generalize (if w > g.V - 1 then l.z1 - l.z2 else l.z2 - l.z1) = dz
  generalize decide (w > g.V - 1) = sw
  split
  · rfl
  split
  · split
    · rfl
    split
    · rfl
    split
    · rfl
    cases l.swapped <;> cases sw <;> simp
  · rfl

theorem LorS.mk'_phi_range (z1 z2 phi s : Rat) (sw : Bool) :
    0 ≤ (LorS.mk' z1 z2 phi s sw).phi ∧ (LorS.mk' z1 z2 phi s sw).phi < 1 := by
  obtain ⟨k, hk, hp0, hp2⟩ := to02_spec phi
  unfold LorS.mk'
  simp only []
  split
  · rename_i h
    exact ⟨by simp only []; linarith, by simp only []; linarith⟩
  · rename_i h
    exact ⟨hp0, by simp only []; linarith [not_le.mp h]⟩

theorem lorOf_phi_range (g : ArcGeom) (b : Bin) (l : LorS) (hl : g.lorOf b = some l) : 0 ≤ l.phi ∧ l.phi < 1 := by
  unfold ArcGeom.lorOf at hl
  obtain ⟨sg, _, rfl⟩ := Option.map_eq_some_iff.1 hl
  exact LorS.mk'_phi_range _ _ _ _ _

/-- handing a LOR over in another representation changes nothing but, for the reversed kinds, its direction: the conversions
    through cylinder coordinates (`get_sino_coords`) give back the sinogram coordinates they started from -/
theorem getBinVia_eq (g : ArcGeom) (k : LorKind) (l : LorS) (beta dt : Rat) (hp : 0 ≤ l.phi ∧ l.phi < 1)
    (hb0 : -(1/2) < beta) (hb1 : beta < 1/2) :
    g.getBinVia true true k l beta dt =
      g.getBinCore true (if k.reversed then { l with swapped := !l.swapped } else l) dt := by
  have hfwd : ((l.withBeta beta).toCyl.toNA true).withS beta l.s = l := by
    rw [toCyl_toNA (l.withBeta beta) hp.1 hp.2 hb0 hb1]
    simp [LorS.withBeta, LorNA.withS]
  have hbwd : ((l.withBeta beta).reverse.toCyl.toNA true).withS beta l.s = { l with swapped := !l.swapped } := by
    rw [toCyl_toNA (l.withBeta beta).reverse hp.1 hp.2 hb0 hb1]
    simp [LorS.withBeta, LorNA.withS, LorNA.reverse]
  unfold ArcGeom.getBinVia
  cases k <;> simp only [LorKind.viaCylinder, LorKind.reversed, LorNA.cylOfKind, if_true, if_false, Bool.false_eq_true,
    ← reverse_toCyl, hfwd, hbwd]

end StirVerif.C12
