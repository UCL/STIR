/-
C12 — "Bin coordinates, lines of response and detector positions agree".
Property theorems over the model of `Model.lean`.  All of them hold for every (even) number of detectors, every number
of rings / segments / views / tangential positions / TOF bins and every (rational or real) sampling distance — no bounds;
the two theorems about the answer list of the round trip (`C12_roundtrip_model_transaxial`, `C12_roundtrip_via_transaxial`)
are for data without view mashing.
What is *not* a theorem (floating-point evaluation of the trigonometric coordinates, the LOR representation changes of
LORCoordinates.inl in floating point, detector coordinates of blocks/generic scanners and their `get_bin`,
`overlap_interpolate` / arc correction of rows) is covered by the correspondence run and the oracle of checks/c12.py only.

The model describes the code after the fixes C12-1 … C12-8 (docs/fixes); for C12-6 (`get_sino_coords` direction) and C12-7
(`get_bin` view wrap) the model functions take a flag, so that the code before the fix has a witness of its failure
(`…_before_fix_witness`).  Clauses of the property that the code does not
satisfy (known findings, not repaired) have a negative witness `…_fails` and the positive theorem is named `…_partial`:
* `roundtrip:miss-at-tangential-edge`            → `C12_roundtrip_miss_at_tangential_edge_fails`, `C12_roundtrip_inside_tangential_range_partial`
* `obliqueness:ring-pair-list-cut-at-axial-edge` → `C12_obliqueness_cut_at_axial_edge_fails`, `C12_obliqueness_is_average_partial`
* `obliqueness:even-number-of-ring-differences-per-segment` → `C12_obliqueness_even_span_fails`, same `_partial` theorem
* `generic:get_bin-needs-exact-crystal-coordinates`, `generic:get_bin-no-tof`, `generic:no-coordinates-for-axially-compressed-bins`
  → oracle only (the crystal map is data, its look-up is not modelled)
-/
import StirVerif.C12.ProofsTrans
import StirVerif.C12.ProofsChord
import StirVerif.C12.ProofsAxial
import StirVerif.C12.ProofsTof
import StirVerif.C12.ProofsArc
import StirVerif.C12.ProofsOverlap
import StirVerif.C12.ProofsObliq
import StirVerif.C12.ProofsRt
import StirVerif.C12.ProofsLor
import StirVerif.C12.ProofsVia
import StirVerif.C12.ProofsReuse

namespace StirVerif.C12
open Real

/-- "the azimuthal angle matches to within half a view step, exactly for even tangential positions": in units of `π/N`
    (detector `d` sits at angle `2d`) the two detectors of bin `(v, tp)` satisfy
    `d1 + d2 ≡ 2v + N/2 - (tp mod 2)` and `d1 - d2 ≡ tp - N/2 (mod N)` -/
theorem C12_interleaving_angle_units (m v tp : Int) (hm : 0 < m) (hv : 0 ≤ v ∧ v < m) (ht : -m < tp ∧ tp ≤ m) :
    ((viewTangToDet (2 * m) v tp).1 + (viewTangToDet (2 * m) v tp).2 - (2 * v + m - tp % 2)) % (2 * m) = 0 ∧
    ((viewTangToDet (2 * m) v tp).1 - (viewTangToDet (2 * m) v tp).2 - (tp - m)) % (2 * m) = 0 := by
  obtain ⟨⟨k, hk⟩, ⟨l, hl⟩⟩ := interleaving m v tp hm hv ht
  constructor
  · rw [hk, add_sub_cancel_left]
    exact Int.mul_emod_right _ _
  · rw [hl, add_sub_cancel_left]
    exact Int.mul_emod_right _ _

/-- the same with the multiples of `N` explicit (`d1 = v + ⌊tp/2⌋`, `d2 = v - ⌈tp/2⌉ + N/2` up to multiples of `N`) -/
theorem C12_detectors_explicit (m v tp : Int) (hm : 0 < m) (hv : 0 ≤ v ∧ v < m) (ht : -m < tp ∧ tp ≤ m) :
    ∃ k1 k2 : Int, (viewTangToDet (2 * m) v tp).1 = v + tp / 2 + 2 * m * k1 ∧
      (viewTangToDet (2 * m) v tp).2 = v - (tp + 1) / 2 + m + 2 * m * k2 :=
  viewTangToDet_explicit m v tp hv ht

/-- "the bin's physical coordinates agree with the straight line through the physical positions of its detectors:
    tangential offset … match … and the azimuthal angle matches to within half a view step, exactly for even tangential
    positions": both detectors of bin `(v, tp)` (ring of radius `R`, `N = 2m` detectors, any intrinsic tilt) lie on the line
    `{x cos φ + y sin φ = s}` with `s = R sin(tp·π/N)` (`get_s`) and `φ = v·2π/N + tilt - (tp mod 2)·π/N`
    (`get_phi` for even `tp`, half a view step less for odd `tp`). -/
theorem C12_chord_through_detectors (R tilt : ℝ) (m v tp : ℤ) (hm : 0 < m) (hv : 0 ≤ v ∧ v < m) (ht : -m < tp ∧ tp ≤ m) :
    let N : ℤ := 2 * m
    let φ : ℝ := 2 * π / (N : ℝ) * (v : ℝ) + tilt - ((tp % 2 : ℤ) : ℝ) * (π / (N : ℝ))
    let s : ℝ := R * sin ((tp : ℝ) * (π / (N : ℝ)))
    ringX R (detPsi tilt N (viewTangToDet N v tp).1) * cos φ + ringY R (detPsi tilt N (viewTangToDet N v tp).1) * sin φ = s ∧
    ringX R (detPsi tilt N (viewTangToDet N v tp).2) * cos φ + ringY R (detPsi tilt N (viewTangToDet N v tp).2) * sin φ = s := by
  intro N φ s
  obtain ⟨k1, k2, h1, h2⟩ := viewTangToDet_explicit m v tp hv ht
  have hmR : (m : ℝ) ≠ 0 := by exact_mod_cast (ne_of_gt hm)
  have hN : ((N : ℤ) : ℝ) = 2 * (m : ℝ) := by
    simp only [N]
    push_cast
    ring
  constructor
  · rw [ring_point_offset]
    have : detPsi tilt N (viewTangToDet N v tp).1 - φ = (tp : ℝ) * (π / (N : ℝ)) + (k1 : ℤ) * (2 * π) := by
      simp only [detPsi, φ, N] at *
      rw [h1]
      have hd := int_half_decomp tp
      push_cast
      rw [hd]
      field_simp
      ring
    rw [this, sin_add_int_mul_two_pi]
  · rw [ring_point_offset]
    have : detPsi tilt N (viewTangToDet N v tp).2 - φ = π - (tp : ℝ) * (π / (N : ℝ)) + (k2 : ℤ) * (2 * π) := by
      simp only [detPsi, φ, N] at *
      rw [h2]
      have hd := int_half_decomp tp
      have hu := int_half_up tp
      push_cast
      rw [hu, hd]
      field_simp
      ring
    rw [this, sin_add_int_mul_two_pi, sin_pi_sub]

/-- "negating the tangential position negates the offset" (non-arc-corrected data) -/
theorem C12_s_noarc_antisymmetric (R : ℝ) (N tp : ℤ) :
    R * sin (((-tp : ℤ) : ℝ) * (π / (N : ℝ))) = -(R * sin ((tp : ℝ) * (π / (N : ℝ)))) := by
  push_cast
  rw [neg_mul, sin_neg]
  ring

/-- "coordinates are … monotone in the indices": the tangential offset of non-arc-corrected data is strictly increasing
    over the whole admissible range `-N/2 ≤ tp ≤ N/2` -/
theorem C12_s_noarc_monotone (R : ℝ) (hR : 0 < R) (m tp tp' : ℤ) (hm : 0 < m) (h0 : -m ≤ tp) (h1 : tp < tp') (h2 : tp' ≤ m) :
    R * sin ((tp : ℝ) * (π / ((2 * m : ℤ) : ℝ))) < R * sin ((tp' : ℝ) * (π / ((2 * m : ℤ) : ℝ))) := by
  have hmR : (0 : ℝ) < (m : ℝ) := by exact_mod_cast hm
  have hpos : (0 : ℝ) < π / ((2 * m : ℤ) : ℝ) := by
    push_cast
    exact div_pos pi_pos (by linarith)
  have hscale : (m : ℝ) * (π / ((2 * m : ℤ) : ℝ)) = π / 2 := by
    push_cast
    field_simp
  exact mul_lt_mul_of_pos_left (sin_mul_strictMono hpos hscale (by exact_mod_cast h0) (by exact_mod_cast h1) (by exact_mod_cast h2)) hR

/-- "for detector-based geometries it returns a bin … at most one step away in view … and tangential position (stepping
    between the last and the first view reverses the signs …)": integer side of `get_bin ∘ get_LOR` for non-arc-corrected
    data.  The end points of the LOR sit at the detector coordinates `v + tp/2`, `v - tp/2 + N/2`: on detectors for even
    `tp`, half-way between two detectors for odd `tp`, where the floating-point rounding may go either way (`e1,e2 ∈ {0,1}`;
    this — `|ψ_float - ψ| < π/(2N)` — is the stated assumption about the float evaluation).
    `StepClose`: same flag and `|Δview| ≤ 1`, `|Δtp| ≤ 1`, or detectors exchanged (segment and TOF bin change sign),
    view `N/2-1 ↔ 0` and `tp' = -tp`.  (No tangential range here: whether `tp'` is inside the data is
    `C12_roundtrip_inside_tangential_range_partial`.) -/
theorem C12_nearest_detector_roundtrip (m v tp e1 e2 : Int) (hm : 0 < m) (hv : 0 ≤ v ∧ v < m) (ht : -m < tp ∧ tp < m)
    (he1 : e1 = 0 ∨ e1 = 1) (he2 : e2 = 0 ∨ e2 = 1) (hodd : tp % 2 = 1 ∨ (e1 = 0 ∧ e2 = 0))
    (hne : moduloInt ((viewTangToDet (2 * m) v tp).1 + e1) (2 * m) ≠ moduloInt ((viewTangToDet (2 * m) v tp).2 + e2) (2 * m)) :
    StepClose m v tp (detToViewTang (2 * m) (moduloInt ((viewTangToDet (2 * m) v tp).1 + e1) (2 * m))
      (moduloInt ((viewTangToDet (2 * m) v tp).2 + e2) (2 * m))) := by
  obtain ⟨k1, k2, h1, h2⟩ := viewTangToDet_explicit m v tp hv ⟨ht.1, Int.le_of_lt ht.2⟩
  exact nearest_detector_roundtrip m v tp _ _ e1 e2 k1 k2 hm hv ht h1 h2 he1 he2 hodd hne

/-- the excluded case is real: at the extreme tangential position `tp = N/2 - 1` (N = 8, view 0) rounding one end point
    up makes both end points the same detector; the repaired `get_bin` (fix C12-1) reports a miss then (it used to read a
    table entry that is never written) — see `C12_roundtrip_miss_at_tangential_edge_fails` below -/
theorem C12_coincident_detectors_witness :
    moduloInt ((viewTangToDet 8 0 3).1 + 1) 8 = moduloInt ((viewTangToDet 8 0 3).2 + 0) 8 := by decide

/-- … and it happens only there: both end points can round to the same detector only for `|tp| ≥ N/2 - 1` -/
theorem C12_coincident_only_at_extreme (m v tp e1 e2 : Int) (hm : 0 < m) (hv : 0 ≤ v ∧ v < m) (ht : -m < tp ∧ tp < m)
    (he1 : e1 = 0 ∨ e1 = 1) (he2 : e2 = 0 ∨ e2 = 1)
    (heq : moduloInt ((viewTangToDet (2 * m) v tp).1 + e1) (2 * m) = moduloInt ((viewTangToDet (2 * m) v tp).2 + e2) (2 * m)) :
    tp ≤ -(m - 1) ∨ m - 1 ≤ tp := by
  -- the two rounded end points are the detectors of a bin with tangential position `tp + e1 - e2`, which must be `±m`
  obtain ⟨k1, k2, h1, h2⟩ := viewTangToDet_explicit m v tp hv ⟨ht.1, Int.le_of_lt ht.2⟩
  have h := isDetPair_round m v tp _ _ e1 e2 k1 k2 hm h1 h2
  rw [heq] at h
  have := C01.IsDetPair.extreme_of_eq h (by omega)
  omega

/-- "… at most one step away in view … and tangential position …, or reports that the line misses the scanner, which
    happens only for axially compressed bins at the axial edge" — transaxial part, PARTIAL: for a bin that is **not at the
    first or last tangential position of the data** (`minT < tp < maxT`; ranges as STIR builds them: `minT + maxT ∈ {-1,0}`
    (we allow 1 too), inside `(-N/2, N/2)`), whatever the rounding does, the two nearest detectors differ, the bin found is
    one step away at most, and its tangential position is inside the data: no miss for transaxial reasons.
    What is missing: the first/last tangential position, where the property's clause is false
    (`C12_roundtrip_miss_at_tangential_edge_fails`). -/
theorem C12_roundtrip_inside_tangential_range_partial (m v tp e1 e2 minT maxT : Int) (hm : 0 < m) (hv : 0 ≤ v ∧ v < m)
    (he1 : e1 = 0 ∨ e1 = 1) (he2 : e2 = 0 ∨ e2 = 1) (hodd : tp % 2 = 1 ∨ (e1 = 0 ∧ e2 = 0))
    (hmin : -m < minT) (hmax : maxT < m) (hsym : -1 ≤ minT + maxT ∧ minT + maxT ≤ 1) (hin : minT < tp ∧ tp < maxT) :
    moduloInt ((viewTangToDet (2 * m) v tp).1 + e1) (2 * m) ≠ moduloInt ((viewTangToDet (2 * m) v tp).2 + e2) (2 * m) ∧
    StepClose m v tp (detToViewTang (2 * m) (moduloInt ((viewTangToDet (2 * m) v tp).1 + e1) (2 * m))
      (moduloInt ((viewTangToDet (2 * m) v tp).2 + e2) (2 * m))) ∧
    minT ≤ (detToViewTang (2 * m) (moduloInt ((viewTangToDet (2 * m) v tp).1 + e1) (2 * m))
      (moduloInt ((viewTangToDet (2 * m) v tp).2 + e2) (2 * m))).2.1 ∧
    (detToViewTang (2 * m) (moduloInt ((viewTangToDet (2 * m) v tp).1 + e1) (2 * m))
      (moduloInt ((viewTangToDet (2 * m) v tp).2 + e2) (2 * m))).2.1 ≤ maxT := by
  have ht : -m < tp ∧ tp < m := by omega
  have hne : moduloInt ((viewTangToDet (2 * m) v tp).1 + e1) (2 * m) ≠ moduloInt ((viewTangToDet (2 * m) v tp).2 + e2) (2 * m) := by
    intro heq
    have := C12_coincident_only_at_extreme m v tp e1 e2 hm hv ht he1 he2 heq
    omega
  have hs := C12_nearest_detector_roundtrip m v tp e1 e2 hm hv ht he1 he2 hodd hne
  refine ⟨hne, hs, ?_, ?_⟩ <;>
  · unfold StepClose at hs
    rcases hs with ⟨_, _, h1, h2⟩ | ⟨_, _, h1⟩ <;> omega

/-- the same for the function the driver executes for every `rt` operation: **every** answer that the model's
    `get_bin ∘ get_LOR` (`CylGeom.roundTrip`: exact angles, every admissible rounding of a half-way end point; data without
    view mashing, any number of rings / segments / TOF) lists is a miss or a bin at most one step away in view and tangential
    position (with the last-view/first-view sign reversal) whose tangential position is inside the data.
    (Segment, axial position and TOF bin of the answer are compared with the code by the correspondence and checked by the
    oracle, they are not part of this theorem.)
    For the LOR handed over in another representation that keeps the direction (`CylGeom.roundTripVia`, the `rtx` operations of
    the driver) the model's answer list is this very list (`C12_roundtrip_via_eq_roundTrip`), so the theorem covers them as well. -/
theorem C12_roundtrip_model_transaxial (g : CylGeom) (m : Int) (b : Bin) (hN : g.N = 2 * m) (hm : 0 < m) (hmash : g.mash = 1)
    (hv : 0 ≤ b.view ∧ b.view < m) (ht : -m < b.tang ∧ b.tang < m) (r : RtResult) (hr : r ∈ g.roundTrip b) :
    r = RtResult.miss ∨ ∃ nb flag, r = RtResult.bin nb ∧ StepClose m b.view b.tang (nb.view, nb.tang, flag) ∧
      g.minTang ≤ nb.tang ∧ nb.tang ≤ g.maxTang := by
  unfold CylGeom.roundTrip at hr
  cases hs : segAt g.minSeg g.segs b.seg with
  | none =>
    rw [hs] at hr
    simp at hr
  | some sg =>
    rw [hs] at hr
    simp only [] at hr
    rw [hmash, hN] at hr
    simp only [List.mem_flatMap, List.mem_map] at hr
    obtain ⟨a1, ha1, a2, ha2, r1, _, r2, _, rfl⟩ := hr
    obtain ⟨e1, he1a, he1b, rfl⟩ := mem_roundCandidates_half (n := b.view) (tp := b.tang) (by push_cast; ring) ha1
    obtain ⟨e2, he2a, he2b, rfl⟩ := mem_roundCandidates_half (n := b.view + m) (tp := -b.tang) (by push_cast; ring) ha2
    have hodd : b.tang % 2 = 1 ∨ (e1 = 0 ∧ e2 = 0) := by omega
    split
    · exact .inl rfl
    · split
      · exact .inl rfl
      · rename_i hne
        split
        · exact .inl rfl
        · rename_i nb hb
          split
          · exact .inl rfl
          · obtain ⟨hview, htang⟩ := binForDetPair_view_tang g _ _ _ _ _ nb hb
            rw [hmash, Int.tdiv_one, hN] at hview
            rw [hN] at htang
            -- `(-tp) / 2 = -((tp + 1) / 2)`: the second end point is `v - ⌈tp/2⌉ + m`
            have hsc := nearest_detector_roundtrip m b.view b.tang _ _ e1 e2 0 0 hm hv ht (by omega) (by omega) he1a he2a hodd hne
            generalize detToViewTang (2 * m) _ _ = D at hview htang hsc
            refine .inr ⟨nb, D.2.2, rfl, ?_, by omega, by omega⟩
            rw [hview, htang]
            exact hsc

/-- "… converting its reported line of response back to a bin …" with the reported LOR handed over in another representation
    that keeps its direction (`LORInCylinderCoordinates`, `LORInAxialAndSinogramCoordinates`, `LORAs2Points` on the cylinder or
    moved along the line): the model's `get_bin ∘ (representation change) ∘ get_LOR`, which goes through explicit cylinder
    coordinates `ψ = φ ± β` (`LorNA.toCyl`, angles modulo 2π), lists exactly the answers of `roundTrip`, for every number of
    detectors, view mashing factor, rings, segments and TOF, and every view number — stated for intrinsic tilt 0, the first
    argument of `roundTripVia`; that another tilt cancels, as the comment at `CylGeom.roundTrip` has it, is not a theorem -/
theorem C12_roundtrip_via_eq_roundTrip (g : CylGeom) (b : Bin) (k : LorKind) (hk : k.reversed = false) (hN : 0 < g.N) :
    g.roundTripVia 0 k b = g.roundTrip b := by
  have hc : ∀ l : LorNA, l.cylOfKind k = l.toCyl := by
    intro l
    cases k <;> simp_all [LorKind.reversed, LorNA.cylOfKind]
  unfold CylGeom.roundTripVia CylGeom.lorOf
  cases hs : segAt g.minSeg g.segs b.seg with
  | none =>
    unfold CylGeom.roundTrip
    simp [hs]
  | some sg =>
    -- the constructor's normalisation of `φ` does not change the cylinder coordinates, nor `to_0_2pi` the enumeration
    rw [roundTrip_eq_nearestList g b sg hs]
    simp only [Option.map_some, hc, add_zero]
    rw [mk'_toCyl, getBinCyl_eq_nearestList]
    unfold LorNA.toCyl
    simp only [Bool.false_eq_true, if_false, sub_zero]
    rw [nearestList_to02 g hN]
    -- the angles `φ + β`, `φ - β + π` in detector units are the end points of `roundTrip`
    congr 1 <;>
    · push_cast
      field_simp
      ring

/-- … hence every answer for such a representation is a miss or at most one step away in view and tangential position, inside
    the data (the statement of `C12_roundtrip_model_transaxial` for the `rtx` operations of the driver) -/
theorem C12_roundtrip_via_transaxial (g : CylGeom) (m : Int) (b : Bin) (k : LorKind) (hk : k.reversed = false)
    (hN : g.N = 2 * m) (hm : 0 < m) (hmash : g.mash = 1)
    (hv : 0 ≤ b.view ∧ b.view < m) (ht : -m < b.tang ∧ b.tang < m) (r : RtResult) (hr : r ∈ g.roundTripVia 0 k b) :
    r = RtResult.miss ∨ ∃ nb flag, r = RtResult.bin nb ∧ StepClose m b.view b.tang (nb.view, nb.tang, flag) ∧
      g.minTang ≤ nb.tang ∧ nb.tang ≤ g.maxTang := by
  rw [C12_roundtrip_via_eq_roundTrip g b k hk (by omega)] at hr
  exact C12_roundtrip_model_transaxial g m b hN hm hmash hv ht r hr

/-- the smallest geometry of the known finding `roundtrip:miss-at-tangential-edge`: 8 detectors, 1 ring, span 1, 4 views,
    3 tangential positions -1 … 1 (neither axially compressed nor at an axial edge) -/
def exEdgeGeom : CylGeom :=
  { N := 8, R := 1, mash := 1, minTang := -1, maxTang := 1, minSeg := 0, segs := [⟨0, 0, 1⟩], tof := none }

/-- NEGATIVE WITNESS (known finding `roundtrip:miss-at-tangential-edge`): "reports that the line misses the scanner,
    which happens only for axially compressed bins at the axial edge" is false: `miss` is one of the results that
    `get_bin (get_LOR b)` may give (depending on how the floating-point rounding of the half-way end points goes) for the
    bin (segment 0, view 3, axial position 0, tangential position -1) of `exEdgeGeom`; the real code does return it. -/
theorem C12_roundtrip_miss_at_tangential_edge_fails :
    RtResult.miss ∈ exEdgeGeom.roundTrip ⟨0, 3, 0, -1, 0⟩ := by decide +kernel

/-- "coordinates are antisymmetric … in the indices": `get_m` is antisymmetric about the scanner centre -/
theorem C12_m_antisymmetric (spacing : Rat) (s : Seg) (a : Int) :
    s.getM spacing (s.numAx - 1 - a) = -s.getM spacing a := by
  rw [Seg.getM_eq, Seg.getM_eq]
  push_cast
  ring

/-- … and strictly increasing with the axial position, by the axial sampling -/
theorem C12_m_monotone (spacing : Rat) (h : 0 < spacing) (s : Seg) (a : Int) :
    s.getM spacing (a + 1) = s.getM spacing a + s.axialSampling spacing ∧ 0 < s.axialSampling spacing := by
  refine ⟨?_, Seg.axialSampling_pos spacing h s⟩
  unfold Seg.getM
  push_cast
  ring

/-- "axial midpoint … match": `get_m` of a bin is the mean of the two ring positions of **every** ring pair that
    contributes to it (for uncompressed data: of its ring pair) -/
theorem C12_m_is_ring_midpoint (spacing : Rat) (R : Int) (s : Seg) (off a r1 r2 : Int)
    (hoff : s.axOff R = some off) (h : (r1, r2) ∈ s.ringPairsOf R off a) :
    s.getM spacing a = (ringZ spacing R r1 + ringZ spacing R r2) / 2 :=
  Seg.getM_eq_midpoint spacing R s off a r1 r2 hoff h

/-- "… (averaged over the contributing pairs for compressed data)" -/
theorem C12_m_is_average_over_ring_pairs (spacing : Rat) (R : Int) (s : Seg) (off a : Int)
    (hoff : s.axOff R = some off) (hne : s.ringPairsOf R off a ≠ []) :
    avgMCompressed spacing R s off a = s.getM spacing a := by
  unfold avgMCompressed
  apply ratMean_const
  · intro h
    exact hne (List.map_eq_nil_iff.mp h)
  · intro x hx
    obtain ⟨p, hp, rfl⟩ := List.mem_map.mp hx
    exact (Seg.getM_eq_midpoint spacing R s off a p.1 p.2 hoff hp).symm

/-- every contributing ring difference lies in the segment's range (the nominal obliqueness uses the middle of that range;
    the harness checks the exact average for bins whose list is not cut at the axial edge) -/
theorem C12_ring_differences_in_segment (R : Int) (s : Seg) (off a r1 r2 : Int) (h : (r1, r2) ∈ s.ringPairsOf R off a) :
    s.minRD ≤ r2 - r1 ∧ r2 - r1 ≤ s.maxRD := by
  have := (Seg.mem_loop_iff R s off a r1 r2).1 h
  exact ⟨this.2.2.2.2.1, this.2.2.2.2.2.1⟩

/-- "… and obliqueness match (averaged over the contributing pairs for compressed data)" — PARTIAL: the ring difference
    averaged over the ring pairs of (segment, axial position) is the segment's nominal `(min+max)/2` (which `get_tantheta`
    multiplies by `ring_spacing / (2 sqrt(R² - s²))`) provided that (1) the segment has an odd number of ring differences
    (`max - min` even: odd span) and (2) every ring difference of the segment of the parity of the ring sum gives a ring
    pair inside the scanner (`InScanner`: the list is not cut at the axial edge).  These two hypotheses exclude exactly the
    two known findings, for which the clause is false (next two theorems). -/
theorem C12_obliqueness_is_average_partial (R : Int) (s : Seg) (off a : Int)
    (hodd : (s.maxRD - s.minRD) % 2 = 0)
    (hcomplete : ∀ rd, s.minRD ≤ rd → rd ≤ s.maxRD → (s.ringSum off a + rd) % 2 = 0 → InScanner R (s.ringSum off a) rd)
    (hne : s.ringPairsOf R off a ≠ []) :
    avgRDCompressed R s off a = s.avgRD := by
  refine avgRDCompressed_of_symmetric R s off a hne fun rd hrd => ?_
  rw [mem_ringDiffs_iff R s off a hcomplete] at hrd ⊢
  omega

/-- NEGATIVE WITNESS (known finding `obliqueness:ring-pair-list-cut-at-axial-edge`): 5 rings, span 3, segment +1
    (ring differences 2 … 4), axial position 0: the only contributing ring pair is (0,2), ring difference 2, whereas the
    nominal value used by `get_tantheta` is 3 -/
theorem C12_obliqueness_cut_at_axial_edge_fails :
    (⟨2, 4, 5⟩ : Seg).axOff 5 = some 2 ∧ (⟨2, 4, 5⟩ : Seg).ringPairsOf 5 2 0 = [(0, 2)] ∧
      avgRDCompressed 5 ⟨2, 4, 5⟩ 2 0 = 2 ∧ (⟨2, 4, 5⟩ : Seg).avgRD = 3 := by decide +kernel

/-- NEGATIVE WITNESS (known finding `obliqueness:even-number-of-ring-differences-per-segment`): 6 rings, span 2,
    segment +1 (ring differences 2 … 3), axial position 2 in the middle of the segment: the only contributing ring pair
    is (1,3), ring difference 2, whereas the nominal value is 5/2 (axial position 3: (1,4), ring difference 3) -/
theorem C12_obliqueness_even_span_fails :
    (⟨2, 3, 7⟩ : Seg).axOff 6 = some 2 ∧ (⟨2, 3, 7⟩ : Seg).ringPairsOf 6 2 2 = [(1, 3)] ∧
      avgRDCompressed 6 ⟨2, 3, 7⟩ 2 2 = 2 ∧ avgRDCompressed 6 ⟨2, 3, 7⟩ 2 3 = 3 ∧ (⟨2, 3, 7⟩ : Seg).avgRD = 5 / 2 := by
  decide +kernel

/-- "opposite segments have opposite obliqueness", segment 0 (its own opposite): in the table of `ProjDataInfoCTI`
    (repaired code, fix C12-2: `max_delta ≥ span/2` is required) segment 0 has ring differences `-span/2 … span/2`, average 0 -/
theorem C12_segment0_symmetric (span maxDelta R minSeg : Int) (segs : List Seg)
    (h : ctiSegments span maxDelta R = some (minSeg, segs)) :
    ∃ s0, segAt minSeg segs 0 = some s0 ∧ s0.minRD = -s0.maxRD ∧ s0.avgRD = 0 := by
  obtain ⟨s0, rest, rfl, rfl, h1, h2⟩ := ctiSegments_mirrored span maxDelta R minSeg segs h
  refine ⟨s0, (segAt_mirrored Seg.mirror s0 rest).1, by omega, ?_⟩
  unfold Seg.avgRD
  rw [show s0.minRD + s0.maxRD = 0 by omega]
  simp

/-- the configuration of the repaired defect (even span 4, `max_delta = span/2 - 1 = 1`, 5 rings), which used to give
    segment 0 the ring differences -2 … 1, is rejected; span 4 with `max_delta = 2` gives -2 … 2 -/
theorem C12_even_span_clipped_segment0_rejected :
    ctiSegments 4 1 5 = none ∧ ctiSegments 4 2 5 = some (0, [⟨-2, 2, 9⟩]) := by decide

/-- "opposite segments have opposite obliqueness": in the table of `ProjDataInfoCTI`, segment `-k` is the mirror image of
    segment `k`: opposite average ring difference (`get_tantheta` is that times `ring_spacing / (2 sqrt(R² - s²))`),
    same axial coordinates -/
theorem C12_opposite_segments (span maxDelta R minSeg : Int) (segs : List Seg)
    (h : ctiSegments span maxDelta R = some (minSeg, segs)) (k : Int) (hk : 0 < k) :
    segAt minSeg segs (-k) = (segAt minSeg segs k).map Seg.mirror ∧
      (∀ s : Seg, s.mirror.avgRD = -s.avgRD) ∧ (∀ (sp : Rat) (s : Seg) (a : Int), s.mirror.getM sp a = s.getM sp a) := by
  obtain ⟨s0, rest, rfl, rfl, _⟩ := ctiSegments_mirrored span maxDelta R minSeg segs h
  exact ⟨(segAt_mirrored Seg.mirror s0 rest).2 k hk, Seg.mirror_avgRD, Seg.mirror_getM⟩

/-- "opposite TOF bins opposite distances", boundaries contiguous (`high(t) = low(t+1)`) and symmetric, distances increasing -/
theorem C12_tof_table (n : Int) (inc : Rat) (hinc : 0 < inc) (hodd : n.tmod 2 ≠ 0) (t : Int) :
    getK n inc (-t) = -getK n inc t ∧ tofHigh n inc t = tofLow n inc (t + 1) ∧
      tofLow n inc (-t) = -tofHigh n inc t ∧ tofHigh n inc (-t) = -tofLow n inc t ∧
      tofLow n inc t < tofHigh n inc t ∧ getK n inc t < getK n inc (t + 1) := by
  simp only [getK_odd n inc _ hodd, tofLow_odd n inc _ hodd, tofHigh_odd n inc _ hodd]
  push_cast
  refine ⟨by ring, by ring, by ring, by ring, ?_, ?_⟩
  · exact mul_lt_mul_of_pos_right (by linarith) hinc
  · exact mul_lt_mul_of_pos_right (by linarith) hinc

/-- what `set_tof_mash_factor` builds: an odd number `maxNum / mash` of bins, symmetric about 0, of width `mash·size·c/2` -/
theorem C12_tof_mash (maxNum : Int) (size : Rat) (mash : Int) (T : TofTable) (h : setTofMash maxNum size mash = some T)
    (hpos : 0 < T.numBins) :
    T.numBins.tmod 2 ≠ 0 ∧ T.numBins = maxNum.tdiv mash ∧ T.minPos = -T.maxPos ∧ T.inc = ((mash : Rat) * size) * cHalf := by
  obtain ⟨hodd, hnum, hmax, hmin, hinc, _⟩ := setTofMash_spec maxNum size mash T h
  refine ⟨hodd, hnum, ?_, hinc⟩
  -- a positive number of bins: C division and remainder are the Euclidean ones
  rw [Int.tmod_eq_emod_of_nonneg (le_of_lt hpos)] at hodd
  rw [Int.tdiv_eq_ediv_of_nonneg (le_of_lt hpos)] at hmin
  omega

/-- "… returns a bin in the same … TOF bin": the time difference of a bin (and any time difference inside it) is assigned
    to that bin by `get_tof_bin` -/
theorem C12_tof_bin_found (T : TofTable) (hinc : 0 < T.inc) (hodd : T.numBins.tmod 2 ≠ 0) (t : Int)
    (ht : T.minPos ≤ t ∧ t ≤ T.maxPos) :
    T.getTofBin (T.k t / cHalf) = t ∧
      ∀ delta, T.lowPs t ≤ delta → delta < T.highPs t → T.getTofBin delta = t :=
  ⟨getTofBin_centre T hinc hodd t ht, fun delta h1 h2 => getTofBin_of_mem T hinc hodd t ht delta h1 h2⟩

/-- beside the property (not reachable from the LOR of a bin, so not a violation of C12): a time difference beyond the last
    bin is assigned to the FIRST bin (with a warning) instead of being reported as out of range -/
theorem C12_tof_beyond_last_goes_to_first (T : TofTable) (hinc : 0 < T.inc) (hodd : T.numBins.tmod 2 ≠ 0) (delta : Rat)
    (h : T.highPs T.maxPos ≤ delta) : T.getTofBin delta = T.minPos := by
  unfold TofTable.getTofBin
  have : T.positions.find? (fun i => decide (T.lowPs i ≤ delta) && decide (delta < T.highPs i)) = none := by
    rw [List.find?_eq_none]
    intro x hx
    have hxr : (x : Rat) ≤ (T.maxPos : Rat) := by exact_mod_cast ((mem_positions T x).1 hx).2
    rw [← not_lt, T.lt_highPs_iff hinc hodd] at h
    simp only [Bool.and_eq_true, decide_eq_true_eq, not_and, T.lt_highPs_iff hinc hodd]
    intro _
    linarith
  rw [this]

/-- "for every bin, converting its reported line of response back to a bin returns the same bin for arc-corrected data"
    — in exact arithmetic, for every well-formed geometry (any azimuthal offset: both the plain and the flipped
    representation of the LOR, the latter undone by the view-wrap rule of `get_bin`), TOF or not, and every bin of the data
    (every TOF position: `get_bin` is given `get_tof_delta_time(bin)` as in the harness; repaired code, fix C12-3).
    `ArcGeom.getBin` contains the view-wrap rule of fix C12-7 (`wrapView`); by `C12_arccorr_roundtrip_every_representation`
    below the statement extends to the LOR handed over in any of the LOR types of LORCoordinates.h. -/
theorem C12_arccorr_roundtrip (g : ArcGeom) (w : g.WF) (b : Bin) (sg : Seg) (r : g.InRange b sg) (l : LorS)
    (hl : g.lorOf b = some l) : g.getBin l (g.deltaTime b.tof) = some b :=
  arccorr_roundtrip g w b sg r l hl

/-- "arc-corrected data have uniform tangential sampling" (and `get_s` is antisymmetric and increasing).  `sArc` and `samplingS`
    are `get_s` of arc-corrected data and `get_sampling_in_s`, written down in `ProofsArc.lean`; `ArcGeom.lorOf_s` there says
    that the LOR of a bin of the model has `s = ± sArc` -/
theorem C12_arccorr_uniform_sampling (binSize : Rat) (h : 0 < binSize) (tp tp' : Int) (hlt : tp < tp') :
    sArc binSize (tp + 1) - sArc binSize tp = binSize ∧ samplingS (sArc binSize) tp = binSize ∧
      sArc binSize (-tp) = -sArc binSize tp ∧ sArc binSize tp < sArc binSize tp' := by
  unfold samplingS sArc
  push_cast
  refine ⟨by ring, ?_, by ring, mul_lt_mul_of_pos_right (by exact_mod_cast hlt) h⟩
  rw [show ((tp : Rat) + 1) * binSize - ((tp : Rat) - 1) * binSize = 2 * binSize by ring, abs_of_pos (by linarith)]
  ring

/-- "arc correction maps uniform data to uniform data": the output boxes that `ArcCorrection::set_up` gives to
    `overlap_interpolate` are `[(tp - 1/2)·sampling, (tp + 1/2)·sampling]` for every `tp`, **including the last one**
    (repaired code, fix C12-5; it used to end at `(tp + 3/2)·sampling`).  What `overlap_interpolate` does with them is
    tied to the code by correspondence and oracle only. -/
theorem C12_arccorr_boxes (minTang maxTang : Int) (sampling : Rat) (tp : Int) (h1 : minTang ≤ tp) (h2 : tp ≤ maxTang) :
    (arcCorrCoords minTang maxTang sampling)[(tp - minTang).toNat]? = some (((tp : Rat) - 1/2) * sampling) ∧
    (arcCorrCoords minTang maxTang sampling)[(tp - minTang).toNat + 1]? = some (((tp : Rat) + 1/2) * sampling) ∧
    (arcCorrCoords minTang maxTang sampling).length = (maxTang - minTang + 1).toNat + 1 := by
  refine ⟨(arcCorrCoords_box minTang maxTang sampling tp h1 h2).1, (arcCorrCoords_box minTang maxTang sampling tp h1 h2).2, ?_⟩
  unfold arcCorrCoords
  simp

/-- "converting its reported line of response back to a bin" — the reported LOR may be handed over in any LOR type; the
    conversions keep the directed line.  Sinogram coordinates `(z1, z2, φ, β, swapped)` in the standard range → cylinder
    coordinates (`LORInCylinderCoordinates(const LORInAxialAndNoArcCorrSinogramCoordinates&)`) → sinogram coordinates
    (`get_sino_coords`, repaired code, fix C12-6) is the identity — for every `φ ∈ [0,π)`, `β ∈ (-π/2, π/2)`, swapped or not -/
theorem C12_lor_sinogram_cylinder_roundtrip (l : LorNA) (h0 : 0 ≤ l.phi) (h1 : l.phi < 1) (hb0 : -(1/2) < l.beta)
    (hb1 : l.beta < 1/2) : (l.toCyl).toNA true = l :=
  toCyl_toNA l h0 h1 hb0 hb1

/-- … and cylinder coordinates → sinogram coordinates → cylinder coordinates is the identity on every non-degenerate LOR (both
    end points and their ORDER, i.e. the direction that TOF needs), the sinogram coordinates being in the standard range -/
theorem C12_lor_cylinder_sinogram_roundtrip (c : LorCyl) (h1 : 0 ≤ c.psi1 ∧ c.psi1 < 2) (h2 : 0 ≤ c.psi2 ∧ c.psi2 < 2)
    (hne : c.psi1 ≠ c.psi2) :
    (c.toNA true).toCyl = c ∧ 0 ≤ (c.toNA true).phi ∧ (c.toNA true).phi < 1 ∧
      -(1/2) < (c.toNA true).beta ∧ (c.toNA true).beta < 1/2 := by
  obtain ⟨l, a, b, d, e, hl⟩ := exists_standard c h1 h2 hne
  have := toCyl_toNA l a b d e
  rw [hl] at this
  rw [this]
  exact ⟨hl, a, b, d, e⟩

/-- WITNESS of the defect repaired by fix C12-6: with the flags as they were (`fixed = false`), the LOR from the point `ψ = 1.6π`
    (z = 1) to the point `ψ = 0.1π` (z = 2) comes back from sinogram coordinates with its two points exchanged: the direction is
    reversed (`ψ1 - ψ2 ∈ (π, 2π)`); with the repair it comes back unchanged -/
theorem C12_lor_direction_before_fix_witness :
    ((⟨1, 8/5, 2, 1/10⟩ : LorCyl).toNA false).toCyl = ⟨2, 1/10, 1, 8/5⟩ ∧
    ((⟨1, 8/5, 2, 1/10⟩ : LorCyl).toNA true).toCyl = ⟨1, 8/5, 2, 1/10⟩ := by decide +kernel

/-- the constructor from explicit arguments (any `φ`; it is brought into `[0,π)` by exchanging the end points and toggling
    `swapped`) does not change the directed line, and its result is in the standard range -/
theorem C12_lor_constructor_normalisation (z1 z2 phi beta : Rat) (sw : Bool) :
    (LorNA.mk' z1 z2 phi beta sw).toCyl = (⟨z1, z2, phi, beta, sw⟩ : LorNA).toCyl ∧
      0 ≤ (LorNA.mk' z1 z2 phi beta sw).phi ∧ (LorNA.mk' z1 z2 phi beta sw).phi < 1 :=
  ⟨mk'_toCyl z1 z2 phi beta sw, (LorNA.mk'_range z1 z2 phi beta sw).1, (LorNA.mk'_range z1 z2 phi beta sw).2.1⟩

/-- toggling `swapped` of the sinogram form = exchanging the two points of the cylinder form (the reversed line) -/
theorem C12_lor_reverse (l : LorNA) : l.reverse.toCyl = l.toCyl.reverse :=
  reverse_toCyl l

/-- "for every bin, converting its reported line of response back to a bin returns the same bin for arc-corrected data" — in
    EVERY representation of the reported LOR (`k`: the object returned by `get_LOR`, `LORInCylinderCoordinates`,
    `LORInAxialAndSinogramCoordinates`, `LORAs2Points` on the cylinder or moved along the line; and the same with the direction
    reversed, where the TOF position changes sign and nothing else), in exact arithmetic, for every well-formed geometry and
    every bin and TOF position of the data (repaired code, fixes C12-3, C12-6, C12-7) -/
theorem C12_arccorr_roundtrip_every_representation (g : ArcGeom) (w : g.WF) (b : Bin) (sg : Seg) (r : g.InRange b sg)
    (l : LorS) (hl : g.lorOf b = some l) (k : LorKind) (beta : Rat) (hb0 : -(1/2) < beta) (hb1 : beta < 1/2) :
    g.getBinVia true true k l beta (g.deltaTime b.tof) = some (if k.reversed then { b with tof := -b.tof } else b) := by
  have hrt : g.getBinCore true l (g.deltaTime b.tof) = some b := arccorr_roundtrip g w b sg r l hl
  rw [getBinVia_eq g k l beta _ (lorOf_phi_range g b l hl) hb0 hb1]
  cases k.reversed
  · exact hrt
  · rw [if_pos rfl, if_pos rfl, getBinCore_reverse, hrt]
    rfl

/-- the view returned by the repaired arc-corrected `get_bin` (fix C12-7) is a view of the data, for EVERY line of response
    (whatever its angle, in particular an angle a rounding error below the azimuthal offset) -/
theorem C12_arccorr_getBin_view_in_range (g : ArcGeom) (hV : 0 < g.V) (l : LorS) (dt : Rat) (nb : Bin)
    (h : g.getBin l dt = some nb) : 0 ≤ nb.view ∧ nb.view < g.V := by
  have hVq : (0 : Rat) < (g.V : Rat) := by exact_mod_cast hV
  obtain ⟨k, hk, h0, h2⟩ := to02_spec (l.phi - g.offset)
  have key := getBinCore_view true g l dt nb _ rfl h
  simp only [if_true] at key
  generalize hx : to02 (l.phi - g.offset) / (1 / (g.V : Rat)) = x at key
  rw [div_div_eq_mul_div, div_one] at hx
  have hx0 : 0 ≤ x := hx ▸ mul_nonneg h0 (le_of_lt hVq)
  have r0 : 0 ≤ ⌊x + 1/2⌋ := Int.floor_nonneg.2 (by linarith)
  have r2 : ⌊x + 1/2⌋ < 2 * g.V + 1 := Int.floor_lt.2 (by push_cast; nlinarith)
  rw [key, roundRat_of_nonneg hx0]
  unfold wrapView
  split <;> split <;> omega

/-- reversing the direction of a LOR changes the sign of the TOF position that the arc-corrected `get_bin` returns, and
    nothing else ("stepping between the last and the first view reverses the signs of … TOF bin" relies on it) -/
theorem C12_arccorr_getBin_reverse (fix : Bool) (g : ArcGeom) (l : LorS) (dt : Rat) :
    g.getBinCore fix { l with swapped := !l.swapped } dt = (g.getBinCore fix l dt).map fun b => { b with tof := -b.tof } :=
  getBinCore_reverse fix g l dt

/-- the geometry of `exGeom` with a positive azimuthal offset (π/16, as for view-mashed data) -/
def exGeomMashed : ArcGeom :=
  { V := 8, binSize := 2, spacing := 4, offset := (1 : Rat) / 16, minTang := -7, maxTang := 7, minSeg := -1,
    segs := [⟨-4, -2, 5⟩, ⟨-1, 1, 9⟩, ⟨2, 4, 5⟩] }

/-- WITNESS of the defect repaired by fix C12-7: the LOR of bin (segment 1, view 0, axial position 2, tangential position -3) of
    `exGeomMashed` with its angle a thousandth of π below the azimuthal offset: the code before the fix returns
    view 8 = `num_views` (out of range) with segment and tangential position negated; the repaired code returns the bin -/
theorem C12_arccorr_view_wrap_before_fix_witness :
    exGeomMashed.lorOf ⟨1, 0, 2, -3, 0⟩ = some ⟨-6, 6, 1/16, -6, false⟩ ∧
    exGeomMashed.getBinCore false ⟨-6, 6, 1/16 - 1/1000, -6, false⟩ 0 = some ⟨-1, 8, 2, 3, 0⟩ ∧
    exGeomMashed.getBinCore true ⟨-6, 6, 1/16 - 1/1000, -6, false⟩ 0 = some ⟨1, 0, 2, -3, 0⟩ := by decide +kernel

/-- a geometry satisfying the hypotheses of `C12_arccorr_roundtrip`: span 3, 5 rings (the table built by `ProjDataInfoCTI`),
    negative azimuthal offset (-π/12, as for the ECAT 953) so that the LOR of view 0 is stored in the flipped representation -/
def exGeom : ArcGeom :=
  { V := 8, binSize := 2, spacing := 4, offset := -(1 : Rat) / 12, minTang := -7, maxTang := 7, minSeg := -1,
    segs := [⟨-4, -2, 5⟩, ⟨-1, 1, 9⟩, ⟨2, 4, 5⟩] }

example : ctiSegments 3 4 5 = some (exGeom.minSeg, exGeom.segs) := by decide

theorem C12_ex_segments (s : Int) (sg : Seg) (h : exGeom.seg? s = some sg) :
    (s = -1 ∧ sg = ⟨-4, -2, 5⟩) ∨ (s = 0 ∧ sg = ⟨-1, 1, 9⟩) ∨ (s = 1 ∧ sg = ⟨2, 4, 5⟩) := by
  have hr := exGeom.seg?_range s sg h
  have : exGeom.minSeg = -1 := rfl
  have : exGeom.maxSeg = 1 := by decide
  have hs : s = -1 ∨ s = 0 ∨ s = 1 := by omega
  rcases hs with rfl | rfl | rfl
  · exact .inl ⟨rfl, Option.some.inj (h.symm.trans (by decide))⟩
  · exact .inr (.inl ⟨rfl, Option.some.inj (h.symm.trans (by decide))⟩)
  · exact .inr (.inr ⟨rfl, Option.some.inj (h.symm.trans (by decide))⟩)

theorem C12_ex_wellformed : exGeom.WF where
  hV := by decide
  hbin := by
    unfold exGeom
    norm_num
  hsp := by
    unfold exGeom
    norm_num
  hmin := by decide
  hmax := by decide
  hzero := by
    intro sg h
    rcases C12_ex_segments 0 sg h with ⟨h0, _⟩ | ⟨_, rfl⟩ | ⟨h0, _⟩
    · omega
    · decide
    · omega
  hne := by
    intro s sg h
    rcases C12_ex_segments s sg h with ⟨_, rfl⟩ | ⟨_, rfl⟩ | ⟨_, rfl⟩ <;> decide
  hord := by
    intro s s' a b ha hb
    rcases C12_ex_segments s a ha with ⟨rfl, rfl⟩ | ⟨rfl, rfl⟩ | ⟨rfl, rfl⟩ <;>
    rcases C12_ex_segments s' b hb with ⟨rfl, rfl⟩ | ⟨rfl, rfl⟩ | ⟨rfl, rfl⟩ <;>
    -- nine pairs of segment numbers; with `s < s'` left in the goal each is an implication between numerals
    decide
  htof := by
    intro T h
    have hn : exGeom.tof = none := rfl
    rw [hn] at h
    exact absurd h (by simp)

theorem exBin_inRange : exGeom.InRange ⟨1, 0, 2, -3, 0⟩ ⟨2, 4, 5⟩ :=
  { hseg := by decide, hv := by decide, ha := by decide, ht := by decide, htof := rfl }

/-- `C12_arccorr_roundtrip` applies to `exGeom` and its bin (segment 1, view 0, axial position 2, tangential position -3): the LOR of
    the bin is converted back to it -/
example : ∀ l, exGeom.lorOf ⟨1, 0, 2, -3, 0⟩ = some l → exGeom.getBin l (exGeom.deltaTime 0) = some ⟨1, 0, 2, -3, 0⟩ :=
  fun l hl => C12_arccorr_roundtrip exGeom C12_ex_wellformed ⟨1, 0, 2, -3, 0⟩ ⟨2, 4, 5⟩
    exBin_inRange l hl

/-- interleaving / chord / round-trip hypotheses are satisfiable: 16 detectors, odd tangential position; rounding both end
    points up gives the next view -/
example : (0 : Int) < 8 ∧ (0 ≤ (3 : Int) ∧ (3 : Int) < 8) ∧ (-8 < (-5 : Int) ∧ (-5 : Int) ≤ 8) ∧ viewTangToDet 16 3 (-5) = (0, 13) ∧
    detToViewTang 16 (moduloInt (0 + 1) 16) (moduloInt (13 + 1) 16) = (4, -5, true) := by decide

/-- TOF: 13 unmashed bins: mashing 3 gives 4 bins and is rejected (even), mashing 1 gives -6 … 6 -/
example : setTofMash 13 312 3 = none ∧ (setTofMash 13 312 1).map (fun T => (T.minPos, T.maxPos, T.numBins)) = some (-6, 6, 13) := by
  unfold setTofMash
  decide

/-- axial: span 3 on 5 rings, segment +1 (ring differences 2…4): axial position 2 collects the ring pairs (1,3) and (0,4),
    sits at the scanner centre and has average ring difference 3 = (2+4)/2 -/
example : (⟨2, 4, 5⟩ : Seg).axOff 5 = some 2 ∧ (⟨2, 4, 5⟩ : Seg).ringPairsOf 5 2 2 = [(1, 3), (0, 4)] := by decide

example : (⟨2, 4, 5⟩ : Seg).getM 4 2 = 0 ∧ (⟨2, 4, 5⟩ : Seg).avgRD = 3 := by
  norm_num [Seg.getM, Seg.axialSampling, Seg.mOffset, Seg.inc, Seg.avgRD]

/-- … and the hypotheses of `C12_obliqueness_is_average_partial` hold there (ring sum 4: ring differences 2 and 4 give the
    ring pairs (1,3), (0,4) inside the 5 rings), so the averaged ring difference is the nominal 3 -/
example : avgRDCompressed 5 ⟨2, 4, 5⟩ 2 2 = (⟨2, 4, 5⟩ : Seg).avgRD :=
  C12_obliqueness_is_average_partial 5 ⟨2, 4, 5⟩ 2 2 (by decide)
    (by
      intro rd h1 h2 h3
      have hs : (⟨2, 4, 5⟩ : Seg).ringSum 2 2 = 4 := by decide
      rw [hs] at h3 ⊢
      simp only [] at h1 h2
      have : rd = 2 ∨ rd = 4 := by omega
      rcases this with rfl | rfl
      · unfold InScanner
        decide
      · unfold InScanner
        decide)
    (by decide)

/-- hypotheses of `C12_roundtrip_inside_tangential_range_partial` are satisfiable: 16 detectors, data range -4 … 3 (8
    tangential positions), bin at view 7 (the last), odd tangential position -3, both end points rounded up: the bin
    found is in view 0 with tangential position +3 and exchanged detectors (sign reversal), inside the range -/
example : detToViewTang 16 (moduloInt ((viewTangToDet 16 7 (-3)).1 + 1) 16) (moduloInt ((viewTangToDet 16 7 (-3)).2 + 1) 16)
    = (0, 3, false) := by decide

/-- the hypotheses of `C12_roundtrip_model_transaxial` hold for the bin of the negative witness (8 = 2·4 detectors, no
    mashing, view 3 < 4, tangential position -1): its answers are the bin itself, one step in tangential position, the
    wrapped neighbour (view 0, tangential position +1) — and the miss -/
example : exEdgeGeom.N = 2 * 4 ∧ exEdgeGeom.mash = 1 ∧
    exEdgeGeom.roundTrip ⟨0, 3, 0, -1, 0⟩ =
      [.bin ⟨0, 3, 0, -1, 0⟩, .miss, .bin ⟨0, 3, 0, 0, 0⟩, .bin ⟨0, 0, 0, 1, 0⟩] := by decide +kernel

/-- a TOF arc-corrected geometry satisfying the hypotheses of `C12_arccorr_roundtrip` (5 TOF bins -2 … 2 of 15 mm), and a
    bin with a non-zero TOF position -/
def exGeomTof : ArcGeom := { exGeom with tof := some ⟨1, -2, 2, 5, 15⟩ }

theorem C12_ex_tof_wellformed : exGeomTof.WF :=
  { C12_ex_wellformed with
    htof := by
      intro T h
      have hT : exGeomTof.tof = some ⟨1, -2, 2, 5, 15⟩ := rfl
      rw [hT] at h
      injection h with h
      subst h
      constructor
      · norm_num
      · decide }

theorem exBinTof_inRange : exGeomTof.InRange ⟨1, 0, 2, -3, -2⟩ ⟨2, 4, 5⟩ :=
  { hseg := by decide, hv := by decide, ha := by decide, ht := by decide,
    htof := by
      show (-2 : Int) ≤ -2 ∧ (-2 : Int) ≤ 2
      decide }

example : ∀ l, exGeomTof.lorOf ⟨1, 0, 2, -3, -2⟩ = some l →
    exGeomTof.getBin l (exGeomTof.deltaTime (-2)) = some ⟨1, 0, 2, -3, -2⟩ :=
  fun l hl => C12_arccorr_roundtrip exGeomTof C12_ex_tof_wellformed ⟨1, 0, 2, -3, -2⟩ ⟨2, 4, 5⟩
    exBinTof_inRange l hl

/-- `C12_roundtrip_via_transaxial` applies to the bin of the negative witness handed over as stretched points: same answers -/
example : exEdgeGeom.roundTripVia 0 .str ⟨0, 3, 0, -1, 0⟩ =
    [.bin ⟨0, 3, 0, -1, 0⟩, .miss, .bin ⟨0, 3, 0, 0, 0⟩, .bin ⟨0, 0, 0, 1, 0⟩] := by decide +kernel

/-- the hypotheses of the LOR round trips are satisfiable: a swapped LOR with negative `β` (the case that needs fix C12-6) and
    its cylinder coordinates `ψ1 = 3π/2`, `ψ2 = 0` -/
example : (⟨1, 2, 1/4, -1/4, true⟩ : LorNA).toCyl = ⟨2, 3/2, 1, 0⟩ ∧
    ((⟨1, 2, 1/4, -1/4, true⟩ : LorNA).toCyl).toNA true = ⟨1, 2, 1/4, -1/4, true⟩ ∧
    ((⟨1, 2, 1/4, -1/4, true⟩ : LorNA).toCyl).toNA false = ⟨1, 2, 1/4, -1/4, false⟩ := by decide +kernel

example : ((⟨2, 3/2, 1, 0⟩ : LorCyl).toNA true).toCyl = ⟨2, 3/2, 1, 0⟩ :=
  (C12_lor_cylinder_sinogram_roundtrip ⟨2, 3/2, 1, 0⟩ (by norm_num) (by norm_num) (by norm_num)).1

/-- `C12_arccorr_roundtrip_every_representation` on the bin of the first example, handed over as two points with the direction
    reversed (TOF position 0 stays 0) and, for the TOF geometry, in cylinder coordinates with TOF position -2 -/
example : ∀ l, exGeom.lorOf ⟨1, 0, 2, -3, 0⟩ = some l →
    exGeom.getBinVia true true .rev l (-1/5) (exGeom.deltaTime 0) = some ⟨1, 0, 2, -3, 0⟩ :=
  fun l hl => C12_arccorr_roundtrip_every_representation exGeom C12_ex_wellformed ⟨1, 0, 2, -3, 0⟩ ⟨2, 4, 5⟩
    exBin_inRange l hl .rev (-1/5) (by norm_num) (by norm_num)

example : ∀ l, exGeomTof.lorOf ⟨1, 0, 2, -3, -2⟩ = some l →
    exGeomTof.getBinVia true true .cylrev l (-1/5) (exGeomTof.deltaTime (-2)) = some ⟨1, 0, 2, -3, 2⟩ :=
  fun l hl => C12_arccorr_roundtrip_every_representation exGeomTof C12_ex_tof_wellformed ⟨1, 0, 2, -3, -2⟩ ⟨2, 4, 5⟩
    exBinTof_inRange l hl .cylrev (-1/5) (by norm_num) (by norm_num)

/-- "arc correction maps uniform data to uniform data and preserves the integral over the tangential coordinate" is itself no
    theorem (the oracle checks it on the implementation).  Stated here: it does not matter which object does the arc correction,
    also one that was set up before for other scanners: after ANY history of `set_up` calls (any
    geometries, any of the overloads — all end in the three-argument `set_up`) followed by `set_up a`, the object is the one a fresh
    `ArcCorrection` set up with `a` would be, and `do_arc_correction` gives the same row for every input.  (`ArcCorrState.setUp`
    transcribes that `ArcCorrection::set_up` assigns every cached member; the correspondence run checks exactly this on re-used C++
    objects, whose rows the driver answers from the state it keeps.  The theorems `C12_arccorr_boxes` / `C12_arccorr_uniform_sampling`
    thereby apply to the cached boxes of a re-used object too.) -/
theorem C12_arccorrection_reused_object_eq_fresh (st : ArcCorrState) (h : List ArcSetUpArgs) (a : ArcSetUpArgs) (row : List Rat) :
    st.history (h ++ [a]) = ArcCorrState.fresh.setUp a ∧
    (st.history (h ++ [a])).correctRow row = (ArcCorrState.fresh.setUp a).correctRow row :=
  ⟨history_snoc_eq_fresh st h a, by rw [history_snoc_eq_fresh st h a]⟩

/-- what is cached after any history is what the LAST `set_up` prescribes: the edges `R sin((tp ∓ 1/2) Δφ)` of the last input
    geometry and their differences, the last bin size, and arc-corrected boxes `[(tp - 1/2)·bin size, (tp + 1/2)·bin size]` for every
    `tp` of the last arc-corrected range ("arc-corrected data have uniform tangential sampling") — nothing of earlier geometries. -/
theorem C12_arccorrection_cached_boxes_are_the_last (st : ArcCorrState) (h : List ArcSetUpArgs) (a : ArcSetUpArgs) (tp : Int)
    (h1 : (tangRangeOfNum a.numOut).1 ≤ tp) (h2 : tp ≤ (tangRangeOfNum a.numOut).2) :
    (st.history (h ++ [a])).noarcCoords = a.edges ∧
    (st.history (h ++ [a])).noarcSizes.length = a.edges.length - 1 ∧
    (∀ k x y, a.edges[k]? = some x → a.edges[k + 1]? = some y → (st.history (h ++ [a])).noarcSizes[k]? = some (y - x)) ∧
    (st.history (h ++ [a])).sampling = a.binSize ∧
    ((st.history (h ++ [a])).inMin, (st.history (h ++ [a])).inMax) = (a.inMin, a.inMax) ∧
    ((st.history (h ++ [a])).outMin, (st.history (h ++ [a])).outMax) = tangRangeOfNum a.numOut ∧
    (st.history (h ++ [a])).arcCoords[(tp - (st.history (h ++ [a])).outMin).toNat]? = some (((tp : Rat) - 1/2) * a.binSize) ∧
    (st.history (h ++ [a])).arcCoords[(tp - (st.history (h ++ [a])).outMin).toNat + 1]? = some (((tp : Rat) + 1/2) * a.binSize) := by
  rw [history_snoc_eq_fresh st h a]
  refine ⟨rfl, adjacentDiffs_length _, fun k x y hx hy => adjacentDiffs_get _ k x y hx hy, rfl, rfl, rfl, ?_, ?_⟩
  · exact (arcCorrCoords_box _ _ a.binSize tp h1 h2).1
  · exact (arcCorrCoords_box _ _ a.binSize tp h1 h2).2

/-- two input geometries with the SAME tangential range (-1 … 1) and other edges (another ring radius), same arc-corrected size -/
def exSetUpA : ArcSetUpArgs := ⟨-1, 1, [-3, -1, 1, 3], 5, 1⟩
def exSetUpB : ArcSetUpArgs := ⟨-1, 1, [-6, -2, 2, 6], 5, 1⟩

/-- non-vacuity: the two fresh objects differ (so the statement is not about a constant), the object re-used A → B → A is the fresh
    A object, and its cached input boxes are A's (widths 2, 2, 2), not B's (4, 4, 4) -/
example : ArcCorrState.fresh.setUp exSetUpA ≠ ArcCorrState.fresh.setUp exSetUpB ∧
    ArcCorrState.fresh.history [exSetUpA, exSetUpB, exSetUpA] = ArcCorrState.fresh.setUp exSetUpA ∧
    (ArcCorrState.fresh.history [exSetUpA, exSetUpB, exSetUpA]).noarcSizes = [2, 2, 2] ∧
    (ArcCorrState.fresh.history [exSetUpA, exSetUpB]).noarcSizes = [4, 4, 4] ∧
    tangRangeOfNum exSetUpA.numOut = (-2, 2) := by decide +kernel

end StirVerif.C12
