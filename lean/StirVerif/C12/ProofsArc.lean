/-
C12 — proofs, arc-corrected data in exact arithmetic: `get_bin (get_LOR b) = b`, including the
"view ≥ V ⇒ subtract V and negate the tangential position" wrap rule; `get_s` and `get_sampling_in_s` of arc-corrected data
(`sArc`, `samplingS`), in which the uniform tangential sampling is stated.
-/
import StirVerif.C12.ProofsAxial
import StirVerif.C12.ProofsTof
import Mathlib.Data.Rat.Floor

namespace StirVerif.C12

theorem floor_int_add_half (k : Int) : ((k : Rat) + 1/2).floor = k := by
  show ⌊(k : Rat) + 1/2⌋ = k
  rw [Int.floor_eq_iff]
  constructor <;> linarith

theorem roundRat_of_nonneg {x : Rat} (h : 0 ≤ x) : roundRat x = ⌊x + 1/2⌋ := if_pos h

/-- away from the half-integers, where `stir::round` goes away from zero and Mathlib's `round` up, the two agree -/
theorem roundRat_eq_round (x : Rat) (h : x - (x.floor : Rat) ≠ 1/2) : roundRat x = round x := by
  unfold roundRat
  split
  · exact (round_eq x).symm
  · -- `m = ⌊-x + 1/2⌋`: `x` lies in `[-m - 1/2, -m + 1/2]`, and not at the upper end, a half-integer
    show -⌊-x + 1/2⌋ = round x
    have h0 := Int.floor_le (-x + 1/2)
    have h1 := Int.lt_floor_add_one (-x + 1/2)
    generalize ⌊-x + 1/2⌋ = m at h0 h1 ⊢
    refine (round_eq_iff.2 ⟨?_, lt_of_le_of_ne ?_ fun e => h ?_⟩).symm
    · push_cast
      linarith
    · push_cast
      linarith
    · rw [e, floor_int_add_half]
      ring

theorem roundRat_int (n : Int) : roundRat (n : Rat) = n := by
  rw [roundRat_eq_round _ (by simp), round_intCast]

theorem to02_of (y x : Rat) (k : Int) (h : y = x + 2 * (k : Rat)) (h0 : 0 ≤ x) (h2 : x < 2) : to02 y = x := by
  unfold to02 moduloRat
  have : (y / 2).floor = k := by
    show ⌊y / 2⌋ = k
    rw [Int.floor_eq_iff, h]
    constructor <;> linarith
  rw [this, h]
  ring

theorem to02_spec (y : Rat) : ∃ k : Int, to02 y = y + 2 * (k : Rat) ∧ 0 ≤ to02 y ∧ to02 y < 2 := by
  refine ⟨-(y / 2).floor, ?_, ?_, ?_⟩
  · unfold to02 moduloRat
    push_cast
    ring
  · unfold to02 moduloRat
    have := Rat.floor_le (y / 2)
    linarith
  · unfold to02 moduloRat
    have : y / 2 < ((y / 2).floor : Rat) + 1 := by
      have := Int.lt_floor_add_one (y / 2)
      exact this
    linarith

/-- well-formedness of an arc-corrected geometry: number of views, bin size and ring spacing positive, a segment 0 containing
    ring difference 0, ring-difference ranges non-empty and increasing with the segment number, for TOF data a positive increment
    and an odd number of TOF bins.
    (The tables built by `ProjDataInfoCTI` are of this kind; that is shown for the example `exGeom` only.) -/
structure ArcGeom.WF (g : ArcGeom) : Prop where
  hV : 0 < g.V
  hbin : 0 < g.binSize
  hsp : 0 < g.spacing
  hmin : g.minSeg ≤ 0
  hmax : 0 ≤ g.maxSeg
  hzero : ∀ sg, g.seg? 0 = some sg → sg.minRD ≤ 0 ∧ 0 ≤ sg.maxRD
  hne : ∀ s sg, g.seg? s = some sg → sg.minRD ≤ sg.maxRD
  hord : ∀ s s' a b, g.seg? s = some a → g.seg? s' = some b → s < s' → a.maxRD < b.minRD
  htof : ∀ T, g.tof = some T → 0 < T.inc ∧ T.numBins.tmod 2 ≠ 0

def ArcGeom.TofInRange (g : ArcGeom) (t : Int) : Prop := match g.tof with
  | none => t = 0
  | some T => T.minPos ≤ t ∧ t ≤ T.maxPos

structure ArcGeom.InRange (g : ArcGeom) (b : Bin) (sg : Seg) : Prop where
  hseg : g.seg? b.seg = some sg
  hv : 0 ≤ b.view ∧ b.view < g.V
  ha : 0 ≤ b.ax ∧ b.ax ≤ sg.numAx - 1
  ht : g.minTang ≤ b.tang ∧ b.tang ≤ g.maxTang
  htof : g.TofInRange b.tof

theorem ArcGeom.tofBin_deltaTime (g : ArcGeom) (w : g.WF) (t : Int) (h : g.TofInRange t) : g.tofBin (g.deltaTime t) = t := by
  unfold ArcGeom.tofBin ArcGeom.deltaTime
  unfold ArcGeom.TofInRange at h
  cases hT : g.tof with
  | none =>
    rw [hT] at h
    simp only []
    exact h.symm
  | some T =>
    rw [hT] at h
    simp only []
    exact getTofBin_centre T (w.htof T hT).1 (w.htof T hT).2 t h

theorem ArcGeom.seg?_isSome (g : ArcGeom) (s : Int) (h1 : g.minSeg ≤ s) (h2 : s ≤ g.maxSeg) : ∃ sg, g.seg? s = some sg := by
  unfold ArcGeom.seg? segAt
  rw [if_neg (by omega)]
  unfold ArcGeom.maxSeg at h2
  have : (s - g.minSeg).toNat < g.segs.length := by omega
  exact ⟨g.segs[(s - g.minSeg).toNat], List.getElem?_eq_getElem this⟩

theorem ArcGeom.seg?_range (g : ArcGeom) (s : Int) (sg : Seg) (h : g.seg? s = some sg) : g.minSeg ≤ s ∧ s ≤ g.maxSeg := by
  unfold ArcGeom.seg? segAt at h
  obtain ⟨hs, h⟩ := Option.ite_none_left_eq_some.1 h
  have := (List.getElem?_eq_some_iff.mp h).1
  unfold ArcGeom.maxSeg
  omega

/-- the upward search, started at or below `k` with enough fuel, stops at segment `k`: `delta` is above the upper limit of every
    segment before `k` (`hskip`) and, unless `k` is the last segment, where the loop stops anyway, below that of `k` (`hlast`) -/
theorem findSegUp_eq (g : ArcGeom) (delta : Rat) (k : Int) (sgk : Seg) (hk : g.seg? k = some sgk)
    (hlast : k < g.maxSeg → delta < (sgk.maxRD : Rat) + 1/2)
    (hskip : ∀ s a, s < k → g.seg? s = some a → ¬ delta < (a.maxRD : Rat) + 1/2) :
    ∀ (fuel : Nat) (s : Int), g.minSeg ≤ s → s ≤ k → (k - s).toNat < fuel → g.findSegUp delta fuel s = k := by
  intro fuel
  induction fuel with
  | zero =>
    intro s _ _ h
    omega
  | succ n ih =>
    intro s hs0 hsk hf
    unfold ArcGeom.findSegUp
    have hkr := g.seg?_range k sgk hk
    by_cases hlt : s < g.maxSeg
    · rw [if_pos hlt]
      rcases hsk.eq_or_lt with rfl | hs'
      · rw [hk]
        exact if_pos (hlast hlt)
      · obtain ⟨a, ha⟩ := g.seg?_isSome s hs0 (by omega)
        rw [ha]
        simp only []
        rw [if_neg (hskip s a hs' ha)]
        exact ih (s + 1) (by omega) (by omega) (by omega)
    · rw [if_neg hlt]
      omega

/-- the downward search likewise, with the lower limits of the segments after `k` -/
theorem findSegDown_eq (g : ArcGeom) (delta : Rat) (k : Int) (sgk : Seg) (hk : g.seg? k = some sgk)
    (hlast : k > g.minSeg → delta > (sgk.minRD : Rat) - 1/2)
    (hskip : ∀ s a, k < s → g.seg? s = some a → ¬ delta > (a.minRD : Rat) - 1/2) :
    ∀ (fuel : Nat) (s : Int), s ≤ g.maxSeg → k ≤ s → (s - k).toNat < fuel → g.findSegDown delta fuel s = k := by
  intro fuel
  induction fuel with
  | zero =>
    intro s _ _ h
    omega
  | succ n ih =>
    intro s hs0 hsk hf
    unfold ArcGeom.findSegDown
    have hkr := g.seg?_range k sgk hk
    by_cases hlt : s > g.minSeg
    · rw [if_pos hlt]
      rcases hsk.eq_or_lt with rfl | hs'
      · rw [hk]
        exact if_pos (hlast hlt)
      · obtain ⟨a, ha⟩ := g.seg?_isSome s (by omega) hs0
        rw [ha]
        simp only []
        rw [if_neg (hskip s a hs' ha)]
        exact ih (s - 1) (by omega) (by omega) (by omega)
    · rw [if_neg hlt]
      omega

theorem avgRD_bounds (sg : Seg) (h : sg.minRD ≤ sg.maxRD) : (sg.minRD : Rat) ≤ sg.avgRD ∧ sg.avgRD ≤ (sg.maxRD : Rat) := by
  unfold Seg.avgRD
  have : (sg.minRD : Rat) ≤ (sg.maxRD : Rat) := by exact_mod_cast h
  push_cast
  constructor <;> linarith

/-- `hord` where it is used: against a rational ring difference -/
theorem ArcGeom.WF.lt_cast {g : ArcGeom} (w : g.WF) {s s' : Int} {a b : Seg} (ha : g.seg? s = some a) (hb : g.seg? s' = some b)
    (h : s < s') : (a.maxRD : Rat) + 1 ≤ (b.minRD : Rat) := by
  exact_mod_cast w.hord s s' a b ha hb h

theorem segment_found (g : ArcGeom) (w : g.WF) (k : Int) (sg : Seg) (hk : g.seg? k = some sg) :
    (if sg.avgRD ≥ 0 then g.findSegUp sg.avgRD g.segs.length 0 else g.findSegDown sg.avgRD g.segs.length 0) = k := by
  have hkr := g.seg?_range k sg hk
  have hb := avgRD_bounds sg (w.hne k sg hk)
  obtain ⟨s0, hs0⟩ := g.seg?_isSome 0 w.hmin w.hmax
  have hz := w.hzero s0 hs0
  have hz1 : (s0.minRD : Rat) ≤ 0 := by exact_mod_cast hz.1
  have hz2 : (0 : Rat) ≤ (s0.maxRD : Rat) := by exact_mod_cast hz.2
  have hmin := w.hmin
  have hmax := w.hmax
  have hmaxdef : g.maxSeg = g.minSeg + g.segs.length - 1 := rfl
  split
  · rename_i hpos
    -- average ≥ 0: the segment is ≥ 0
    have hk0 : 0 ≤ k := by
      by_contra hneg
      have hlt : k < 0 := by omega
      linarith [hb.2, w.lt_cast hk hs0 hlt]
    apply findSegUp_eq g sg.avgRD k sg hk
    · intro _
      linarith [hb.2]
    · intro s a hs ha hlt
      linarith [hb.1, w.lt_cast ha hk hs]
    · exact w.hmin
    · exact hk0
    · omega
  · rename_i hneg
    have hk0 : k ≤ 0 := by
      by_contra hp
      have hlt : 0 < k := by omega
      linarith [hb.1, w.lt_cast hs0 hk hlt]
    apply findSegDown_eq g sg.avgRD k sg hk
    · intro _
      linarith [hb.1]
    · intro s a hs ha hgt
      linarith [hb.2, w.lt_cast hk ha hs]
    · exact w.hmax
    · exact hk0
    · omega

/-- `get_bin` on a LOR whose angle is `W` view steps above the offset (`W` the bin's view, or `V` more in the flipped
    representation) and whose `s` is `n` bins; the wrap test `W > V - 1` selects the same sign in view, tangential position, ring
    difference and TOF bin -/
theorem getBin_of_wrap (g : ArcGeom) (w : g.WF) (b : Bin) (sg : Seg) (r : g.InRange b sg) (l : LorS) (delta : Rat) (W n : Int)
    (htb : g.tofBin delta = b.tof)
    (hW : to02 (l.phi - g.offset) = (W : Rat) / (g.V : Rat))
    (hview : (if W > g.V - 1 then W - g.V else W) = b.view)
    (hs : l.s = (n : Rat) * g.binSize) (htang : (if W > g.V - 1 then -n else n) = b.tang)
    (hz : (if W > g.V - 1 then l.z1 - l.z2 else l.z2 - l.z1) = sg.avgRD * g.spacing)
    (hm : (l.z2 + l.z1) / 2 = sg.getM g.spacing b.ax)
    (hsign : (l.swapped != decide (W > g.V - 1)) = false) :
    g.getBin l delta = some b := by
  have hvr := r.hv
  have htr := r.ht
  have har := r.ha
  have hmin := w.hmin
  have hmax := w.hmax
  unfold ArcGeom.getBin ArcGeom.getBinCore
  simp only [if_true]
  rw [hW, div_div_eq_mul_div, div_one, div_mul_cancel₀ _ (by exact_mod_cast w.hV.ne' : (g.V : Rat) ≠ 0), roundRat_int,
    show wrapView g.V W = W from if_neg (by split at hview <;> omega)]
  rw [hs, mul_div_assoc, div_self (ne_of_gt w.hbin), mul_one, roundRat_int, htang, hview]
  rw [if_neg (by omega)]
  obtain ⟨top, htop⟩ := g.seg?_isSome g.maxSeg (by omega) (le_refl _)
  obtain ⟨bot, hbot⟩ := g.seg?_isSome g.minSeg (le_refl _) (by omega)
  rw [htop, hbot]
  simp only []
  rw [hz, mul_div_assoc, div_self (ne_of_gt w.hsp), mul_one]
  have hb := avgRD_bounds sg (w.hne _ sg r.hseg)
  have hkr := g.seg?_range _ sg r.hseg
  have htopb : sg.maxRD ≤ top.maxRD := by
    by_cases h : b.seg = g.maxSeg
    · have := r.hseg
      rw [h, htop] at this
      injection this with e
      rw [e]
    · have := w.hord b.seg g.maxSeg sg top r.hseg htop (by omega)
      have := w.hne _ top htop
      omega
  have hbotb : bot.minRD ≤ sg.minRD := by
    by_cases h : b.seg = g.minSeg
    · have := r.hseg
      rw [h, hbot] at this
      injection this with e
      rw [e]
    · have := w.hord g.minSeg b.seg bot sg hbot r.hseg (by omega)
      have := w.hne _ bot hbot
      omega
  have h1 : ¬ (sg.avgRD > (top.maxRD : Rat) + 1 ∨ sg.avgRD < (bot.minRD : Rat) - 1) := by
    have a : (sg.maxRD : Rat) ≤ (top.maxRD : Rat) := by exact_mod_cast htopb
    have c : (bot.minRD : Rat) ≤ (sg.minRD : Rat) := by exact_mod_cast hbotb
    intro h
    rcases h with h | h <;> linarith [hb.1, hb.2]
  rw [if_neg h1, segment_found g w b.seg sg r.hseg, r.hseg]
  simp only []
  rw [hm]
  have hsamp := Seg.axialSampling_pos g.spacing w.hsp sg
  have hax : (sg.getM g.spacing b.ax - sg.getM g.spacing 0) / sg.axialSampling g.spacing = (b.ax : Rat) := by
    unfold Seg.getM
    have : (b.ax : Rat) * sg.axialSampling g.spacing - sg.mOffset g.spacing - (((0 : Int) : Rat) * sg.axialSampling g.spacing - sg.mOffset g.spacing)
        = (b.ax : Rat) * sg.axialSampling g.spacing := by
          push_cast
          ring
    rw [this, mul_div_assoc, div_self (ne_of_gt hsamp), mul_one]
  rw [hax, roundRat_int, if_neg (by omega), htb]
  rw [hsign]
  cases b
  simp

theorem arccorr_roundtrip (g : ArcGeom) (w : g.WF) (b : Bin) (sg : Seg) (r : g.InRange b sg) (l : LorS)
    (hl : g.lorOf b = some l) : g.getBin l (g.deltaTime b.tof) = some b := by
  have htb := g.tofBin_deltaTime w b.tof r.htof
  have hVq : (0 : Rat) < (g.V : Rat) := by exact_mod_cast w.hV
  have hv := r.hv
  have hv0 : (0 : Rat) ≤ (b.view : Rat) / (g.V : Rat) := div_nonneg (by exact_mod_cast hv.1) (le_of_lt hVq)
  have hv1 : (b.view : Rat) / (g.V : Rat) < 1 := by
    rw [div_lt_one hVq]
    exact_mod_cast hv.2
  unfold ArcGeom.lorOf at hl
  rw [r.hseg] at hl
  simp only [Option.map_some, Option.some.injEq] at hl
  obtain ⟨k, hk, hk0, hk2⟩ := to02_spec ((b.view : Rat) / (g.V : Rat) + g.offset)
  unfold LorS.mk' at hl
  simp only [] at hl
  split at hl
  · -- flipped representation: the angle index is `view + V`
    subst hl
    have hW : b.view + g.V > g.V - 1 := by omega
    apply getBin_of_wrap g w b sg r _ _ (b.view + g.V) (-b.tang) htb _ _ _ _ _ _ _
    · have : to02 (to02 ((b.view : Rat) / (g.V : Rat) + g.offset) - 1 - g.offset) = (b.view : Rat) / (g.V : Rat) + 1 := by
        apply to02_of _ _ (k - 1)
        · rw [hk]
          push_cast
          ring
        · linarith
        · linarith
      simp only []
      rw [this]
      push_cast
      field_simp
    · rw [if_pos hW]
      omega
    · simp only []
      push_cast
      ring
    · rw [if_pos hW]
      omega
    · simp only []
      rw [if_pos hW]
      ring
    · simp only []
      ring
    · simp only [Bool.not_false]
      rw [decide_eq_true hW]
      rfl
  · subst hl
    have hW : ¬ b.view > g.V - 1 := by omega
    -- the same goals as in the other branch, without `hview` and `htang`, which `if_neg hW` is, and `hs`, which is `rfl`
    apply getBin_of_wrap g w b sg r _ _ b.view b.tang htb _ (if_neg hW) rfl (if_neg hW) _ _ _
    · simp only []
      apply to02_of _ _ k
      · rw [hk]
        ring
      · exact hv0
      · linarith
    · simp only []
      rw [if_neg hW]
      ring
    · simp only []
      ring
    · simp only []
      rw [decide_eq_false hW]
      rfl

/-- `get_s` of arc-corrected data (ProjDataInfoCylindricalArcCorr.inl:30) -/
def sArc (binSize : Rat) (tp : Int) : Rat := (tp : Rat) * binSize

/-- `get_sampling_in_s` (ProjDataInfo.cxx:109): half the distance between the two neighbours -/
def samplingS (s : Int → Rat) (tp : Int) : Rat := |s (tp + 1) - s (tp - 1)| / 2

/-- what ties `sArc` to the model: the `s` coordinate of the LOR of a bin is `sArc` of its tangential position, up to the sign the
    constructor's normalisation of `φ` gives it -/
theorem ArcGeom.lorOf_s (g : ArcGeom) (b : Bin) (l : LorS) (hl : g.lorOf b = some l) :
    l.s = sArc g.binSize b.tang ∨ l.s = -sArc g.binSize b.tang := by
  unfold ArcGeom.lorOf at hl
  obtain ⟨sg, _, rfl⟩ := Option.map_eq_some_iff.1 hl
  unfold LorS.mk'
  simp only []
  split
  · exact .inr rfl
  · exact .inl rfl

end StirVerif.C12
