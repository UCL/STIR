/-
C12 — the non-arc-corrected `get_bin` applied to the LOR of a bin handed over in another representation
(`CylGeom.roundTripVia`, through explicit cylinder coordinates) and `CylGeom.roundTrip` (which works in detector units
directly) enumerate the same nearest detectors: the enumeration (`nearestList`) does not change when an end point is moved
by a whole turn.
-/
import StirVerif.C12.Model
import StirVerif.C12.ProofsArc
import StirVerif.C12.ProofsRt
import StirVerif.C12.ProofsTrans

namespace StirVerif.C12

theorem flatMap_roundCandidates_shift {β : Type} (x : Rat) (j : Int) (F : Int → List β) (hF : ∀ e, F (e + j) = F e) :
    (roundCandidates (x + j)).flatMap F = (roundCandidates x).flatMap F := by
  rw [roundCandidates_add_int, List.flatMap_map]
  exact congrArg (List.flatMap · _) (funext hF)

/-- the enumeration of nearest detectors / rings shared by `roundTrip` and `getBinCyl` -/
def nearestList (g : CylGeom) (x1 x2 y1 y2 : Rat) (t : Int) : List RtResult :=
  (roundCandidates x1).flatMap fun e1 => (roundCandidates x2).flatMap fun e2 =>
  (roundCandidates y1).flatMap fun r1 => (roundCandidates y2).map fun r2 =>
    let d1 := moduloInt e1 g.N
    let d2 := moduloInt e2 g.N
    if r1 < 0 ∨ r1 ≥ g.R ∨ r2 < 0 ∨ r2 ≥ g.R then RtResult.miss
    else if d1 = d2 then RtResult.miss
    else match g.binForDetPair d1 r1 d2 r2 t with
      | none => RtResult.miss
      | some nb => if nb.tang < g.minTang ∨ nb.tang > g.maxTang then RtResult.miss else RtResult.bin nb

theorem getBinCyl_eq_nearestList (g : CylGeom) (tilt : Rat) (c : LorCyl) (t : Int) :
    g.getBinCyl tilt c t = nearestList g ((c.psi1 - tilt) * (g.N : Rat) / 2) ((c.psi2 - tilt) * (g.N : Rat) / 2)
      (c.z1 + ((g.R - 1 : Int) : Rat) / 2) (c.z2 + ((g.R - 1 : Int) : Rat) / 2) t := rfl

theorem roundTrip_eq_nearestList (g : CylGeom) (b : Bin) (sg : Seg) (hs : segAt g.minSeg g.segs b.seg = some sg) :
    g.roundTrip b =
      nearestList g (((g.mash * b.view : Int) : Rat) + ((g.mash - 1 : Int) : Rat) / 2 + (b.tang : Rat) / 2)
        (((g.mash * b.view : Int) : Rat) + ((g.mash - 1 : Int) : Rat) / 2 - (b.tang : Rat) / 2 + (g.N : Rat) / 2)
        (sg.getM 1 b.ax - sg.avgRD / 2 + ((g.R - 1 : Int) : Rat) / 2)
        (sg.getM 1 b.ax + sg.avgRD / 2 + ((g.R - 1 : Int) : Rat) / 2)
        (match g.tof with
          | none => 0
          | some T => T.getTofBin (T.k b.tof / cHalf)) := by
  unfold CylGeom.roundTrip
  rw [hs]
  rfl

theorem nearestList_to02 (g : CylGeom) (hN : 0 < g.N) (a b y1 y2 : Rat) (t : Int) :
    nearestList g (to02 a * (g.N : Rat) / 2) (to02 b * (g.N : Rat) / 2) y1 y2 t =
      nearestList g (a * (g.N : Rat) / 2) (b * (g.N : Rat) / 2) y1 y2 t := by
  -- `to02` takes whole turns off an angle (units of π); in detector units `ψ·N/2` a whole turn is `N` detectors
  obtain ⟨k1, hk1, _, _⟩ := to02_spec a
  obtain ⟨k2, hk2, _, _⟩ := to02_spec b
  have h1 : to02 a * (g.N : Rat) / 2 = a * (g.N : Rat) / 2 + ((k1 * g.N : Int) : Rat) := by
    rw [hk1]
    push_cast
    ring
  have h2 : to02 b * (g.N : Rat) / 2 = b * (g.N : Rat) / 2 + ((k2 * g.N : Int) : Rat) := by
    rw [hk2]
    push_cast
    ring
  rw [h1, h2]
  unfold nearestList
  apply (flatMap_roundCandidates_shift _ _ _ fun e => ?_).trans
  · congr 1
    funext e1
    apply flatMap_roundCandidates_shift
    intro e
    simp only [moduloInt_add_mul _ _ _ hN]
  · simp only [moduloInt_add_mul _ _ _ hN]

end StirVerif.C12
