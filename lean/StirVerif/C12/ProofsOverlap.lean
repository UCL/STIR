/-
C12 — proofs about the boxes that `ArcCorrection::set_up` hands to `overlap_interpolate` (repaired code, fix C12-5):
in the list of their edges box `tp` has the edges `(tp ∓ 1/2) * sampling` (`arcCorrCoords_box`) — whence the boxes are contiguous, all of width `tangential_sampling`, and centred at `tp * sampling`.
(`overlap_interpolate` itself is tied to the code by the correspondence run only.)
-/
import StirVerif.C12.Model
import Mathlib.Tactic.Ring

namespace StirVerif.C12

theorem arcCorrCoords_get (minTang maxTang : Int) (sampling : Rat) (k : Nat) (hk : k ≤ (maxTang - minTang + 1).toNat) :
    (arcCorrCoords minTang maxTang sampling)[k]? = some ((((minTang + (k : Int) : Int) : Rat) - 1/2) * sampling) := by
  unfold arcCorrCoords
  rw [List.getElem?_map, List.getElem?_range (by omega)]
  rfl

/-- the two edges of box `tp` in the list, for every `tp` of the range, the last one (`tp = maxTang`) included -/
theorem arcCorrCoords_box (minTang maxTang : Int) (sampling : Rat) (tp : Int) (h1 : minTang ≤ tp) (h2 : tp ≤ maxTang) :
    (arcCorrCoords minTang maxTang sampling)[(tp - minTang).toNat]? = some (((tp : Rat) - 1/2) * sampling) ∧
    (arcCorrCoords minTang maxTang sampling)[(tp - minTang).toNat + 1]? = some (((tp : Rat) + 1/2) * sampling) := by
  constructor
  · rw [arcCorrCoords_get _ _ _ _ (by omega)]
    have : minTang + (((tp - minTang).toNat : Nat) : Int) = tp := by omega
    rw [this]
  · rw [arcCorrCoords_get _ _ _ _ (by omega)]
    have : minTang + (((tp - minTang).toNat + 1 : Nat) : Int) = tp + 1 := by omega
    rw [this]
    congr 1
    push_cast
    ring

end StirVerif.C12
