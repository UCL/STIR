/-
C12 — real-valued chord geometry: the positions of the detectors of a ring (`detPsi`, `ringX`, `ringY`) and the offset of a
ring point from a line through the axis (`ring_point_offset`), from which `C12_chord_through_detectors` follows, with the two
halves `tp / 2`, `(tp + 1) / 2` of an integer as reals (`int_half_decomp`, `int_half_up`) for the detector numbers of that theorem;
`sin` of equally spaced angles within a quarter turn of 0 increases (`sin_mul_strictMono`, for `C12_s_noarc_monotone`).
-/
import Mathlib.Analysis.SpecialFunctions.Trigonometric.Basic

namespace StirVerif.C12
open Real

/-- angle of detector `d` of a ring of `N` detectors: `(2π/N)·d + tilt`
    (`find_cartesian_coordinates_given_scanner_coordinates`, ProjDataInfoCylindricalNoArcCorr.cxx:513) -/
noncomputable def detPsi (tilt : ℝ) (N d : ℤ) : ℝ := 2 * π / (N : ℝ) * (d : ℝ) + tilt

/-- STIR coordinates of a point of the ring at angle `ψ` (`LORAs2Points(LORInCylinderCoordinates)`, LORCoordinates.inl:276):
    `x = R sin ψ`, `y = -R cos ψ` -/
noncomputable def ringX (R ψ : ℝ) : ℝ := R * sin ψ
noncomputable def ringY (R ψ : ℝ) : ℝ := -R * cos ψ

/-- signed distance from the axis of the point at `ψ` along the normal `(cos φ, sin φ)`:
    the line `{X = s cos φ + a sin φ, Y = s sin φ - a cos φ}` of STIR's parametrisation is `{x cos φ + y sin φ = s}` -/
theorem ring_point_offset (R ψ φ : ℝ) : ringX R ψ * cos φ + ringY R ψ * sin φ = R * sin (ψ - φ) := by
  unfold ringX ringY
  rw [sin_sub]
  ring

/-- steps of size `θ`, `m` of which make a quarter turn: the positions `-m … m` lie where `sin` increases -/
theorem sin_mul_strictMono {θ m a b : ℝ} (hθ : 0 < θ) (hm : m * θ = π / 2) (h0 : -m ≤ a) (h1 : a < b) (h2 : b ≤ m) :
    sin (a * θ) < sin (b * θ) := by
  have b0 : -(π / 2) ≤ a * θ := by
    rw [← hm, ← neg_mul]
    exact mul_le_mul_of_nonneg_right h0 hθ.le
  have b1 : a * θ < b * θ := mul_lt_mul_of_pos_right h1 hθ
  have b2 : b * θ ≤ π / 2 := by
    rw [← hm]
    exact mul_le_mul_of_nonneg_right h2 hθ.le
  exact strictMonoOn_sin ⟨b0, le_trans b1.le b2⟩ ⟨le_trans b0 b1.le, b2⟩ b1

theorem int_half_decomp (tp : ℤ) : ((tp : ℤ) : ℝ) = 2 * ((tp / 2 : ℤ) : ℝ) + ((tp % 2 : ℤ) : ℝ) := by
  have h : tp = 2 * (tp / 2) + tp % 2 := by omega
  exact_mod_cast h

theorem int_half_up (tp : ℤ) : (((tp + 1) / 2 : ℤ) : ℝ) = ((tp / 2 : ℤ) : ℝ) + ((tp % 2 : ℤ) : ℝ) := by
  have h : (tp + 1) / 2 = tp / 2 + tp % 2 := by omega
  exact_mod_cast h

end StirVerif.C12
