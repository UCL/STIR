/-
C14: the list-mode objective function (`PoissonLogLikelihoodWithLinearModelForMeanAndListModeDataWithProjMatrixByBin`):
its batches concatenate to the events read with an unlimited cache, which for a stream whose time marks never go back are
the events whose histogram is `direct` (`promptBins`); the back projections at a voxel sum `row_v / (row·image + add)` over them.
-/
import StirVerif.C14.ProofsGrad
import StirVerif.Common.ArrayFold
import Mathlib.Algebra.Field.Basic

namespace StirVerif.C14

/-- the configuration of `LmToProjData` that histograms the same events: prompts only, the same frame, the same ranges -/
def LmCfg.histCfg (c : LmCfg) : Cfg :=
  { tpl := c.tpl, frames := [(c.startT, c.endT)], doTimeFrame := true, numEventsToStore := 0, storePrompts := true,
    delayedIncrement := 0, segsInMemory := 1, tofInMemory := 1 }

/-- the bin `read_listmode_batch` takes from an event read at `current_time = cur`, if any: the event is not before the
    start of the frame, is a prompt, and passes the decoder's and the range test -/
def lmAccepted (c : LmCfg) (cur : Int) (e : Event) : Option Bin :=
  if cur < c.startT then none else if e.prompt then accepted c.histCfg e else none

theorem lmReadAll_event (c : LmCfg) (cur : Int) (e : Event) (rs : List Record) :
    lmReadAll c cur (.event e :: rs) = (lmAccepted c cur e).toList ++ lmReadAll c cur rs := by
  simp only [lmReadAll, lmAccepted, accepted, LmCfg.histCfg]
  by_cases hc : cur < c.startT
  · simp [hc]
  · by_cases hp : e.prompt = true
    · cases getBinFromEvent c.tpl e with
      | none => simp [hc, hp]
      | some b => by_cases hr : inRange c.tpl b = true <;> simp [hc, hp, hr]
    · simp [hc, hp]

theorem lmReadBatch_event (c : LmCfg) (prev n : Nat) (cur : Int) (e : Event) (rs : List Record) :
    lmReadBatch c prev n cur (.event e :: rs) =
      match lmAccepted c cur e with
      | none => lmReadBatch c prev n cur rs
      | some b =>
        if c.numEventsToUse > 0 && (((prev + n : Nat) : Int) + 1 ≥ c.numEventsToUse) then ⟨[b], true, rs⟩
        else if n + 1 = c.cacheSize then ⟨[b], false, rs⟩
        else
          let o := lmReadBatch c prev (n + 1) cur rs
          ⟨b :: o.bins, o.stop, o.rest⟩ := by
  simp only [lmReadBatch, lmAccepted, accepted, LmCfg.histCfg]
  by_cases hc : cur < c.startT
  · simp [hc]
  · by_cases hp : e.prompt = true
    · cases getBinFromEvent c.tpl e with
      | none => simp [hc, hp]
      | some b => by_cases hr : inRange c.tpl b = true <;> simp [hc, hp, hr]
    · simp [hc, hp]

theorem lmReadAll_congr_cur (c : LmCfg) (recs : List Record) (cur cur' : Int) (h : cur < c.startT ↔ cur' < c.startT) :
    lmReadAll c cur recs = lmReadAll c cur' recs := by
  induction recs with
  | nil => rfl
  | cons r rs ih =>
    cases r with
    | time t => simp only [lmReadAll]
    | event e => simp only [lmReadAll_event, lmAccepted, h, ih]

/-- one batch, without `num_events_to_use`: it holds the first of the events read with an unlimited cache; if it stops they are all,
    if it is full the others are what is read from the remaining records restarted at the end time of the frame -/
theorem lmReadBatch_spec (c : LmCfg) (hn : c.numEventsToUse ≤ 0) (hse : c.startT ≤ c.endT) (prev : Nat) (recs : List Record) :
    ∀ (n : Nat) (cur : Int),
      let o := lmReadBatch c prev n cur recs
      lmReadAll c cur recs = o.bins ++ (if o.stop then [] else lmReadAll c c.endT o.rest) ∧
        (o.stop = false → o.rest.length < recs.length) := by
  induction recs with
  | nil =>
    intro n cur
    simp [lmReadBatch, lmReadAll]
  | cons r rs ih =>
    intro n cur
    -- a record that is not taken: the batch is the batch of the remaining records, which are one fewer
    have skip := fun cur' => (ih n cur').imp_right fun h hs => Nat.lt_succ_of_lt (h hs)
    cases r with
    | time t =>
      by_cases hstop : (c.doTimeFrame && decide (t ≥ c.endT)) = true
      · simp [lmReadBatch, lmReadAll, hstop]
      · have h1 : lmReadBatch c prev n cur (.time t :: rs) = lmReadBatch c prev n t rs := by
          simp only [lmReadBatch, hstop, Bool.false_eq_true, if_false]
        have h2 : lmReadAll c cur (.time t :: rs) = lmReadAll c t rs := by
          simp only [lmReadAll, hstop, Bool.false_eq_true, if_false]
        rw [h1, h2]
        exact skip t
    | event e =>
      rw [lmReadBatch_event, lmReadAll_event]
      cases ha : lmAccepted c cur e with
      | none => exact skip cur
      | some b =>
        have hc : ¬cur < c.startT := by
          intro hc
          simp [lmAccepted, hc] at ha
        have hfalse : (decide (c.numEventsToUse > 0) && decide (((prev + n : Nat) : Int) + 1 ≥ c.numEventsToUse)) = false := by
          simp [Int.not_lt.2 hn]
        simp only [hfalse, Bool.false_eq_true, if_false]
        by_cases hfull : n + 1 = c.cacheSize
        · -- the cache is full: the next batch restarts at the end time of the frame, which like `cur` is not before its start
          simp only [hfull, if_true, Bool.false_eq_true, if_false, List.length_cons, Nat.lt_succ_self, implies_true, and_true]
          rw [lmReadAll_congr_cur c rs cur c.endT (by omega)]
          rfl
        · simp only [hfull, if_false]
          obtain ⟨h1, h2⟩ := ih (n + 1) cur
          refine ⟨?_, fun hs => Nat.lt_succ_of_lt (h2 hs)⟩
          rw [Option.toList_some, h1]
          rfl

/-- **the batches concatenate to the events read with an unlimited cache**, for every cache size (size 0 is never
    full; no `num_events_to_use`; `start_time ≤ end_time`, so that restarting a batch at the end time of the frame — what the code
    does — is not before the start) -/
theorem lmBatches_flatten (c : LmCfg) (hn : c.numEventsToUse ≤ 0) (hse : c.startT ≤ c.endT) :
    ∀ (fuel : Nat) (first : Bool) (prev : Nat) (recs : List Record), recs.length < fuel →
      (lmBatches c fuel first prev recs).flatten = lmReadAll c (if first then 0 else c.endT) recs := by
  intro fuel
  induction fuel with
  | zero =>
    intro _ _ recs h
    omega
  | succ fuel ih =>
    intro first prev recs hlen
    obtain ⟨h1, h2⟩ := lmReadBatch_spec c hn hse prev recs 0 (if first then 0 else c.endT)
    simp only [lmBatches]
    rw [h1]
    cases hs : (lmReadBatch c prev 0 (if first = true then 0 else c.endT) recs).stop with
    | true => simp
    | false =>
      have := h2 hs
      simp only [Bool.false_eq_true, if_false, List.flatten_cons]
      rw [ih false _ _ (by omega)]
      rfl

theorem lmEvents_flatten (c : LmCfg) (hn : c.numEventsToUse ≤ 0) (hse : c.startT ≤ c.endT)
    (recs : List Record) : (lmEvents c recs).flatten = lmReadAll c 0 recs :=
  lmBatches_flatten c hn hse (recs.length + 1) true 0 recs (Nat.lt_succ_self _)

theorem lmReadAll_cacheSize (c : LmCfg) (n : Nat) (recs : List Record) :
    ∀ cur, lmReadAll { c with cacheSize := n } cur recs = lmReadAll c cur recs := by
  induction recs with
  | nil =>
    intro _
    rfl
  | cons r rs ih =>
    intro cur
    cases r with
    | time t => simp only [lmReadAll, ih]
    | event e => simp only [lmReadAll, ih]

/-- (`regularB [] cur recs`: with no frame to jump over, what is left of regularity is that the time marks never go back) -/
theorem lmReadAll_eq_filterMap (c : LmCfg) (hd : c.doTimeFrame = true) (recs : List Record) :
    ∀ cur, regularB [] cur recs = true → cur < c.endT →
      lmReadAll c cur recs = (timed cur recs).filterMap fun te =>
        if c.startT ≤ te.1 ∧ te.1 < c.endT ∧ te.2.prompt = true then accepted c.histCfg te.2 else none := by
  induction recs with
  | nil =>
    intro cur _ _
    simp [lmReadAll, timed]
  | cons r rs ih =>
    intro cur hR hlt
    cases r with
    | time t =>
      have hR := ((regularB_time ..).1 hR).2.2
      simp only [lmReadAll, timed, hd, Bool.true_and]
      by_cases ht : t ≥ c.endT
      · simp only [ht, decide_true, if_true]
        symm
        rw [List.filterMap_eq_nil_iff]
        intro te hte
        have := timed_ge [] rs t hR te hte
        rw [if_neg]
        omega
      · simp only [ht, decide_false, Bool.false_eq_true, if_false]
        exact ih t hR (by omega)
    | event e =>
      have hacc : (if c.startT ≤ cur ∧ cur < c.endT ∧ e.prompt = true then accepted c.histCfg e else none)
          = lmAccepted c cur e := by
        unfold lmAccepted
        by_cases hc : cur < c.startT
        · rw [if_pos hc, if_neg (by omega)]
        · by_cases hp : e.prompt = true
          · rw [if_neg hc, if_pos hp, if_pos ⟨by omega, hlt, hp⟩]
          · rw [if_neg hc, if_neg hp, if_neg fun h => hp h.2.2]
      rw [lmReadAll_event, ih cur hR hlt, timed, List.filterMap_cons, hacc]
      cases lmAccepted c cur e <;> rfl

theorem lmReadAll_eq_promptBins (c : LmCfg) (hd : c.doTimeFrame = true) (recs : List Record)
    (hR : regularB [] 0 recs = true) (hpos : 0 < c.endT) :
    lmReadAll c 0 recs = promptBins c.histCfg recs c.startT c.endT :=
  lmReadAll_eq_filterMap c hd recs 0 hR hpos

section Field
variable {K : Type} [Field K]

theorem sumList_eq_sum (l : List K) : sumList l = l.sum := by
  induction l with
  | nil => rfl
  | cons a l ih => simp [sumList, ih]

theorem imageAt_nil (v : Nat) : imageAt ([] : List (Nat × K)) v = 0 := rfl

theorem imageAt_append (l1 l2 : List (Nat × K)) (v : Nat) : imageAt (l1 ++ l2) v = imageAt l1 v + imageAt l2 v := by
  simp [imageAt, sumList_eq_sum]

theorem imageAt_flatMap {α : Type} (f : α → List (Nat × K)) (l : List α) (v : Nat) :
    imageAt (l.flatMap f) v = (l.map fun a => imageAt (f a) v).sum := by
  induction l with
  | nil => rfl
  | cons a l ih => simp [List.flatMap_cons, imageAt_append, ih]

theorem sum_row_div (row : List (Nat × K)) (q : K) (v : Nat) :
    (row.map fun e => if e.1 = v then e.2 / q else 0).sum = (row.map fun e => if e.1 = v then e.2 else 0).sum / q := by
  induction row with
  | nil => simp
  | cons e l ih =>
    simp only [List.map_cons, List.sum_cons, ih, add_div]
    congr 1
    by_cases h : e.1 = v <;> simp [h]

theorem imageAt_lmEventContribs (img : Nat → K) (d : LmBinData K) (v : Nat) :
    imageAt (lmEventContribs img d) v = rowAt d.row v / (lmFwd img d.row + d.add) := by
  simp only [lmEventContribs, imageAt, rowAt, sumList_eq_sum, List.map_map]
  rw [← sum_row_div]
  rfl

theorem lmGps_eq_sum (data : Bin → LmBinData K) (img : Nat → K) (nsub subset : Int) (batches : List (List Bin)) (v : Nat) :
    lmGps data img nsub subset batches v
      = ((batches.flatten.filter fun b => inSubset nsub subset (data b).basicView).map fun b =>
          rowAt (data b).row v / (lmFwd img (data b).row + (data b).add)).sum := by
  -- the batches are read one after the other: a sum over the batches of sums over their events
  simp only [lmGps, lmContribs, imageAt_flatMap, imageAt_lmEventContribs]
  rw [List.filter_flatten, List.map_flatten, List.sum_flatten, List.map_map, List.map_map]
  rfl

/-- the array the driver computes holds, for every voxel of the image, the value `imageAt` of the model -/
theorem accumulate_getD (n : Nat) (cs : List (Nat × K)) (v : Nat) (hv : v < n) :
    (accumulate n cs).getD v 0 = imageAt cs v := by
  rw [accumulate, Common.getD_foldl_modify_add cs _ (by simpa using hv), imageAt, sumList_eq_sum]
  simp [hv]

end Field

end StirVerif.C14
