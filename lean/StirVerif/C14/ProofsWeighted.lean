/-
C14: normalisation in `LmToProjData` (`weighted`, `valueW`, `processDataW` of Model.lean).
The value of an output bin after the weighted additions is a sum over the additions (`wsum`, `valueW_weighted`), so it does not
depend on their order (`orderFree_valueW`): the general statements about the multi-pass run (`process_batchSizes`,
`process_eq_direct`) and about frames of a partition (`direct_frames_perm`) apply to it as they do to `value`.
-/
import StirVerif.C14.ProofsLmObj

namespace StirVerif.C14

section Field
variable {K : Type} [Field K]

/-- weight of a model bin `b'` in the output bin `b`: its bin value if it belongs to `b` and something is added, else 0 -/
def weightAt (tooLow : K → Bool) (n : Norm K) (b b' : Bin) : K :=
  if b'.key = b then (binValue tooLow n b').getD 0 else 0

def wsum (g : Bin → K) (adds : List Add) : K := (adds.map fun a => g a.1 * ((a.2 : Int) : K)).sum

theorem wsum_nil (g : Bin → K) : wsum g [] = 0 := rfl

theorem wsum_cons (g : Bin → K) (a : Add) (l : List Add) : wsum g (a :: l) = g a.1 * ((a.2 : Int) : K) + wsum g l := by
  simp [wsum]

theorem wsum_append (g : Bin → K) (l1 l2 : List Add) : wsum g (l1 ++ l2) = wsum g l1 + wsum g l2 := by
  simp [wsum]

theorem valueW_weighted (tooLow : K → Bool) (n : Norm K) (adds : List Add) (b : Bin) :
    valueW (weighted tooLow n adds) b = wsum (weightAt tooLow n b) adds := by
  unfold valueW weighted wsum
  rw [sumList_eq_sum, sum_filterMap]
  -- an addition without a bin value is left out, which is weight 0
  refine congrArg List.sum (List.map_congr_left fun a _ => ?_)
  unfold weightAt
  cases binValue tooLow n a.1 with
  | none => rw [Option.map_none, Option.elim_none, Option.getD_none, ite_self, zero_mul]
  | some w => rw [Option.map_some, Option.elim_some, Option.getD_some, ite_mul, zero_mul]

theorem orderFree_wsum (g : Bin → K) : OrderFree (wsum g) := fun _ _ h => (h.map _).sum_eq

theorem orderFree_valueW (tooLow : K → Bool) (n : Norm K) (b : Bin) : OrderFree fun a => valueW (weighted tooLow n a) b := by
  simp only [valueW_weighted]
  exact orderFree_wsum _

theorem sum_map_wsum (g : Bin → K) (L : List (List Add)) : (L.map (wsum g)).sum = wsum g L.flatten := by
  rw [wsum, List.map_flatten, List.sum_flatten, List.map_map]
  rfl

theorem wsum_direct_frames_add (g : Bin → K) (c : Cfg) (recs : List Record) (s0 : Int) (L : List (Int × Int))
    (hL : IsPartitionFrom s0 L) :
    (L.map fun f => wsum g (direct c recs f.1 f.2)).sum = wsum g (direct c recs s0 (lastEnd s0 L)) := by
  rw [← orderFree_wsum g _ _ (direct_frames_perm c recs s0 L hL), ← sum_map_wsum, List.map_map]
  rfl

/-- the un-normalised content of the output bin `b`: the sum of the increments of all additions that belong to it -/
def keyValue (adds : List Add) (b : Bin) : Int := (adds.map fun a => if a.1.key = b then a.2 else 0).sum

theorem wsum_post (tooLow : K → Bool) (eff : Bin → K) (adds : List Add) (b : Bin) :
    wsum (weightAt tooLow (.post eff) b) adds
      = (if tooLow (eff b) then 0 else 1 / eff b) * ((keyValue adds b : Int) : K) := by
  induction adds with
  | nil => simp [wsum_nil, keyValue]
  | cons a l ih =>
    rw [wsum_cons, ih]
    obtain ⟨b', i⟩ := a
    simp only [keyValue, weightAt, List.map_cons, List.sum_cons]
    by_cases h : b'.key = b
    · subst h
      simp only [if_true, binValue]
      by_cases hl : tooLow (eff b'.key) = true
      · simp [hl]
      · simp [hl, mul_add]
    · simp [h]

end Field

end StirVerif.C14
