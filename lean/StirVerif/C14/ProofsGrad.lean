/-
C14: the algebraic core of "list-mode gradient = projection-data gradient of the histogrammed
data": a sum over events of a bin-indexed quantity, regrouped by bin, is the histogram-weighted sum over bins.
-/
import StirVerif.C14.ProofsSpec
import Mathlib.Algebra.BigOperators.Group.Finset.Basic
import Mathlib.Algebra.Field.Defs
import Mathlib.Data.Int.Cast.Lemmas

namespace StirVerif.C14

theorem value_unit_counts (bs : List Bin) (b : Bin) : value (bs.map fun x => (x, (1 : Int))) b = (bs.count b : Int) := by
  induction bs with
  | nil => simp [value_nil]
  | cons x bs ih =>
    simp only [List.map_cons, value_cons, ih, List.count_cons]
    by_cases h : x = b
    · subst h
      simp
      omega
    · have : (x == b) = false := by simpa using h
      simp [h, this]

theorem sum_filterMap {K : Type} [Field K] {α β : Type} (f : α → Option β) (g : β → K) (l : List α) :
    ((l.filterMap f).map g).sum = (l.map fun x => (f x).elim 0 g).sum := by
  induction l with
  | nil => rfl
  | cons x l ih =>
    rw [List.filterMap_cons]
    cases h : f x with
    | none => simp [h, ih]
    | some y => simp [h, ih]

theorem sum_filter_events_eq_sum_bins {K : Type} [Field K] (bs : List Bin) (p : Bin → Bool) (g : Bin → K) :
    ((bs.filter p).map g).sum
      = ∑ b ∈ bs.toFinset, ((value (bs.map fun x => (x, (1 : Int))) b : Int) : K) * (if p b then g b else 0) := by
  have hf : ((bs.filter p).map g).sum = (bs.map fun b => if p b then g b else 0).sum := by
    rw [← List.filterMap_eq_filter, sum_filterMap]
    simp [Option.guard, apply_ite (Option.elim · (0 : K) g)]
  rw [hf, Finset.sum_list_map_count]
  apply Finset.sum_congr rfl
  intro b _
  rw [value_unit_counts, nsmul_eq_mul, Int.cast_natCast]

/-- the bins of the prompt events of the frame `[s,e)` that fall inside the data, in stream order -/
def promptBins (c : Cfg) (recs : List Record) (s e : Int) : List Bin :=
  (timed 0 recs).filterMap fun te => if s ≤ te.1 ∧ te.1 < e ∧ te.2.prompt = true then accepted c te.2 else none

/-- with prompts only (`store_prompts=1, store_delayeds=0`) the histogram is one unit count per accepted prompt -/
theorem direct_prompts_only (c : Cfg) (hp : c.storePrompts = true) (hdl : c.delayedIncrement = 0) (recs : List Record)
    (s e : Int) : direct c recs s e = (promptBins c recs s e).map fun x => (x, (1 : Int)) := by
  rw [direct_eq, promptBins, List.map_filterMap]
  refine List.filterMap_congr fun te _ => ?_
  rw [win, contribution_eq_accepted]
  by_cases hw : s ≤ te.1 ∧ te.1 < e
  · cases hpr : te.2.prompt
    · have : eventIncrement c te.2 = 0 := by simp [eventIncrement, hpr, hdl]
      cases accepted c te.2 <;> simp [hw, this]
    · have : eventIncrement c te.2 = 1 := by simp [eventIncrement, hpr, hp]
      cases accepted c te.2 <;> simp [hw, this]
  · have h2 : ¬(s ≤ te.1 ∧ te.1 < e ∧ te.2.prompt = true) := fun h => hw ⟨h.1, h.2.1⟩
    simp [hw, h2]

end StirVerif.C14
