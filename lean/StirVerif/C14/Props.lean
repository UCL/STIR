/-
C14 — "List-mode histogramming and list-mode likelihood agree with the event list".
Property theorems over the model of `Model.lean` (`processData` = `LmToProjData::process_data`).  All statements are
for every record list, every frame list, every template and every batch size (no bound).

Scope of the model functions: the bin of an event is data, so the
theorems about `processData` are statements about every run that the driver replays — runs fed by the synthetic
`CListEventCylindricalScannerWithDiscreteDetectors` events, by events that only know their LOR (`ListEvent::get_bin`), by
events of BlocksOnCylindrical scanners, and by REAL SAFIR and ECAT8 32-bit list-mode files read through the library's readers
(several passes = `save_get_position`/`set_get_position` on the file); with `processDataW`/`preStream` also runs with pre- or
post-normalisation (section "normalisation" below).
-/
import StirVerif.C14.ProofsWeighted

namespace StirVerif.C14

/-- `set_up()` yields a well-formed configuration (`Cfg.WF`: batch sizes ≥ 1, non-empty segment and TOF range) whenever the requested
    batch sizes are `-1` or ≥ 1, the template's segment range is symmetric (`-maxSeg … maxSeg`, `maxSeg ≥ 0`), its TOF range is not
    empty, and `maximum absolute segment number to process` is `-1` or ≥ 0 -/
theorem C14_setUp_WF (t : Template) (p : Params) (c : Cfg) (h : setUp t p = some c)
    (hs : p.segsInMemory = -1 ∨ 1 ≤ p.segsInMemory) (ht : p.tofInMemory = -1 ∨ 1 ≤ p.tofInMemory)
    (hseg : 0 ≤ t.maxSeg ∧ t.minSeg = -t.maxSeg) (htof : t.minTof ≤ t.maxTof)
    (hm : p.maxSegToProcess = -1 ∨ 0 ≤ p.maxSegToProcess) : c.WF := by
  -- a batch size that is `-1` or ≥ 1, clamped to a non-empty range, is ≥ 1
  have clamp : ∀ k n : Int, (k = -1 ∨ 1 ≤ k) → 1 ≤ n → 1 ≤ (if k = -1 then n else min k n) := by
    intro k n hk hn
    split <;> omega
  unfold setUp at h
  simp only at h
  split at h
  · cases h
  · cases h
    by_cases hms : p.maxSegToProcess = -1
    · simp only [hms, if_true]
      refine ⟨clamp _ _ hs (by omega), clamp _ _ ht (by omega), ?_, htof⟩
      dsimp only
      omega
    · simp only [hms, if_false]
      refine ⟨clamp _ _ hs (by omega), clamp _ _ ht (by omega), ?_, htof⟩
      dsimp only
      omega

/-- **"the result does not depend on how many segments or TOF bins are held in memory at once"**, core:
    every frame's histogram written by the multi-pass run (batches of `num_segments_in_memory` segments ×
    `num_TOF_bins_in_memory` TOF bins, first pass skipping to the frame start and saving the position, later passes
    rewinding to it) is the histogram of reading the data ONCE with everything in memory — for every record list,
    in time-frame mode with any frames, and in `num_events_to_store` mode with one frame.
    `_partial`: the hypothesis `hmode` excludes `num_events_to_store ≠ 0` together with several frames (possible through
    `set_time_frame_definitions`); there the statement is FALSE of the code
    (`C14_batch_independent_full_fails`, known finding `lm2pd:num-events-with-frames-depends-on-batches`). -/
theorem C14_process_eq_single_pass_partial (c : Cfg) (h : c.WF) (hmode : c.doTimeFrame = true ∨ c.frames.length ≤ 1)
    (recs : List Record) (b : Bin) :
    (processData c recs).1.map (fun a => value a b) = (singlePass c recs).1.map (fun a => value a b) :=
  process_eq_singlePass (orderFree_value b) c h hmode recs

/-- **batch-size independence**: any two admissible `num_segments_in_memory` / `num_TOF_bins_in_memory`
    give the same histograms (both are that of the single pass, `process_batchSizes`; `_partial` for the same reason). -/
theorem C14_batch_size_independent_partial (c : Cfg) (n m n' m' : Int) (hn : 1 ≤ n) (hm : 1 ≤ m) (hn' : 1 ≤ n') (hm' : 1 ≤ m')
    (hseg : c.tpl.minSeg ≤ c.tpl.maxSeg) (htof : c.tpl.minTof ≤ c.tpl.maxTof)
    (hmode : c.doTimeFrame = true ∨ c.frames.length ≤ 1) (recs : List Record) (b : Bin) :
    (processData { c with segsInMemory := n, tofInMemory := m } recs).1.map (fun a => value a b)
      = (processData { c with segsInMemory := n', tofInMemory := m' } recs).1.map (fun a => value a b) :=
  process_batchSizes (orderFree_value b) c n m n' m' hn hm hn' hm' hseg htof hmode recs

/-- the hypotheses on frames and stream under which "the events inside a frame" means what the property says:
    time-frame mode, frames non-empty / ending after 0.01 s / in sequence (what `TimeFrameDefinitions` accepts),
    time marks that never go back, and no frame lying strictly inside the gap between two consecutive time marks -/
structure Timely (c : Cfg) (recs : List Record) : Prop where
  mode : c.doTimeFrame = true
  frames : FramesOK c.frames
  regular : regularB c.frames 0 recs = true

/-- **"Histogramming adds, for every event inside a requested time frame, exactly one count … to the bin that the
    data geometry assigns …, and nothing else"**: for every batch size, every frame's histogram is the one-line
    specification `direct` — add the increment of every event whose preceding time mark lies in `[start,end)` and
    whose bin is inside the data.
    `_partial`: the hypothesis `Timely.regular` excludes (a) time marks that go back — there "the time of an event" is
    not defined — and (b) two consecutive time marks that jump over a whole frame; for (b) the statement is FALSE of the
    code (`C14_histogram_is_time_filter_full_fails`, known finding `lm2pd:frame-inside-time-mark-gap`). -/
theorem C14_process_eq_direct_partial (c : Cfg) (h : c.WF) (recs : List Record) (ht : Timely c recs) (b : Bin) :
    (processData c recs).1.map (fun a => value a b) = c.frames.map fun f => value (direct c recs f.1 f.2) b :=
  process_eq_direct (orderFree_value b) c h recs ht.mode ht.frames ht.regular

/-- `direct`, spelled out: the value of a bin is the sum of the increments (`+1` prompt, `delayed_increment` delayed)
    of exactly the events of the frame that are assigned to that bin … -/
theorem C14_one_count_per_event (c : Cfg) (recs : List Record) (s e : Int) (b : Bin) :
    value (direct c recs s e) b
      = (if c.storePrompts then 1 else 0) *
          (((timed 0 recs).filter (inWinAt c s e b)).countP fun te => te.2.prompt)
        + c.delayedIncrement * (((timed 0 recs).filter (inWinAt c s e b)).countP fun te => !te.2.prompt) := by
  rw [direct_eq, value_filterMap_win, sum_eventIncrement]

/-- … **"minus one for delayed events when they are subtracted"**: what `set_up()` makes of the two switches:
    both → prompts − delayeds; prompts only → delayeds ignored; delayeds only → delayeds ADDED; none → error -/
theorem C14_delayed_subtracts (t : Template) (p : Params) (c : Cfg) (h : setUp t p = some c) :
    (p.storePrompts = true ∧ p.storeDelayeds = true → c.storePrompts = true ∧ c.delayedIncrement = -1) ∧
    (p.storePrompts = true ∧ p.storeDelayeds = false → c.storePrompts = true ∧ c.delayedIncrement = 0) ∧
    (p.storePrompts = false ∧ p.storeDelayeds = true → c.storePrompts = false ∧ c.delayedIncrement = 1) ∧
    ¬(p.storePrompts = false ∧ p.storeDelayeds = false) := by
  unfold setUp at h
  simp only at h
  split at h
  · next hinc =>
    -- `error`: neither kind is stored
    cases h
  · next inc hinc =>
    cases h
    revert hinc
    cases p.storePrompts <;> cases p.storeDelayeds <;> simp [eq_comm]
/-- so with both switches on a bin holds (#prompts − #delayeds) of the frame assigned to it -/
theorem C14_trues (c : Cfg) (hp : c.storePrompts = true) (hd : c.delayedIncrement = -1) (recs : List Record) (s e : Int)
    (b : Bin) :
    value (direct c recs s e) b
      = (((timed 0 recs).filter (inWinAt c s e b)).countP fun te => te.2.prompt)
        - (((timed 0 recs).filter (inWinAt c s e b)).countP fun te => !te.2.prompt : Nat) := by
  rw [C14_one_count_per_event, hp, hd]
  simp
  omega

/-- **"and nothing else"** / out-of-range events are dropped — for EVERY input (no hypothesis on stream, frames, mode
    or batch sizes): whatever `process_data` adds is a non-zero increment at a bin that passed the decoder's segment
    test and the range test (tangential, axial, TOF) … -/
theorem C14_nothing_outside (c : Cfg) (recs : List Record) :
    ∀ l ∈ (processData c recs).1, ∀ a ∈ l, binOK c.tpl a.1 ∧ a.2 ≠ 0 :=
  frameLoop_adds_binOK c c.frames 0 recs

/-- … hence every bin outside the data stays 0 -/
theorem C14_out_of_range_dropped (c : Cfg) (recs : List Record) (b : Bin) (hb : ¬binOK c.tpl b) :
    ∀ l ∈ (processData c recs).1, value l b = 0 := by
  intro l hl
  apply value_eq_zero_of_forall_ne
  intro a ha hab
  exact hb (hab ▸ (C14_nothing_outside c recs l hl a ha).1)

/-- **"the frames of a partition of a time interval add up to the histogram of the whole interval"**, on the
    specification … -/
theorem C14_direct_frames_add (c : Cfg) (recs : List Record) (b : Bin) (s0 : Int) (L : List (Int × Int))
    (hL : IsPartitionFrom s0 L) :
    (L.map fun f => value (direct c recs f.1 f.2) b).sum = value (direct c recs s0 (lastEnd s0 L)) b := by
  rw [← value_perm (direct_frames_perm c recs s0 L hL) b, value_flatten, List.map_map]
  rfl

/-- … and on `process_data` itself: the per-frame histograms of a run over frames that partition `[s0, t)` sum to the
    histogram of the run with the single frame `[s0, t)` (any batch sizes in either run).
    `_partial`: same hypothesis `Timely` as `C14_process_eq_direct_partial`, and needed
    (`C14_frames_add_fails_without_regular`). -/
theorem C14_frames_add_partial (c : Cfg) (h : c.WF) (recs : List Record) (ht : Timely c recs) (s0 : Int)
    (hP : IsPartitionFrom s0 c.frames) (hne : c.frames ≠ []) (b : Bin) :
    ((processData c recs).1.map fun a => value a b).sum
      = ((processData { c with frames := [(s0, lastEnd s0 c.frames)] } recs).1.map fun a => value a b).sum := by
  have hm := merged_frames_ok ht.frames ht.regular hP hne
  rw [C14_process_eq_direct_partial c h recs ht b, C14_direct_frames_add c recs b s0 c.frames hP,
    process_eq_direct (orderFree_value b) { c with frames := [(s0, lastEnd s0 c.frames)] } ⟨h.segs, h.tofs, h.seg, h.tof⟩ recs
      ht.mode hm.1 hm.2]
  simp only [List.map_cons, List.map_nil, List.sum_cons, List.sum_nil, Int.add_zero]
  rfl

set_option linter.unusedVariables false in
/-- **`num_events_to_store`**: without frame definitions (the single frame `(0,0)`, whose end is ignored) the run stores,
    for every batch size, the contributions of exactly the records of `cutPrefix` …
    (`he` is not used: outside time-frame mode the end of the frame is never tested, `onePass_numEvents`) -/
theorem C14_num_events_cutoff (c : Cfg) (h : c.WF) (hd : c.doTimeFrame = false) (s e : Int) (hf : c.frames = [(s, e)])
    (hs : s ≤ 0) (he : e ≤ 10) (recs : List Record) (b : Bin) :
    (processData c recs).1.map (fun a => value a b)
      = [value (directAll c (cutPrefix c c.numEventsToStore recs)) b] := by
  have hlen : c.frames.length ≤ 1 := by
    rw [hf]
    simp
  rw [process_eq_singlePass (orderFree_value b) c h (Or.inr hlen)]
  simp only [singlePass, hf, onePassFrames, hd, List.map_cons, List.map_nil, skipTo_of_le hs]
  simp only [Bool.false_eq_true, if_false]
  rw [onePass_numEvents c hd e recs c.numEventsToStore 0 0]
  rfl

/-- … where `cutPrefix` is the shortest prefix of the stream whose stored total (prompts − delayeds, or the number of
    stored events when only one kind is stored) equals `num_events_to_store`, or the whole stream if that is never reached -/
theorem C14_cutPrefix_char (c : Cfg) (n : Int) (recs : List Record) :
    cutPrefix c n recs <+: recs ∧
    (cutPrefix c n recs ≠ recs → stored c (cutPrefix c n recs) = n) ∧
    (∀ p, p <+: cutPrefix c n recs → p ≠ cutPrefix c n recs → stored c p ≠ n) := by
  induction recs generalizing n with
  | nil => simp [cutPrefix]
  | cons r rs ih =>
    simp only [cutPrefix]
    by_cases hm : n = 0
    · simp [hm, stored]
    · obtain ⟨i1, i2, i3⟩ := ih (n - storedInc c r)
      simp only [hm, if_false]
      refine ⟨(List.prefix_cons_inj r).2 i1, fun h => ?_, fun p hp hne => ?_⟩
      · have := i2 fun heq => h (by rw [heq])
        simp only [stored, List.map_cons, List.sum_cons] at this ⊢
        omega
      · cases p with
        | nil => simpa [stored] using fun h => hm h.symm
        | cons q qs =>
          rw [List.cons_prefix_cons] at hp
          obtain ⟨rfl, hp'⟩ := hp
          have := i3 qs hp' fun h => hne (by rw [h])
          simp only [stored, List.map_cons, List.sum_cons] at this ⊢
          omega

/-- **"The gradient of the list-mode Poisson log-likelihood equals the gradient of the projection-data log-likelihood of
    the histogrammed data with the same model"**, algebraic core: with prompts only, the list-mode sum over the events of
    the frame of `row(bin e) j / ybar(bin e)` equals the projection-data sum over bins of `y_b · row_b j / ybar_b`, where
    `y` is the histogram (`direct`) of that frame — for any rows and any `ybar` over any field.  (The sensitivity term
    `-Σ_b row_b j` is the same expression in both objective functions.) -/
theorem C14_lm_grad_eq_pd_grad {K : Type} [Field K] (c : Cfg) (hp : c.storePrompts = true) (hdl : c.delayedIncrement = 0)
    (recs : List Record) (s e : Int) {J : Type} (row : Bin → J → K) (ybar : Bin → K) (j : J) :
    ((promptBins c recs s e).map fun b => row b j / ybar b).sum
      = ∑ b ∈ (promptBins c recs s e).toFinset, ((value (direct c recs s e) b : Int) : K) * (row b j / ybar b) := by
  rw [direct_prompts_only c hp hdl]
  simpa using sum_filter_events_eq_sum_bins (promptBins c recs s e) (fun _ => true) fun b => row b j / ybar b

/-! ### the same clause on the model of the real list-mode objective function
`PoissonLogLikelihoodWithLinearModelForMeanAndListModeDataWithProjMatrixByBin` (`lmEvents` = `read_listmode_batch` batch after
batch, `lmGps` = `actual_compute_subset_gradient_without_penalty(…, add_sensitivity = true)`; the driver executes exactly these
functions on the inputs of the real class) -/

/-- the configurations of the list-mode objective the clause is about: time-frame mode (a frame `[start,end)` with
    `start < end`, `0 < end`), no `num_events_to_use`, a cache of at least one event -/
structure LmCfg.WF (c : LmCfg) : Prop where
  mode : c.doTimeFrame = true
  noCount : c.numEventsToUse ≤ 0
  cache : 1 ≤ c.cacheSize
  frame : c.startT < c.endT
  pos : 0 < c.endT

/-- **the events the list-mode objective uses are the events `LmToProjData` histograms** (prompts only, same frame, same
    ranges): for every cache size, the batches of `read_listmode_batch` concatenate to the accepted prompt events whose
    preceding time mark lies in the frame, in stream order — for every stream whose time marks never go back. -/
theorem C14_lm_objective_events (c : LmCfg) (h : c.WF) (recs : List Record) (hR : regularB [] 0 recs = true) :
    (lmEvents c recs).flatten = promptBins c.histCfg recs c.startT c.endT := by
  rw [lmEvents_flatten c h.noCount (Int.le_of_lt h.frame), lmReadAll_eq_promptBins c h.mode recs hR h.pos]

set_option linter.unusedVariables false in
/-- **the result does not depend on the cache size** (how the events are split into batches / cache files) — for every
    stream, also malformed ones, in every mode without `num_events_to_use`
    (`hn`, `hm` are not used: a cache of size 0 is never full, and `lmEvents_flatten` holds for it too) -/
theorem C14_lm_objective_cache_size_independent {K : Type} [Field K] (c : LmCfg) (n m : Nat) (hn : 1 ≤ n) (hm : 1 ≤ m)
    (hcount : c.numEventsToUse ≤ 0) (hse : c.startT ≤ c.endT) (recs : List Record)
    (data : Bin → LmBinData K) (img : Nat → K) (nsub subset : Int) (v : Nat) :
    lmGps data img nsub subset (lmEvents { c with cacheSize := n } recs) v
      = lmGps data img nsub subset (lmEvents { c with cacheSize := m } recs) v := by
  rw [lmGps_eq_sum, lmGps_eq_sum, lmEvents_flatten { c with cacheSize := n } hcount hse,
    lmEvents_flatten { c with cacheSize := m } hcount hse, lmReadAll_cacheSize c n, lmReadAll_cacheSize c m]

/-- **"The gradient of the list-mode Poisson log-likelihood equals the gradient of the projection-data log-likelihood of
    the histogrammed data with the same model"**, on the model of the real class: what the list-mode objective adds up at
    voxel `v` for subset `subset` (event selection by frame and ranges, batches of any size, subset test on the view of the
    basic bin, `1/(row·image + additive)` back projected along the row) equals the projection-data expression
    `Σ_b y_b · row_b(v) / (row_b·image + additive_b)` over the bins of the subset, where `y` is the histogram `direct` that
    `LmToProjData` produces from the same stream for the same frame (`C14_process_eq_direct_partial`) — for any rows,
    additive terms, image and subset numbers over any field.  (The sensitivity term is the same back projection of
    `1/normalisation` in both classes and is compared on the implementation only.) -/
theorem C14_lm_objective_grad_eq_pd_grad {K : Type} [Field K] (c : LmCfg) (h : c.WF) (recs : List Record)
    (hR : regularB [] 0 recs = true) (data : Bin → LmBinData K) (img : Nat → K) (nsub subset : Int) (v : Nat) :
    lmGps data img nsub subset (lmEvents c recs) v
      = ∑ b ∈ (promptBins c.histCfg recs c.startT c.endT).toFinset,
          ((value (direct c.histCfg recs c.startT c.endT) b : Int) : K) *
            (if inSubset nsub subset (data b).basicView then
              rowAt (data b).row v / (lmFwd img (data b).row + (data b).add) else 0) := by
  rw [lmGps_eq_sum, C14_lm_objective_events c h recs hR, sum_filter_events_eq_sum_bins,
    direct_prompts_only c.histCfg rfl rfl]

/-- what the driver executes (`accumulate` into an array of `n` voxels) is `lmGps` at every voxel of the image -/
theorem C14_lm_objective_accumulate {K : Type} [Field K] (n : Nat) (data : Bin → LmBinData K) (img : Nat → K) (nsub subset : Int)
    (batches : List (List Bin)) (v : Nat) (hv : v < n) :
    (accumulate n (lmContribs data img nsub subset batches)).getD v 0 = lmGps data img nsub subset batches v :=
  accumulate_getD n _ v hv

/-! ### normalisation in `LmToProjData` (pre-normalisation with `get_compression_count`, post-normalisation)
`processDataW` = `process_data` with a non-trivial normalisation: the run of `processData` on the stream as
`get_bin_from_event` decodes it (`preStream`; with pre-normalisation the model bin carries the number `unc` of the event's
uncompressed bin), every addition multiplied by `bin.get_bin_value()` (`binValue`).  With these model functions the theorems
above (`C14_process_eq_single_pass_partial`, `C14_batch_size_independent_partial`, `C14_process_eq_direct_partial`,
`C14_nothing_outside`, `C14_frames_add_partial`, `C14_num_events_cutoff`) are statements about the runs WITH normalisation as
well: they hold for every stream, in particular for `preStream tooLow recs`, and for the model bins with `unc` tags.  The
theorems below say the same of the stored (non-integer) values, which like the integer histogram do not depend on the order of the
additions (`orderFree_valueW`): "exactly one count per event" becomes "exactly one weight per event". -/

/-- **"the result does not depend on how many segments or TOF bins are held in memory at once"**, with normalisation: every
    stored value of every frame is the same for any two admissible batch sizes (`_partial` as
    `C14_batch_size_independent_partial`) -/
theorem C14_normalised_batch_size_independent_partial {K : Type} [Field K] (tooLow : K → Bool) (nrm : Norm K) (c : Cfg)
    (n m n' m' : Int) (hn : 1 ≤ n) (hm : 1 ≤ m) (hn' : 1 ≤ n') (hm' : 1 ≤ m')
    (hseg : c.tpl.minSeg ≤ c.tpl.maxSeg) (htof : c.tpl.minTof ≤ c.tpl.maxTof)
    (hmode : c.doTimeFrame = true ∨ c.frames.length ≤ 1) (recs : List Record) (b : Bin) :
    (processDataW tooLow nrm { c with segsInMemory := n, tofInMemory := m } recs).1.map (fun l => valueW l b)
      = (processDataW tooLow nrm { c with segsInMemory := n', tofInMemory := m' } recs).1.map (fun l => valueW l b) := by
  simp only [processDataW, List.map_map]
  exact process_batchSizes (orderFree_valueW tooLow nrm b) c n m n' m' hn hm hn' hm' hseg htof hmode recs

/-- **"adds, for every event inside a requested time frame, exactly one count … to the bin that the data geometry assigns …,
    and nothing else"**, with normalisation: every frame's stored values are those of the weighted one-line specification
    (the weighted additions of `direct`), for every batch size (`_partial` as `C14_process_eq_direct_partial`) -/
theorem C14_normalised_process_eq_direct_partial {K : Type} [Field K] (tooLow : K → Bool) (nrm : Norm K) (c : Cfg) (h : c.WF)
    (recs : List Record) (ht : Timely c recs) (b : Bin) :
    (processDataW tooLow nrm c recs).1.map (fun l => valueW l b)
      = c.frames.map fun f => valueW (weighted tooLow nrm (direct c recs f.1 f.2)) b := by
  simp only [processDataW, List.map_map]
  exact process_eq_direct (orderFree_valueW tooLow nrm b) c h recs ht.mode ht.frames ht.regular

/-- … where the weighted specification is, spelled out, **one weight per event**: the stored value of the output bin `b` is
    the sum over the events of the stream of: the event's bin value (`binValue`: `1/(efficiency of its uncompressed bin ×
    compression count of the output bin)` with pre-normalisation, `1/efficiency of the output bin` with post-normalisation)
    times its increment (+1 / `delayed_increment`) if its preceding time mark lies in `[s,e)`, its bin is inside the data and
    belongs to `b`, and the efficiency is usable — and 0 otherwise -/
theorem C14_one_weight_per_event {K : Type} [Field K] (tooLow : K → Bool) (nrm : Norm K) (c : Cfg) (recs : List Record)
    (s e : Int) (b : Bin) :
    valueW (weighted tooLow nrm (direct c recs s e)) b
      = ((timed 0 recs).map fun te =>
          (if s ≤ te.1 ∧ te.1 < e then contribution c te.2 else none).elim 0 fun a =>
            (if a.1.key = b then (binValue tooLow nrm a.1).getD 0 else 0) * ((a.2 : Int) : K)).sum := by
  rw [valueW_weighted]
  exact sum_filterMap _ _ _

/-- **post-normalisation = histogram × post factor**: with post-normalisation the stored value of an output bin is its
    un-normalised content (the sum of the increments added to it, `keyValue`) times `1/efficiency` of the bin — 0 if the
    efficiency is unusable (< 1e-10; such events are ignored, as repaired in /repo by 5dcfa7ff2) — for every run -/
theorem C14_post_normalisation_scales {K : Type} [Field K] (tooLow : K → Bool) (eff : Bin → K) (c : Cfg) (recs : List Record)
    (b : Bin) :
    (processDataW tooLow (.post eff) c recs).1.map (fun l => valueW l b)
      = (processData c recs).1.map fun a => (if tooLow (eff b) then 0 else 1 / eff b) * ((keyValue a b : Int) : K) := by
  simp only [processDataW, List.map_map, Function.comp_def, valueW_weighted, wsum_post]

/-- **pre-normalisation**: the stored value of an output bin is the sum over the additions that belong to it of
    `increment / (efficiency of the event's uncompressed bin × compression count of the output bin)` -/
theorem C14_pre_normalisation_weights {K : Type} [Field K] (tooLow : K → Bool) (eff : Int → K) (cc : Bin → Int) (adds : List Add)
    (b : Bin) :
    valueW (weighted tooLow (.pre eff cc) adds) b
      = (adds.map fun a => (if a.1.key = b then 1 / eff a.1.unc / ((cc a.1 : Int) : K) else 0) * ((a.2 : Int) : K)).sum := by
  rw [valueW_weighted]
  simp only [wsum, weightAt, binValue, Option.getD_some]

/-- **"the frames of a partition of a time interval add up to the histogram of the whole interval"**, with normalisation
    (`_partial` as `C14_frames_add_partial`) -/
theorem C14_normalised_frames_add_partial {K : Type} [Field K] (tooLow : K → Bool) (nrm : Norm K) (c : Cfg) (h : c.WF)
    (recs : List Record) (ht : Timely c recs) (s0 : Int) (hP : IsPartitionFrom s0 c.frames) (hne : c.frames ≠ []) (b : Bin) :
    ((processDataW tooLow nrm c recs).1.map fun l => valueW l b).sum
      = ((processDataW tooLow nrm { c with frames := [(s0, lastEnd s0 c.frames)] } recs).1.map fun l => valueW l b).sum := by
  have hm := merged_frames_ok ht.frames ht.regular hP hne
  simp only [processDataW, List.map_map, Function.comp_def, valueW_weighted]
  rw [process_eq_direct (orderFree_wsum _) c h recs ht.mode ht.frames ht.regular, wsum_direct_frames_add _ c recs s0 c.frames hP,
    process_eq_direct (orderFree_wsum _) { c with frames := [(s0, lastEnd s0 c.frames)] } ⟨h.segs, h.tofs, h.seg, h.tof⟩ recs
      ht.mode hm.1 hm.2]
  simp only [List.map_cons, List.map_nil, List.sum_cons, List.sum_nil, add_zero]
  rfl

def exTpl : Template :=
  { minSeg := 0, maxSeg := 1, minTof := -1, maxTof := 1, minTang := -1, maxTang := 1, axRange := (fun _ => (0, 1)) }

def exEv (seg view tof : Int) (prompt : Bool) : Record := .event ⟨some ⟨seg, view, 0, 0, tof, 0⟩, prompt⟩

/-- three frames, the first two adjacent, the third after a gap -/
def exCfg (n m : Int) : Cfg :=
  { tpl := exTpl, frames := [(0, 1000), (1000, 2000), (2500, 3000)], doTimeFrame := true, numEventsToStore := 0,
    storePrompts := true, delayedIncrement := -1, segsInMemory := n, tofInMemory := m }

/-- events before the first time mark, on frame boundaries (mark exactly at 1000 and 2000), in the gap, out of range
    (tang 5 via `none`, TOF 2), delayed events -/
def exRecs : List Record :=
  [exEv 0 0 0 true, .time 300, exEv 1 1 1 true, exEv 1 1 1 false, .time 1000, exEv 0 2 (-1) true, exEv 0 2 2 true,
   .event ⟨none, true⟩, .time 1500, exEv 1 3 0 false, .time 2000, exEv 0 4 0 true, .time 2600, exEv 1 5 1 true, .time 3100,
   exEv 0 6 0 true]

example : (exCfg 1 2).WF := ⟨by decide, by decide, by decide, by decide⟩

/-- the hypotheses of `C14_setUp_WF` hold for the default parameters and a template with segments −1 … 1 -/
example : ∃ c, setUp { exTpl with minSeg := -1 } {} = some c ∧ c.WF :=
  ⟨_, rfl, C14_setUp_WF _ {} _ rfl (Or.inl rfl) (Or.inl rfl) ⟨by decide, rfl⟩ (by decide) (Or.inl rfl)⟩
example : Timely (exCfg 1 2) exRecs := ⟨rfl, ⟨by decide, by decide⟩, by decide⟩
/-- the instance is not trivial: the three frames hold different, non-zero data, one bin is negative (delayed) -/
example : (processData (exCfg 1 2) exRecs).1.map (fun a => value a ⟨0, 2, 0, 0, -1, 0⟩) = [0, 1, 0] := by decide +kernel
example : (processData (exCfg 1 2) exRecs).1.map (fun a => value a ⟨1, 3, 0, 0, 0, 0⟩) = [0, -1, 0] := by decide +kernel
example : (processData (exCfg 2 3) exRecs).1.map (fun a => value a ⟨1, 5, 0, 0, 1, 0⟩) = [0, 0, 1] := by decide +kernel
/-- hypotheses of `C14_frames_add_partial`: a partition of `[0, 2000)` with the same stream -/
example : IsPartitionFrom 0 [(0, 1000), (1000, 2000)] := ⟨rfl, by decide, rfl, by decide, trivial⟩
example : Timely { exCfg 1 1 with frames := [(0, 1000), (1000, 2000)] } exRecs := ⟨rfl, ⟨by decide, by decide⟩, by decide⟩
example : ((processData { exCfg 1 1 with frames := [(0, 1000), (1000, 2000)] } exRecs).1.map fun a => value a ⟨1, 1, 0, 0, 1, 0⟩) = [0, 0]
    ∧ ((processData { exCfg 1 1 with frames := [(0, 1000), (1000, 2000)] } exRecs).1.map fun a => value a ⟨0, 0, 0, 0, 0, 0⟩) = [1, 0] := by
  constructor <;> decide +kernel
/-- `num_events_to_store` instance: stops after the second stored event -/
example : cutPrefix { exCfg 1 1 with doTimeFrame := false, numEventsToStore := 2, frames := [(0, 0)], delayedIncrement := 0 } 2 exRecs
    = [exEv 0 0 0 true, .time 300, exEv 1 1 1 true] := by decide +kernel

/-- … and that configuration satisfies the hypotheses of `C14_num_events_cutoff` (one frame `(0, 0)`) -/
example : ({ exCfg 1 1 with doTimeFrame := false, numEventsToStore := 2, frames := [(0, 0)], delayedIncrement := 0 } : Cfg).WF :=
  ⟨by decide, by decide, by decide, by decide⟩

/-- **negative witness 1** (replayed on the implementation by the harness: `fixed-gap-case`, known finding
    `lm2pd:frame-inside-time-mark-gap`): frames `[0,1) [1,2) [2,3)` s, stream `T0.5 e0 T2.5 e1 T2.7 e2 T3.5`.  The time marks
    jump over the whole second frame; the end of a frame is only tested when a time record is read, so `e1` (time 2.5 s)
    is histogrammed into frame `[1,2)`. -/
def gapCfg : Cfg :=
  { tpl := { minSeg := 0, maxSeg := 0, minTof := 0, maxTof := 0, minTang := -1, maxTang := 1, axRange := (fun _ => (0, 0)) },
    frames := [(0, 1000), (1000, 2000), (2000, 3000)], doTimeFrame := true, numEventsToStore := 0,
    storePrompts := true, delayedIncrement := 0, segsInMemory := 1, tofInMemory := 1 }

def gapRecs : List Record :=
  [.time 500, exEv 0 0 0 true, .time 2500, exEv 0 1 0 true, .time 2700, exEv 0 2 0 true, .time 3500]

/-- on `gapRecs` the hypotheses of `C14_process_eq_direct_partial` hold but for the regularity of the stream, and the run differs from `direct` -/
theorem C14_process_eq_direct_fails_without_regular :
    gapCfg.WF ∧ gapCfg.doTimeFrame = true ∧ FramesOK gapCfg.frames ∧ regularB gapCfg.frames 0 gapRecs = false ∧
    (processData gapCfg gapRecs).1.map (fun a => value a ⟨0, 1, 0, 0, 0, 0⟩) = [0, 1, 0] ∧
    (gapCfg.frames.map fun f => value (direct gapCfg gapRecs f.1 f.2) ⟨0, 1, 0, 0, 0, 0⟩) = [0, 0, 1] := by
  refine ⟨⟨by decide, by decide, by decide, by decide⟩, rfl, ⟨by decide, by decide⟩, by decide, by decide +kernel,
    by decide +kernel⟩

/-- … and on that stream frames do not add up: for the partition `[0,1) [1,2)` the frames hold 2 events together, the run
    with the single frame `[0,2)` holds 1. -/
theorem C14_frames_add_fails_without_regular :
    ((processData { gapCfg with frames := [(0, 1000), (1000, 2000)] } gapRecs).1.map fun a =>
        value a ⟨0, 0, 0, 0, 0, 0⟩ + value a ⟨0, 1, 0, 0, 0, 0⟩).sum = 2 ∧
    ((processData { gapCfg with frames := [(0, 2000)] } gapRecs).1.map fun a =>
        value a ⟨0, 0, 0, 0, 0, 0⟩ + value a ⟨0, 1, 0, 0, 0, 0⟩).sum = 1 := by
  constructor <;> decide +kernel

/-- the full statement one would like — for every stream whose time marks never go back — stated, and refuted below -/
def C14_histogram_is_time_filter_full : Prop :=
  ∀ (c : Cfg) (recs : List Record), c.WF → c.doTimeFrame = true → FramesOK c.frames →
    regularB [] 0 recs = true →   -- the time marks never go back (no condition on frames)
    ∀ b, (processData c recs).1.map (fun a => value a b) = c.frames.map fun f => value (direct c recs f.1 f.2) b

/-- refuted by witness 1: its time marks never go back, yet they jump over the second frame -/
theorem C14_histogram_is_time_filter_full_fails : ¬C14_histogram_is_time_filter_full := by
  intro h
  obtain ⟨hwf, hd, hF, _, h1, h2⟩ := C14_process_eq_direct_fails_without_regular
  have := h gapCfg gapRecs hwf hd hF (by decide) ⟨0, 1, 0, 0, 0, 0⟩
  rw [h1, h2] at this
  exact absurd this (by decide)

/-- **negative witness 2** (replayed by the harness: `fixed-hybrid-…`, known finding
    `lm2pd:num-events-with-frames-depends-on-batches`): `num_events_to_store = 1` together with two frames (set through
    `set_time_frame_definitions`): the mode excluded by `hmode` in `C14_process_eq_single_pass_partial`.  Later passes reset
    `current_time` to the frame start, so the next frame's skip loop behaves differently: frame 2 holds `e2` with both
    segments in memory, `e4` with one. -/
def hybCfg (n : Int) : Cfg :=
  { tpl := { minSeg := 0, maxSeg := 1, minTof := 0, maxTof := 0, minTang := -1, maxTang := 1, axRange := (fun _ => (0, 0)) },
    frames := [(100, 200), (300, 400)], doTimeFrame := false, numEventsToStore := 1,
    storePrompts := true, delayedIncrement := 0, segsInMemory := n, tofInMemory := 1 }

def hybRecs : List Record :=
  [.time 400, exEv 0 1 0 true, exEv 0 2 0 true, exEv 0 3 0 true, .time 500, exEv 0 4 0 true]

/-- on `hybRecs` the stored values depend on the number of segments held in memory -/
theorem C14_batch_independence_fails_numEvents_with_frames :
    (processData (hybCfg 2) hybRecs).1.map (fun a => value a ⟨0, 2, 0, 0, 0, 0⟩) = [0, 1] ∧
    (processData (hybCfg 1) hybRecs).1.map (fun a => value a ⟨0, 2, 0, 0, 0, 0⟩) = [0, 0] := by
  constructor <;> decide +kernel

/-- batch-size independence for every mode — stated, and refuted by witness 2 -/
def C14_batch_independent_full : Prop :=
  ∀ (c : Cfg) (n n' : Int), 1 ≤ n → 1 ≤ n' → 1 ≤ c.tofInMemory → c.tpl.minSeg ≤ c.tpl.maxSeg → c.tpl.minTof ≤ c.tpl.maxTof →
    ∀ recs b, (processData { c with segsInMemory := n } recs).1.map (fun a => value a b)
        = (processData { c with segsInMemory := n' } recs).1.map (fun a => value a b)

/-- refuted by witness 2 (event-count mode with two frames) -/
theorem C14_batch_independent_full_fails : ¬C14_batch_independent_full := by
  intro h
  have := h (hybCfg 1) 2 1 (by decide) (by decide) (by decide) (by decide) (by decide) hybRecs ⟨0, 2, 0, 0, 0, 0⟩
  have h2 : ({ hybCfg 1 with segsInMemory := 2 } : Cfg) = hybCfg 2 := rfl
  have h1 : ({ hybCfg 1 with segsInMemory := 1 } : Cfg) = hybCfg 1 := rfl
  rw [h1, h2, C14_batch_independence_fails_numEvents_with_frames.1, C14_batch_independence_fails_numEvents_with_frames.2] at this
  exact absurd this (by decide)

/-- `bin_efficiency < 1.E-10` over `Rat` -/
def exTooLow : Rat → Bool := fun q => decide (q < 1 / 10000000000)

def exPostEff : Bin → Rat := fun b => if b.view = 2 then 2 else if b.view = 3 then 0 else 1 / 2

/-- not trivial: frame 2 holds the prompt of view 2 with weight 1/2; the delayed event of view 3 has an unusable efficiency and
    adds nothing; the prompt of view 5 in frame 3 is stored as 2 -/
example : (processDataW exTooLow (.post exPostEff) (exCfg 1 2) exRecs).1.map (fun l => valueW l ⟨0, 2, 0, 0, -1, 0⟩) = [0, 1 / 2, 0] := by
  decide +kernel
example : (processDataW exTooLow (.post exPostEff) (exCfg 1 2) exRecs).1.map (fun l => valueW l ⟨1, 3, 0, 0, 0, 0⟩) = [0, 0, 0] := by
  decide +kernel
example : (processDataW exTooLow (.post exPostEff) (exCfg 2 3) exRecs).1.map (fun l => valueW l ⟨1, 5, 0, 0, 1, 0⟩) = [0, 0, 2] := by
  decide +kernel

/-- pre-normalisation: three prompts of the same output bin from the uncompressed bins 1 (efficiency 2), 2 (efficiency 4) and 3
    (efficiency 0: ignored), one event that the decoder rejects for the uncompressed geometry, a delayed one from bin 1;
    compression count 3 -/
def exPreRecs : List (PreRecord Rat) :=
  [.time 100,
   .event ⟨some ⟨0, 1, 0, 0, 0, 0⟩, some (1, 2), true⟩, .event ⟨some ⟨0, 1, 0, 0, 0, 0⟩, some (2, 4), true⟩,
   .event ⟨some ⟨0, 1, 0, 0, 0, 0⟩, some (3, 0), true⟩, .event ⟨some ⟨0, 1, 0, 0, 0, 0⟩, none, true⟩,
   .time 1200, .event ⟨some ⟨0, 1, 0, 0, 0, 0⟩, some (1, 2), false⟩, .time 2100]

def exPreNorm : Norm Rat := .pre (fun u => if u = 1 then 2 else if u = 2 then 4 else 0) (fun _ => 3)

/-- frame 1: 1/(2·3) + 1/(4·3) = 1/4; frame 2: the delayed event, −1/(2·3) -/
example : (processDataW exTooLow exPreNorm (exCfg 1 1) (preStream exTooLow exPreRecs)).1.map (fun l => valueW l ⟨0, 1, 0, 0, 0, 0⟩)
    = [1 / 4, -1 / 6, 0] := by decide +kernel
example : Timely (exCfg 1 1) (preStream exTooLow exPreRecs) := ⟨rfl, ⟨by decide, by decide⟩, by decide⟩

def exLm (n : Nat) : LmCfg :=
  { tpl := exTpl, doTimeFrame := true, startT := 300, endT := 2000, numEventsToUse := 0, cacheSize := n }

example : (exLm 1).WF := ⟨rfl, by decide, by decide, by decide, by decide⟩
example : regularB [] 0 exRecs = true := by decide
/-- not trivial: two prompt events are accepted (one before the frame, two delayed ones, two out of range and three after the
    frame are not); with a cache of one event they come in separate batches, followed by an empty last batch -/
example : lmEvents (exLm 1) exRecs = [[⟨1, 1, 0, 0, 1, 0⟩], [⟨0, 2, 0, 0, -1, 0⟩], []] := by decide +kernel
example : lmEvents (exLm 7) exRecs = [[⟨1, 1, 0, 0, 1, 0⟩, ⟨0, 2, 0, 0, -1, 0⟩]] := by decide +kernel
example : promptBins (exLm 7).histCfg exRecs 300 2000 = [⟨1, 1, 0, 0, 1, 0⟩, ⟨0, 2, 0, 0, -1, 0⟩] := by decide +kernel

/-- **negative witness** (the hypothesis "time marks never go back" of `C14_lm_objective_events` is needed): with the marks
    2.5 s, 0.5 s the objective stops reading at the first mark beyond the frame, while the event after the second mark has its
    time in the frame (and `LmToProjData`, which skips to the frame start first, histograms it) -/
theorem C14_lm_objective_events_fails_without_monotone :
    (exLm 2).WF ∧ regularB [] 0 [.time 2500, .time 500, exEv 0 1 0 true] = false ∧
    (lmEvents (exLm 2) [.time 2500, .time 500, exEv 0 1 0 true]).flatten = [] ∧
    promptBins (exLm 2).histCfg [.time 2500, .time 500, exEv 0 1 0 true] 300 2000 = [⟨0, 1, 0, 0, 0, 0⟩] := by
  refine ⟨⟨rfl, by decide, by decide, by decide, by decide⟩, by decide, by decide, by decide⟩

end StirVerif.C14
