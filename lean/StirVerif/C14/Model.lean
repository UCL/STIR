/-
C14 — executable model of list-mode histogramming: `stir::LmToProjData::set_up` / `process_data`
(src/listmode_buildblock/LmToProjData.cxx).  Core Lean only.

What is data here (supplied by the harness from the real code, property C01's business):
the bin that the event decoder returns for an event (`ListEvent::get_bin` on the template, through
`LmToProjData::get_bin_from_event`, LmToProjData.cxx:485; `none` = "bin value <= 0") — whichever decoder it is: the harness
runs `CListEventCylindricalScannerWithDiscreteDetectors`, LOR-only events (`ListEvent::get_bin`, ListEvent.cxx), events of
BlocksOnCylindrical scanners, `CListEventSAFIR` (CListRecordSAFIR.inl, records read from a real file by `CListModeDataSAFIR`)
and `CListEventECAT8_32bit` (CListRecordECAT8_32bit.cxx, real file); the record list is what `get_next_record` delivers, and
"rewind to the saved position" is `set_get_position` of that reader.

Units: time is in the unit of `ListTime::get_time_in_millisecs()` (integer milliseconds).  The C++ compares the
doubles `ms/1000.` (`ListTime::get_time_in_secs`) with the frame boundaries; the harness gives frame boundaries
as `k/1000.` for integer `k`, and correctly rounded division by 1000 is strictly monotone on integers
(|k| < 2^50), so comparing the doubles is comparing the integers.  `end_time > 0.01` becomes `endT > 10`.
Histogram values are `float` sums of `±1.f` (exact below 2^24): `Int` here.  `more_events` is `unsigned long`;
it only ever changes by ±1 and is only tested against 0, so `Int` is exact for streams shorter than 2^63.
Pre- and post-normalisation: section "Normalisation" below (the efficiencies the normalisation objects return and the
compression counts of the geometry are data).  Not modelled: `interactive`, records that are both time and event
(CListRecordROOT), the output file format.
-/
namespace StirVerif.C14

/-- `stir::Bin` coordinates.
    `unc` is not a coordinate of the output: with `do_pre_normalisation`, `get_bin_from_event` decodes every event twice
    (LmToProjData.cxx:490 for the uncompressed geometry, l.524 for the template) and the bin value it returns is
    `1 / efficiency(uncompressed bin)`; `unc` is the number of that uncompressed bin (numbering of the harness, ≥ 1), so that
    the value is a function of the model's bin.  It is 0 without pre-normalisation.  Nothing in `process_data` tests it; the
    value of an output bin is the sum over all `unc` (`valueW` below). -/
structure Bin where
  seg : Int
  view : Int
  ax : Int
  tang : Int
  tof : Int
  unc : Int := 0
  deriving DecidableEq, Repr, Inhabited

/-- a coincidence event as `process_data` sees it: the decoder's answer and `ListEvent::is_prompt()` -/
structure Event where
  bin : Option Bin
  prompt : Bool
  deriving DecidableEq, Repr, Inhabited

/-- `stir::ListRecord`: a time mark (`is_time()`, `time().get_time_in_millisecs()`) or an event (`is_event()`) -/
inductive Record where
  | time (ms : Int)
  | event (e : Event)
  deriving DecidableEq, Repr, Inhabited

/-- the ranges of the output projection data (`output_proj_data_sptr->get_min_…/get_max_…`) -/
structure Template where
  minSeg : Int
  maxSeg : Int
  minTof : Int
  maxTof : Int
  minTang : Int
  maxTang : Int
  /-- `get_min_axial_pos_num(segment)`, `get_max_axial_pos_num(segment)` -/
  axRange : Int → Int × Int

/-- the user-visible parameters of `LmToProjData` (setters / keywords) -/
structure Params where
  storePrompts : Bool := true
  storeDelayeds : Bool := true
  /-- `num_segments_in_memory` (`-1`: all) -/
  segsInMemory : Int := -1
  /-- `num_TOF_bins_in_memory` (`-1`: all) -/
  tofInMemory : Int := -1
  numEventsToStore : Int := 0
  /-- `maximum absolute segment number to process` (`-1`: all) -/
  maxSegToProcess : Int := -1
  /-- frames came from a `frame_definition file` (as opposed to `set_time_frame_definitions`) -/
  framesFromFile : Bool := false
  /-- frame (start, end) in ms -/
  frames : List (Int × Int) := []

/-- the state of the object after `set_up()` -/
structure Cfg where
  tpl : Template
  frames : List (Int × Int)
  doTimeFrame : Bool
  numEventsToStore : Int
  storePrompts : Bool
  delayedIncrement : Int
  segsInMemory : Int
  tofInMemory : Int

/-- `LmToProjData::set_up` (LmToProjData.cxx:341).  `none` = `error(...)`. -/
def setUp (t : Template) (p : Params) : Option Cfg :=
  -- l.368-374: max_segment_num_to_process / reduce_segment_range(-m, m)
  let m := if p.maxSegToProcess = -1 then t.maxSeg else min p.maxSegToProcess t.maxSeg
  let t' : Template := if p.maxSegToProcess = -1 then t else { t with minSeg := -m, maxSeg := m }
  -- l.376-393: clamp the batch sizes
  let numSegs := t'.maxSeg - t'.minSeg + 1
  let segs := if p.segsInMemory = -1 then numSegs else min p.segsInMemory numSegs
  let numTofs := t'.maxTof - t'.minTof + 1
  let tofs := if p.tofInMemory = -1 then numTofs else min p.tofInMemory numTofs
  -- l.397-412: delayed_increment
  let inc? : Option Int :=
    if p.storePrompts then (if p.storeDelayeds then some (-1) else some 0)
    else (if p.storeDelayeds then some 1 else none)
  match inc? with
  | none => none
  | some inc =>
    -- l.440-453: time frames or number of events (do_time_frame starts as false in a fresh object)
    let dtf0 := if p.numEventsToStore = 0 ∧ p.framesFromFile = false then true else false
    let dtf := if p.framesFromFile then true else dtf0
    let frames := if p.framesFromFile then p.frames else if p.frames.length < 1 then [(0, 0)] else p.frames
    some { tpl := t', frames := frames, doTimeFrame := dtf, numEventsToStore := p.numEventsToStore,
           storePrompts := p.storePrompts, delayedIncrement := inc, segsInMemory := segs, tofInMemory := tofs }

/-- one addition `segment[view][ax][tang] += bin_value * event_increment` (l.851) -/
abbrev Add := Bin × Int

/-- value of a bin after the additions (the segments are allocated as zeros, l.719) -/
def value : List Add → Bin → Int
  | [], _ => 0
  | (b', i) :: l, b => (if b' = b then i else 0) + value l b

/-- the part of the template held in memory during one pass -/
structure Batch where
  tofLo : Int
  tofHi : Int
  segLo : Int
  segHi : Int

/-- `LmToProjData::get_bin_from_event` without pre-normalisation = `event.get_bin(bin, template)`: the decoders
    only return segments of the (possibly reduced) template
    (`ProjDataInfoCylindrical::get_segment_num_for_ring_difference` returns `Succeeded::no` otherwise) -/
def getBinFromEvent (t : Template) (e : Event) : Option Bin :=
  match e.bin with
  | none => none
  | some b => if t.minSeg ≤ b.seg ∧ b.seg ≤ t.maxSeg then some b else none

/-- the range test of l.801-807 (note: neither segment nor view is tested there) -/
def inRange (t : Template) (b : Bin) : Bool :=
  t.minTang ≤ b.tang && b.tang ≤ t.maxTang &&
  (t.axRange b.seg).1 ≤ b.ax && b.ax ≤ (t.axRange b.seg).2 &&
  t.minTof ≤ b.tof && b.tof ≤ t.maxTof

/-- `event_increment` (l.813) -/
def eventIncrement (c : Cfg) (e : Event) : Int :=
  if e.prompt then (if c.storePrompts then 1 else 0) else c.delayedIncrement

/-- the batch-membership tests of l.824 and l.827 -/
def inBatch (bt : Batch) (b : Bin) : Bool :=
  bt.tofLo ≤ b.tof && b.tof ≤ bt.tofHi && bt.segLo ≤ b.seg && b.seg ≤ bt.segHi

/-- result of the inner `while (more_events)` loop -/
structure LoopOut where
  adds : List Add
  cur : Int
  rest : List Record

/-- the loop over the records of one pass (l.760-869): `more` = `more_events`, `cur` = `current_time`,
    the list = what `get_next_record` will deliver. -/
def mainLoop (c : Cfg) (endT : Int) (bt : Batch) : Int → Int → List Record → LoopOut
  | _, cur, [] => ⟨[], cur, []⟩                         -- get_next_record == Succeeded::no: break
  | more, cur, r :: rs =>
    if more = 0 then ⟨[], cur, r :: rs⟩                  -- while (more_events)
    else match r with
      | .time t =>
        if endT > 10 then                                 -- record.is_time() && end_time > 0.01
          if c.doTimeFrame && t ≥ endT then ⟨[], t, rs⟩   -- break (the record is consumed)
          else mainLoop c endT bt more t rs
        else mainLoop c endT bt more cur rs
      | .event e =>
        match getBinFromEvent c.tpl e with
        | none => mainLoop c endT bt more cur rs          -- bin value <= 0
        | some b =>
          if inRange c.tpl b then
            let inc := eventIncrement c e
            if inc = 0 then mainLoop c endT bt more cur rs   -- continue
            else
              let more' := if c.doTimeFrame then more else more - inc
              let o := mainLoop c endT bt more' cur rs
              if inBatch bt b then ⟨(b, inc) :: o.adds, o.cur, o.rest⟩ else o
          else mainLoop c endT bt more cur rs

/-- first pass: `while (current_time < start_time && get_next_record(record) == yes) if (record.is_time()) current_time = …`
    (l.750-754) -/
def skipTo (startT : Int) : Int → List Record → Int × List Record
  | cur, [] => (cur, [])
  | cur, r :: rs =>
    if cur < startT then
      match r with
      | .time t => skipTo startT t rs
      | .event _ => skipTo startT cur rs
    else (cur, r :: rs)

/-- start indices of `for (s = lo; s <= hi; s += step)` for `step ≥ 1` (for `step ≤ 0` the C++ loop does not
    terminate: see the report) -/
def batchStarts (lo hi step : Int) : List Int :=
  (List.range ((hi - lo) / step + 1).toNat).map fun (i : Nat) => lo + (i : Int) * step

/-- the batches in processing order: TOF loop (l.698) outside, segment loop (l.710) inside -/
def batches (c : Cfg) : List Batch :=
  (batchStarts c.tpl.minTof c.tpl.maxTof c.tofInMemory).flatMap fun tof =>
    (batchStarts c.tpl.minSeg c.tpl.maxSeg c.segsInMemory).map fun seg =>
      { tofLo := tof, tofHi := min (c.tpl.maxTof + 1) (tof + c.tofInMemory) - 1,
        segLo := seg, segHi := min (c.tpl.maxSeg + 1) (seg + c.segsInMemory) - 1 }

/-- state carried through the passes of one frame -/
structure PassState where
  cur : Int
  stream : List Record
  /-- `frame_start_positions[current_frame_num]` -/
  saved : List Record

/-- the passes of one frame (bodies of the two batch loops, l.731-881) -/
def passes (c : Cfg) (startT endT : Int) : List Batch → PassState → List Add × PassState
  | [], st => ([], st)
  | bt :: bts, st =>
    let more0 : Int := if c.doTimeFrame then 1 else c.numEventsToStore
    let st1 : PassState :=
      if bt.segLo ≠ c.tpl.minSeg || bt.tofLo > c.tpl.minTof then
        -- next batch: set_get_position(frame_start_positions[frame]); current_time = start_time
        { cur := startT, stream := st.saved, saved := st.saved }
      else
        let (cur', s') := skipTo startT st.cur st.stream
        { cur := cur', stream := s', saved := s' }     -- save_get_position()
    let o := mainLoop c endT bt more0 st1.cur st1.stream
    let (as, st') := passes c startT endT bts { cur := o.cur, stream := o.rest, saved := st1.saved }
    (o.adds ++ as, st')

/-- the frame loop (l.662-893): one list of additions per frame, and the final `current_time` -/
def frameLoop (c : Cfg) : List (Int × Int) → Int → List Record → List (List Add) × Int
  | [], cur, _ => ([], cur)
  | (s, e) :: fs, cur, recs =>
    let (a, st) := passes c s e (batches c) { cur := cur, stream := recs, saved := recs }
    let (as, cur') := frameLoop c fs st.cur st.stream
    (a :: as, cur')

/-- `LmToProjData::process_data` (LmToProjData.cxx:606): `current_time = 0` (l.647), the data are read from their start -/
def processData (c : Cfg) (recs : List Record) : List (List Add) × Int :=
  frameLoop c c.frames 0 recs

/-! ### Specification -/

/-- what one pass stores when nothing has to be left out for lack of memory: `mainLoop` without the two
    batch-membership tests -/
def onePass (c : Cfg) (endT : Int) : Int → Int → List Record → LoopOut
  | _, cur, [] => ⟨[], cur, []⟩
  | more, cur, r :: rs =>
    if more = 0 then ⟨[], cur, r :: rs⟩
    else match r with
      | .time t =>
        if endT > 10 then
          if c.doTimeFrame && t ≥ endT then ⟨[], t, rs⟩
          else onePass c endT more t rs
        else onePass c endT more cur rs
      | .event e =>
        match getBinFromEvent c.tpl e with
        | none => onePass c endT more cur rs
        | some b =>
          if inRange c.tpl b then
            let inc := eventIncrement c e
            if inc = 0 then onePass c endT more cur rs
            else
              let o := onePass c endT (if c.doTimeFrame then more else more - inc) cur rs
              ⟨(b, inc) :: o.adds, o.cur, o.rest⟩
          else onePass c endT more cur rs

/-- the frames, each read once: skip to the start of the frame, then one pass -/
def onePassFrames (c : Cfg) : List (Int × Int) → Int → List Record → List (List Add) × Int
  | [], cur, _ => ([], cur)
  | (s, e) :: fs, cur, recs =>
    let sk := skipTo s cur recs
    let o := onePass c e (if c.doTimeFrame then 1 else c.numEventsToStore) sk.1 sk.2
    let r := onePassFrames c fs o.cur o.rest
    (o.adds :: r.1, r.2)

/-- the run with the whole projection data in memory, read once -/
def singlePass (c : Cfg) (recs : List Record) : List (List Add) × Int :=
  onePassFrames c c.frames 0 recs

/-- the time of an event is the time of the preceding time mark (`cur` before the first one) -/
def timed : Int → List Record → List (Int × Event)
  | _, [] => []
  | _, .time t :: rs => timed t rs
  | cur, .event e :: rs => (cur, e) :: timed cur rs

/-- what one event adds: its increment at its bin if the bin is inside the output data -/
def contribution (c : Cfg) (e : Event) : Option Add :=
  match getBinFromEvent c.tpl e with
  | none => none
  | some b =>
    if inRange c.tpl b then
      if eventIncrement c e = 0 then none else some (b, eventIncrement c e)
    else none

/-- **the one-line specification**: for every event whose preceding time mark lies in `[s, e)` and whose bin is
    in range, add its increment at its bin -/
def direct (c : Cfg) (recs : List Record) (s e : Int) : List Add :=
  (timed 0 recs).filterMap fun te => if s ≤ te.1 ∧ te.1 < e then contribution c te.2 else none

/-- the same without time window (no frame definitions: the single frame `(0,0)` whose end is ignored) -/
def directAll (c : Cfg) (recs : List Record) : List Add :=
  (timed 0 recs).filterMap fun te => contribution c te.2

/-! ### The list-mode objective function

`stir::PoissonLogLikelihoodWithLinearModelForMeanAndListModeDataWithProjMatrixByBin`
(src/recon_buildblock/PoissonLogLikelihoodWithLinearModelForMeanAndListModeDataWithProjMatrixByBin.cxx, base class
…AndListModeData.cxx) and `LM_distributable_computation` (src/include/stir/recon_buildblock/distributable.txx:39).
Data here: the bin the decoder returns for an event (as above), and per bin the row of the projection matrix
(`ProjMatrixByBin::get_proj_matrix_elems_for_one_bin`, property C03/C04's business), the additive term at the bin and the
view of its basic bin under the symmetries of the matrix.  Not modelled: cache files on disk (what is written is what
is read back), OpenMP, the value/Hessian functions, `max_quotient` (dead for the gradient: the test at l.768 only
returns early inside `if (do_value)`). -/

/-- the state of the object after `set_up()` that the event reading depends on
    (…AndListModeData.cxx:268 `do_time_frame`, l.305-320 frame, …ByBin.cxx:319-334 cache size) -/
structure LmCfg where
  /-- ranges of `proj_data_info_sptr` (the list-mode geometry reduced to the processed segments) -/
  tpl : Template
  doTimeFrame : Bool
  /-- `frame_defs.get_start_time(current_frame_num)` / `get_end_time`, ms -/
  startT : Int
  endT : Int
  /-- `num_events_to_use` -/
  numEventsToUse : Int
  /-- `cache_size` (number of events of one batch; 1000000 when no cache files are used) -/
  cacheSize : Nat

/-- result of one call of `read_listmode_batch` (…ByBin.cxx:450): the events put into `record_cache`, the return value
    `stop_caching`, and what `get_next_record` will deliver next -/
structure LmBatch where
  bins : List Bin
  stop : Bool
  rest : List Record

/-- the `while (true)` loop of `read_listmode_batch` (l.477-537): `n` = `cached_events` = `record_cache.size()`,
    `cur` = `current_time`, `prev` = number of events in the earlier batches.
    `num_events_to_use` (l.532) counts the events of ALL batches (`ibatch * cache_size + cached_events`, as repaired in /repo by
    db99ca7d2; before, the counter of the current batch only was compared) -/
def lmReadBatch (c : LmCfg) (prev : Nat) : Nat → Int → List Record → LmBatch
  | _, _, [] => ⟨[], true, []⟩                                  -- get_next_record == Succeeded::no
  | n, _, .time t :: rs =>
    if c.doTimeFrame && t ≥ c.endT then ⟨[], true, rs⟩            -- l.487
    else lmReadBatch c prev n t rs                                -- (l.493 `continue` or fall through: not an event)
  | n, cur, .event e :: rs =>
    if cur < c.startT then lmReadBatch c prev n cur rs            -- l.493
    else if e.prompt then
      match getBinFromEvent c.tpl e with                          -- bin value != 1 or segment outside (l.501-502)
      | none => lmReadBatch c prev n cur rs
      | some b =>
        if inRange c.tpl b then                                   -- l.503-508
          if c.numEventsToUse > 0 && (((prev + n : Nat) : Int) + 1 ≥ c.numEventsToUse) then ⟨[b], true, rs⟩   -- l.527
          else if n + 1 = c.cacheSize then ⟨[b], false, rs⟩       -- l.534 cache is full
          else
            let o := lmReadBatch c prev (n + 1) cur rs
            ⟨b :: o.bins, o.stop, o.rest⟩
        else lmReadBatch c prev n cur rs
    else lmReadBatch c prev n cur rs

/-- the batches in reading order (`cache_listmode_file` l.642-656, or the `while (true)` loops of the compute functions):
    the first batch starts at `current_time = 0` after `reset()`, every later one at
    `end_time_per_batch[ibatch-1]` = the END time of the frame (l.457, l.541) -/
def lmBatches (c : LmCfg) : Nat → Bool → Nat → List Record → List (List Bin)
  | 0, _, _, _ => []
  | fuel + 1, first, prev, recs =>
    let o := lmReadBatch c prev 0 (if first then 0 else c.endT) recs
    if o.stop then [o.bins] else o.bins :: lmBatches c fuel false (prev + o.bins.length) o.rest

/-- all batches of a stream (every batch that does not stop consumes at least one record) -/
def lmEvents (c : LmCfg) (recs : List Record) : List (List Bin) := lmBatches c (recs.length + 1) true 0 recs

/-- reading with an unlimited cache and without `num_events_to_use`: the specification of the batches -/
def lmReadAll (c : LmCfg) : Int → List Record → List Bin
  | _, [] => []
  | _, .time t :: rs => if c.doTimeFrame && t ≥ c.endT then [] else lmReadAll c t rs
  | cur, .event e :: rs =>
    if cur < c.startT then lmReadAll c cur rs
    else if e.prompt then
      match getBinFromEvent c.tpl e with
      | none => lmReadAll c cur rs
      | some b => if inRange c.tpl b then b :: lmReadAll c cur rs else lmReadAll c cur rs
    else lmReadAll c cur rs

section LmGradient
variable {K : Type} [_root_.Add K] [Mul K] [Div K] [OfNat K 0]   -- (`Add` is the abbreviation above)

/-- `Σ l` -/
def sumList : List K → K
  | [] => 0
  | a :: l => a + sumList l

/-- what the computation reads for a bin -/
structure LmBinData (K : Type) where
  /-- row of the projection matrix: (voxel, element) -/
  row : List (Nat × K)
  /-- `record.my_corr` as it should be: the additive term AT THE BIN of the event (0 when `has_add` is false) -/
  add : K
  /-- `view_num()` of the basic bin (`find_basic_bin`) -/
  basicView : Int

/-- `ProjMatrixElemsForOneBin::forward_project(bin, image)` -/
def lmFwd (img : Nat → K) (row : List (Nat × K)) : K := sumList (row.map fun e => e.2 * img e.1)

/-- the subset test of `LM_distributable_computation` (distributable.txx:128-138; C `%` on ints) -/
def inSubset (nsub subset : Int) (basicView : Int) : Bool := decide (nsub ≤ 1) || (Int.tmod basicView nsub == subset)

/-- `LM_gradient_and_value<true,false>` (…ByBin.cxx:755) for one event: `row.back_project(output, bin)` with bin value
    `1 / (row·image + add)`: the list of additions `output[voxel] += element · value` -/
def lmEventContribs (img : Nat → K) (d : LmBinData K) : List (Nat × K) :=
  let q := lmFwd img d.row + d.add
  d.row.map fun e => (e.1, e.2 / q)

/-- `actual_compute_subset_gradient_without_penalty(…, add_sensitivity = true)` (…ByBin.cxx:913): all additions to the
    output image, batch after batch (accumulate = icache != 0), event after event of the subset -/
def lmContribs (data : Bin → LmBinData K) (img : Nat → K) (nsub subset : Int) (batches : List (List Bin)) : List (Nat × K) :=
  batches.flatMap fun bt =>
    (bt.filter fun b => inSubset nsub subset (data b).basicView).flatMap fun b => lmEventContribs img (data b)

/-- value of the image described by a list of additions at voxel `v` (the image starts as zeros: `fill(0)` at
    distributable.txx:67 for the first batch) -/
def imageAt (cs : List (Nat × K)) (v : Nat) : K := sumList (cs.map fun e => if e.1 = v then e.2 else 0)

/-- the same, accumulated into an array of `n` voxels (what the driver executes; `accumulate_getD` in ProofsLmObj) -/
def accumulate (n : Nat) (cs : List (Nat × K)) : Array K :=
  cs.foldl (fun arr e => arr.modify e.1 (fun s => s + e.2)) (Array.replicate n 0)

/-- the list-mode gradient plus sensitivity at voxel `v` -/
def lmGps (data : Bin → LmBinData K) (img : Nat → K) (nsub subset : Int) (batches : List (List Bin)) (v : Nat) : K :=
  imageAt (lmContribs data img nsub subset batches) v

/-- the element(s) of a row at voxel `v` -/
def rowAt (row : List (Nat × K)) (v : Nat) : K := sumList (row.map fun e => if e.1 = v then e.2 else 0)

end LmGradient

/-! ### Normalisation in `LmToProjData`

`get_bin_from_event` with `do_pre_normalisation` (LmToProjData.cxx:485-535), `do_post_normalisation` (l.540-576),
`get_compression_count` (l.578-587) and the addition `segment[…] += bin.get_bin_value() * event_increment` (l.851-853).
Data: what the event decoder returns for the two geometries, the efficiencies the normalisation objects return
(`BinNormalisation::get_bin_efficiency`) and the number of ring pairs / the view mashing factor of the template geometry.
Neither function has any influence on the control flow of `process_data` other than through "bin value ≤ 0" at l.801, and
`do_post_normalisation` is called after the last test (l.829): the normalised run is the run of `processData` on the stream
as `get_bin_from_event` decodes it (`preDecode`), with the bin value applied to every addition afterwards (`weighted`).

Two statements of the code are modelled as repaired in /repo (c1b9c44b6, 5dcfa7ff2):
* l.491-497: an event that the decoder rejects for the uncompressed geometry is rejected (before the repair the function returned
  with the caller's bin, `Bin()` with value 1, untouched, and the event was counted in bin (0,0,0,0,0));
* the bin value is set to −1 when the post-normalisation efficiency is < 1e-10 ("Event ignored") and l.836-837 then skips the event
  (before the repair the −1 was added). -/

section Normalisation
variable {K : Type}

/-- an event as `get_bin_from_event` sees it with `do_pre_normalisation` -/
structure PreEvent (K : Type) where
  /-- `event.get_bin(bin, *template_proj_data_info_ptr)` (l.524); `none` = bin value ≤ 0 -/
  bin : Option Bin
  /-- `event.get_bin(uncompressed_bin, *proj_data_info_cyl_uncompressed_ptr)` (l.490): the number of the uncompressed bin and
      `normalisation_ptr->get_bin_efficiency(uncompressed_bin)` (l.503); `none` = bin value ≤ 0 -/
  unc : Option (Int × K)
  prompt : Bool

/-- record of a stream for a run with pre-normalisation -/
inductive PreRecord (K : Type) where
  | time (ms : Int)
  | event (e : PreEvent K)

/-- `get_bin_from_event` with `do_pre_normalisation` (l.487-530) as far as the tests of `process_data` see it:
    `tooLow eff` = `bin_efficiency < 1.E-10` (l.505) -/
def preDecode (tooLow : K → Bool) (e : PreEvent K) : Event :=
  match e.unc with
  | none => ⟨none, e.prompt⟩                                  -- l.491-497 (as repaired in /repo, c1b9c44b6)
  | some (u, eff) =>
    if tooLow eff then ⟨none, e.prompt⟩                       -- l.505-515: bin value −1
    else ⟨e.bin.map fun b => { b with unc := u }, e.prompt⟩   -- l.524-529

def preStream (tooLow : K → Bool) : List (PreRecord K) → List Record
  | [] => []
  | .time t :: rs => .time t :: preStream tooLow rs
  | .event e :: rs => .event (preDecode tooLow e) :: preStream tooLow rs

/-- the normalisation of a run -/
inductive Norm (K : Type) where
  /-- `do_pre_normalisation`: efficiency of the uncompressed bin number `u`; `get_compression_count(bin)` (l.578-587:
      number of ring pairs of the sinogram × view mashing factor) -/
  | pre (eff : Int → K) (cc : Bin → Int)
  /-- otherwise: `post_normalisation_ptr->get_bin_efficiency(bin)` of the output bin (`TrivialBinNormalisation`: 1) -/
  | post (eff : Bin → K)

/-- the output bin of a model bin -/
def Bin.key (b : Bin) : Bin := { b with unc := 0 }

variable [_root_.Add K] [Mul K] [Div K] [OfNat K 0] [OfNat K 1] [IntCast K]

/-- `bin.get_bin_value()` at l.853; `none` = nothing is added (as repaired in /repo, 5dcfa7ff2).
    pre: `1.f / bin_efficiency` (l.521, 528) divided by `get_compression_count(bin)` (l.547);
    post: `bin.get_bin_value() / bin_efficiency` (l.572) with the decoder's value 1 -/
def binValue (tooLow : K → Bool) : Norm K → Bin → Option K
  | .pre eff cc, b => some ((1 / eff b.unc) / ((cc b : Int) : K))
  | .post eff, b => if tooLow (eff b.key) then none else some (1 / eff b.key)

/-- the additions `segment[view][ax][tang] += bin.get_bin_value() * event_increment` (l.851-853) for a list of
    (bin, increment) -/
def weighted (tooLow : K → Bool) (n : Norm K) (adds : List Add) : List (Bin × K) :=
  adds.filterMap fun a => (binValue tooLow n a.1).map fun w => (a.1, w * ((a.2 : Int) : K))

/-- value of the output bin `b` after the additions -/
def valueW (l : List (Bin × K)) (b : Bin) : K := sumList (l.map fun a => if a.1.key = b then a.2 else 0)

/-- `process_data` with normalisation: per frame the weighted additions, and the final `current_time` -/
def processDataW (tooLow : K → Bool) (n : Norm K) (c : Cfg) (recs : List Record) : List (List (Bin × K)) × Int :=
  ((processData c recs).1.map (weighted tooLow n), (processData c recs).2)

end Normalisation

end StirVerif.C14
