/-
C14: reading the data once (`singlePass`) stores, for every frame, exactly the events whose
preceding time mark lies in the frame (`direct`) — for streams whose time marks never go back and never jump
over a whole frame.
-/
import StirVerif.C14.ProofsBatch

namespace StirVerif.C14

/-- the time marks (with `cur`, the time assumed before the first one) never go back, and no frame of `F` lies
    strictly inside the gap between two consecutive marks -/
def regularB (F : List (Int × Int)) : Int → List Record → Bool
  | _, [] => true
  | cur, .time t :: rs => decide (cur ≤ t) && F.all (fun f => !(decide (cur < f.1) && decide (f.2 ≤ t))) && regularB F t rs
  | cur, .event _ :: rs => regularB F cur rs

theorem regularB_time (F : List (Int × Int)) (cur t : Int) (rs : List Record) :
    regularB F cur (.time t :: rs) = true ↔ cur ≤ t ∧ (∀ f ∈ F, ¬(cur < f.1 ∧ f.2 ≤ t)) ∧ regularB F t rs = true := by
  simp only [regularB, Bool.and_eq_true, decide_eq_true_eq, List.all_eq_true, Bool.not_eq_true', Bool.and_eq_false_imp,
    decide_eq_false_iff_not, and_assoc, not_and]

/-- a stream that is regular for the frames `F` is regular for any frames `G` each of which contains a frame of `F`
    (a mark that jumps over a frame of `G` jumps over the frame of `F` inside it) -/
theorem regularB_mono (F G : List (Int × Int)) (h : ∀ g ∈ G, ∃ f ∈ F, g.1 ≤ f.1 ∧ f.2 ≤ g.2) (recs : List Record) :
    ∀ cur, regularB F cur recs = true → regularB G cur recs = true := by
  induction recs with
  | nil =>
    intro _ _
    rfl
  | cons r rs ih =>
    intro cur hR
    cases r with
    | time t =>
      rw [regularB_time] at hR ⊢
      refine ⟨hR.1, ?_, ih t hR.2.2⟩
      intro g hg hc
      obtain ⟨f, hf, h1, h2⟩ := h g hg
      exact hR.2.1 f hf ⟨by omega, by omega⟩
    | event ev => exact ih cur hR

/-- frames as `TimeFrameDefinitions` accepts them, non-empty, later than 0.01 s, in sequence -/
def FramesOK (F : List (Int × Int)) : Prop :=
  (∀ f ∈ F, f.1 < f.2 ∧ 10 < f.2) ∧ F.Pairwise (fun f g => f.2 ≤ g.1)

def win (c : Cfg) (s e : Int) (te : Int × Event) : Option Add :=
  if s ≤ te.1 ∧ te.1 < e then contribution c te.2 else none

theorem filterMap_cons_toList {α β : Type} (f : α → Option β) (a : α) (l : List α) :
    (a :: l).filterMap f = (f a).toList ++ l.filterMap f := by
  cases h : f a <;> simp [h]

theorem win_pos {c : Cfg} {s e t : Int} {ev : Event} (h : s ≤ t ∧ t < e) : win c s e (t, ev) = contribution c ev :=
  if_pos h

theorem win_neg {c : Cfg} {s e t : Int} {ev : Event} (h : ¬(s ≤ t ∧ t < e)) : win c s e (t, ev) = none :=
  if_neg h

/-- for one event: the two parts of a window store what the window stores -/
theorem win_split {c : Cfg} {s m e : Int} (h1 : s ≤ m) (h2 : m ≤ e) (te : Int × Event) :
    (win c s m te).toList ++ (win c m e te).toList = (win c s e te).toList := by
  unfold win
  -- an event before `m` can only be in the first part, one from `m` on only in the second
  by_cases ht : te.1 < m
  · simp [show ¬(m ≤ te.1 ∧ te.1 < e) by omega, show (s ≤ te.1 ∧ te.1 < m ↔ s ≤ te.1 ∧ te.1 < e) by omega]
  · simp [show ¬(s ≤ te.1 ∧ te.1 < m) by omega, show (m ≤ te.1 ∧ te.1 < e ↔ s ≤ te.1 ∧ te.1 < e) by omega]

theorem direct_eq (c : Cfg) (recs : List Record) (s e : Int) : direct c recs s e = (timed 0 recs).filterMap (win c s e) := rfl

theorem onePass_time (c : Cfg) (endT more cur t : Int) (rs : List Record) (hm : more ≠ 0) (he : 10 < endT)
    (hd : c.doTimeFrame = true) :
    onePass c endT more cur (.time t :: rs)
      = if endT ≤ t then ⟨[], t, rs⟩ else onePass c endT more t rs := by
  rw [onePass]
  have : endT > 10 := he
  simp only [hm, if_false, this, if_true, hd, Bool.true_and, ge_iff_le, decide_eq_true_eq]

theorem skipTo_time {s cur t : Int} {rs : List Record} (h : cur < s) : skipTo s cur (.time t :: rs) = skipTo s t rs := by
  simp [skipTo, h]

theorem skipTo_event {s cur : Int} {e : Event} {rs : List Record} (h : cur < s) :
    skipTo s cur (.event e :: rs) = skipTo s cur rs := by
  simp [skipTo, h]

theorem skipTo_of_le {s cur : Int} (h : s ≤ cur) (recs : List Record) : skipTo s cur recs = (cur, recs) := by
  cases recs <;> simp [skipTo, Int.not_lt.2 h]

/-- **skip loop**: only events before the start of the frame are dropped, and the current time does not pass the end of a
    frame of `F` that starts at or after `s` (the marks do not jump over a frame) -/
theorem skipTo_spec (c : Cfg) (F : List (Int × Int)) (s : Int) (recs : List Record) :
    ∀ cur, regularB F cur recs = true →
      let sk := skipTo s cur recs
      (∀ s' e', s ≤ s' → (timed cur recs).filterMap (win c s' e') = (timed sk.1 sk.2).filterMap (win c s' e')) ∧
      regularB F sk.1 sk.2 = true ∧ (sk.2 = [] ∨ s ≤ sk.1) ∧ (∀ f ∈ F, s ≤ f.1 → cur < f.2 → sk.1 < f.2) := by
  induction recs with
  | nil =>
    intro cur hR
    exact ⟨fun _ _ _ => rfl, hR, Or.inl rfl, fun _ _ _ h => h⟩
  | cons r rs ih =>
    intro cur hR
    by_cases hc : cur < s
    · cases r with
      | time t =>
        rw [skipTo_time hc]
        obtain ⟨h1, h2, h3⟩ := (regularB_time ..).1 hR
        obtain ⟨hwin, hreg, hstart, hend⟩ := ih t h3
        refine ⟨fun s' e' hs' => by simpa [timed] using hwin s' e' hs', hreg, hstart, fun f hf hsf hlt => hend f hf hsf ?_⟩
        have := h2 f hf
        omega
      | event ev =>
        rw [skipTo_event hc]
        obtain ⟨hwin, hreg, hstart, hend⟩ := ih cur hR
        refine ⟨fun s' e' hs' => ?_, hreg, hstart, hend⟩
        rw [timed, List.filterMap_cons]
        rw [win_neg (by omega)]
        exact hwin s' e' hs'
    · rw [skipTo_of_le (Int.not_lt.1 hc)]
      exact ⟨fun _ _ _ => rfl, hR, Or.inr (Int.not_lt.1 hc), fun _ _ _ h => h⟩

theorem timed_ge (F : List (Int × Int)) (recs : List Record) :
    ∀ cur, regularB F cur recs = true → ∀ te ∈ timed cur recs, cur ≤ te.1 := by
  induction recs with
  | nil =>
    intro cur _ te h
    simp [timed] at h
  | cons r rs ih =>
    intro cur hR
    cases r with
    | time t =>
      obtain ⟨h1, -, h3⟩ := (regularB_time ..).1 hR
      intro te h
      have := ih t h3 te h
      omega
    | event ev => exact List.forall_mem_cons.2 ⟨Int.le_refl _, ih cur hR⟩

theorem filterMap_win_eq_nil (c : Cfg) (F : List (Int × Int)) (s e cur : Int) (recs : List Record)
    (hR : regularB F cur recs = true) (h : e ≤ cur) : (timed cur recs).filterMap (win c s e) = [] := by
  rw [List.filterMap_eq_nil_iff]
  intro te hte
  have := timed_ge F recs cur hR te hte
  exact win_neg (t := te.1) (ev := te.2) (by omega)

/-- **one pass over a frame** (time-frame mode): it stores the events of the window, and stops before the end of every
    later frame of `F` -/
theorem onePass_spec (c : Cfg) (hd : c.doTimeFrame = true) (F : List (Int × Int)) (s e : Int) (he : 10 < e)
    (recs : List Record) :
    ∀ cur, regularB F cur recs = true → (recs = [] ∨ s ≤ cur) → cur < e →
      let o := onePass c e 1 cur recs
      o.adds = (timed cur recs).filterMap (win c s e) ∧ regularB F o.cur o.rest = true ∧
      (∀ s' e', e ≤ s' → (timed cur recs).filterMap (win c s' e') = (timed o.cur o.rest).filterMap (win c s' e')) ∧
      (∀ f ∈ F, e ≤ f.1 → f.1 < f.2 → o.cur < f.2) := by
  induction recs with
  | nil =>
    intro cur hR _ hce
    refine ⟨by simp [onePass_nil, timed], hR, fun _ _ _ => by simp [onePass_nil], ?_⟩
    intro f _ h1 h2
    simp only [onePass_nil]
    omega
  | cons r rs ih =>
    intro cur hR hs hce
    have hs' : s ≤ cur := hs.resolve_left (List.cons_ne_nil _ _)
    cases r with
    | time t =>
      obtain ⟨h1, h2, h3⟩ := (regularB_time ..).1 hR
      rw [onePass_time c e 1 cur t rs (by decide) he hd]
      by_cases hb : e ≤ t
      · simp only [hb, if_true, timed]
        refine ⟨(filterMap_win_eq_nil c F s e t rs h3 hb).symm, h3, fun _ _ _ => trivial, ?_⟩
        intro f hf hef hf12
        have := h2 f hf
        omega
      · simp only [hb, if_false, timed]
        exact ih t h3 (Or.inr (by omega)) (by omega)
    | event ev =>
      rw [onePass_event c e cur ev rs (by decide)]
      simp only [hd, if_true]
      obtain ⟨hadds, hreg, hwin, hend⟩ := ih cur hR (Or.inr hs') hce
      refine ⟨?_, hreg, fun s' e' hse => ?_, hend⟩
      · rw [timed, filterMap_cons_toList, win_pos ⟨hs', hce⟩, hadds]
      · simp only [timed, List.filterMap_cons]
        rw [win_neg (by omega)]
        exact hwin s' e' hse

/-- **the frames still to come**: the reader's state `(cur, recs)` is regular for the frames `L`, which are in sequence, and has not passed
    the end of any of them; then the single-pass loop stores for each frame of `L` the events of its window among those still to be read -/
theorem onePassFrames_spec (c : Cfg) (hd : c.doTimeFrame = true) (L : List (Int × Int)) :
    ∀ cur recs, FramesOK L → regularB L cur recs = true → (∀ f ∈ L, cur < f.2) →
      (onePassFrames c L cur recs).1 = L.map fun f => (timed cur recs).filterMap (win c f.1 f.2) := by
  induction L with
  | nil =>
    intro cur recs _ _ _
    simp [onePassFrames]
  | cons f L ih =>
    obtain ⟨s, e⟩ := f
    intro cur recs hF hR hlt
    obtain ⟨hf, hL'⟩ := List.forall_mem_cons.1 hF.1
    obtain ⟨hlt0, -⟩ := List.forall_mem_cons.1 hlt
    have hP := List.pairwise_cons.1 hF.2
    obtain ⟨skWin, skReg, skStart, skEnd⟩ := skipTo_spec c _ s recs cur hR
    have hce : (skipTo s cur recs).1 < e := skEnd (s, e) (by simp) (Int.le_refl _) hlt0
    obtain ⟨opAdds, opReg, opWin, opEnd⟩ := onePass_spec c hd _ s e hf.2 (skipTo s cur recs).2 (skipTo s cur recs).1 skReg skStart hce
    simp only [onePassFrames, hd, if_true, List.map_cons]
    rw [opAdds, ← skWin s e (Int.le_refl _),
      ih _ _ ⟨hL', hP.2⟩ (regularB_mono _ _ (fun g hg => ⟨g, List.mem_cons_of_mem _ hg, Int.le_refl _, Int.le_refl _⟩) _ _ opReg)
        fun f hfm => opEnd f (List.mem_cons_of_mem _ hfm) (hP.1 f hfm) (hL' f hfm).1]
    refine congrArg _ (List.map_congr_left fun f hfm => ?_)
    have := hP.1 f hfm
    rw [skWin f.1 f.2 (by omega), opWin f.1 f.2 this]

theorem singlePass_eq_direct (c : Cfg) (hd : c.doTimeFrame = true) (hF : FramesOK c.frames) (recs : List Record)
    (hR : regularB c.frames 0 recs = true) :
    (singlePass c recs).1 = c.frames.map fun f => direct c recs f.1 f.2 := by
  apply onePassFrames_spec c hd c.frames 0 recs hF hR
  intro f hf
  have := (hF.1 f hf).2
  omega

end StirVerif.C14
