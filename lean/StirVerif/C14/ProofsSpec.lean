/-
C14: what follows from the specification `direct` and from `cutPrefix`; nothing is stored outside the data.
-/
import StirVerif.C14.ProofsDirect

namespace StirVerif.C14

theorem passes_adds_binOK (c : Cfg) (s e : Int) (bts : List Batch) :
    ∀ st : PassState, ∀ a ∈ (passes c s e bts st).1, binOK c.tpl a.1 ∧ a.2 ≠ 0 := by
  induction bts with
  | nil =>
    intro st a ha
    simp [passes] at ha
  | cons bt bts ih =>
    intro st a ha
    simp only [passes, List.mem_append] at ha
    rcases ha with ha | ha
    · -- a batch pass stores some of what the full pass from the same place stores
      rw [(mainLoop_spec c e bt _ _ _ 0).1] at ha
      exact onePass_adds_binOK c e _ _ _ a (List.mem_filter.1 ha).1
    · exact ih _ a ha

theorem frameLoop_adds_binOK (c : Cfg) (fs : List (Int × Int)) :
    ∀ cur recs, ∀ l ∈ (frameLoop c fs cur recs).1, ∀ a ∈ l, binOK c.tpl a.1 ∧ a.2 ≠ 0 := by
  induction fs with
  | nil =>
    intro cur recs l hl
    simp [frameLoop] at hl
  | cons f fs ih =>
    obtain ⟨s, e⟩ := f
    intro cur recs
    simp only [frameLoop, List.forall_mem_cons]
    exact ⟨passes_adds_binOK c s e _ _, ih _ _⟩

/-- the bin an event is histogrammed into, if any (decoder + range test) -/
def accepted (c : Cfg) (ev : Event) : Option Bin :=
  match getBinFromEvent c.tpl ev with
  | none => none
  | some b => if inRange c.tpl b then some b else none

theorem contribution_eq_accepted (c : Cfg) (ev : Event) :
    contribution c ev = match accepted c ev with
      | none => none
      | some b => if eventIncrement c ev = 0 then none else some (b, eventIncrement c ev) := by
  unfold contribution accepted
  cases getBinFromEvent c.tpl ev with
  | none => rfl
  | some b => by_cases hr : inRange c.tpl b = true <;> simp [hr]

def inWinAt (c : Cfg) (s e : Int) (b : Bin) (te : Int × Event) : Bool :=
  decide (s ≤ te.1) && decide (te.1 < e) && decide (accepted c te.2 = some b)

theorem value_win (c : Cfg) (s e : Int) (b : Bin) (te : Int × Event) :
    value (win c s e te).toList b = if inWinAt c s e b te then eventIncrement c te.2 else 0 := by
  obtain ⟨t, ev⟩ := te
  by_cases hw : s ≤ t ∧ t < e
  · rw [win_pos hw, contribution_eq_accepted]
    cases ha : accepted c ev with
    | none => simp [inWinAt, ha, value]
    | some b' =>
      by_cases hi : eventIncrement c ev = 0
      · by_cases hbb : b' = b
        · simp [inWinAt, ha, hw.1, hw.2, hi, hbb, value]
        · simp [inWinAt, ha, hw.1, hw.2, hi, hbb, value]
      · by_cases hbb : b' = b
        · simp [inWinAt, ha, hw.1, hw.2, hi, hbb, value]
        · simp [inWinAt, ha, hw.1, hw.2, hi, hbb, value]
  · rw [win_neg hw]
    have : ¬(s ≤ t ∧ t < e ∧ accepted c ev = some b) := fun h => hw ⟨h.1, h.2.1⟩
    simp [inWinAt, value, and_assoc, this]

theorem value_filterMap_win (c : Cfg) (s e : Int) (b : Bin) (l : List (Int × Event)) :
    value (l.filterMap (win c s e)) b
      = ((l.filter (inWinAt c s e b)).map fun te => eventIncrement c te.2).sum := by
  induction l with
  | nil => simp [value_nil]
  | cons te l ih =>
    rw [filterMap_cons_toList, value_append, value_win, ih, List.filter_cons]
    by_cases hin : inWinAt c s e b te = true <;> simp [hin]

theorem sum_eventIncrement (c : Cfg) (l : List (Int × Event)) :
    (l.map fun te => eventIncrement c te.2).sum
      = (if c.storePrompts then 1 else 0) * (l.countP fun te => te.2.prompt)
        + c.delayedIncrement * (l.countP fun te => !te.2.prompt) := by
  induction l with
  | nil => simp
  | cons te l ih =>
    simp only [List.map_cons, List.sum_cons, ih, List.countP_cons]
    cases hp : te.2.prompt
    · simp [eventIncrement, hp, Int.mul_add]
      omega
    · simp [eventIncrement, hp, Int.mul_add]
      omega

open List in
theorem direct_split_perm (c : Cfg) (recs : List Record) (s m e : Int) (h1 : s ≤ m) (h2 : m ≤ e) :
    direct c recs s m ++ direct c recs m e ~ direct c recs s e := by
  simp only [direct_eq]
  induction timed 0 recs with
  | nil => simp
  | cons te l ih =>
    simp only [filterMap_cons_toList, ← win_split h1 h2 te, append_assoc]
    exact ((perm_append_comm_assoc _ _ _).trans (ih.append_left _)).append_left _

theorem value_direct_split (c : Cfg) (recs : List Record) (s m e : Int) (h1 : s ≤ m) (h2 : m ≤ e) (b : Bin) :
    value (direct c recs s e) b = value (direct c recs s m) b + value (direct c recs m e) b := by
  rw [← value_perm (direct_split_perm c recs s m e h1 h2) b, value_append]

/-- frames that follow one another without gap, starting at `s0`, each with start ≤ end (an empty frame `(s, s)` is allowed) -/
def IsPartitionFrom : Int → List (Int × Int) → Prop
  | _, [] => True
  | s0, (s, e) :: fs => s = s0 ∧ s ≤ e ∧ IsPartitionFrom e fs

def lastEnd : Int → List (Int × Int) → Int
  | s0, [] => s0
  | _, (_, e) :: fs => lastEnd e fs

theorem lastEnd_ge (s0 : Int) (L : List (Int × Int)) : IsPartitionFrom s0 L → s0 ≤ lastEnd s0 L := by
  induction L generalizing s0 with
  | nil =>
    intro _
    exact Int.le_refl _
  | cons f fs ih =>
    obtain ⟨s, e⟩ := f
    intro h
    have := ih e h.2.2
    simp only [lastEnd]
    have := h.1
    have := h.2.1
    omega

open List in
theorem direct_frames_perm (c : Cfg) (recs : List Record) (s0 : Int) (L : List (Int × Int)) (hL : IsPartitionFrom s0 L) :
    (L.map fun f => direct c recs f.1 f.2).flatten ~ direct c recs s0 (lastEnd s0 L) := by
  induction L generalizing s0 with
  | nil =>
    have : (timed 0 recs).filterMap (win c s0 s0) = [] :=
      filterMap_eq_nil_iff.2 fun te _ => win_neg (t := te.1) (ev := te.2) (by omega)
    simp only [map_nil, flatten_nil, lastEnd, direct_eq, this]
    exact Perm.nil
  | cons f fs ih =>
    obtain ⟨s, e⟩ := f
    obtain ⟨rfl, h2, h3⟩ := hL
    rw [map_cons, flatten_cons]
    exact ((ih e h3).append_left _).trans (direct_split_perm c recs s e _ h2 (lastEnd_ge e fs h3))

/-- merging the frames of a partition into one keeps the hypotheses on frames and stream -/
theorem merged_frames_ok {F : List (Int × Int)} {recs : List Record} (hF : FramesOK F) (hR : regularB F 0 recs = true) {s0 : Int}
    (hP : IsPartitionFrom s0 F) (hne : F ≠ []) :
    FramesOK [(s0, lastEnd s0 F)] ∧ regularB [(s0, lastEnd s0 F)] 0 recs = true := by
  cases F with
  | nil => exact absurd rfl hne
  | cons f0 fs =>
    obtain ⟨s, e⟩ := f0
    obtain ⟨rfl, hse, hrest⟩ := hP
    have hf0 := hF.1 (s, e) (by simp)
    simp only at hf0
    have hge : e ≤ lastEnd s ((s, e) :: fs) := lastEnd_ge e fs hrest
    refine ⟨⟨List.forall_mem_singleton.2 ⟨?_, ?_⟩, by simp⟩, ?_⟩
    · dsimp only
      omega
    · dsimp only
      omega
    · apply regularB_mono ((s, e) :: fs) _ _ recs 0 hR
      exact List.forall_mem_singleton.2 ⟨(s, e), by simp, Int.le_refl _, hge⟩

def stored (c : Cfg) (l : List Record) : Int := (l.map (storedInc c)).sum

/-- the records read by a pass that stops when the stored total reaches `more` -/
def cutPrefix (c : Cfg) : Int → List Record → List Record
  | _, [] => []
  | more, r :: rs => if more = 0 then [] else r :: cutPrefix c (more - storedInc c r) rs

/-- a pass in `num_events_to_store` mode, whatever the end of its frame (it is tested only in time-frame mode):
    it stores the contributions of exactly the records of `cutPrefix` -/
theorem onePass_numEvents (c : Cfg) (hd : c.doTimeFrame = false) (endT : Int) (recs : List Record) :
    ∀ more cur cur',
      (onePass c endT more cur recs).adds = (timed cur' (cutPrefix c more recs)).filterMap (fun te => contribution c te.2) := by
  induction recs with
  | nil =>
    intro more cur cur'
    rfl
  | cons r rs ih =>
    intro more cur cur'
    by_cases hm : more = 0
    · subst hm
      cases r <;> simp [onePass, cutPrefix, timed]
    · cases r with
      | time t =>
        rw [onePass]
        simp only [cutPrefix, hm, if_false, hd, Bool.false_and, Bool.false_eq_true, timed, storedInc, Int.sub_zero]
        -- not in time-frame mode a time mark only sets `current_time`, which the additions do not depend on
        split <;> exact ih more _ t
      | event ev =>
        rw [onePass_event c endT cur ev rs hm]
        simp only [hd, Bool.false_eq_true, if_false, cutPrefix, hm, timed]
        rw [filterMap_cons_toList, ih]

theorem onePass_batchSizes (c : Cfg) (n m e : Int) (recs : List Record) :
    ∀ more cur, onePass { c with segsInMemory := n, tofInMemory := m } e more cur recs = onePass c e more cur recs := by
  induction recs with
  | nil =>
    intro _ _
    rfl
  | cons r rs ih =>
    intro more cur
    cases r with
    | time t =>
      rw [onePass, onePass]
      simp only [ih]
    | event ev =>
      rw [onePass, onePass]
      simp only [ih]
      rfl

theorem singlePass_batchSizes (c : Cfg) (n m : Int) (recs : List Record) :
    singlePass { c with segsInMemory := n, tofInMemory := m } recs = singlePass c recs := by
  have h : ∀ fs cur recs, onePassFrames { c with segsInMemory := n, tofInMemory := m } fs cur recs = onePassFrames c fs cur recs := by
    intro fs
    induction fs with
    | nil =>
      intro _ _
      rfl
    | cons f fs ih =>
      intro cur recs
      simp only [onePassFrames, onePass_batchSizes, ih]
  exact h c.frames 0 recs

/-- reading once does not look at the batch sizes, so nothing order-free of the multi-pass run depends on them -/
theorem process_batchSizes {γ : Type} {f : List Add → γ} (hf : OrderFree f) (c : Cfg) (n m n' m' : Int)
    (hn : 1 ≤ n) (hm : 1 ≤ m) (hn' : 1 ≤ n') (hm' : 1 ≤ m')
    (hseg : c.tpl.minSeg ≤ c.tpl.maxSeg) (htof : c.tpl.minTof ≤ c.tpl.maxTof)
    (hmode : c.doTimeFrame = true ∨ c.frames.length ≤ 1) (recs : List Record) :
    (processData { c with segsInMemory := n, tofInMemory := m } recs).1.map f
      = (processData { c with segsInMemory := n', tofInMemory := m' } recs).1.map f := by
  rw [process_eq_singlePass hf { c with segsInMemory := n, tofInMemory := m } ⟨hn, hm, hseg, htof⟩ hmode recs,
    process_eq_singlePass hf { c with segsInMemory := n', tofInMemory := m' } ⟨hn', hm', hseg, htof⟩ hmode recs,
    singlePass_batchSizes c n m, singlePass_batchSizes c n' m']

/-- **every order-free reading of a frame of the multi-pass run is that reading of the one-line specification `direct`**, in
    time-frame mode, for frames in sequence and a stream whose time marks neither go back nor jump over a frame -/
theorem process_eq_direct {γ : Type} {f : List Add → γ} (hf : OrderFree f) (c : Cfg) (h : c.WF) (recs : List Record)
    (hd : c.doTimeFrame = true) (hF : FramesOK c.frames) (hR : regularB c.frames 0 recs = true) :
    (processData c recs).1.map f = c.frames.map fun fr => f (direct c recs fr.1 fr.2) := by
  rw [process_eq_singlePass hf c h (Or.inl hd), singlePass_eq_direct c hd hF recs hR, List.map_map]
  rfl

end StirVerif.C14
