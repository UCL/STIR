/-
C14: the multi-pass run (`processData`, batches of segments / TOF bins, rewind to the saved
position) stores, frame by frame, a rearrangement of the additions of reading the data once with everything in memory
(`singlePass`): every reading of them that does not depend on their order (`OrderFree`; the histogram `value`) is the same.
-/
import StirVerif.C14.Model

namespace StirVerif.C14

theorem value_nil (b : Bin) : value [] b = 0 := rfl

theorem value_cons (a : Add) (l : List Add) (b : Bin) :
    value (a :: l) b = (if a.1 = b then a.2 else 0) + value l b := by
  cases a
  rfl

theorem value_append (l1 l2 : List Add) (b : Bin) : value (l1 ++ l2) b = value l1 b + value l2 b := by
  induction l1 with
  | nil => simp [value_nil]
  | cons a l ih =>
    simp only [List.cons_append, value_cons, ih]
    omega

theorem value_flatten (L : List (List Add)) (b : Bin) : value L.flatten b = (L.map fun a => value a b).sum := by
  induction L with
  | nil => simp [value_nil]
  | cons x xs ih => simp [List.flatten_cons, value_append, ih]

theorem value_filter (p : Bin → Bool) (l : List Add) (b : Bin) :
    value (l.filter fun a => p a.1) b = if p b then value l b else 0 := by
  induction l with
  | nil => simp [value_nil]
  | cons a l ih =>
    rw [List.filter_cons, value_cons]
    split
    · rw [value_cons, ih]
      by_cases hab : a.1 = b
      · simp_all
      · simp [hab]
    · rw [ih]
      by_cases hab : a.1 = b
      · simp_all
      · simp [hab]

theorem value_perm {l l' : List Add} (h : l.Perm l') (b : Bin) : value l b = value l' b := by
  induction h with
  | nil => rfl
  | cons a _ ih => rw [value_cons, value_cons, ih]
  | swap a a' l =>
    simp only [value_cons]
    omega
  | trans _ _ ih1 ih2 => rw [ih1, ih2]

def OrderFree {γ : Type} (f : List Add → γ) : Prop := ∀ l l', l.Perm l' → f l = f l'

theorem orderFree_value (b : Bin) : OrderFree fun a => value a b := fun _ _ h => value_perm h b

theorem value_eq_zero_of_forall_ne (l : List Add) (b : Bin) (h : ∀ a ∈ l, a.1 ≠ b) : value l b = 0 := by
  have hl : l.filter (fun a => a.1 != b) = l := List.filter_eq_self.2 fun a ha => bne_iff_ne.2 (h a ha)
  rw [← hl, value_filter (· != b), bne_self_eq_false]
  rfl

/-- the bins that are inside the output data -/
def inTemplate (t : Template) (b : Bin) : Prop :=
  t.minSeg ≤ b.seg ∧ b.seg ≤ t.maxSeg ∧ t.minTof ≤ b.tof ∧ b.tof ≤ t.maxTof

/-- the bin passes the decoder's segment test and the range test of `process_data` -/
def binOK (t : Template) (b : Bin) : Prop := inTemplate t b ∧ inRange t b = true

theorem getBinFromEvent_seg {t : Template} {e : Event} {b : Bin} (h : getBinFromEvent t e = some b) :
    t.minSeg ≤ b.seg ∧ b.seg ≤ t.maxSeg := by
  unfold getBinFromEvent at h
  cases he : e.bin with
  | none => simp [he] at h
  | some b' =>
    rw [he, Option.ite_none_right_eq_some, Option.some.injEq] at h
    exact h.2 ▸ h.1

theorem inRange_tof {t : Template} {b : Bin} (h : inRange t b = true) : t.minTof ≤ b.tof ∧ b.tof ≤ t.maxTof := by
  simp only [inRange, Bool.and_eq_true, decide_eq_true_eq] at h
  omega

theorem contribution_some {c : Cfg} {ev : Event} {a : Add} (h : contribution c ev = some a) :
    getBinFromEvent c.tpl ev = some a.1 ∧ inRange c.tpl a.1 = true ∧ a.2 = eventIncrement c ev ∧ a.2 ≠ 0 := by
  unfold contribution at h
  cases hg : getBinFromEvent c.tpl ev with
  | none => simp [hg] at h
  | some b =>
    rw [hg, Option.ite_none_right_eq_some, Option.ite_none_left_eq_some, Option.some.injEq] at h
    obtain ⟨hr, hi, rfl⟩ := h
    exact ⟨rfl, hr, rfl, hi⟩

theorem contribution_binOK {c : Cfg} {ev : Event} {a : Add} (h : contribution c ev = some a) : binOK c.tpl a.1 := by
  obtain ⟨h1, h2, _, _⟩ := contribution_some h
  have hs := getBinFromEvent_seg h1
  exact ⟨⟨hs.1, hs.2, inRange_tof h2⟩, h2⟩

/-- what an event adds to the stored total (`more_events -= event_increment`) -/
def storedInc (c : Cfg) : Record → Int
  | .time _ => 0
  | .event ev => match contribution c ev with
    | none => 0
    | some a => a.2

theorem mainLoop_nil (c : Cfg) (e : Int) (bt : Batch) (more cur : Int) :
    mainLoop c e bt more cur [] = ⟨[], cur, []⟩ := rfl

theorem onePass_nil (c : Cfg) (e : Int) (more cur : Int) : onePass c e more cur [] = ⟨[], cur, []⟩ := rfl

/-! ### the two loops on an event record

Both loops store `contribution c ev` (the batch loop only if the bin is in the batch) and go on with `more_events` lowered
by the increment unless in time-frame mode.  The inductions over the stream below go through these two equations, not
through the tests of the loop body. -/

theorem onePass_event (c : Cfg) (endT : Int) {more : Int} (cur : Int) (ev : Event) (rs : List Record) (hm : more ≠ 0) :
    onePass c endT more cur (.event ev :: rs)
      = let o := onePass c endT (if c.doTimeFrame then more else more - storedInc c (.event ev)) cur rs
        ⟨(contribution c ev).toList ++ o.adds, o.cur, o.rest⟩ := by
  rw [onePass]
  simp only [hm, if_false, contribution, storedInc]
  cases getBinFromEvent c.tpl ev with
  | none => simp
  | some b =>
    by_cases hr : inRange c.tpl b = true
    · by_cases hi : eventIncrement c ev = 0
      · simp [hr, hi]
      · simp [hr, hi]
    · simp [hr]

theorem mainLoop_event (c : Cfg) (endT : Int) (bt : Batch) {more : Int} (cur : Int) (ev : Event) (rs : List Record)
    (hm : more ≠ 0) :
    mainLoop c endT bt more cur (.event ev :: rs)
      = let o := mainLoop c endT bt (if c.doTimeFrame then more else more - storedInc c (.event ev)) cur rs
        ⟨((contribution c ev).toList.filter fun a => inBatch bt a.1) ++ o.adds, o.cur, o.rest⟩ := by
  rw [mainLoop]
  simp only [hm, if_false, contribution, storedInc]
  cases getBinFromEvent c.tpl ev with
  | none => simp
  | some b =>
    by_cases hr : inRange c.tpl b = true
    · by_cases hi : eventIncrement c ev = 0
      · simp [hr, hi]
      · by_cases hb : inBatch bt b = true
        · simp [hr, hi, hb]
        · simp [hr, hi, hb]
    · simp [hr]

theorem onePass_adds_binOK (c : Cfg) (endT : Int) (recs : List Record) :
    ∀ more cur, ∀ a ∈ (onePass c endT more cur recs).adds, binOK c.tpl a.1 ∧ a.2 ≠ 0 := by
  induction recs with
  | nil =>
    intro more cur a ha
    simp [onePass_nil] at ha
  | cons r rs ih =>
    intro more cur a ha
    by_cases hm : more = 0
    · simp [onePass, hm] at ha
    · cases r with
      | time t =>
        rw [onePass] at ha
        simp only [hm, if_false] at ha
        split at ha
        · split at ha
          · simp at ha
          · exact ih _ _ a ha
        · exact ih _ _ a ha
      | event ev =>
        rw [onePass_event c endT cur ev rs hm, List.mem_append, Option.mem_toList] at ha
        rcases ha with ha | ha
        · exact ⟨contribution_binOK ha, (contribution_some ha).2.2.2⟩
        · exact ih _ _ a ha

/-- **one pass**: the pass over batch `bt` stores exactly the additions of the full pass that fall into `bt`,
    stops at the same place, and in time-frame mode — whatever `current_time` the two started with — ends with the same
    `current_time` unless the data ran out (a pass ends at a time mark, which sets it). -/
theorem mainLoop_spec (c : Cfg) (endT : Int) (bt : Batch) (recs : List Record) :
    ∀ more cur cur',
      let m := mainLoop c endT bt more cur recs
      let o := onePass c endT more cur' recs
      m.adds = (o.adds.filter fun a => inBatch bt a.1) ∧ m.rest = o.rest ∧
        (c.doTimeFrame = true → more ≠ 0 → o.rest = [] ∨ m.cur = o.cur) := by
  induction recs with
  | nil =>
    intro more cur cur'
    simp [mainLoop_nil, onePass_nil]
  | cons r rs ih =>
    intro more cur cur'
    by_cases hm : more = 0
    · simp [mainLoop, onePass, hm]
    · cases r with
      | time t =>
        rw [mainLoop, onePass]
        simp only [hm, if_false]
        by_cases he : endT > 10
        · simp only [he, if_true]
          by_cases hb : (c.doTimeFrame && decide (t ≥ endT)) = true
          · simp [hb]
          · simp only [hb]
            exact ih more t t
        · simp only [he, if_false]
          exact ih more cur cur'
      | event ev =>
        rw [mainLoop_event c endT bt cur ev rs hm, onePass_event c endT cur' ev rs hm]
        obtain ⟨h1, h2, h3⟩ := ih (if c.doTimeFrame then more else more - storedInc c (.event ev)) cur cur'
        refine ⟨by simp only [List.filter_append, h1], h2, fun hd hmore => h3 hd ?_⟩
        simp only [hd, if_true]
        exact hmore

open List in
theorem perm_flatMap_filter {α β : Type} (p : β → α → Bool) (S : List β) (A : List α)
    (h : ∀ a ∈ A, S.countP (p · a) = 1) : (S.flatMap fun x => A.filter (p x)) ~ A := by
  induction A with
  | nil => simp
  | cons a A ih =>
    refine Perm.trans ?_ ((ih fun x hx => h x (mem_cons_of_mem _ hx)).cons a)
    -- `a` is kept by one test only: by the first, or else by one of the others
    have ha := h a mem_cons_self
    clear h ih
    induction S with
    | nil => simp at ha
    | cons x S ihS =>
      rw [countP_cons] at ha
      rw [flatMap_cons, flatMap_cons, filter_cons]
      by_cases hx : p x a = true
      · have h0 : ∀ y ∈ S, ¬p y a = true := countP_eq_zero.1 (by simpa [hx] using ha)
        rw [if_pos hx, flatMap_def, map_congr_left fun y hy => filter_cons_of_neg (h0 y hy)]
        rfl
      · rw [if_neg hx]
        exact ((ihS (by simpa [hx] using ha)).append_left _).trans perm_middle

/-- configurations `set_up()` produces: a non-empty template and batch sizes ≥ 1 -/
structure Cfg.WF (c : Cfg) : Prop where
  segs : 1 ≤ c.segsInMemory
  tofs : 1 ≤ c.tofInMemory
  seg : c.tpl.minSeg ≤ c.tpl.maxSeg
  tof : c.tpl.minTof ≤ c.tpl.maxTof

open List in
theorem countP_batchStarts (lo hi step x : Int) (hstep : 1 ≤ step) (hx : lo ≤ x ∧ x ≤ hi) :
    (batchStarts lo hi step).countP (fun s => decide (s ≤ x) && decide (x ≤ min (hi + 1) (s + step) - 1)) = 1 := by
  have hpos : 0 < step := by omega
  -- the interval that starts at `lo + i * step` holds `x` iff `i = (x - lo) / step`
  have hiff : ∀ i : Nat, (lo + i * step ≤ x ∧ x ≤ min (hi + 1) (lo + i * step + step) - 1) ↔ (x - lo) / step = i := by
    intro i
    rw [Int.ediv_eq_iff_of_pos hpos]
    omega
  have hq0 : 0 ≤ (x - lo) / step := Int.ediv_nonneg (by omega) (by omega)
  have hqn : (x - lo) / step ≤ (hi - lo) / step := Int.ediv_le_ediv hpos (by omega)
  unfold batchStarts
  rw [countP_map, countP_congr (q := fun i => i == ((x - lo) / step).toNat), ← count_eq_countP,
    Nodup.count nodup_range, if_pos]
  · rw [mem_range]
    omega
  · intro i _
    simp only [Function.comp, Bool.and_eq_true, decide_eq_true_eq, beq_iff_eq, hiff]
    omega

open List in
theorem countP_flatMap_map_and {α β γ : Type} (T : List α) (S : List β) (mk : α → β → γ) (p : γ → Bool)
    (pt : α → Bool) (ps : β → Bool) (h : ∀ t s, p (mk t s) = (pt t && ps s)) :
    countP p (T.flatMap fun t => S.map (mk t)) = countP pt T * countP ps S := by
  induction T with
  | nil => simp
  | cons t T ih =>
    have hp : (p ∘ mk t) = fun s => pt t && ps s := funext fun s => h t s
    rw [flatMap_cons, countP_append, ih, countP_map, hp, countP_cons]
    cases pt t <;> simp [Nat.add_mul, Nat.add_comm]

theorem countP_batches (c : Cfg) (h : c.WF) (b : Bin)
    (hb : inTemplate c.tpl b) : (batches c).countP (fun bt => inBatch bt b) = 1 := by
  unfold batches
  -- membership in a batch is a test on the TOF start and a test on the segment start
  rw [countP_flatMap_map_and
        (pt := fun tof => decide (tof ≤ b.tof) && decide (b.tof ≤ min (c.tpl.maxTof + 1) (tof + c.tofInMemory) - 1))
        (ps := fun seg => decide (seg ≤ b.seg) && decide (b.seg ≤ min (c.tpl.maxSeg + 1) (seg + c.segsInMemory) - 1))]
  · rw [countP_batchStarts (hstep := h.tofs) (hx := ⟨hb.2.2.1, hb.2.2.2⟩),
      countP_batchStarts (hstep := h.segs) (hx := ⟨hb.1, hb.2.1⟩)]
  · intro t s
    simp only [inBatch, Bool.and_assoc]

/-- `more_events` at the start of every pass -/
def more0 (c : Cfg) : Int := if c.doTimeFrame then 1 else c.numEventsToStore

/-- "we're going once more through the data" (l.733) -/
def isLater (c : Cfg) (bt : Batch) : Bool := bt.segLo ≠ c.tpl.minSeg || bt.tofLo > c.tpl.minTof

theorem more0_ne_zero (c : Cfg) (h : c.doTimeFrame = true) : more0 c ≠ 0 := by simp [more0, h]

theorem passes_cons_later {c : Cfg} {bt : Batch} (h : isLater c bt = true) (s e : Int) (bts : List Batch) (st : PassState) :
    passes c s e (bt :: bts) st
      = let o := mainLoop c e bt (more0 c) s st.saved
        let p := passes c s e bts ⟨o.cur, o.rest, st.saved⟩
        (o.adds ++ p.1, p.2) := by
  have hcond : (bt.segLo ≠ c.tpl.minSeg || bt.tofLo > c.tpl.minTof) = true := h
  simp only [passes, hcond, if_true, more0]

theorem passes_cons_first {c : Cfg} {bt : Batch} (h : isLater c bt = false) (s e : Int) (bts : List Batch) (st : PassState) :
    passes c s e (bt :: bts) st
      = let sk := skipTo s st.cur st.stream
        let o := mainLoop c e bt (more0 c) sk.1 sk.2
        let p := passes c s e bts ⟨o.cur, o.rest, sk.2⟩
        (o.adds ++ p.1, p.2) := by
  have hcond : (bt.segLo ≠ c.tpl.minSeg || bt.tofLo > c.tpl.minTof) = false := h
  simp only [passes, hcond, more0]
  rfl

/-- later passes: all start from the saved position `s1`, each stores its batch's share of what one full pass from there
    stores, and each leaves the stream where that pass leaves it (in time-frame mode with its `current_time`, unless the data
    ran out) — as the state `(cur0, stream0)` reached by the passes before already does -/
theorem passes_later (c : Cfg) (s e : Int) (s1 : List Record) (cur1 : Int) (bts : List Batch)
    (hl : ∀ bt ∈ bts, isLater c bt = true) :
    ∀ cur0 stream0,
      let o := onePass c e (more0 c) cur1 s1
      stream0 = o.rest → (c.doTimeFrame = true → o.rest = [] ∨ cur0 = o.cur) →
      let p := passes c s e bts ⟨cur0, stream0, s1⟩
      p.1 = (bts.flatMap fun bt => o.adds.filter fun a => inBatch bt a.1) ∧ p.2.stream = o.rest ∧
        (c.doTimeFrame = true → o.rest = [] ∨ p.2.cur = o.cur) := by
  induction bts with
  | nil =>
    intro _ _
    dsimp only
    intro h1 h2
    exact ⟨rfl, h1, h2⟩
  | cons bt bts ih =>
    intro _ _
    dsimp only
    intro _ _
    obtain ⟨m1, m2, m3⟩ := mainLoop_spec c e bt s1 (more0 c) s cur1
    rw [passes_cons_later (hl bt (by simp))]
    dsimp only
    obtain ⟨i1, i2, i3⟩ := ih (fun x hx => hl x (by simp [hx])) _ _ m2 (fun hd => m3 hd (more0_ne_zero c hd))
    exact ⟨by rw [m1, i1, List.flatMap_cons], i2, i3⟩

theorem skipTo_nil (s cur : Int) : skipTo s cur [] = (cur, []) := rfl

theorem batchStarts_eq_lo_cons (lo hi step : Int) (hstep : 1 ≤ step) (h : lo ≤ hi) :
    ∃ tl, batchStarts lo hi step = lo :: tl ∧ ∀ x ∈ tl, lo < x := by
  have hpos : 0 < step := by omega
  have hq0 : 0 ≤ (hi - lo) / step := Int.ediv_nonneg (by omega) (by omega)
  obtain ⟨k, hk⟩ : ∃ k : Nat, ((hi - lo) / step + 1).toNat = k + 1 := ⟨((hi - lo) / step).toNat, by omega⟩
  refine ⟨(List.range k).map fun (i : Nat) => lo + ((i : Int) + 1) * step, ?_, ?_⟩
  · unfold batchStarts
    rw [hk, List.range_succ_eq_map]
    simp [List.map_map, Function.comp_def]
  · intro x hx
    simp only [List.mem_map, List.mem_range] at hx
    obtain ⟨i, _, rfl⟩ := hx
    have : 0 < ((i : Int) + 1) * step := Int.mul_pos (by omega) hpos
    omega

theorem batches_first_not_later (c : Cfg) (h : c.WF) :
    ∃ bt bts, batches c = bt :: bts ∧ isLater c bt = false ∧ ∀ x ∈ bts, isLater c x = true := by
  obtain ⟨tt, hT, hT'⟩ := batchStarts_eq_lo_cons c.tpl.minTof c.tpl.maxTof c.tofInMemory h.tofs h.tof
  obtain ⟨ss, hS, hS'⟩ := batchStarts_eq_lo_cons c.tpl.minSeg c.tpl.maxSeg c.segsInMemory h.segs h.seg
  unfold batches
  rw [hT, List.flatMap_cons, hS, List.map_cons, List.cons_append]
  refine ⟨_, _, rfl, by simp [isLater], ?_⟩
  intro x hx
  simp only [List.mem_append, List.mem_map, List.mem_flatMap] at hx
  simp only [isLater, Bool.or_eq_true, decide_eq_true_eq]
  rcases hx with ⟨s, hs1, rfl⟩ | ⟨t, ht1, s, -, rfl⟩
  · have := hS' s hs1
    left
    simp
    omega
  · have := hT' t ht1
    right
    omega

/-- **one frame**: all the passes over the batches together store a rearrangement of what ONE pass from the position the skip loop
    reaches stores, leave the stream where that pass leaves it, and in time-frame mode end with its `current_time` unless the data ran out -/
theorem frame_spec (c : Cfg) (h : c.WF) (s e cur : Int) (recs : List Record) :
    let o := onePass c e (more0 c) (skipTo s cur recs).1 (skipTo s cur recs).2
    let p := passes c s e (batches c) ⟨cur, recs, recs⟩
    p.1.Perm o.adds ∧ p.2.stream = o.rest ∧
      (c.doTimeFrame = true → o.rest = [] ∨ p.2.cur = o.cur) := by
  obtain ⟨bt, bts, heq, hfirst, hlater⟩ := batches_first_not_later c h
  have hcount := countP_batches c h
  rw [heq] at hcount ⊢
  rw [passes_cons_first hfirst]
  dsimp only
  generalize skipTo s cur recs = sk
  obtain ⟨m1, m2, m3⟩ := mainLoop_spec c e bt sk.2 (more0 c) sk.1 sk.1
  obtain ⟨i1, i2, i3⟩ := passes_later c s e sk.2 sk.1 bts hlater _ _ m2 (fun hd => m3 hd (more0_ne_zero c hd))
  refine ⟨?_, i2, i3⟩
  rw [m1, i1]
  -- every addition of the full pass lies in the template, hence in exactly one of the batches
  refine perm_flatMap_filter (fun bt (a : Add) => inBatch bt a.1) (bt :: bts) (onePass c e (more0 c) sk.1 sk.2).adds ?_
  intro a ha
  exact hcount a.1 (onePass_adds_binOK c e sk.2 _ _ a ha).1.1

/-- **all frames**: the multi-pass and the single-pass frame loop store the same, frame by frame, up to the order of the additions, when they
    start from the same stream and — unless it is empty — the same `current_time` (`curP = curS ∨ recs = []`: with no data left nothing is
    stored whatever the two times are, and the times may differ only then, by `frame_spec`).  Several frames need time-frame mode
    (`doTimeFrame = true ∨ fs.length ≤ 1`): only there do the passes of a frame end with the time of the single pass. -/
theorem frameLoop_spec {γ : Type} {f : List Add → γ} (hf : OrderFree f) (c : Cfg) (h : c.WF) (fs : List (Int × Int)) :
    ∀ curP curS recs, (curP = curS ∨ recs = []) → (c.doTimeFrame = true ∨ fs.length ≤ 1) →
      (frameLoop c fs curP recs).1.map f = (onePassFrames c fs curS recs).1.map f := by
  induction fs with
  | nil =>
    intro curP curS recs _ _
    simp [frameLoop, onePassFrames]
  | cons fr fs ih =>
    obtain ⟨s, e⟩ := fr
    intro curP curS recs hst hmode
    have hmode' : c.doTimeFrame = true ∨ fs.length ≤ 1 := hmode.imp_right fun h => by
      simp only [List.length_cons] at h
      omega
    obtain ⟨f1, f2, f3⟩ := frame_spec c h s e curP recs
    simp only [frameLoop, onePassFrames, List.map_cons]
    rw [hf _ _ f1, f2]
    by_cases hrecs : recs = []
    · subst hrecs
      simp only [skipTo_nil, onePass_nil]
      rw [ih _ _ [] (Or.inr rfl) hmode']
    · obtain rfl : curP = curS := hst.resolve_right hrecs
      congr 1
      by_cases hfs : fs = []
      · subst hfs
        simp [frameLoop, onePassFrames]
      · have hd : c.doTimeFrame = true := hmode.resolve_right fun h => by
          have := List.length_pos_iff.2 hfs
          simp only [List.length_cons] at h
          omega
        exact ih _ _ _ (f3 hd).symm hmode'

theorem process_eq_singlePass {γ : Type} {f : List Add → γ} (hf : OrderFree f) (c : Cfg) (h : c.WF)
    (hmode : c.doTimeFrame = true ∨ c.frames.length ≤ 1) (recs : List Record) :
    (processData c recs).1.map f = (singlePass c recs).1.map f :=
  frameLoop_spec hf c h c.frames 0 0 recs (Or.inl rfl) hmode

end StirVerif.C14
