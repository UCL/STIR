-- Root of the `StirVerif` library: `Props` of each property C01 … C20 reaches that property's `Model` and `Proofs*` modules and the
-- modules of `StirVerif/Common` it uses.  `StirVerif.Gen.*` must not be imported here: `Gen/Kernels.lean` is regenerated from the
-- C++ source by `tools/gen_gate.py` and built only by it (`Gen/README.md`).
import StirVerif.C01.Props
import StirVerif.C02.Props
import StirVerif.C03.Props
import StirVerif.C04.Props
import StirVerif.C05.Props
import StirVerif.C06.Props
import StirVerif.C07.Props
import StirVerif.C08.Props
import StirVerif.C09.Props
import StirVerif.C10.Props
import StirVerif.C11.Props
import StirVerif.C12.Props
import StirVerif.C13.Props
import StirVerif.C14.Props
import StirVerif.C15.Props
import StirVerif.C16.Props
import StirVerif.C17.Props
import StirVerif.C18.Props
import StirVerif.C19.Props
import StirVerif.C20.Props
